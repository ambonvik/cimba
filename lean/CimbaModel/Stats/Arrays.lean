/-
  Model of the growing sample arrays of src/cmb_dataset.c and src/cmb_timeseries.c:
  `cmb_dataset_initialize / cmi_dataset_expand / cmb_dataset_add / cmb_dataset_copy`,
  `timeseries_expand / cmb_timeseries_add / cmb_timeseries_finalize / cmb_timeseries_copy`.

  An allocation is an `Array` whose size is the allocated number of slots (slots at and beyond
  `count` hold junk, modelled as `default`); `NULL` is the empty array.  Every write and every
  `memcpy` is bounds-checked against the allocation (`none` = out-of-bounds access), so a routine
  that overruns its buffer has no value in the model.  `initSz` is `CMI_DATASET_INIT_SZ`, read from
  src/cmi_dataset.h by the check on every run.

  `cmb_timeseries_copy` allocates `ta`, `wa` with the capacity `cursize`, as `xa` (since
  fixes/C18-timeseries-copy-capacity.patch; before it, with `count`: `TS.copyShipped`).

  Core Lean only: linked into the compiled driver `stat2main`.
-/
namespace CimbaModel.Stats

/-- `struct cmb_dataset`; `min`/`max` = `none` is the initial `DBL_MAX` / `-DBL_MAX` -/
structure DS (K : Type) where
  cursize : Nat := 0
  count : Nat := 0
  min : Option K := none
  max : Option K := none
  xa : Array K := #[]
  deriving Repr

/-- `struct cmb_timeseries` -/
structure TS (K : Type) where
  ds : DS K := {}
  ta : Array K := #[]
  wa : Array K := #[]
  deriving Repr

section
variable {K : Type} [Inhabited K]

/-- `p[i] = x` -/
def wr (a : Array K) (i : Nat) (x : K) : Option (Array K) :=
  if h : i < a.size then some (a.set i x h) else none

/-- `realloc(p, n * sizeof *p)`: keeps the common prefix -/
def realloc (a : Array K) (n : Nat) : Array K :=
  if n ≤ a.size then a.extract 0 n else a ++ Array.replicate (n - a.size) default

/-- `q = calloc(cap, 8); memcpy(q, p, n * 8)`; reading beyond `p`'s allocation or writing beyond
    `q`'s is a fault -/
def callocCopy (src : Array K) (cap n : Nat) : Option (Array K) :=
  if n ≤ src.size ∧ n ≤ cap then some (src.extract 0 n ++ Array.replicate (cap - n) default) else none

/-- `cmi_dataset_expand` -/
def DS.expand (initSz : Nat) (s : DS K) : DS K :=
  if s.cursize = 0 then { s with cursize := initSz, xa := Array.replicate initSz default }
  else { s with cursize := 2 * s.cursize, xa := realloc s.xa (2 * s.cursize) }

variable [LT K] [DecidableLT K]

/-- `cmb_dataset_add` -/
def DS.add (initSz : Nat) (s : DS K) (x : K) : Option (DS K) :=
  let mx := match s.max with | none => x | some m => if x > m then x else m
  let mn := match s.min with | none => x | some m => if x < m then x else m
  let s := if s.count = s.cursize then s.expand initSz else s
  if s.count < s.cursize then
    (wr s.xa s.count x).map fun xa => { s with xa := xa, count := s.count + 1, min := some mn, max := some mx }
  else none   -- cmb_assert_release(dsp->count < dsp->cursize)

/-- `cmb_dataset_copy(tgt, src)`: all fields, and `cursize` slots of the array -/
def DS.copy (s : DS K) : Option (DS K) :=
  if s.xa.size = 0 then some { s with xa := #[] }
  else (callocCopy s.xa s.cursize s.cursize).map fun xa => { s with xa := xa }

/-- `timeseries_expand` -/
def TS.expand (initSz : Nat) (s : TS K) : TS K :=
  let ds := s.ds.expand initSz
  if s.ta.size = 0 then
    { ds := ds, ta := Array.replicate initSz default, wa := Array.replicate initSz default }
  else
    { ds := ds, ta := realloc s.ta ds.cursize, wa := realloc s.wa ds.cursize }

variable [Sub K] [OfNat K 0]

/-- `cmb_timeseries_add(tsp, x, t)` -/
def TS.add (initSz : Nat) (s : TS K) (x t : K) : Option (TS K) := do
  let s := if s.ds.count = s.ds.cursize then s.expand initSz else s
  let uiNew := s.ds.count
  let ds ← s.ds.add initSz x
  let ta ← wr s.ta uiNew t
  let wa ← wr s.wa uiNew 0
  if uiNew > 0 then
    let tPrev ← ta[uiNew - 1]?
    let wa ← wr wa (uiNew - 1) (t - tPrev)
    pure { ds := ds, ta := ta, wa := wa }
  else
    pure { ds := ds, ta := ta, wa := wa }

/-- `cmb_timeseries_finalize(tsp, t)` (`count ≥ 1`) -/
def TS.finalize (initSz : Nat) (s : TS K) (t : K) : Option (TS K) := do
  let x ← if s.ds.count = 0 then none else s.ds.xa[s.ds.count - 1]?
  s.add initSz x t

/-- `cmb_timeseries_copy(tgt, src)`: the time and weight arrays get the capacity `cursize` and the
    `count` live entries -/
def TS.copy (s : TS K) : Option (TS K) := do
  let ds ← s.ds.copy
  let ta ← if s.ta.size = 0 then some #[] else callocCopy s.ta s.ds.cursize s.ds.count
  let wa ← if s.wa.size = 0 then some #[] else callocCopy s.wa s.ds.cursize s.ds.count
  pure { ds := ds, ta := ta, wa := wa }

/-- `cmb_timeseries_copy` before fixes/C18-timeseries-copy-capacity.patch: only `count` slots are
    allocated while `cursize` is copied into the struct, so the next `add` to the copy writes past
    the end; kept only to state that defect -/
def TS.copyShipped (s : TS K) : Option (TS K) := do
  let ds ← s.ds.copy
  let ta ← if s.ta.size = 0 then some #[] else callocCopy s.ta s.ds.count s.ds.count
  let wa ← if s.wa.size = 0 then some #[] else callocCopy s.wa s.ds.count s.ds.count
  pure { ds := ds, ta := ta, wa := wa }

end

/-- the live samples of a dataset -/
def DS.samples {K : Type} (s : DS K) : List K := s.xa.toList.take s.count

/-- the live (x, t, w) triples of a time series -/
def TS.triples {K : Type} (s : TS K) : List (K × K × K) :=
  (s.ds.xa.toList.take s.ds.count).zip ((s.ta.toList.take s.ds.count).zip (s.wa.toList.take s.ds.count))

end CimbaModel.Stats
