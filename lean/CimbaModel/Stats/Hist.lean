/-
  Model of the histograms:
    src/cmb_dataset.c     cmb_dataset_histogram_print (range / bin-count preparation),
                          cmi_dataset_histogram_create, cmi_dataset_histogram_fill
    src/cmb_timeseries.c  cmb_timeseries_histogram_print, timeseries_histogram_fill
  in exact rational arithmetic (`Rat` is core Lean).  The correspondence runs use limits, samples
  and weights for which the IEEE computation of `(x - low) / binsize` truncates to the same integer
  (integers and small dyadics), see tools/stat2corr.py.

  Auto-scaling on constant data: `min == max` widens the range by half a unit on either side
  (fixes/C18-histogram-constant-autoscale.patch; before it `binsize = 0` and `0.0/0.0` converted
  to `uint16_t`).

  Core Lean only: linked into the compiled driver `stat2main`.
-/
namespace CimbaModel.Stats

/-- `struct cmi_dataset_histogram` after `cmi_dataset_histogram_create(num_bins, low, high)`;
    `nb` is the caller's bin count, the array has `nb + 2` slots (under- and overflow) -/
structure Hist where
  nb : Nat
  low : Rat
  high : Rat
  binsize : Rat
  bins : Array Rat
  deriving Repr

/-- the range / bin-count preparation shared by `cmb_dataset_histogram_print` and
    `cmb_timeseries_histogram_print`: auto-scale when `low == high`, then never more bins than
    `ceil(high - low)` (and at least one).  Returns (num_bins, low, high). -/
def histPrepare (numBins : Nat) (low high : Rat) (dmin dmax : Rat) : Nat × Rat × Rat :=
  let (low, high) :=
    if low = high then
      if dmin = dmax then (dmin - 1/2, dmax + 1/2)      -- constant data
      else (dmin, dmax)
    else (low, high)
  let datarange := (high - low).ceil.toNat               -- (unsigned)ceil(high_lim - low_lim)
  let nb := if datarange < numBins then (if datarange > 0 then datarange else 1) else numBins
  (nb, low, high)

/-- `cmi_dataset_histogram_create` -/
def Hist.create (nb : Nat) (low high : Rat) : Hist :=
  { nb := nb, low := low, high := high, binsize := (high - low) / nb,
    bins := Array.replicate (nb + 2) 0 }

/-- the bin of one x-value: 0 below the range, `nb + 1` above it, else
    `1 + (uint16_t)((x - low) / binsize)` (so `x == high` lands in the overflow bin) -/
def Hist.binOf (h : Hist) (x : Rat) : Nat :=
  if x < h.low then 0
  else if x > h.high then h.nb + 1
  else (1 + (((x - h.low) / h.binsize).floor.toNat % 65536)) % 65536

/-- `hp->hbins[bin] += w;` (`none`: the index is outside the `nb + 2` slots) -/
def Hist.addTo (h : Hist) (x w : Rat) : Option Hist :=
  let b := h.binOf x
  if b < h.bins.size then some { h with bins := h.bins.modify b (· + w) } else none

/-- `cmi_dataset_histogram_fill`: every sample with weight 1 -/
def Hist.fill (h : Hist) : List Rat → Option Hist
  | [] => some h
  | x :: xs => (h.addTo x 1).bind (·.fill xs)

/-- `timeseries_histogram_fill`: `for (ui = 0; ui < n - 1; ui++)`, sample `ui` with weight `wa[ui]`
    (the last sample of a series has no duration yet) -/
def Hist.fillW (h : Hist) : List (Rat × Rat) → Option Hist
  | [] => some h
  | [_] => some h
  | (x, w) :: r => (h.addTo x w).bind (·.fillW r)

/-- what `cmb_dataset_histogram_print(dsp, fp, num_bins, low, high)` computes before printing
    (`count ≥ 1`) -/
def histDataset (xs : List Rat) (dmin dmax : Rat) (numBins : Nat) (low high : Rat) : Option Hist :=
  let (nb, lo, hi) := histPrepare numBins low high dmin dmax
  (Hist.create nb lo hi).fill xs

/-- what `cmb_timeseries_histogram_print` computes before printing (`count ≥ 2`; `num_bins` is a
    `uint16_t` there) -/
def histSeries (xw : List (Rat × Rat)) (dmin dmax : Rat) (numBins : Nat) (low high : Rat) : Option Hist :=
  let (nb, lo, hi) := histPrepare numBins low high dmin dmax
  (Hist.create (nb % 65536) lo hi).fillW xw

end CimbaModel.Stats
