/-
  Model of the medians and five-number summaries:
    src/cmb_dataset.c     data_array_median, cmb_dataset_median, cmb_dataset_fivenum_print
    src/cmb_timeseries.c  cmb_timeseries_median, cmb_timeseries_fivenum_print
  in exact arithmetic over `K` (doubles are modelled by an ordered field; see DESIGN.md §2.6).

  Two places where the code was changed by a fix of this verification (notes/C18.md):
   * `cmb_dataset_fivenum_print` does not take the median of an empty half
     (fixes/C18-fivenum-one-sample.patch; before it `data_array_median(0, v)` read
     `v[0u/2u - 1u] = v[UINT_MAX]`); `arrMedian` keeps that index arithmetic and returns `none` there.
   * the duration-weighted median / quartiles are the first sample (in ascending x order) whose
     cumulative weight reaches 1/2 (1/4, 3/4) of the total (fixes/C18-timeseries-weighted-quantiles.patch;
     before it an interpolation that is not a median and yields 0.0 when the first sample already
     holds more than the wanted fraction).

  Core Lean only: linked into the compiled driver `stat2main`.
-/
import CimbaModel.Stats.Sort
import CimbaModel.Stats.Arrays

namespace CimbaModel.Stats

section
variable {K : Type} [Inhabited K] [Add K] [Div K] [OfNat K 2]

/-- `data_array_median(n, &v[off])` on a sorted array; `n` is `unsigned`, so `n/2u - 1u` is computed
    modulo 2^32 (for `n = 0` it is `UINT_MAX`: out of bounds) -/
def arrMedian (v : Array K) (off n : Nat) : Option K :=
  if n % 2 = 0 then do
    let a ← v[off + (n / 2 + 4294967295) % 4294967296]?
    let b ← v[off + n / 2]?
    pure ((a + b) / 2)
  else v[off + n / 2]?

variable [LT K] [DecidableLT K] [OfNat K 0]

/-- the array that `cmb_dataset_median` / `_fivenum_print` look at: copy, sort, first `count` slots -/
def DS.sortedCopy (s : DS K) : Option (Array K) :=
  s.copy.map fun d => (heapsort id d.count d.xa).extract 0 d.count

/-- `cmb_dataset_median`; the `unsigned n` parameter of `data_array_median` truncates `count` -/
def DS.median (s : DS K) : Option K :=
  if s.xa.size = 0 then some 0      -- "Cannot take median without any data", returns 0.0
  else do
    let v ← s.sortedCopy
    arrMedian v 0 (s.count % 4294967296)

/-- what `cmb_dataset_fivenum_print` prints: min, first quartile, median, third quartile, max -/
structure FiveNum (K : Type) where
  min : K
  q1 : K
  med : K
  q3 : K
  max : K
  deriving Repr

/-- the quartile / median computation of `cmb_dataset_fivenum_print` on the sorted copy `v` of `cnt`
    samples (an empty half has no median of its own; the quartile is then the median) -/
def fivenumOfSorted (v : Array K) (cnt : Nat) (mn mx : K) : Option (FiveNum K) := do
  let med ← arrMedian v 0 (cnt % 4294967296)
  let lhsz := (cnt / 2) % 4294967296
  let q1 ← if lhsz > 0 then arrMedian v 0 lhsz else some med
  let uhsz := (cnt - lhsz) % 4294967296
  let q3 ← if cnt % 2 = 0 then arrMedian v lhsz uhsz
           else if uhsz > 1 then arrMedian v (lhsz + 1) (uhsz - 1) else some med
  pure { min := mn, q1 := q1, med := med, q3 := q3, max := mx }

/-- `cmb_dataset_fivenum_print`: copy, sort, then the above with the tracked `min` / `max` -/
def DS.fivenum (s : DS K) : Option (FiveNum K) :=
  if s.xa.size = 0 then none        -- "No data to display"
  else do
    let v ← s.sortedCopy
    let mn ← s.min
    let mx ← s.max
    fivenumOfSorted v s.count mn mx

end

/-! ### duration-weighted quantiles of a time series -/
section
variable {K : Type} [Inhabited K] [Add K] [OfNat K 0] [LE K] [DecidableLE K]

/-- `wsum += wa[ui]; wcum[ui] = wsum;` -/
def cumSums : K → List K → List K
  | _, [] => []
  | acc, w :: ws => (acc + w) :: cumSums (acc + w) ws

/-- `for (ui = 0; ui < un; ui++) if (wcum[ui] >= wq) return xa[ui];` -/
def firstReach (wq : K) : List K → List K → Option K
  | x :: xs, c :: cs => if wq ≤ c then some x else firstReach wq xs cs
  | _, _ => none

/-- `timeseries_wquantile(un, xa, wcum, wq)`: first sorted sample whose cumulative weight reaches
    `wq`, the last sample if none does (unreachable for weights ≥ 0 and `wq ≤ wsum`) -/
def wquantile (xs wcum : List K) (wq : K) : Option K :=
  match firstReach wq xs wcum with
  | some x => some x
  | none => xs.getLast?

variable [LT K] [DecidableLT K] [Sub K] [Mul K] [Div K] [OfNat K 2] [OfNat K 3] [OfNat K 4]

/-- copy, `cmb_timeseries_sort_x`, live prefix: (xs ascending, their weights) -/
def TS.sortedCopy (s : TS K) : Option (List K × List K × List K) := do
  let d ← s.copy
  let r := heapsort3 d.ds.count (d.ds.xa, d.ta, d.wa)
  pure (r.1.toList.take d.ds.count, r.2.1.toList.take d.ds.count, r.2.2.toList.take d.ds.count)

/-- total weight as the code has it: the last cumulative sum -/
def wTotal (ws : List K) : K := (cumSums 0 ws).getLast?.getD 0

/-- median of sorted samples `xs` with weights `ws` -/
def wMedianSorted (xs ws : List K) : Option K := wquantile xs (cumSums 0 ws) (wTotal ws / 2)

/-- `cmb_timeseries_median` -/
def TS.median (s : TS K) : Option K := do
  if s.wa.size = 0 then none            -- cmb_assert_release(tsp->wa != NULL)
  let (xs, _, ws) ← s.sortedCopy
  wMedianSorted xs ws

/-- the three weighted quantiles of `cmb_timeseries_fivenum_print` on sorted samples -/
def wFivenumSorted (xs ws : List K) (mn mx : K) : Option (FiveNum K) := do
  let wcum := cumSums 0 ws
  let wsum := wTotal ws
  let q1 ← wquantile xs wcum (wsum / 4)
  let med ← wquantile xs wcum (wsum / 2)
  let q3 ← wquantile xs wcum (3 * wsum / 4)
  pure { min := mn, q1 := q1, med := med, q3 := q3, max := mx }

/-- `cmb_timeseries_fivenum_print` -/
def TS.fivenum (s : TS K) : Option (FiveNum K) := do
  if s.wa.size = 0 then none
  let (xs, _, ws) ← s.sortedCopy
  let mn ← s.ds.min
  let mx ← s.ds.max
  wFivenumSorted xs ws mn mx

end
end CimbaModel.Stats
