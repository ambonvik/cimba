/-
  Monitor.C18's executable predicates (what tools/props/C18.py evaluates on the implementation's
  answers) are the propositions of the property theorems.
-/
import CimbaModel.Stats.SummaryLemmas
import CimbaModel.Stats.Moments
import CimbaModel.Monitor.C18
import Mathlib.Data.Rat.Cast.Order

namespace CimbaModel.Stats
open CimbaModel.Monitor.C18

theorem monitor_wBelow_unit (xs : List ℚ) (m : ℚ) :
    CimbaModel.Monitor.C18.wBelow (unitWeights xs) m = (xs.countP (fun x => decide (x < m)) : ℚ) := by
  rw [List.countP_eq_length_filter]; exact unit_weight_sum (fun x => decide (x < m)) xs

theorem monitor_wAbove_unit (xs : List ℚ) (m : ℚ) :
    CimbaModel.Monitor.C18.wAbove (unitWeights xs) m = (xs.countP (fun x => decide (m < x)) : ℚ) := by
  rw [List.countP_eq_length_filter]; exact unit_weight_sum (fun x => decide (m < x)) xs

theorem monitor_wTotal_unit (xs : List ℚ) : CimbaModel.Monitor.C18.wTotal (unitWeights xs) = (xs.length : ℚ) := by
  have := unit_weight_sum (fun _ => true) xs
  simpa [CimbaModel.Monitor.C18.wTotal, unitWeights, unitW] using this

/-- the monitor's `isMedian` on unit weights is the counting statement of `median_is_median` -/
theorem isMedian_unit_iff (xs : List ℚ) (m : ℚ) :
    isMedian (unitWeights xs) m = true ↔
      2 * xs.countP (fun x => decide (x < m)) ≤ xs.length ∧ 2 * xs.countP (fun x => decide (m < x)) ≤ xs.length := by
  simp only [isMedian, Bool.and_eq_true, decide_eq_true_eq, monitor_wBelow_unit, monitor_wAbove_unit, monitor_wTotal_unit]
  constructor
  · rintro ⟨a, b⟩; exact ⟨by exact_mod_cast a, by exact_mod_cast b⟩
  · rintro ⟨a, b⟩; exact ⟨by exact_mod_cast a, by exact_mod_cast b⟩

/-- (x, w) pairs of the live triples, as the monitor sees a time series -/
def xwOf (tr : List (ℚ × ℚ × ℚ)) : List (ℚ × ℚ) := tr.map fun p => (p.1, p.2.2)

theorem monitor_w_triples (tr : List (ℚ × ℚ × ℚ)) (m : ℚ) :
    CimbaModel.Monitor.C18.wBelow (xwOf tr) m = tBelow tr m ∧
    CimbaModel.Monitor.C18.wAbove (xwOf tr) m = tAbove tr m ∧
    CimbaModel.Monitor.C18.wTotal (xwOf tr) = tTotal tr :=
  pairsOf_sums tr m

/-- the monitor's `isMedian` on a series is the weight statement of `median_is_median_weighted` -/
theorem isMedian_triples_iff (tr : List (ℚ × ℚ × ℚ)) (m : ℚ) :
    isMedian (xwOf tr) m = true ↔ 2 * tBelow tr m ≤ tTotal tr ∧ 2 * tAbove tr m ≤ tTotal tr := by
  obtain ⟨a, b, c⟩ := monitor_w_triples tr m
  simp only [isMedian, Bool.and_eq_true, decide_eq_true_eq, a, b, c]

end CimbaModel.Stats
