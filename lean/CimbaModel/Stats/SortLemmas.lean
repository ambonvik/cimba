/-
  Correctness of the heapsort models of Sort.lean, for every size (no enumeration):
  * `heapsort_size`, `heapsort_prefix`: the first `un` slots end up ascending by key, are a
    permutation of the first `un` input slots, the rest of the array is untouched;
  * `heapsort3_zip`: the three-array sort is the one-array sort of the zipped triples.
-/
import CimbaModel.Stats.Sort
import Mathlib.Order.Defs.LinearOrder

namespace CimbaModel.Stats

/-! ### `swp` -/
section swp
variable {α : Type} [Inhabited α]

theorem getElem!_swp (a : Array α) (i j k : Nat) (hi : i < a.size) (hj : j < a.size) :
    (swp a i j)[k]! = if k = i then a[j]! else if k = j then a[i]! else a[k]! := by
  unfold swp
  rw [dif_pos ⟨hi, hj⟩]
  by_cases hk : k < a.size
  · have hk' : k < (a.swap i j hi hj).size := by simpa using hk
    rw [getElem!_pos (a.swap i j hi hj) k hk', Array.getElem_swap, getElem!_pos a j hj, getElem!_pos a i hi,
      getElem!_pos a k hk]
  · have h1 : k ≠ i := by omega
    have h2 : k ≠ j := by omega
    have hk' : ¬ k < (a.swap i j hi hj).size := by simpa using hk
    rw [if_neg h1, if_neg h2, getElem!_neg (a.swap i j hi hj) k hk', getElem!_neg a k hk]

theorem getElem!_swp_left (a : Array α) (i j : Nat) (hi : i < a.size) (hj : j < a.size) :
    (swp a i j)[i]! = a[j]! := by
  rw [getElem!_swp a i j i hi hj, if_pos rfl]

theorem getElem!_swp_right (a : Array α) (i j : Nat) (hi : i < a.size) (hj : j < a.size) :
    (swp a i j)[j]! = a[i]! := by
  rw [getElem!_swp a i j j hi hj]
  split
  · next h => rw [h]
  · rw [if_pos rfl]

theorem getElem!_swp_of_ne (a : Array α) (i j k : Nat) (h1 : k ≠ i) (h2 : k ≠ j) :
    (swp a i j)[k]! = a[k]! := by
  by_cases h : i < a.size ∧ j < a.size
  · rw [getElem!_swp a i j k h.1 h.2, if_neg h1, if_neg h2]
  · unfold swp
    rw [dif_neg h]

omit [Inhabited α] in
theorem swp_perm (a : Array α) (i j : Nat) : (swp a i j).toList.Perm a.toList := by
  unfold swp
  split
  · exact (Array.swap_perm _ _).toList
  · exact List.Perm.refl _

end swp

section one
variable {α K : Type} [Inhabited α] [LinearOrder K]

/-! ### `pickBig` -/

theorem pickBig_spec (key : α → K) (un : Nat) (a : Array α) (r : Nat) :
    (pickBig key un a r = r ∨ pickBig key un a r = 2 * r + 1 ∨ pickBig key un a r = 2 * r + 2) ∧
    (pickBig key un a r ≠ r →
      pickBig key un a r < un ∧ key a[r]! < key a[pickBig key un a r]!) ∧
    (2 * r + 1 < un → key a[2 * r + 1]! ≤ key a[pickBig key un a r]!) ∧
    (2 * r + 2 < un → key a[2 * r + 2]! ≤ key a[pickBig key un a r]!) := by
  unfold pickBig
  simp only []
  by_cases hA : 2 * r + 1 < un ∧ key a[2 * r + 1]! > key a[r]!
  · rw [if_pos hA]
    by_cases hB : 2 * r + 2 < un ∧ key a[2 * r + 2]! > key a[2 * r + 1]!
    · rw [if_pos hB]
      refine ⟨Or.inr (Or.inr rfl), fun _ => ⟨hB.1, lt_trans hA.2 hB.2⟩, fun _ => le_of_lt hB.2,
        fun _ => le_refl _⟩
    · rw [if_neg hB]
      refine ⟨Or.inr (Or.inl rfl), fun _ => ⟨hA.1, hA.2⟩, fun _ => le_refl _, fun h => ?_⟩
      exact not_lt.mp (fun h' => hB ⟨h, h'⟩)
  · rw [if_neg hA]
    by_cases hB : 2 * r + 2 < un ∧ key a[2 * r + 2]! > key a[r]!
    · rw [if_pos hB]
      refine ⟨Or.inr (Or.inr rfl), fun _ => ⟨hB.1, hB.2⟩, fun h => ?_, fun _ => le_refl _⟩
      exact le_trans (not_lt.mp (fun h' => hA ⟨h, h'⟩)) (le_of_lt hB.2)
    · rw [if_neg hB]
      refine ⟨Or.inl rfl, fun h => absurd rfl h, fun h => ?_, fun h => ?_⟩
      · exact not_lt.mp (fun h' => hA ⟨h, h'⟩)
      · exact not_lt.mp (fun h' => hB ⟨h, h'⟩)

/-! ### `heapify` -/

theorem heapify_size (key : α → K) (un : Nat) (a : Array α) (r : Nat) :
    (heapify key un a r).size = a.size := by
  induction a, r using heapify.induct_unfolding (key := key) (un := un) with
  | case1 a r h ih => rw [ih, size_swp]
  | case2 a r h => rfl

theorem heapify_perm (key : α → K) (un : Nat) (a : Array α) (r : Nat) :
    (heapify key un a r).toList.Perm a.toList := by
  induction a, r using heapify.induct_unfolding (key := key) (un := un) with
  | case1 a r h ih => exact ih.trans (swp_perm _ _ _)
  | case2 a r h => exact List.Perm.refl _

theorem heapify_frame (key : α → K) (un : Nat) (a : Array α) (r : Nat) (k : Nat) (hk : un ≤ k) :
    (heapify key un a r)[k]! = a[k]! := by
  induction a, r using heapify.induct_unfolding (key := key) (un := un) with
  | case1 a r h ih =>
    have := pickBig_range key un a r
    rw [ih, getElem!_swp_of_ne] <;> omega
  | case2 a r h => rfl

theorem heapify_all (P : α → Prop) (key : α → K) (un : Nat) (a : Array α) (r : Nat)
    (hun : un ≤ a.size) (hP : ∀ i, i < un → P a[i]!) :
    ∀ i, i < un → P (heapify key un a r)[i]! := by
  induction a, r using heapify.induct_unfolding (key := key) (un := un) with
  | case1 a r h ih =>
    have hr := pickBig_range key un a r
    apply ih (by rw [size_swp]; exact hun)
    intro i hi
    rw [getElem!_swp a _ _ i (by omega) (by omega)]
    split
    · exact hP _ (by omega)
    · split
      · exact hP _ (by omega)
      · exact hP _ hi
  | case2 a r h => exact hP

/-- the max-heap condition at node `i` of the heap on the first `un` slots -/
def HeapAt (key : α → K) (un : Nat) (a : Array α) (i : Nat) : Prop :=
  (2 * i + 1 < un → key a[2 * i + 1]! ≤ key a[i]!) ∧ (2 * i + 2 < un → key a[2 * i + 2]! ≤ key a[i]!)

/-- sift-down: if every node from `lo` on except `r` is a heap node, and the children of `r` are
    below the parent of `r` (when that parent is `≥ lo`), then afterwards every node from `lo` on
    is a heap node -/
theorem heapify_heap (key : α → K) (un lo : Nat) (a : Array α) (r : Nat)
    (hr : r < un) (hun : un ≤ a.size) (hlo : lo ≤ r)
    (h1 : ∀ i, lo ≤ i → i ≠ r → HeapAt key un a i)
    (h2 : ∀ i, lo ≤ i → (2 * i + 1 = r ∨ 2 * i + 2 = r) →
      ∀ c, (c = 2 * r + 1 ∨ c = 2 * r + 2) → c < un → key a[c]! ≤ key a[i]!) :
    ∀ i, lo ≤ i → HeapAt key un (heapify key un a r) i := by
  induction a, r using heapify.induct_unfolding (key := key) (un := un) with
  | case2 a r h =>
    have hc : pickBig key un a r = r := Decidable.not_not.mp h
    obtain ⟨_, _, hL, hR⟩ := pickBig_spec key un a r
    rw [hc] at hL hR
    intro i hi
    by_cases hir : i = r
    · subst hir; exact ⟨hL, hR⟩
    · exact h1 i hi hir
  | case1 a r h ih =>
    obtain ⟨hcc, hne, hL, hR⟩ := pickBig_spec key un a r
    obtain ⟨hcu, hlt⟩ := hne h
    generalize pickBig key un a r = c at *
    have hrs : r < a.size := by omega
    have hcs : c < a.size := by omega
    have hgr : (swp a r c)[r]! = a[c]! := getElem!_swp_left a r c hrs hcs
    have hgc : (swp a r c)[c]! = a[r]! := getElem!_swp_right a r c hrs hcs
    have hgo : ∀ k, k ≠ r → k ≠ c → (swp a r c)[k]! = a[k]! :=
      fun k hk1 hk2 => getElem!_swp_of_ne a r c k hk1 hk2
    have hcr : c = 2 * r + 1 ∨ c = 2 * r + 2 := by
      rcases hcc with h' | h' | h'
      · exact absurd h' h
      · exact Or.inl h'
      · exact Or.inr h'
    apply ih hcu (by rw [size_swp]; exact hun) (by omega)
    · -- every node other than `c` is a heap node of the swapped array
      intro i hi hic
      by_cases hir : i = r
      · subst hir
        refine ⟨fun hlt1 => ?_, fun hlt2 => ?_⟩
        · rw [hgr]
          by_cases hk : 2 * i + 1 = c
          · rw [hk, hgc]; exact le_of_lt hlt
          · rw [hgo _ (by omega) hk]; exact hL hlt1
        · rw [hgr]
          by_cases hk : 2 * i + 2 = c
          · rw [hk, hgc]; exact le_of_lt hlt
          · rw [hgo _ (by omega) hk]; exact hR hlt2
      · rw [HeapAt, hgo i hir hic]
        refine ⟨fun hlt1 => ?_, fun hlt2 => ?_⟩
        · by_cases hk : 2 * i + 1 = r
          · rw [hk, hgr]; exact h2 i hi (Or.inl hk) c hcr hcu
          · rw [hgo _ hk (by omega)]; exact (h1 i hi hir).1 hlt1
        · by_cases hk : 2 * i + 2 = r
          · rw [hk, hgr]; exact h2 i hi (Or.inr hk) c hcr hcu
          · rw [hgo _ hk (by omega)]; exact (h1 i hi hir).2 hlt2
    · -- the children of `c` are below the parent `r` of `c`
      intro i hi hch c' hc' hc'u
      have hir : i = r := by omega
      subst hir
      rw [hgr, hgo c' (by omega) (by omega)]
      have hh := h1 c (by omega) h
      rcases hc' with e | e
      · rw [e]; exact hh.1 (by omega)
      · rw [e]; exact hh.2 (by omega)

theorem heap_root_max (key : α → K) (m : Nat) (a : Array α) (hH : ∀ i, HeapAt key m a i) :
    ∀ i, i < m → key a[i]! ≤ key a[0]! := by
  intro i
  induction i using Nat.strongRecOn with
  | _ i ih =>
    intro hi
    by_cases h0 : i = 0
    · subst h0; exact le_refl _
    · have hp := ih ((i - 1) / 2) (by omega) (by omega)
      refine le_trans ?_ hp
      have hh := hH ((i - 1) / 2)
      by_cases hq : (i - 1) % 2 = 0
      · have e : 2 * ((i - 1) / 2) + 1 = i := by omega
        have := hh.1 (by omega)
        rwa [e] at this
      · have e : 2 * ((i - 1) / 2) + 2 = i := by omega
        have := hh.2 (by omega)
        rwa [e] at this

/-! ### the build loop -/

theorem buildLoop_size (key : α → K) (un k : Nat) (a : Array α) :
    (buildLoop key un k a).size = a.size := by
  induction k generalizing a with
  | zero => rfl
  | succ k ih => rw [buildLoop, ih, heapify_size]

theorem buildLoop_perm (key : α → K) (un k : Nat) (a : Array α) :
    (buildLoop key un k a).toList.Perm a.toList := by
  induction k generalizing a with
  | zero => exact List.Perm.refl _
  | succ k ih => rw [buildLoop]; exact (ih _).trans (heapify_perm _ _ _ _)

theorem buildLoop_frame (key : α → K) (un k : Nat) (a : Array α) (j : Nat) (hj : un ≤ j) :
    (buildLoop key un k a)[j]! = a[j]! := by
  induction k generalizing a with
  | zero => rfl
  | succ k ih => rw [buildLoop, ih, heapify_frame _ _ _ _ _ hj]

theorem buildLoop_heap (key : α → K) (un k : Nat) (a : Array α) (hun : un ≤ a.size) (hk : k ≤ un)
    (h : ∀ i, k ≤ i → HeapAt key un a i) : ∀ i, HeapAt key un (buildLoop key un k a) i := by
  induction k generalizing a with
  | zero => exact fun i => h i (Nat.zero_le _)
  | succ k ih =>
    rw [buildLoop]
    apply ih _ (by rw [heapify_size]; exact hun) (by omega)
    apply heapify_heap key un k a k (by omega) hun (Nat.le_refl _)
    · intro i hi hik
      exact h i (by omega)
    · intro i hi hch
      omega

/-! ### the sort loop -/

theorem sortLoop_size (key : α → K) (n : Nat) (a : Array α) :
    (sortLoop key n a).size = a.size := by
  induction n generalizing a with
  | zero => rfl
  | succ n ih => rw [sortLoop, ih, heapify_size, size_swp]

theorem sortLoop_perm (key : α → K) (n : Nat) (a : Array α) :
    (sortLoop key n a).toList.Perm a.toList := by
  induction n generalizing a with
  | zero => exact List.Perm.refl _
  | succ n ih =>
    rw [sortLoop]
    exact ((ih _).trans (heapify_perm _ _ _ _)).trans (swp_perm _ _ _)

theorem sortLoop_frame (key : α → K) (n : Nat) (a : Array α) (j : Nat) (hj : n < j) :
    (sortLoop key n a)[j]! = a[j]! := by
  induction n generalizing a with
  | zero => rfl
  | succ n ih =>
    rw [sortLoop, ih _ (by omega), heapify_frame _ _ _ _ _ (by omega),
      getElem!_swp_of_ne _ _ _ _ (by omega) (by omega)]

/-- loop invariant of the sort phase at `ui = n`: the first `n + 1` slots are a heap, and every
    slot after `n` (below `un`) holds something at least as big as everything before it -/
theorem sortLoop_sorted (key : α → K) (un n : Nat) (a : Array α) (hn : n + 1 ≤ un)
    (hun : un ≤ a.size) (hH : ∀ i, HeapAt key (n + 1) a i)
    (hBS : ∀ i j, i < j → n < j → j < un → key a[i]! ≤ key a[j]!) :
    ∀ i j, i < j → j < un → key (sortLoop key n a)[i]! ≤ key (sortLoop key n a)[j]! := by
  induction n generalizing a with
  | zero => exact fun i j hij hj => hBS i j hij (by omega) hj
  | succ n ih =>
    rw [sortLoop]
    have h0s : 0 < a.size := by omega
    have hns : n + 1 < a.size := by omega
    have hg0 : (swp a 0 (n + 1))[0]! = a[n + 1]! := getElem!_swp_left a 0 (n + 1) h0s hns
    have hgn : (swp a 0 (n + 1))[n + 1]! = a[0]! := getElem!_swp_right a 0 (n + 1) h0s hns
    have hgo : ∀ k, k ≠ 0 → k ≠ n + 1 → (swp a 0 (n + 1))[k]! = a[k]! :=
      fun k hk1 hk2 => getElem!_swp_of_ne a 0 (n + 1) k hk1 hk2
    have hsz : n + 1 ≤ (swp a 0 (n + 1)).size := by rw [size_swp]; omega
    have hmax := heap_root_max key (n + 1 + 1) a hH
    apply ih _ (by omega) (by rw [heapify_size, size_swp]; exact hun)
    · -- heap on the first `n + 1` slots
      intro i
      refine heapify_heap key (n + 1) 0 (swp a 0 (n + 1)) 0 (by omega) hsz (Nat.le_refl _) ?_ ?_
        i (Nat.zero_le _)
      · intro i _ hi0
        refine ⟨fun hlt1 => ?_, fun hlt2 => ?_⟩
        · rw [hgo _ (by omega) (by omega), hgo i hi0 (by omega)]
          exact (hH i).1 (by omega)
        · rw [hgo _ (by omega) (by omega), hgo i hi0 (by omega)]
          exact (hH i).2 (by omega)
      · intro i _ hch
        omega
    · -- everything after slot `n` dominates everything before it
      intro i j hij hnj hj
      rw [heapify_frame key (n + 1) _ 0 j (by omega)]
      by_cases hjn : j = n + 1
      · -- slot `n + 1` now holds the old root, the maximum of the old heap
        subst hjn
        rw [hgn]
        apply heapify_all (fun x => key x ≤ key a[0]!) key (n + 1) _ 0 hsz _ i hij
        intro k hk
        by_cases hk0 : k = 0
        · subst hk0; rw [hg0]; exact hmax _ (by omega)
        · rw [hgo k hk0 (by omega)]; exact hmax _ (by omega)
      · rw [hgo j (by omega) hjn]
        by_cases hin : i < n + 1
        · apply heapify_all (fun x => key x ≤ key a[j]!) key (n + 1) _ 0 hsz _ i hin
          intro k hk
          by_cases hk0 : k = 0
          · subst hk0; rw [hg0]; exact hBS _ _ (by omega) (by omega) hj
          · rw [hgo k hk0 (by omega)]; exact hBS _ _ (by omega) (by omega) hj
        · rw [heapify_frame key (n + 1) _ 0 i (by omega)]
          by_cases hi1 : i = n + 1
          · subst hi1; rw [hgn]; exact hBS _ _ (by omega) (by omega) hj
          · rw [hgo i (by omega) hi1]; exact hBS _ _ hij (by omega) hj

/-! ### the whole sort -/

theorem heapsort_size (key : α → K) (un : Nat) (a : Array α) :
    (heapsort key un a).size = a.size := by
  rw [heapsort, sortLoop_size, buildLoop_size]

theorem heapsort_perm (key : α → K) (un : Nat) (a : Array α) :
    (heapsort key un a).toList.Perm a.toList := by
  rw [heapsort]
  exact (sortLoop_perm _ _ _).trans (buildLoop_perm _ _ _ _)

theorem heapsort_frame (key : α → K) (un : Nat) (a : Array α) (j : Nat) (hj : un ≤ j) :
    (heapsort key un a)[j]! = a[j]! := by
  rw [heapsort]
  by_cases h0 : un = 0
  · subst h0; rfl
  · rw [sortLoop_frame _ _ _ _ (by omega), buildLoop_frame _ _ _ _ _ hj]

theorem heapsort_sorted (key : α → K) (un : Nat) (a : Array α) (h : un ≤ a.size) :
    ∀ i j, i < j → j < un → key (heapsort key un a)[i]! ≤ key (heapsort key un a)[j]! := by
  intro i j hij hj
  rw [heapsort]
  apply sortLoop_sorted key un (un - 1) _ (by omega) (by rw [buildLoop_size]; exact h) _ _ i j hij hj
  · have e : un - 1 + 1 = un := by omega
    rw [e]
    apply buildLoop_heap key un (un / 2) a h (by omega)
    intro i hi
    exact ⟨fun h' => by omega, fun h' => by omega⟩
  · intro i j _ h1 h2
    omega

theorem drop_eq_of_frame (a b : Array α) (un : Nat) (hs : a.size = b.size)
    (h : ∀ j, un ≤ j → a[j]! = b[j]!) : a.toList.drop un = b.toList.drop un := by
  apply List.ext_getElem
  · simp [hs]
  · intro i h1 h2
    rw [List.getElem_drop, List.getElem_drop, Array.getElem_toList, Array.getElem_toList]
    have h1' : un + i < a.size := by
      have := h1; simp only [List.length_drop, Array.length_toList] at this; omega
    have h2' : un + i < b.size := by
      have := h2; simp only [List.length_drop, Array.length_toList] at this; omega
    have := h (un + i) (by omega)
    rwa [getElem!_pos a _ h1', getElem!_pos b _ h2'] at this

/-- the first `un` slots end up ascending by key, are a permutation of the first `un` input slots,
    and the rest of the array is untouched -/
theorem heapsort_prefix (key : α → K) (un : Nat) (a : Array α) (h : un ≤ a.size) :
    ((heapsort key un a).toList.take un).Pairwise (fun x y => key x ≤ key y) ∧
    ((heapsort key un a).toList.take un).Perm (a.toList.take un) ∧
    (heapsort key un a).toList.drop un = a.toList.drop un := by
  have hsz := heapsort_size key un a
  have hdrop := drop_eq_of_frame (heapsort key un a) a un hsz (heapsort_frame key un a)
  refine ⟨?_, ?_, hdrop⟩
  · rw [List.pairwise_iff_getElem]
    intro i j hi hj hij
    rw [List.getElem_take, List.getElem_take, Array.getElem_toList, Array.getElem_toList]
    have hj' : j < un := by
      have := hj; rw [List.length_take] at this; omega
    have := heapsort_sorted key un a h i j hij hj'
    rwa [getElem!_pos (heapsort key un a) i (by omega), getElem!_pos (heapsort key un a) j (by omega)] at this
  · have hp := heapsort_perm key un a
    rw [← List.take_append_drop un (heapsort key un a).toList, ← List.take_append_drop un a.toList,
      hdrop] at hp
    exact (List.perm_append_right_iff _).mp hp

end one

/-! ### the three-array version -/
section three
variable {K : Type}

/-- zipped view of the three arrays -/
def zip3 (s : Arr3 K) : Array (K × K × K) := s.1.zip (s.2.1.zip s.2.2)

/-- the two ride-along arrays are as long as the key array -/
def Sz3 (s : Arr3 K) : Prop := s.2.1.size = s.1.size ∧ s.2.2.size = s.1.size

theorem size_zip3 (s : Arr3 K) (h : Sz3 s) : (zip3 s).size = s.1.size := by
  simp [zip3, Array.size_zip, h.1, h.2]

theorem Sz3_swp3 (s : Arr3 K) (h : Sz3 s) (i j : Nat) : Sz3 (swp3 s i j) := by
  simp [Sz3, swp3, h.1, h.2]

theorem swp_of_not {α : Type} (a : Array α) (i j : Nat) (h : ¬ (i < a.size ∧ j < a.size)) :
    swp a i j = a := by
  unfold swp
  rw [dif_neg h]

theorem ext_getElem! {α : Type} [Inhabited α] (a b : Array α) (hs : a.size = b.size)
    (h : ∀ k, k < a.size → a[k]! = b[k]!) : a = b := by
  apply Array.ext hs
  intro k h1 h2
  have := h k h1
  rwa [getElem!_pos a k h1, getElem!_pos b k h2] at this

variable [Inhabited K]

theorem getElem!_zip3 (s : Arr3 K) (h : Sz3 s) (k : Nat) :
    (zip3 s)[k]! = (s.1[k]!, s.2.1[k]!, s.2.2[k]!) := by
  by_cases hk : k < s.1.size
  · have hk' : k < (zip3 s).size := by rw [size_zip3 s h]; exact hk
    have hk1 : k < s.2.1.size := by rw [h.1]; exact hk
    have hk2 : k < s.2.2.size := by rw [h.2]; exact hk
    rw [getElem!_pos (zip3 s) k hk', getElem!_pos s.1 k hk, getElem!_pos s.2.1 k hk1,
      getElem!_pos s.2.2 k hk2]
    simp [zip3]
  · have hk' : ¬ k < (zip3 s).size := by rw [size_zip3 s h]; exact hk
    have hk1 : ¬ k < s.2.1.size := by rw [h.1]; exact hk
    have hk2 : ¬ k < s.2.2.size := by rw [h.2]; exact hk
    rw [getElem!_neg (zip3 s) k hk', getElem!_neg s.1 k hk, getElem!_neg s.2.1 k hk1,
      getElem!_neg s.2.2 k hk2]
    rfl

theorem zip3_swp3 (s : Arr3 K) (h : Sz3 s) (i j : Nat) :
    zip3 (swp3 s i j) = swp (zip3 s) i j := by
  by_cases hij : i < s.1.size ∧ j < s.1.size
  · have hz := size_zip3 s h
    apply ext_getElem!
    · rw [size_swp, size_zip3 _ (Sz3_swp3 s h i j), hz]; simp [swp3]
    · intro k _
      rw [getElem!_zip3 _ (Sz3_swp3 s h i j), getElem!_swp (zip3 s) i j k (by omega) (by omega)]
      simp only [swp3]
      rw [getElem!_swp s.1 i j k hij.1 hij.2,
        getElem!_swp s.2.1 i j k (by rw [h.1]; exact hij.1) (by rw [h.1]; exact hij.2),
        getElem!_swp s.2.2 i j k (by rw [h.2]; exact hij.1) (by rw [h.2]; exact hij.2),
        getElem!_zip3 s h, getElem!_zip3 s h, getElem!_zip3 s h]
      split
      · rfl
      · split <;> rfl
  · rw [swp_of_not (zip3 s) i j (by rw [size_zip3 s h]; exact hij)]
    unfold swp3
    rw [swp_of_not s.1 i j hij, swp_of_not s.2.1 i j (by rw [h.1]; exact hij),
      swp_of_not s.2.2 i j (by rw [h.2]; exact hij)]

variable [LinearOrder K]

theorem pickBig_zip3 (un : Nat) (s : Arr3 K) (h : Sz3 s) (r : Nat) :
    pickBig (fun p : K × K × K => p.1) un (zip3 s) r = pickBig id un s.1 r := by
  unfold pickBig
  simp only [getElem!_zip3 s h, id]

theorem heapify3_zip (un : Nat) (s : Arr3 K) (r : Nat) (h : Sz3 s) :
    zip3 (heapify3 un s r) = heapify (fun p : K × K × K => p.1) un (zip3 s) r ∧
    (heapify3 un s r).1.size = s.1.size ∧ Sz3 (heapify3 un s r) := by
  induction s, r using heapify3.induct (K := K) (un := un) with
  | case1 s r hne ih =>
    obtain ⟨e1, e2, e3⟩ := ih (Sz3_swp3 s h _ _)
    have hp := pickBig_zip3 un s h r
    rw [heapify3, dif_pos hne, heapify, dif_pos (by rw [hp]; exact hne), hp, ← zip3_swp3 s h]
    refine ⟨e1, ?_, e3⟩
    rw [e2]
    simp [swp3]
  | case2 s r hne =>
    have hp := pickBig_zip3 un s h r
    rw [heapify3, dif_neg hne, heapify, dif_neg (by rw [hp]; exact hne)]
    exact ⟨rfl, rfl, h⟩

theorem buildLoop3_zip (un k : Nat) (s : Arr3 K) (h : Sz3 s) :
    zip3 (buildLoop3 un k s) = buildLoop (fun p : K × K × K => p.1) un k (zip3 s) ∧
    (buildLoop3 un k s).1.size = s.1.size ∧ Sz3 (buildLoop3 un k s) := by
  induction k generalizing s with
  | zero => exact ⟨rfl, rfl, h⟩
  | succ k ih =>
    obtain ⟨e1, e2, e3⟩ := heapify3_zip un s k h
    obtain ⟨f1, f2, f3⟩ := ih _ e3
    rw [buildLoop3, buildLoop, ← e1]
    exact ⟨f1, by rw [f2, e2], f3⟩

theorem sortLoop3_zip (n : Nat) (s : Arr3 K) (h : Sz3 s) :
    zip3 (sortLoop3 n s) = sortLoop (fun p : K × K × K => p.1) n (zip3 s) ∧
    (sortLoop3 n s).1.size = s.1.size ∧ Sz3 (sortLoop3 n s) := by
  induction n generalizing s with
  | zero => exact ⟨rfl, rfl, h⟩
  | succ n ih =>
    have hs := Sz3_swp3 s h 0 (n + 1)
    obtain ⟨e1, e2, e3⟩ := heapify3_zip (n + 1) _ 0 hs
    obtain ⟨f1, f2, f3⟩ := ih _ e3
    rw [sortLoop3, sortLoop, ← zip3_swp3 s h, ← e1]
    refine ⟨f1, ?_, f3⟩
    rw [f2, e2]
    simp [swp3]

/-- the three-array sort is the one-array sort of the zipped triples, keyed on the first
    component; the three sizes are preserved -/
theorem heapsort3_zip (un : Nat) (s : Arr3 K) (h1 : s.2.1.size = s.1.size)
    (h2 : s.2.2.size = s.1.size) :
    zip3 (heapsort3 un s) = heapsort (fun p : K × K × K => p.1) un (zip3 s) ∧
    (heapsort3 un s).1.size = s.1.size ∧ (heapsort3 un s).2.1.size = s.1.size ∧
    (heapsort3 un s).2.2.size = s.1.size := by
  have h : Sz3 s := ⟨h1, h2⟩
  obtain ⟨e1, e2, e3⟩ := buildLoop3_zip un (un / 2) s h
  obtain ⟨f1, f2, f3⟩ := sortLoop3_zip (un - 1) _ e3
  rw [heapsort3, heapsort, ← e1]
  refine ⟨f1, by rw [f2, e2], ?_, ?_⟩
  · rw [f3.1, f2, e2]
  · rw [f3.2, f2, e2]

end three

end CimbaModel.Stats
