/-
  Properties of the medians / five-number summaries of Median.lean, for every size: of datasets, and
  duration-weighted of time series (over one list of (sample, weight) pairs).
-/
import CimbaModel.Stats.Median
import Mathlib.Algebra.Order.Field.Basic
import Mathlib.Tactic.Linarith

namespace CimbaModel.Stats

variable {K : Type} [Inhabited K] [Field K] [LinearOrder K] [IsStrictOrderedRing K]

/-- array sorted ascending, index form -/
def SortedArr (v : Array K) : Prop := ∀ i j, i ≤ j → j < v.size → v[i]! ≤ v[j]!

omit [Inhabited K] in
theorem avg_bounds (a b : K) (h : a ≤ b) : a ≤ (a + b) / 2 ∧ (a + b) / 2 ≤ b := by
  constructor
  · rw [le_div_iff₀ (by norm_num)]; linarith
  · rw [div_le_iff₀ (by norm_num)]; linarith

/-- `data_array_median` on a non-empty in-bounds slice of a sorted array: defined, and between the
    two middle elements -/
theorem arrMedian_bounds (v : Array K) (off n : Nat) (hn : 0 < n) (hn32 : n < 4294967296)
    (hb : off + n ≤ v.size) (hs : SortedArr v) :
    ∃ m, arrMedian v off n = some m ∧ v[off + (n - 1) / 2]! ≤ m ∧ m ≤ v[off + n / 2]! := by
  unfold arrMedian
  by_cases he : n % 2 = 0
  · rw [if_pos he]
    have h1 : (n / 2 + 4294967295) % 4294967296 = (n - 1) / 2 := by omega
    rw [h1, Array.getElem?_eq_some_getElem! v _ (by omega), Array.getElem?_eq_some_getElem! v _ (by omega)]
    have := hs (off + (n - 1) / 2) (off + n / 2) (by omega) (by omega)
    exact ⟨_, rfl, avg_bounds _ _ this⟩
  · rw [if_neg he]
    have h1 : (n - 1) / 2 = n / 2 := by omega
    rw [h1, Array.getElem?_eq_some_getElem! v _ (by omega)]
    exact ⟨_, rfl, le_refl _, le_refl _⟩

omit [Inhabited K] [Field K] [IsStrictOrderedRing K] in
/-- in a sorted list, at most `k` elements are strictly below anything that is `≤ l[k]` -/
theorem countP_lt_le_of_sorted (l : List K) (hs : l.Pairwise (· ≤ ·)) (k : Nat) (hk : k < l.length) (m : K)
    (h : m ≤ l[k]) : l.countP (fun x => decide (x < m)) ≤ k := by
  have hsplit := List.take_append_drop k l
  have hd : l.drop k = l[k] :: l.drop (k + 1) := List.drop_eq_getElem_cons hk
  rw [← hsplit] at hs
  obtain ⟨_, hsd, _⟩ := List.pairwise_append.1 hs
  rw [hd, List.pairwise_cons] at hsd
  have hz : (l.drop k).countP (fun x => decide (x < m)) = 0 := by
    rw [List.countP_eq_zero]
    intro a ha
    rw [hd, List.mem_cons] at ha
    have : l[k] ≤ a := by
      rcases ha with ha | ha
      · rw [ha]
      · exact hsd.1 a ha
    simpa using le_trans h this
  have ht : (l.take k).countP (fun x => decide (x < m)) ≤ k :=
    le_trans List.countP_le_length (by rw [List.length_take]; omega)
  calc l.countP (fun x => decide (x < m))
      = (l.take k ++ l.drop k).countP (fun x => decide (x < m)) := by rw [hsplit]
    _ ≤ k := by rw [List.countP_append, hz]; simpa using ht

omit [Inhabited K] [Field K] [IsStrictOrderedRing K] in
/-- in a sorted list, at most `length - (k+1)` elements are strictly above anything that is `≥ l[k]` -/
theorem countP_gt_le_of_sorted (l : List K) (hs : l.Pairwise (· ≤ ·)) (k : Nat) (hk : k < l.length) (m : K)
    (h : l[k] ≤ m) : l.countP (fun x => decide (m < x)) ≤ l.length - (k + 1) := by
  have hsplit := List.take_append_drop (k + 1) l
  have ht : l.take (k + 1) = l.take k ++ [l[k]] := List.take_succ_eq_append_getElem hk
  rw [← hsplit] at hs
  obtain ⟨hst, _, _⟩ := List.pairwise_append.1 hs
  rw [ht] at hst
  obtain ⟨_, _, hst⟩ := List.pairwise_append.1 hst
  have hz : (l.take (k + 1)).countP (fun x => decide (m < x)) = 0 := by
    rw [List.countP_eq_zero]
    intro a ha
    rw [ht, List.mem_append, List.mem_singleton] at ha
    have : a ≤ l[k] := by
      rcases ha with ha | ha
      · exact hst a ha _ (List.mem_singleton.2 rfl)
      · rw [ha]
    simpa using le_trans this h
  have hd : (l.drop (k + 1)).countP (fun x => decide (m < x)) ≤ l.length - (k + 1) :=
    le_trans List.countP_le_length (by rw [List.length_drop])
  calc l.countP (fun x => decide (m < x))
      = (l.take (k + 1) ++ l.drop (k + 1)).countP (fun x => decide (m < x)) := by rw [hsplit]
    _ ≤ l.length - (k + 1) := by rw [List.countP_append, hz]; simpa using hd

omit [Field K] [IsStrictOrderedRing K] in
/-- a value between the two middle elements of a sorted list is a median: at most half of the samples
    strictly below, at most half strictly above -/
theorem sorted_middle_is_median (l : List K) (hs : l.Pairwise (· ≤ ·)) (hn : 0 < l.length) (m : K)
    (h1 : l[(l.length - 1) / 2]! ≤ m) (h2 : m ≤ l[l.length / 2]!) :
    2 * l.countP (fun x => decide (x < m)) ≤ l.length ∧ 2 * l.countP (fun x => decide (m < x)) ≤ l.length := by
  have hk1 : (l.length - 1) / 2 < l.length := by omega
  have hk2 : l.length / 2 < l.length := by omega
  rw [getElem!_pos l _ hk1] at h1
  rw [getElem!_pos l _ hk2] at h2
  have hb := countP_lt_le_of_sorted l hs _ hk2 m h2
  have ha := countP_gt_le_of_sorted l hs _ hk1 m h1
  constructor <;> omega

theorem arrMedian_slice (v : Array K) (off n : Nat) (hn : 0 < n) (hn32 : n < 4294967296)
    (hb : off + n ≤ v.size) (hs : SortedArr v) :
    ∃ m, arrMedian v off n = some m ∧ v[off]! ≤ m ∧ m ≤ v[off + n - 1]! := by
  obtain ⟨m, hm, lo, hi⟩ := arrMedian_bounds v off n hn hn32 hb hs
  exact ⟨m, hm, le_trans (hs _ _ (by omega) (by omega)) lo, le_trans hi (hs _ _ (by omega) (by omega))⟩

/-- A quartile slot of `fivenumOfSorted`: the median of the slice `[off, off + n)` if `c`, else whatever `o` yields.
    The slice lies between the positions `i` and `j` of the sorted array, where `lo` and `hi` are known bounds. -/
theorem quartile_slot (v : Array K) (hs : SortedArr v) (hv : v.size < 4294967296) {c : Prop} [Decidable c]
    {off n i j : Nat} {o : Option K} {lo hi : K} (hlo : lo ≤ v[i]!) (hhi : v[j]! ≤ hi)
    (h1 : c → 0 < n ∧ i ≤ off ∧ off + n - 1 ≤ j ∧ j < v.size)
    (h2 : ¬ c → ∃ q, o = some q ∧ lo ≤ q ∧ q ≤ hi) :
    ∃ q, (if c then arrMedian v off n else o) = some q ∧ lo ≤ q ∧ q ≤ hi := by
  by_cases hc : c
  · obtain ⟨a, b, d, e⟩ := h1 hc
    obtain ⟨q, hq, l, u⟩ := arrMedian_slice v off n a (by omega) (by omega) hs
    exact ⟨q, by rw [if_pos hc, hq], le_trans hlo (le_trans (hs i off b (by omega)) l),
      le_trans u (le_trans (hs _ j d e) hhi)⟩
  · rw [if_neg hc]; exact h2 hc

theorem ite_bind {α β : Type} (c : Prop) [Decidable c] (a b : Option α) (k : α → Option β) :
    (if c then a else b).bind k = if c then a.bind k else b.bind k := by
  split <;> rfl

omit [Inhabited K] [LinearOrder K] [IsStrictOrderedRing K] in
/-- `fivenumOfSorted` for a count that fits `unsigned`: the truncations are the identity -/
theorem fivenumOfSorted_eq (v : Array K) (cnt : Nat) (mn mx : K) (h32 : cnt < 4294967296) :
    fivenumOfSorted v cnt mn mx =
      (arrMedian v 0 cnt).bind fun med =>
      (if cnt / 2 > 0 then arrMedian v 0 (cnt / 2) else some med).bind fun q1 =>
      (if cnt % 2 = 0 then arrMedian v (cnt / 2) (cnt - cnt / 2)
        else if cnt - cnt / 2 > 1 then arrMedian v (cnt / 2 + 1) (cnt - cnt / 2 - 1) else some med).bind fun q3 =>
      some { min := mn, q1 := q1, med := med, q3 := q3, max := mx } := by
  have hm1 : cnt % 4294967296 = cnt := Nat.mod_eq_of_lt h32
  have hm2 : (cnt / 2) % 4294967296 = cnt / 2 := Nat.mod_eq_of_lt (by omega)
  have hm3 : (cnt - cnt / 2) % 4294967296 = cnt - cnt / 2 := Nat.mod_eq_of_lt (by omega)
  -- the `do` block distributes the rest of the computation over each `if`
  simp only [fivenumOfSorted, hm1, hm2, hm3, ite_bind]
  rfl

/-- five-number summary of a sorted array of `cnt ≥ 1` samples: defined (no out-of-bounds read, one
    sample included), ordered, inside [mn, mx] -/
theorem fivenumOfSorted_ordered (v : Array K) (cnt : Nat) (mn mx : K) (hc : 0 < cnt) (hc32 : cnt < 4294967296)
    (hsz : v.size = cnt) (hs : SortedArr v) (hmn : mn ≤ v[0]!) (hmx : v[cnt - 1]! ≤ mx) :
    ∃ f, fivenumOfSorted v cnt mn mx = some f ∧ f.min = mn ∧ f.max = mx ∧
      f.min ≤ f.q1 ∧ f.q1 ≤ f.med ∧ f.med ≤ f.q3 ∧ f.q3 ≤ f.max ∧
      arrMedian v 0 cnt = some f.med := by
  have hv : v.size < 4294967296 := hsz ▸ hc32
  -- the median lies between the two middle elements `v[(cnt-1)/2]` and `v[cnt/2]`
  obtain ⟨med, hmed, ml, mu⟩ := arrMedian_bounds v 0 cnt hc hc32 (by omega) hs
  rw [Nat.zero_add] at ml mu
  have ix : (cnt - 1) / 2 < v.size ∧ cnt / 2 ≤ cnt - 1 ∧ cnt - 1 < v.size := by omega
  have lo : mn ≤ med := le_trans hmn (le_trans (hs _ _ (Nat.zero_le _) ix.1) ml)
  have hi : med ≤ mx := le_trans mu (le_trans (hs _ _ ix.2.1 ix.2.2) hmx)
  -- lower half `[0, cnt/2)`: between `v[0]` and the lower middle element
  obtain ⟨q1, e1, a1, b1⟩ := quartile_slot v hs hv (c := cnt / 2 > 0) (off := 0) (n := cnt / 2) (o := some med)
    hmn ml (fun _ => by omega) (fun _ => ⟨med, rfl, lo, le_refl _⟩)
  -- upper half `[cnt/2, cnt)` (even) or `[cnt/2 + 1, cnt)` (odd): between the upper middle element and `v[cnt-1]`
  obtain ⟨q3, e3, a3, b3⟩ := quartile_slot v hs hv (c := cnt % 2 = 0) (off := cnt / 2) (n := cnt - cnt / 2)
    (o := if cnt - cnt / 2 > 1 then arrMedian v (cnt / 2 + 1) (cnt - cnt / 2 - 1) else some med)
    mu hmx (fun _ => by omega)
    (fun _ => quartile_slot v hs hv mu hmx (fun _ => by omega) (fun _ => ⟨med, rfl, le_refl _, hi⟩))
  refine ⟨{ min := mn, q1 := q1, med := med, q3 := q3, max := mx }, ?_, rfl, rfl, a1, b1, a3, b3, hmed⟩
  rw [fivenumOfSorted_eq v cnt mn mx hc32, hmed, Option.bind_some, e1, Option.bind_some, e3, Option.bind_some]

/-! ### duration-weighted quantiles

The model scans two parallel lists (the samples and the cumulative weights).  The facts are proved for one list `l` of
(sample, weight) pairs, ascending in the sample with weights ≥ 0 (`Asc`); `reach` is the model's scan on such a list. -/

/-- weight strictly below a value, for samples `xs` with weights `ws` -/
def wBelow (xs ws : List K) (m : K) : K := (((xs.zip ws).filter fun p => decide (p.1 < m)).map (·.2)).sum
/-- weight strictly above a value, for samples `xs` with weights `ws` -/
def wAbove (xs ws : List K) (m : K) : K := (((xs.zip ws).filter fun p => decide (m < p.1)).map (·.2)).sum

omit [Inhabited K] [LinearOrder K] [IsStrictOrderedRing K] in
theorem getLast?_cumSums (acc : K) (ws : List K) : (cumSums acc ws).getLast?.getD acc = acc + ws.sum := by
  induction ws generalizing acc with
  | nil => simp [cumSums]
  | cons w ws ih =>
    rw [cumSums, List.getLast?_cons, Option.getD_some, ih, List.sum_cons, add_assoc]

omit [Inhabited K] [LinearOrder K] [IsStrictOrderedRing K] in
/-- the total weight as the code has it (last cumulative sum) is the sum of the weights -/
theorem wTotal_eq_sum (ws : List K) : wTotal ws = ws.sum := by
  unfold wTotal
  rw [getLast?_cumSums, zero_add]

omit [Inhabited K] [Field K] [IsStrictOrderedRing K] in
theorem firstReach_mem (q : K) (xs cs : List K) (m : K) (h : firstReach q xs cs = some m) : m ∈ xs := by
  induction xs generalizing cs with
  | nil => simp [firstReach] at h
  | cons x xs ih =>
    cases cs with
    | nil => simp [firstReach] at h
    | cons c cs =>
      rw [firstReach] at h
      split at h
      · rw [Option.some.injEq] at h
        rw [h]; exact List.mem_cons_self
      · exact List.mem_cons_of_mem _ (ih cs h)

omit [Inhabited K] [Field K] [IsStrictOrderedRing K] in
theorem firstReach_mono (xs cs : List K) (hs : xs.Pairwise (· ≤ ·)) (q q' : K) (hqq : q ≤ q') (m m' : K)
    (h : firstReach q xs cs = some m) (h' : firstReach q' xs cs = some m') : m ≤ m' := by
  induction xs generalizing cs with
  | nil => simp [firstReach] at h
  | cons x xs ih =>
    cases cs with
    | nil => simp [firstReach] at h
    | cons c cs =>
      rw [firstReach] at h h'
      rw [List.pairwise_cons] at hs
      by_cases hc' : q' ≤ c
      · rw [if_pos hc', Option.some.injEq] at h'
        rw [if_pos (le_trans hqq hc'), Option.some.injEq] at h
        rw [← h, ← h']
      · rw [if_neg hc'] at h'
        by_cases hc : q ≤ c
        · rw [if_pos hc, Option.some.injEq] at h
          rw [← h]
          exact hs.1 m' (firstReach_mem _ _ _ _ h')
        · rw [if_neg hc] at h
          exact ih cs hs.2 h h'

omit [Inhabited K] [Field K] [IsStrictOrderedRing K] in
theorem firstReach_none_mono (xs cs : List K) (q q' : K) (hqq : q ≤ q')
    (h : firstReach q xs cs = none) : firstReach q' xs cs = none := by
  induction xs generalizing cs with
  | nil => simp [firstReach]
  | cons x xs ih =>
    cases cs with
    | nil => simp [firstReach]
    | cons c cs =>
      rw [firstReach] at h ⊢
      by_cases hc : q ≤ c
      · rw [if_pos hc] at h; exact absurd h (by simp)
      · rw [if_neg hc] at h
        rw [if_neg (fun hc' => hc (le_trans hqq hc'))]
        exact ih cs h

omit [Inhabited K] [Field K] [IsStrictOrderedRing K] in
theorem le_getLast?_of_sorted (xs : List K) (hs : xs.Pairwise (· ≤ ·)) (m m' : K) (hm : m ∈ xs)
    (hl : xs.getLast? = some m') : m ≤ m' := by
  obtain ⟨ys, rfl⟩ := List.getLast?_eq_some_iff.1 hl
  obtain ⟨_, _, h⟩ := List.pairwise_append.1 hs
  rcases List.mem_append.1 hm with hm | hm
  · exact h m hm m' (List.mem_singleton.2 rfl)
  · rw [List.mem_singleton.1 hm]

omit [Inhabited K] [IsStrictOrderedRing K] in
theorem wquantile_mono (xs ws : List K) (hs : xs.Pairwise (· ≤ ·)) (q q' : K) (hqq : q ≤ q') (m m' : K)
    (h : wquantile xs (cumSums 0 ws) q = some m) (h' : wquantile xs (cumSums 0 ws) q' = some m') : m ≤ m' := by
  unfold wquantile at h h'
  cases h1 : firstReach q xs (cumSums 0 ws) with
  | some a =>
    rw [h1, Option.some.injEq] at h
    subst h
    cases h2 : firstReach q' xs (cumSums 0 ws) with
    | some b =>
      rw [h2, Option.some.injEq] at h'
      subst h'
      exact firstReach_mono xs _ hs q q' hqq _ _ h1 h2
    | none =>
      rw [h2] at h'
      exact le_getLast?_of_sorted xs hs _ _ (firstReach_mem _ _ _ _ h1) h'
  | none =>
    rw [h1] at h
    rw [firstReach_none_mono xs _ q q' hqq h1] at h'
    rw [h] at h'
    rw [Option.some.injEq] at h'
    rw [h']

section pairs
set_option linter.unusedSectionVars false

/-- weight strictly below `m` / strictly above `m` / in all, of (sample, weight) pairs -/
def below (l : List (K × K)) (m : K) : K := ((l.filter fun p => decide (p.1 < m)).map (·.2)).sum
def above (l : List (K × K)) (m : K) : K := ((l.filter fun p => decide (m < p.1)).map (·.2)).sum
def total (l : List (K × K)) : K := (l.map (·.2)).sum

theorem below_cons (p : K × K) (l : List (K × K)) (m : K) :
    below (p :: l) m = (if p.1 < m then p.2 else 0) + below l m := by
  unfold below; rw [List.filter_cons]; by_cases h : p.1 < m <;> simp [h]

theorem above_cons (p : K × K) (l : List (K × K)) (m : K) :
    above (p :: l) m = (if m < p.1 then p.2 else 0) + above l m := by
  unfold above; rw [List.filter_cons]; by_cases h : m < p.1 <;> simp [h]

theorem total_cons (p : K × K) (l : List (K × K)) : total (p :: l) = p.2 + total l := by simp [total]

/-- the model's scan on pairs -/
def reach (q acc : K) (l : List (K × K)) : Option K := firstReach q (l.map (·.1)) (cumSums acc (l.map (·.2)))

theorem reach_cons (q acc : K) (p : K × K) (l : List (K × K)) :
    reach q acc (p :: l) = if q ≤ acc + p.2 then some p.1 else reach q (acc + p.2) l := rfl

/-- ascending in the sample, weights ≥ 0 -/
def Asc (l : List (K × K)) : Prop := l.Pairwise (fun p q => p.1 ≤ q.1) ∧ ∀ p ∈ l, 0 ≤ p.2

theorem Asc.tail {p : K × K} {l : List (K × K)} (h : Asc (p :: l)) : Asc l ∧ 0 ≤ p.2 ∧ ∀ q ∈ l, p.1 ≤ q.1 :=
  ⟨⟨(List.pairwise_cons.mp h.1).2, fun q hq => h.2 q (List.mem_cons_of_mem _ hq)⟩, h.2 p List.mem_cons_self,
    (List.pairwise_cons.mp h.1).1⟩

theorem Asc.fst {l : List (K × K)} (h : Asc l) : (l.map (·.1)).Pairwise (· ≤ ·) := List.pairwise_map.mpr h.1

/-- the total is ≥ 0 and bounds the weight above anything; nothing is strictly below a lower bound of the samples -/
theorem Asc.bounds {l : List (K × K)} (h : Asc l) (m : K) :
    0 ≤ total l ∧ above l m ≤ total l ∧ ((∀ q ∈ l, m ≤ q.1) → below l m = 0) := by
  induction l with
  | nil => simp [total, above, below]
  | cons p l ih =>
    obtain ⟨ht, hp, _⟩ := h.tail
    obtain ⟨i1, i2, i3⟩ := ih ht
    rw [total_cons, above_cons, below_cons]
    refine ⟨by linarith, by split <;> linarith, fun hm => ?_⟩
    rw [i3 fun q hq => hm q (List.mem_cons_of_mem _ hq), if_neg (not_lt.mpr (hm p List.mem_cons_self)), add_zero]

/-- the scan succeeds when the wanted weight does not exceed the total; it returns a sample with at most `q - acc` of the
    weight strictly below it and at most `acc + total - q` strictly above it.  `hne` is what the induction carries: the
    caller has a non-empty list, the recursive call has passed a sample that did not reach `q`. -/
theorem reach_spec {l : List (K × K)} (h : Asc l) (q acc : K) (hacc : acc ≤ q) (hq : q ≤ acc + total l)
    (hne : l ≠ [] ∨ acc < q) :
    ∃ p ∈ l, reach q acc l = some p.1 ∧ acc + below l p.1 ≤ q ∧ above l p.1 ≤ acc + total l - q := by
  induction l generalizing acc with
  | nil =>
    rcases hne with hne | hne
    · exact absurd rfl hne
    · simp [total] at hq; exact absurd hq (not_le.mpr hne)
  | cons p l ih =>
    obtain ⟨ht, hp, hle⟩ := h.tail
    rw [total_cons, ← add_assoc] at hq ⊢
    rw [reach_cons]
    by_cases hc : q ≤ acc + p.2
    · refine ⟨p, List.mem_cons_self, by rw [if_pos hc], ?_, ?_⟩
      · rw [below_cons, if_neg (lt_irrefl _), (ht.bounds p.1).2.2 hle]; linarith
      · rw [above_cons, if_neg (lt_irrefl _)]; have := (ht.bounds p.1).2.1; linarith
    · obtain ⟨r, hr, e, b, a⟩ := ih ht (acc + p.2) (le_of_lt (not_le.mp hc)) hq (Or.inr (not_le.mp hc))
      refine ⟨r, List.mem_cons_of_mem _ hr, by rw [if_neg hc, e], ?_, ?_⟩
      · rw [below_cons]; split <;> linarith
      · rw [above_cons, if_neg (not_lt.mpr (hle r hr))]; linarith

/-- the weighted quantile of ascending pairs: a sample, with at most `q` of the weight strictly below it and at most
    `total - q` strictly above it -/
theorem wquantile_pairs {l : List (K × K)} (h : Asc l) (hne : l ≠ []) (q : K) (hq0 : 0 ≤ q) (hq1 : q ≤ total l) :
    ∃ p ∈ l, wquantile (l.map (·.1)) (cumSums 0 (l.map (·.2))) q = some p.1 ∧
      below l p.1 ≤ q ∧ above l p.1 ≤ total l - q := by
  obtain ⟨p, hp, e, b, a⟩ := reach_spec h q 0 hq0 (by rwa [zero_add]) (Or.inl hne)
  rw [zero_add] at b a
  refine ⟨p, hp, ?_, b, a⟩
  show (match reach q 0 l with | some x => some x | none => _) = _
  rw [e]

theorem wMedian_pairs {l : List (K × K)} (h : Asc l) (hne : l ≠ []) :
    ∃ p ∈ l, wMedianSorted (l.map (·.1)) (l.map (·.2)) = some p.1 ∧
      2 * below l p.1 ≤ total l ∧ 2 * above l p.1 ≤ total l := by
  obtain ⟨ht, -, -⟩ := h.bounds 0
  obtain ⟨p, hp, e, b, a⟩ := wquantile_pairs h hne (total l / 2) (div_nonneg ht (by norm_num)) (by linarith)
  refine ⟨p, hp, ?_, by linarith, by linarith⟩
  unfold wMedianSorted
  rw [wTotal_eq_sum]
  exact e

/-- the weighted five-number summary of ascending pairs: defined, ordered, every value a sample (hence inside [mn, mx]
    when those bound the samples), median is the weighted median -/
theorem wFivenum_pairs {l : List (K × K)} (h : Asc l) (hne : l ≠ []) (mn mx : K) (hmn : ∀ p ∈ l, mn ≤ p.1)
    (hmx : ∀ p ∈ l, p.1 ≤ mx) :
    ∃ f, wFivenumSorted (l.map (·.1)) (l.map (·.2)) mn mx = some f ∧ f.min = mn ∧ f.max = mx ∧
      f.min ≤ f.q1 ∧ f.q1 ≤ f.med ∧ f.med ≤ f.q3 ∧ f.q3 ≤ f.max ∧
      wMedianSorted (l.map (·.1)) (l.map (·.2)) = some f.med := by
  obtain ⟨ht, -, -⟩ := h.bounds 0
  obtain ⟨q1, h1, e1, -, -⟩ := wquantile_pairs h hne (total l / 4) (div_nonneg ht (by norm_num)) (by linarith)
  obtain ⟨md, h2, e2, -, -⟩ := wquantile_pairs h hne (total l / 2) (div_nonneg ht (by norm_num)) (by linarith)
  obtain ⟨q3, h3, e3, -, -⟩ := wquantile_pairs h hne (3 * total l / 4) (div_nonneg (by linarith) (by norm_num))
    (by linarith)
  refine ⟨{ min := mn, q1 := q1.1, med := md.1, q3 := q3.1, max := mx }, ?_, rfl, rfl, hmn q1 h1, ?_, ?_, hmx q3 h3, ?_⟩
  · unfold wFivenumSorted
    simp only [wTotal_eq_sum, Option.bind_eq_bind, Option.pure_def]
    rw [show (l.map (·.2)).sum = total l from rfl, e1, Option.bind_some, e2, Option.bind_some, e3, Option.bind_some]
  · exact wquantile_mono _ _ h.fst _ _ (by linarith) _ _ e1 e2
  · exact wquantile_mono _ _ h.fst _ _ (by linarith) _ _ e2 e3
  · unfold wMedianSorted
    rw [wTotal_eq_sum]; exact e2

end pairs

/-! ### non-vacuity: the statements on concrete data over ℚ -/
section examples

example : wMedianSorted [(1 : ℚ), 5, 5, 10] [8, 1, 0, 1] = some 1 := by decide +kernel
example : wMedianSorted [(1 : ℚ), 2, 3, 3] [1, 1, 1, 0] = some 2 := by decide +kernel
example : (fivenumOfSorted #[(7 : ℚ)] 1 7 7).map (·.q1) = some 7 := by decide +kernel
example : arrMedian #[(1 : ℚ), 2, 4, 8] 0 4 = some 3 := by decide +kernel
example : arrMedian #[(1 : ℚ), 2, 4, 8] 0 0 = none := by decide +kernel
example : (fivenumOfSorted #[(1 : ℚ), 2, 3, 4, 6] 5 1 6).map (fun f => (f.min, f.q1, f.med, f.q3, f.max))
    = some (1, 3 / 2, 3, 5, 6) := by decide +kernel
example : (fivenumOfSorted #[(1 : ℚ), 2, 3, 4] 4 1 4).map (fun f => (f.min, f.q1, f.med, f.q3, f.max))
    = some (1, 3 / 2, 5 / 2, 7 / 2, 4) := by decide +kernel
example : (wFivenumSorted [(1 : ℚ), 2, 3, 4] [1, 1, 1, 1] 1 4).map (fun f => (f.min, f.q1, f.med, f.q3, f.max))
    = some (1, 1, 2, 3, 4) := by decide +kernel
example : wquantile [(1 : ℚ), 2, 3] (cumSums 0 [1, 1, 1]) 7 = some 3 := by decide +kernel  -- the fallback

/-- the hypotheses of the weighted theorems are satisfiable (zero weights and ties included) -/
example : ∃ m, wMedianSorted [(1 : ℚ), 5, 5, 10] [8, 1, 0, 1] = some m ∧ m ∈ [(1 : ℚ), 5, 5, 10] ∧
    2 * wBelow [(1 : ℚ), 5, 5, 10] [8, 1, 0, 1] m ≤ ([8, 1, 0, 1] : List ℚ).sum ∧
    2 * wAbove [(1 : ℚ), 5, 5, 10] [8, 1, 0, 1] m ≤ ([8, 1, 0, 1] : List ℚ).sum := by
  obtain ⟨p, hp, e, b, a⟩ := wMedian_pairs (l := [((1 : ℚ), 8), (5, 1), (5, 0), (10, 1)])
    ⟨by decide +kernel, by decide +kernel⟩ (by simp)
  exact ⟨p.1, e, List.mem_map_of_mem (f := (·.1)) hp, b, a⟩

/-- the hypotheses of the dataset theorem are satisfiable -/
example : ∃ f, fivenumOfSorted #[(7 : ℚ)] 1 7 7 = some f ∧ f.min = 7 ∧ f.max = 7 ∧
    f.min ≤ f.q1 ∧ f.q1 ≤ f.med ∧ f.med ≤ f.q3 ∧ f.q3 ≤ f.max ∧ arrMedian #[(7 : ℚ)] 0 1 = some f.med :=
  fivenumOfSorted_ordered _ 1 7 7 (by decide) (by decide) rfl
    (by intro i j hij hj
        have hj0 : j = 0 := by simpa using hj
        have hi0 : i = 0 := by omega
        rw [hi0, hj0])
    (by decide +kernel) (by decide +kernel)

end examples

end CimbaModel.Stats
