/-
  C17, unweighted summaries: the representation invariant `Repr` tying a `DataSummary` (the C struct, as generated) to the
  list of samples it summarises.  An unweighted summary is a weighted one whose weights are all 1 (`unitS`, `Repr.toW`), and
  the generated merge and one-sample update are the weighted ones at unit weights (`merge_unit`, `add_unit`): every theorem
  about `Repr` is read off its weighted version in Weighted.lean.  Then the textbook statistics and the accessors.
-/
import CimbaModel.Stats.Weighted

namespace CimbaModel.Stats
open CimbaModel.Generated.Stats

variable {K : Type} [Field K] [LinearOrder K] [IsStrictOrderedRing K]
set_option linter.unusedSectionVars false

/-! ### The representation invariant of an (unweighted) data summary

`Repr D s xs`: the struct `s` is what the library holds after summarising exactly the samples `xs`
(`D` is `DBL_MAX`; every sample is a finite double, i.e. lies in [-D, D]).  All reported statistics are functions of the
fields, and the fields are determined by `xs` (`Repr.unique`). -/

structure Repr (D : K) (s : DataSummary K) (xs : List K) : Prop where
  cookie : s.cookie = (cmb_datasummary_initialize D s).cookie
  count : s.count = xs.length
  bounded : ∀ x ∈ xs, -D ≤ x ∧ x ≤ D
  empty : xs = [] → s.min = D ∧ s.max = -D ∧ s.m1 = 0
  min_mem : xs ≠ [] → s.min ∈ xs
  min_le : ∀ x ∈ xs, s.min ≤ x
  max_mem : xs ≠ [] → s.max ∈ xs
  le_max : ∀ x ∈ xs, x ≤ s.max
  mean : s.m1 * (xs.length : K) = xs.sum
  m2 : s.m2 = S 2 s.m1 xs
  m3 : s.m3 = S 3 s.m1 xs
  m4 : s.m4 = S 4 s.m1 xs

/-! ### Unit weights: the unweighted summary is the weighted one with weight sum = count -/

@[simp] theorem xsOf_unitW (xs : List K) : xsOf (unitW xs) = xs := by
  simp [xsOf, unitW, Function.comp_def]

theorem effective_unitW (xs : List K) : effective (unitW xs) = unitW xs := by
  simp [effective, unitW]

/-- an unweighted summary read as a weighted one: every sample has weight 1, so the weight sum is the count -/
def unitS (s : DataSummary K) : WtdSummary K := ⟨s, (s.count : K)⟩

theorem Repr.toW {D : K} {s : DataSummary K} {xs : List K} (h : Repr D s xs) : WRepr D (unitS s) (unitW xs) where
  cookie := h.cookie
  count := by rw [unitW_length]; exact h.count
  pos := by
    intro p hp
    simp only [unitW, List.mem_map] at hp
    obtain ⟨x, _, rfl⟩ := hp
    exact zero_lt_one
  bounded := by rw [xsOf_unitW]; exact h.bounded
  wsum := by rw [wtot_unitW, ← h.count]; rfl
  empty := fun e => h.empty (by simpa [unitW] using e)
  min_mem := by rw [xsOf_unitW]; exact h.min_mem
  min_le := by rw [xsOf_unitW]; exact h.min_le
  max_mem := by rw [xsOf_unitW]; exact h.max_mem
  le_max := by rw [xsOf_unitW]; exact h.le_max
  mean := by rw [wtot_unitW, wxsum_unitW]; exact h.mean
  m2 := h.m2
  m3 := h.m3
  m4 := h.m4

theorem WRepr.toRepr {D : K} {s : WtdSummary K} {xs : List K} (h : WRepr D s (unitW xs)) :
    Repr D s.ds xs ∧ s.wsum = (xs.length : K) := by
  have hnil : unitW xs = [] ↔ xs = [] := by simp [unitW]
  refine ⟨?_, by rw [h.wsum, wtot_unitW]⟩
  constructor
  · exact h.cookie
  · rw [h.count, unitW_length]
  · have := h.bounded; rwa [xsOf_unitW] at this
  · intro e; exact h.empty (hnil.mpr e)
  · have := h.min_mem; rwa [xsOf_unitW] at this
  · have := h.min_le; rwa [xsOf_unitW] at this
  · have := h.max_mem; rwa [xsOf_unitW] at this
  · have := h.le_max; rwa [xsOf_unitW] at this
  · have := h.mean; rwa [wtot_unitW, wxsum_unitW] at this
  · exact h.m2
  · exact h.m3
  · exact h.m4

theorem Repr.cookie_val {D : K} {s : DataSummary K} {xs : List K} (h : Repr D s xs) : s.cookie = 70391967513698304 := by
  have := h.cookie; simpa [cmb_datasummary_initialize] using this

/-! ### The one-sample update -/

/-- `cmb_datasummary_add` (Welford / Meng form) is `cmb_wtdsummary_add` with weight 1 (the pairwise merge with a
    singleton): identical as rational functions of the fields once `count + 1 ≠ 0`; on an empty summary the
    weighted code takes a shortcut that agrees with the general formulas at `m1 = m2 = m3 = m4 = 0`. -/
theorem add_unit {D : K} {s : DataSummary K} {xs : List K} {y : K} (h : Repr D s xs) (hy : -D ≤ y ∧ y ≤ D) :
    (cmb_wtdsummary_add (unitS s) y 1).1 = (cmb_datasummary_add s y).1 ∧
    (cmb_wtdsummary_add (unitS s) y 1).2 = unitS (cmb_datasummary_add s y).2 := by
  have h1 : (1 : K) ≠ 0 := one_ne_zero
  by_cases hc : s.count = 0
  · have hxs : xs = [] := List.eq_nil_of_length_eq_zero (h.count ▸ hc)
    subst hxs
    obtain ⟨emin, emax, em1⟩ := h.empty rfl
    have e2 := h.m2; have e3 := h.m3; have e4 := h.m4
    simp only [S_nil] at e2 e3 e4
    have hmax : (if y > -D then y else -D) = y := by
      split
      · rfl
      · exact le_antisymm hy.1 (not_lt.mp ‹_›)
    have hmin : (if y < D then y else D) = y := by
      split
      · rfl
      · exact le_antisymm (not_lt.mp ‹_›) hy.2
    simp [cmb_wtdsummary_add, cmb_datasummary_add, unitS, hc, emin, emax, em1, e2, e3, e4, hmax, hmin]
    right; ring
  · have hn : (s.count : K) + 1 ≠ 0 := by
      have : ((s.count + 1 : ℕ) : K) ≠ 0 := Nat.cast_ne_zero.mpr (Nat.succ_ne_zero _)
      simpa using this
    refine ⟨by simp only [cmb_wtdsummary_add, cmb_datasummary_add, unitS, h1, hc, if_false], ?_⟩
    simp only [cmb_wtdsummary_add, cmb_datasummary_add, unitS, h1, hc, if_false, Nat.cast_succ]
    -- the quotient `(y - m1) / n` as a variable `e`: both sides are polynomials in `e`, `count`, `m2`, `m3`
    obtain ⟨e, hd, he⟩ := exists_quot s.m1 y hn
    have hd' : y - s.m1 = e * ((s.count : K) + 1) := by rw [he]; ring
    rw [hd, hd', WtdSummary.mk.injEq, DataSummary.mk.injEq]
    exact ⟨⟨rfl, rfl, rfl, rfl, by ring, by ring, by ring, by ring⟩, by ring⟩

theorem add_repr {D : K} {s : DataSummary K} {xs : List K} {y : K} (h : Repr D s xs) (hy : -D ≤ y ∧ y ≤ D) :
    cmb_datasummary_add_dom s y ∧ Repr D (cmb_datasummary_add s y).2 (xs ++ [y])
      ∧ (cmb_datasummary_add s y).1 = (xs ++ [y]).length := by
  obtain ⟨_, hr, hc⟩ := wadd_repr h.toW zero_le_one hy
  obtain ⟨e1, e2⟩ := add_unit h hy
  have he : effective [(y, (1 : K))] = unitW [y] := by simp [effective]
  rw [he, ← unitW_append] at hr hc
  rw [e2] at hr
  refine ⟨⟨h.cookie_val, Nat.cast_ne_zero.mpr (Nat.succ_ne_zero _), trivial⟩, hr.toRepr.1, ?_⟩
  rw [← e1, hc, unitW_length]

/-! ### Initial state, whole sequences -/

theorem init_repr (D : K) (s0 : DataSummary K) : Repr D (cmb_datasummary_initialize D s0) [] := by
  constructor <;> simp [cmb_datasummary_initialize]

/-- the summary of a sequence: `initialize`, then `add` for every sample in turn -/
def run (D : K) (s0 : DataSummary K) (xs : List K) : DataSummary K :=
  xs.foldl (fun s y => (cmb_datasummary_add s y).2) (cmb_datasummary_initialize D s0)

theorem run_snoc (D : K) (s0 : DataSummary K) (xs : List K) (y : K) :
    run D s0 (xs ++ [y]) = (cmb_datasummary_add (run D s0 xs) y).2 := by
  simp [run, List.foldl_append]

theorem foldl_repr {D : K} (xs : List K) (hb : ∀ x ∈ xs, -D ≤ x ∧ x ≤ D) :
    ∀ (s : DataSummary K) (xs0 : List K), Repr D s xs0 →
      Repr D (xs.foldl (fun s y => (cmb_datasummary_add s y).2) s) (xs0 ++ xs) := by
  induction xs with
  | nil => intro s xs0 h; simpa using h
  | cons y xs ih =>
    intro s xs0 h
    have h1 := (add_repr h (hb y (by simp))).2.1
    have := ih (fun x hx => hb x (by simp [hx])) _ _ h1
    simpa using this

theorem run_repr (D : K) (s0 : DataSummary K) (xs : List K) (hb : ∀ x ∈ xs, -D ≤ x ∧ x ≤ D) :
    Repr D (run D s0 xs) xs := by
  have := foldl_repr xs hb _ _ (init_repr D s0)
  simpa [run] using this

/-! ### The fields are determined by the data; the order of the data does not matter -/

theorem Repr.unique {D : K} {s s' : DataSummary K} {xs : List K} (h : Repr D s xs) (h' : Repr D s' xs) : s = s' :=
  congrArg WtdSummary.ds (h.toW.unique h'.toW)

theorem Repr.perm {D : K} {s : DataSummary K} {xs ys : List K} (h : Repr D s xs) (p : xs.Perm ys) : Repr D s ys :=
  (h.toW.perm (p.map _)).toRepr.1

/-! ### Pairwise merge -/

/-- `cmb_datasummary_merge` is `cmb_wtdsummary_merge` with the counts as weight sums: the two C functions are the same
    text with `n1, n2, n` for `w1, w2, ws` -/
theorem merge_unit (D : K) (t : DataSummary K) (tw : WtdSummary K) (a b : DataSummary K) :
    (cmb_wtdsummary_merge D tw (unitS a) (unitS b)).1 = (cmb_datasummary_merge D t a b).1 ∧
    (cmb_wtdsummary_merge D tw (unitS a) (unitS b)).2.ds = (cmb_datasummary_merge D t a b).2 ∧
    (cmb_wtdsummary_merge_dom D tw (unitS a) (unitS b) → cmb_datasummary_merge_dom D t a b) := by
  simp only [cmb_wtdsummary_merge, cmb_datasummary_merge, cmb_wtdsummary_merge_dom, cmb_datasummary_merge_dom,
    cmb_wtdsummary_count, cmb_datasummary_count, cmb_wtdsummary_count_dom, cmb_datasummary_count_dom,
    cmb_wtdsummary_initialize, cmb_datasummary_initialize, cmb_wtdsummary_initialize_dom,
    cmb_datasummary_initialize_dom, unitS, Nat.cast_add]
  by_cases hb : b.count = 0
  · simp only [hb, if_true]; exact ⟨trivial, trivial, fun h => ⟨h.1, h.2.1, trivial⟩⟩
  by_cases ha : a.count = 0
  · simp only [hb, ha, if_true, if_false]; exact ⟨trivial, trivial, fun h => ⟨h.1, h.2.1, trivial⟩⟩
  simp only [hb, ha, if_false]
  refine ⟨trivial, ?_, fun h => ⟨h.1, h.2.1, trivial, h.2.2.2.2.2.1, trivial⟩⟩
  -- field by field: the two functions may associate their products differently
  rw [DataSummary.mk.injEq]
  exact ⟨rfl, rfl, rfl, rfl, by ring, by ring, by ring, by ring⟩

theorem merge_repr {D : K} {t a b : DataSummary K} {xs ys : List K} (ha : Repr D a xs) (hb : Repr D b ys) :
    cmb_datasummary_merge_dom D t a b ∧ Repr D (cmb_datasummary_merge D t a b).2 (xs ++ ys)
      ∧ (cmb_datasummary_merge D t a b).1 = (xs ++ ys).length := by
  obtain ⟨hd, hr, hc⟩ := wmerge_repr (t := unitS t) ha.toW hb.toW
  obtain ⟨e1, e2, ed⟩ := merge_unit D t (unitS t) a b
  rw [← unitW_append] at hr
  refine ⟨ed hd, e2 ▸ hr.toRepr.1, ?_⟩
  rw [← e1, hc, ← unitW_append, unitW_length]

theorem merge_comm {D : K} {t t' a b : DataSummary K} {xs ys : List K} (ha : Repr D a xs) (hb : Repr D b ys) :
    (cmb_datasummary_merge D t a b).2 = (cmb_datasummary_merge D t' b a).2 :=
  (merge_repr (t := t) ha hb).2.1.unique ((merge_repr (t := t') hb ha).2.1.perm List.perm_append_comm)

/-! ### Textbook sample statistics, and the accessors

Conventions documented by the header ("sample variance", "sample skewness", "sample excess kurtosis") and used by the code:
the unbiased variance (divisor n − 1), the adjusted Fisher–Pearson skewness G1 = √(n(n−1))/(n−2) · g1 and the sample excess
kurtosis G2 = (n−1)/((n−2)(n−3)) · ((n+1)·g2 + 6), where g1 = m₃/m₂^{3/2}, g2 = m₄/m₂² − 3 and m_k = (1/n)·Σ(x − x̄)^k
are the (biased) central moments. -/

/-- arithmetic mean -/
def amean (xs : List K) : K := xs.sum / (xs.length : K)
/-- biased central moment (1/n) Σ (x − mean)^k -/
def cmoment (k : ℕ) (xs : List K) : K := S k (amean xs) xs / (xs.length : K)
/-- unbiased sample variance -/
def sampleVariance (xs : List K) : K := S 2 (amean xs) xs / ((xs.length : K) - 1)
/-- sample excess kurtosis G2 -/
def sampleKurtosis (xs : List K) : K :=
  let n : K := xs.length
  (n - 1) / ((n - 2) * (n - 3)) * ((n + 1) * (cmoment 4 xs / (cmoment 2 xs) ^ 2 - 3) + 6)
/-- square of the adjusted sample skewness G1 -/
def sampleSkewnessSq (xs : List K) : K :=
  let n : K := xs.length
  n * (n - 1) / (n - 2) ^ 2 * ((cmoment 3 xs) ^ 2 / (cmoment 2 xs) ^ 3)

/-- the ratios of central moments in terms of the central sums -/
theorem ratio4 (n a b : K) (hn : n ≠ 0) : a / n / (b / n) ^ 2 = n * a / (b * b) := by
  rw [div_pow, div_div_div_eq, ← pow_two, mul_comm a, pow_two n, mul_assoc, mul_div_mul_left _ _ hn]

theorem ratio3 (n a b : K) (hn : n ≠ 0) : (a / n) ^ 2 / (b / n) ^ 3 = n * a ^ 2 / b ^ 3 := by
  rw [div_pow, div_pow, div_div_div_eq, pow_succ n 2, mul_comm (a ^ 2), mul_assoc,
    mul_div_mul_left _ _ (pow_ne_zero 2 hn)]

section accessors
variable {D : K} {s : DataSummary K} {xs : List K}

theorem Repr.m1_mean (h : Repr D s xs) (hne : xs ≠ []) : s.m1 = amean xs := by
  have hl : (xs.length : K) ≠ 0 := Nat.cast_ne_zero.mpr (by simpa [List.length_eq_zero_iff] using hne)
  rw [amean, ← h.mean]; field_simp

theorem Repr.m2_nonneg {D : K} {s : DataSummary K} {xs : List K} (h : Repr D s xs) : 0 ≤ s.m2 :=
  h.toW.m2_nonneg

theorem count_reported (h : Repr D s xs) : cmb_datasummary_count_dom s ∧ cmb_datasummary_count s = xs.length := by
  simp [cmb_datasummary_count_dom, cmb_datasummary_count, h.cookie_val, h.count]

theorem min_reported (h : Repr D s xs) (hne : xs ≠ []) :
    cmb_datasummary_min_dom s ∧ cmb_datasummary_min s ∈ xs ∧ ∀ x ∈ xs, cmb_datasummary_min s ≤ x := by
  simp only [cmb_datasummary_min_dom, cmb_datasummary_min, h.cookie_val, true_and, and_true]
  exact ⟨h.min_mem hne, h.min_le⟩

theorem max_reported (h : Repr D s xs) (hne : xs ≠ []) :
    cmb_datasummary_max_dom s ∧ cmb_datasummary_max s ∈ xs ∧ ∀ x ∈ xs, x ≤ cmb_datasummary_max s := by
  simp only [cmb_datasummary_max_dom, cmb_datasummary_max, h.cookie_val, true_and, and_true]
  exact ⟨h.max_mem hne, h.le_max⟩

theorem mean_reported (h : Repr D s xs) (hne : xs ≠ []) :
    cmb_datasummary_mean_dom s ∧ cmb_datasummary_mean s = amean xs := by
  simp only [cmb_datasummary_mean_dom, cmb_datasummary_mean, h.cookie_val, true_and, and_true]
  exact h.m1_mean hne

/-! #### the accessors report the textbook statistics of the data -/

theorem variance_reported (h : Repr D s xs) (hn : 2 ≤ xs.length) :
    cmb_datasummary_variance_dom s ∧ cmb_datasummary_variance s = sampleVariance xs := by
  have hne : xs ≠ [] := by intro e; subst e; simp at hn
  obtain ⟨hd, hv⟩ := variance_formula (s := s) (by rw [h.count]; omega) h.cookie_val
  refine ⟨hd, ?_⟩
  rw [hv, h.count, h.m2, h.m1_mean hne]; rfl

theorem variance_small (h : Repr D s xs) (hn : xs.length ≤ 1) :
    cmb_datasummary_variance_dom s ∧ cmb_datasummary_variance s = 0 :=
  variance_small_count (by rw [h.count]; exact hn) h.cookie_val

theorem kurtosis_reported (h : Repr D s xs) (hn : 4 ≤ xs.length) (hv : S 2 (amean xs) xs ≠ 0) :
    cmb_datasummary_kurtosis_dom s ∧ cmb_datasummary_kurtosis s = sampleKurtosis xs := by
  have hne : xs ≠ [] := by intro e; subst e; simp at hn
  obtain ⟨hd, hk⟩ := kurtosis_formula (s := s) (by rw [h.count]; omega) h.cookie_val
  have hn0 : (xs.length : K) ≠ 0 := Nat.cast_ne_zero.mpr (by omega)
  have hm2 : s.m2 ≠ 0 := by rw [h.m2, h.m1_mean hne]; exact hv
  refine ⟨hd.mpr hm2, ?_⟩
  rw [hk, h.count, h.m2, h.m4, h.m1_mean hne]
  simp only [sampleKurtosis, cmoment]
  rw [ratio4 _ _ _ hn0]

/-- a vanishing second central sum (constant data) is exactly when the kurtosis is undefined: the C expression is 0/0 -/
theorem kurtosis_undefined_iff (h : Repr D s xs) (hn : 4 ≤ xs.length) :
    ¬ cmb_datasummary_kurtosis_dom s ↔ S 2 (amean xs) xs = 0 := by
  have hne : xs ≠ [] := by intro e; subst e; simp at hn
  obtain ⟨hd, _⟩ := kurtosis_formula (s := s) (by rw [h.count]; omega) h.cookie_val
  rw [hd, not_not, h.m2, h.m1_mean hne]

theorem skewness_reported {sqrt : K → K} {pow : K → K → K} (hr : RootFns sqrt pow) (h : Repr D s xs)
    (hn : 3 ≤ xs.length) (hv : S 2 (amean xs) xs ≠ 0) :
    cmb_datasummary_skewness_dom sqrt pow s
      ∧ (cmb_datasummary_skewness sqrt pow s) ^ 2 = sampleSkewnessSq xs
      ∧ (0 < S 3 (amean xs) xs → 0 < cmb_datasummary_skewness sqrt pow s)
      ∧ (S 3 (amean xs) xs < 0 → cmb_datasummary_skewness sqrt pow s < 0)
      ∧ (S 3 (amean xs) xs = 0 → cmb_datasummary_skewness sqrt pow s = 0) := by
  have hne : xs ≠ [] := by intro e; subst e; simp at hn
  have h3 : (3 : K) ≤ (xs.length : K) := by exact_mod_cast hn
  have hn0 : (xs.length : K) ≠ 0 := by intro e; linarith
  have hm2pos : 0 < s.m2 := lt_of_le_of_ne h.m2_nonneg (by rw [h.m2, h.m1_mean hne]; exact fun e => hv e.symm)
  obtain ⟨hd, hsq, F, hF, hval⟩ := skewness_formula hr (s := s) (by rw [h.count]; omega) h.cookie_val hm2pos
  have hm3 : s.m3 = S 3 (amean xs) xs := by rw [h.m3, h.m1_mean hne]
  refine ⟨hd, ?_, ?_, ?_, ?_⟩
  · rw [hsq, h.count, h.m2, h.m3, h.m1_mean hne]
    simp only [sampleSkewnessSq, cmoment]
    rw [ratio3 _ _ _ hn0]
    generalize (xs.length : K) - 2 = k
    ring
  · intro hp; rw [hval]; exact mul_pos hF (by rwa [hm3])
  · intro hp; rw [hval]; exact mul_neg_of_pos_of_neg hF (by rwa [hm3])
  · intro hp; rw [hval, hm3, hp]; ring

end accessors

end CimbaModel.Stats
