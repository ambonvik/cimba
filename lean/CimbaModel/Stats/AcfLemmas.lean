/-
  Properties of the `cmb_dataset_ACF` model of Acf.lean, for every list length (induction, no enumeration):
  * `acf_length`, `acf_lag0`: shape of the result;
  * `welford_shift`, `welford_scale`: how the single-pass mean / sum of squares reacts to `x + a`, `c * x`;
  * `acf_shift_invariant`: adding a constant changes no coefficient;
  * `acf_scale_invariant_partial` (+ `_of_le`, `_zero_threshold`): scaling changes no coefficient as long as
    the variance does not cross the ABSOLUTE threshold `minVar`;
  * `acf_scale_invariant_fails`: with the code's threshold 1e-9 it does (finding C18-acf-absolute-threshold);
  * `acf_can_exceed_one`: coefficients are not bounded by 1.
-/
import CimbaModel.Stats.Acf
import Mathlib.Tactic.Ring
import Mathlib.Tactic.FieldSimp
import Mathlib.Algebra.BigOperators.Group.List.Basic
import Mathlib.Data.List.Induction
import Mathlib.Algebra.Order.Field.Basic

namespace CimbaModel.Stats

section field
variable {K : Type} [Field K]

/-! ### the single-pass loop under shift and scale -/

theorem welfordStep_shift (a m1 m2 : K) (k : Nat) (x : K) :
    welfordStep (m1 + a, m2, k) (x + a) =
      ((welfordStep (m1, m2, k) x).1 + a, (welfordStep (m1, m2, k) x).2.1, (welfordStep (m1, m2, k) x).2.2) := by
  simp only [welfordStep, add_sub_add_right_eq_sub]
  refine Prod.ext ?_ rfl
  dsimp only
  ring

theorem foldl_welfordStep_shift (a : K) (xs : List K) (m1 m2 : K) (k : Nat) :
    (xs.map (· + a)).foldl welfordStep (m1 + a, m2, k) =
      ((xs.foldl welfordStep (m1, m2, k)).1 + a, (xs.foldl welfordStep (m1, m2, k)).2.1,
        (xs.foldl welfordStep (m1, m2, k)).2.2) := by
  induction xs generalizing m1 m2 k with
  | nil => rfl
  | cons x xs ih =>
    simp only [List.map_cons, List.foldl_cons]
    rw [welfordStep_shift]
    rcases hs : welfordStep (m1, m2, k) x with ⟨m1', m2', k'⟩
    exact ih m1' m2' k'

theorem welfordStep_first (x : K) : welfordStep ((0 : K), (0 : K), 0) x = (x, 0, 1) := by
  simp [welfordStep]

theorem welford_shift (a : K) (xs : List K) (h : xs ≠ []) :
    welford (xs.map (· + a)) = ((welford xs).1 + a, (welford xs).2.1, (welford xs).2.2) := by
  cases xs with
  | nil => exact absurd rfl h
  | cons x xs =>
    unfold welford
    simp only [List.map_cons, List.foldl_cons, welfordStep_first]
    exact foldl_welfordStep_shift a xs x 0 1

theorem welfordStep_scale (c m1 m2 : K) (k : Nat) (x : K) :
    welfordStep (c * m1, c ^ 2 * m2, k) (c * x) =
      (c * (welfordStep (m1, m2, k) x).1, c ^ 2 * (welfordStep (m1, m2, k) x).2.1,
        (welfordStep (m1, m2, k) x).2.2) := by
  simp only [welfordStep]
  refine Prod.ext ?_ (Prod.ext ?_ rfl)
  · dsimp only
    ring
  · dsimp only
    ring

theorem foldl_welfordStep_scale (c : K) (xs : List K) (m1 m2 : K) (k : Nat) :
    (xs.map (c * ·)).foldl welfordStep (c * m1, c ^ 2 * m2, k) =
      (c * (xs.foldl welfordStep (m1, m2, k)).1, c ^ 2 * (xs.foldl welfordStep (m1, m2, k)).2.1,
        (xs.foldl welfordStep (m1, m2, k)).2.2) := by
  induction xs generalizing m1 m2 k with
  | nil => rfl
  | cons x xs ih =>
    simp only [List.map_cons, List.foldl_cons]
    rw [welfordStep_scale]
    rcases hs : welfordStep (m1, m2, k) x with ⟨m1', m2', k'⟩
    exact ih m1' m2' k'

theorem welford_scale (c : K) (xs : List K) :
    welford (xs.map (c * ·)) = (c * (welford xs).1, c ^ 2 * (welford xs).2.1, (welford xs).2.2) := by
  unfold welford
  have h := foldl_welfordStep_scale c xs 0 0 0
  simpa only [mul_zero] using h

/-! ### the lag sums under shift and scale -/

theorem zip_drop_map {α β : Type} (f : α → β) (xs : List α) (lag : Nat) :
    (xs.map f).zip ((xs.map f).drop lag) = (xs.zip (xs.drop lag)).map (Prod.map f f) := by
  rw [← List.map_drop, List.zip_map]

theorem lagSum_shift (a m1 : K) (xs : List K) (lag : Nat) :
    lagSum (m1 + a) (xs.map (· + a)) lag = lagSum m1 xs lag := by
  unfold lagSum
  rw [zip_drop_map, List.map_map]
  congr 2
  funext p
  simp only [Function.comp, Prod.map, add_sub_add_right_eq_sub]

theorem foldl_add_scale (c : K) (l : List K) (acc : K) :
    (l.map (c * ·)).foldl (· + ·) (c * acc) = c * l.foldl (· + ·) acc := by
  induction l generalizing acc with
  | nil => rfl
  | cons x l ih =>
    simp only [List.map_cons, List.foldl_cons]
    rw [← mul_add]
    exact ih (acc + x)

theorem lagSum_scale (c m1 : K) (xs : List K) (lag : Nat) :
    lagSum (c * m1) (xs.map (c * ·)) lag = c ^ 2 * lagSum m1 xs lag := by
  unfold lagSum
  rw [zip_drop_map, List.map_map]
  have h := foldl_add_scale (c ^ 2) ((xs.zip (xs.drop lag)).map fun p => (p.1 - m1) * (p.2 - m1)) 0
  rw [mul_zero, List.map_map] at h
  rw [← h]
  congr 2
  funext p
  simp only [Function.comp, Prod.map]
  ring

end field

section ordered
/- `acf` needs `<` and its decidability: both come from `LinearOrder K`.  Compatibility of the order with
   the field operations (`IsStrictOrderedRing K`) is needed by `acfVar_nonneg` and `acf_scale_invariant_zero_threshold` only;
   every other statement holds for ANY decidable `<` on a field, in particular on every ordered field. -/
variable {K : Type} [Field K] [LinearOrder K]

/-- the variance the code compares with the threshold -/
def acfVar (xs : List K) : K := (welford xs).2.1 / (((welford xs).2.2 - 1 : Nat) : K)

/-! ### shape -/

theorem acf_length (τ : K) (xs : List K) (n : Nat) : (acf τ xs n).length = n + 1 := by
  unfold acf
  rcases welford xs with ⟨m1, m2, cnt⟩
  dsimp only
  split <;> simp

theorem acf_lag0 (τ : K) (xs : List K) (n : Nat) : (acf τ xs n).head? = some 1 := by
  unfold acf
  rcases welford xs with ⟨m1, m2, cnt⟩
  dsimp only
  split <;> simp

/-! ### shift invariance -/

/-- shifting every sample by `a` changes no coefficient (any list, any lag count, any threshold) -/
theorem acf_shift_invariant (τ a : K) (xs : List K) (n : Nat) : acf τ (xs.map (· + a)) n = acf τ xs n := by
  by_cases hx : xs = []
  · subst hx
    rfl
  · unfold acf
    rw [welford_shift a xs hx]
    rcases welford xs with ⟨m1, m2, cnt⟩
    simp only [lagSum_shift]

/-! ### scale invariance, as far as it goes -/

/-- scaling by `c > 0` changes no coefficient PROVIDED the variance does not cross the absolute threshold -/
theorem acf_scale_invariant_partial (τ c : K) (hc : 0 < c) (xs : List K) (n : Nat)
    (h : acfVar xs < τ ↔ c ^ 2 * acfVar xs < τ) : acf τ (xs.map (c * ·)) n = acf τ xs n := by
  have hc2 : c ^ 2 ≠ 0 := pow_ne_zero 2 (ne_of_gt hc)
  unfold acfVar at h
  unfold acf
  rw [welford_scale c xs]
  generalize welford xs = w at h ⊢
  rcases w with ⟨m1, m2, cnt⟩
  dsimp only at h ⊢
  rw [mul_div_assoc (c ^ 2) m2]
  by_cases hv : m2 / ((cnt - 1 : Nat) : K) < τ
  · rw [if_pos hv, if_pos (h.mp hv)]
  · rw [if_neg hv, if_neg (fun h' => hv (h.mpr h'))]
    congr 1
    apply List.map_congr_left
    intro i _
    rw [lagSum_scale, mul_div_assoc, mul_div_mul_left _ _ hc2]

/-- in particular when both variances are at least the threshold -/
theorem acf_scale_invariant_of_le (τ c : K) (hc : 0 < c) (xs : List K) (n : Nat)
    (h1 : τ ≤ acfVar xs) (h2 : τ ≤ c ^ 2 * acfVar xs) : acf τ (xs.map (c * ·)) n = acf τ xs n :=
  acf_scale_invariant_partial τ c hc xs n
    ⟨fun h => absurd h (not_lt.mpr h1), fun h => absurd h (not_lt.mpr h2)⟩

end ordered

/-! ### what the single-pass loop computes (characteristic zero, so every ordered field) -/

section moments
variable {K : Type} [Field K] [CharZero K]

omit [CharZero K] in
theorem welford_append_singleton (xs : List K) (x : K) : welford (xs ++ [x]) = welfordStep (welford xs) x := by
  simp [welford, List.foldl_append]

/-- closed form of the loop state: mean, `Σ x² - (Σ x)² / n`, count (also right for `[]`: all zero) -/
theorem welford_eq (xs : List K) :
    welford xs = (xs.sum / (xs.length : K), (xs.map (· ^ 2)).sum - xs.sum ^ 2 / (xs.length : K), xs.length) := by
  induction xs using List.reverseRecOn with
  | nil => simp [welford]
  | append_singleton xs x ih =>
    rw [welford_append_singleton, ih]
    simp only [welfordStep, List.sum_append, List.map_append, List.length_append, List.sum_cons, List.sum_nil,
      List.map_cons, List.map_nil, List.length_cons, List.length_nil, add_zero, zero_add]
    rcases xs with _ | ⟨y, ys⟩
    · simp
    · have hn : ((List.length (y :: ys) : Nat) : K) ≠ 0 := Nat.cast_ne_zero.mpr (by simp)
      have hn1 : ((List.length (y :: ys) + 1 : Nat) : K) ≠ 0 := Nat.cast_ne_zero.mpr (by simp)
      generalize (List.length (y :: ys)) = n at hn hn1 ⊢
      generalize (List.sum (y :: ys)) = S
      generalize (List.map (· ^ 2) (y :: ys)).sum = Q
      push_cast at hn1 ⊢
      refine Prod.ext ?_ (Prod.ext ?_ rfl)
      · dsimp only
        field_simp
        ring
      · dsimp only
        field_simp
        ring

omit [CharZero K] in
theorem sum_sq_dev (μ : K) (xs : List K) :
    (xs.map fun x => (x - μ) ^ 2).sum = (xs.map (· ^ 2)).sum - 2 * μ * xs.sum + (xs.length : K) * μ ^ 2 := by
  induction xs with
  | nil => simp
  | cons x xs ih =>
    simp only [List.map_cons, List.sum_cons, List.length_cons, ih]
    push_cast
    ring

theorem welford_count (xs : List K) : (welford xs).2.2 = xs.length := by rw [welford_eq]

theorem welford_mean (xs : List K) : (welford xs).1 = xs.sum / (xs.length : K) := by rw [welford_eq]

/-- the second component is the sum of squared deviations from the mean -/
theorem welford_m2 (xs : List K) :
    (welford xs).2.1 = (xs.map fun x => (x - xs.sum / (xs.length : K)) ^ 2).sum := by
  rw [welford_eq, sum_sq_dev]
  rcases xs with _ | ⟨y, ys⟩
  · simp
  · have hn : ((List.length (y :: ys) : Nat) : K) ≠ 0 := Nat.cast_ne_zero.mpr (by simp)
    dsimp only
    field_simp
    ring

end moments

section ordered_moments
variable {K : Type} [Field K] [LinearOrder K] [IsStrictOrderedRing K]

theorem sum_sq_nonneg (f : K → K) (xs : List K) : 0 ≤ (xs.map fun x => (f x) ^ 2).sum := by
  induction xs with
  | nil => simp
  | cons x xs ih =>
    simp only [List.map_cons, List.sum_cons]
    exact add_nonneg (sq_nonneg _) ih

theorem acfVar_nonneg (xs : List K) : 0 ≤ acfVar xs := by
  unfold acfVar
  rw [welford_m2]
  exact div_nonneg (sum_sq_nonneg _ xs) (Nat.cast_nonneg _)

/-- so with a threshold of zero (only exactly constant data is special) scale invariance holds with no side condition -/
theorem acf_scale_invariant_zero_threshold (c : K) (hc : 0 < c) (xs : List K) (n : Nat) :
    acf 0 (xs.map (c * ·)) n = acf 0 xs n :=
  acf_scale_invariant_of_le 0 c hc xs n (acfVar_nonneg xs) (mul_nonneg (sq_nonneg c) (acfVar_nonneg xs))

end ordered_moments

/-! ### concrete witnesses over `ℚ` -/

/-- the code's threshold 1e-9 breaks scale invariance: same data times 2^-20 -/
theorem acf_scale_invariant_fails :
    acf (1 / 1000000000 : ℚ) ([0, 1, 0, 1, 1, 0].map ((1 / 1048576 : ℚ) * ·)) 2 ≠
      acf (1 / 1000000000 : ℚ) [0, 1, 0, 1, 1, 0] 2 := by
  decide +kernel

/-- coefficients are not bounded by 1: x = 1,0,0,-1 -/
theorem acf_can_exceed_one : acf (1 / 1000000000 : ℚ) [1, 0, 0, -1] 3 = [1, 0, 0, -3 / 2] := by
  decide +kernel

/-- non-vacuity: a non-trivial value -/
example : acf (1 / 1000000000 : ℚ) [0, 1, 0, 1, 1, 0] 2 = [1, -1 / 2, 0] := by
  decide +kernel

end CimbaModel.Stats
