/-
  Moment algebra for C17 (helper lemmas; hand-written, independent of the generated code).

  `WS k c l`  = Σ w·(x − c)^k   over a list `l` of (x, w) pairs   (weighted central power sum about c)
  `wtot l`    = Σ w,   `wxsum l` = Σ w·x
  `S k c xs`  = Σ (x − c)^k     = WS k c (xs with all weights 1)
  Shift lemmas (k ≤ 4): moving the centre from c to c + e.
  Pairwise merge (`merge_mean`, `merge2..4`): mean and central sums of a concatenation from those of the parts.
-/
import Mathlib.Tactic.Ring
import Mathlib.Tactic.FieldSimp
import Mathlib.Tactic.Linarith
import Mathlib.Algebra.Order.Field.Basic
import Mathlib.Algebra.BigOperators.Group.List.Basic

namespace CimbaModel.Stats

variable {K : Type} [Field K]

/-- weighted central power sum Σ w (x - c)^k -/
def WS (k : ℕ) (c : K) : List (K × K) → K
  | [] => 0
  | p :: l => p.2 * (p.1 - c) ^ k + WS k c l

/-- total weight Σ w -/
def wtot : List (K × K) → K
  | [] => 0
  | p :: l => p.2 + wtot l

/-- Σ w x -/
def wxsum : List (K × K) → K
  | [] => 0
  | p :: l => p.2 * p.1 + wxsum l

@[simp] theorem WS_nil (k : ℕ) (c : K) : WS k c [] = 0 := rfl
@[simp] theorem WS_cons (k : ℕ) (c : K) (p : K × K) (l) : WS k c (p :: l) = p.2 * (p.1 - c) ^ k + WS k c l := rfl
@[simp] theorem wtot_nil : wtot ([] : List (K × K)) = 0 := rfl
@[simp] theorem wtot_cons (p : K × K) (l) : wtot (p :: l) = p.2 + wtot l := rfl
@[simp] theorem wxsum_nil : wxsum ([] : List (K × K)) = 0 := rfl
@[simp] theorem wxsum_cons (p : K × K) (l) : wxsum (p :: l) = p.2 * p.1 + wxsum l := rfl

theorem WS_append (k : ℕ) (c : K) (l₁ l₂ : List (K × K)) : WS k c (l₁ ++ l₂) = WS k c l₁ + WS k c l₂ := by
  induction l₁ with
  | nil => simp
  | cons p l ih => simp [ih]; ring

theorem WS_zero (c : K) (l : List (K × K)) : WS 0 c l = wtot l := by
  induction l with
  | nil => rfl
  | cons p l ih => simp [ih]

theorem WS_one (c : K) (l : List (K × K)) : WS 1 c l = wxsum l - c * wtot l := by
  induction l with
  | nil => simp
  | cons p l ih => simp [ih]; ring

theorem wtot_append (l₁ l₂ : List (K × K)) : wtot (l₁ ++ l₂) = wtot l₁ + wtot l₂ := by
  simp only [← WS_zero (0 : K), WS_append]

theorem wxsum_append (l₁ l₂ : List (K × K)) : wxsum (l₁ ++ l₂) = wxsum l₁ + wxsum l₂ := by
  simpa [WS_one] using WS_append 1 0 l₁ l₂

theorem WS_one_mean {m : K} {l : List (K × K)} (h : m * wtot l = wxsum l) : WS 1 m l = 0 := by
  rw [WS_one, ← h]; ring

theorem WS_shift1 (c e : K) (l : List (K × K)) : WS 1 (c + e) l = WS 1 c l - e * wtot l := by
  induction l with
  | nil => simp
  | cons p l ih => simp [ih]; ring

theorem WS_shift2 (c e : K) (l : List (K × K)) :
    WS 2 (c + e) l = WS 2 c l - 2 * e * WS 1 c l + e ^ 2 * wtot l := by
  induction l with
  | nil => simp
  | cons p l ih => simp [ih]; ring

theorem WS_shift3 (c e : K) (l : List (K × K)) :
    WS 3 (c + e) l = WS 3 c l - 3 * e * WS 2 c l + 3 * e ^ 2 * WS 1 c l - e ^ 3 * wtot l := by
  induction l with
  | nil => simp
  | cons p l ih => simp [ih]; ring

theorem WS_shift4 (c e : K) (l : List (K × K)) :
    WS 4 (c + e) l = WS 4 c l - 4 * e * WS 3 c l + 6 * e ^ 2 * WS 2 c l - 4 * e ^ 3 * WS 1 c l + e ^ 4 * wtot l := by
  induction l with
  | nil => simp
  | cons p l ih => simp [ih]; ring

/-- multiplying every weight by `a` -/
def scaleW (a : K) (l : List (K × K)) : List (K × K) := l.map fun p => (p.1, a * p.2)

theorem WS_scaleW (a : K) (k : ℕ) (c : K) (l : List (K × K)) : WS k c (scaleW a l) = a * WS k c l := by
  induction l with
  | nil => simp [scaleW]
  | cons p l ih => simp only [scaleW, List.map_cons, WS_cons] at ih ⊢; rw [ih]; ring

theorem wtot_scaleW (a : K) (l : List (K × K)) : wtot (scaleW a l) = a * wtot l := by
  simp only [← WS_zero (0 : K), WS_scaleW]

theorem wxsum_scaleW (a : K) (l : List (K × K)) : wxsum (scaleW a l) = a * wxsum l := by
  simpa [WS_one] using WS_scaleW a 1 0 l

@[simp] theorem scaleW_length (a : K) (l : List (K × K)) : (scaleW a l).length = l.length := by simp [scaleW]

/-- unit weights -/
def unitW (xs : List K) : List (K × K) := xs.map fun x => (x, 1)

/-- unweighted central power sum Σ (x - c)^k -/
def S (k : ℕ) (c : K) (xs : List K) : K := WS k c (unitW xs)

@[simp] theorem unitW_nil : unitW ([] : List K) = [] := rfl
@[simp] theorem unitW_cons (x : K) (xs : List K) : unitW (x :: xs) = (x, 1) :: unitW xs := rfl
theorem unitW_append (xs ys : List K) : unitW (xs ++ ys) = unitW xs ++ unitW ys := by simp [unitW]
@[simp] theorem unitW_length (xs : List K) : (unitW xs).length = xs.length := by simp [unitW]

theorem wtot_unitW (xs : List K) : wtot (unitW xs) = (xs.length : K) := by
  induction xs with
  | nil => simp
  | cons x xs ih => simp [ih]; ring

theorem wxsum_unitW (xs : List K) : wxsum (unitW xs) = xs.sum := by
  induction xs with
  | nil => simp
  | cons x xs ih => simp [ih]

theorem unit_weight_sum (q : K → Bool) (xs : List K) :
    ((((unitW xs).filter fun p => q p.1).map (·.2)).sum : K) = ((xs.filter q).length : K) := by
  induction xs with
  | nil => simp
  | cons x xs ih =>
    rw [unitW_cons, List.filter_cons, List.filter_cons]
    cases hq : q x
    · simpa using ih
    · simp only [if_true, List.map_cons, List.sum_cons, List.length_cons, ih]; push_cast; ring

@[simp] theorem S_nil (k : ℕ) (c : K) : S k c [] = 0 := rfl
theorem S_cons (k : ℕ) (c x : K) (xs : List K) : S k c (x :: xs) = (x - c) ^ k + S k c xs := by
  simp [S]
theorem S_append (k : ℕ) (c : K) (xs ys : List K) : S k c (xs ++ ys) = S k c xs + S k c ys := by
  simp [S, unitW_append, WS_append]

theorem WS_perm {l₁ l₂ : List (K × K)} (h : l₁.Perm l₂) (k : ℕ) (c : K) : WS k c l₁ = WS k c l₂ := by
  induction h with
  | nil => rfl
  | cons p _ ih => simp [ih]
  | swap p q l => simp; ring
  | trans _ _ ih₁ ih₂ => exact ih₁.trans ih₂

theorem wtot_perm {l₁ l₂ : List (K × K)} (h : l₁.Perm l₂) : wtot l₁ = wtot l₂ := by
  rw [← WS_zero 0, ← WS_zero 0]; exact WS_perm h 0 0

theorem wxsum_perm {l₁ l₂ : List (K × K)} (h : l₁.Perm l₂) : wxsum l₁ = wxsum l₂ := by
  simpa [WS_one] using WS_perm h 1 0

/-! ### Pairwise merge (Pébay): the central sums of a concatenation from those of the parts -/

/-- A difference quotient `(b - a) / w` as a variable `e`: then `b = a + e * w`, and what was an identity between
    fractions is one between polynomials in `e`. -/
theorem exists_quot (a b : K) {w : K} (hw : w ≠ 0) : ∃ e, (b - a) / w = e ∧ b = a + e * w :=
  ⟨(b - a) / w, rfl, by rw [div_mul_cancel₀ _ hw]; ring⟩

section merge
variable {l₁ l₂ : List (K × K)} {m₁ m₂ : K}

theorem merge_mean (h₁ : m₁ * wtot l₁ = wxsum l₁) (h₂ : m₂ * wtot l₂ = wxsum l₂) (hW : wtot l₁ + wtot l₂ ≠ 0) :
    (m₁ + wtot l₂ * ((m₂ - m₁) / (wtot l₁ + wtot l₂))) * wtot (l₁ ++ l₂) = wxsum (l₁ ++ l₂) := by
  obtain ⟨e, hd, he⟩ := exists_quot m₁ m₂ hW
  rw [hd, wtot_append, wxsum_append, ← h₁, ← h₂, he]
  ring

/-- the merged mean seen from the second part -/
private theorem recentre {e : K} (he : m₂ = m₁ + e * (wtot l₁ + wtot l₂)) :
    m₁ + wtot l₂ * e = m₂ + -(wtot l₁ * e) := by
  rw [he]; ring

theorem merge2 (h₁ : m₁ * wtot l₁ = wxsum l₁) (h₂ : m₂ * wtot l₂ = wxsum l₂) (hW : wtot l₁ + wtot l₂ ≠ 0) :
    let w1 := wtot l₁; let w2 := wtot l₂; let d := m₂ - m₁; let dw := d / (w1 + w2)
    WS 2 (m₁ + w2 * dw) (l₁ ++ l₂) = WS 2 m₁ l₁ + WS 2 m₂ l₂ + w1 * w2 * d * dw := by
  intro w1 w2 d dw
  obtain ⟨e, hd, he⟩ := exists_quot m₁ m₂ hW
  simp only [w1, w2, d, dw]
  rw [hd, WS_append, WS_shift2, recentre he, WS_shift2, WS_one_mean h₁, WS_one_mean h₂, he]
  ring

theorem merge3 (h₁ : m₁ * wtot l₁ = wxsum l₁) (h₂ : m₂ * wtot l₂ = wxsum l₂) (hW : wtot l₁ + wtot l₂ ≠ 0) :
    let w1 := wtot l₁; let w2 := wtot l₂; let d := m₂ - m₁; let dw := d / (w1 + w2)
    WS 3 (m₁ + w2 * dw) (l₁ ++ l₂) = WS 3 m₁ l₁ + WS 3 m₂ l₂ + w1 * w2 * (w1 - w2) * d * (dw * dw)
      + 3 * (w1 * WS 2 m₂ l₂ - w2 * WS 2 m₁ l₁) * dw := by
  intro w1 w2 d dw
  obtain ⟨e, hd, he⟩ := exists_quot m₁ m₂ hW
  simp only [w1, w2, d, dw]
  rw [hd, WS_append, WS_shift3, recentre he, WS_shift3, WS_one_mean h₁, WS_one_mean h₂, he]
  ring

theorem merge4 (h₁ : m₁ * wtot l₁ = wxsum l₁) (h₂ : m₂ * wtot l₂ = wxsum l₂) (hW : wtot l₁ + wtot l₂ ≠ 0) :
    let w1 := wtot l₁; let w2 := wtot l₂; let d := m₂ - m₁; let dw := d / (w1 + w2)
    WS 4 (m₁ + w2 * dw) (l₁ ++ l₂) = WS 4 m₁ l₁ + WS 4 m₂ l₂
      + w1 * w2 * (w1 * w1 - w1 * w2 + w2 * w2) * d * (dw * (dw * dw))
      + 6 * (w1 * w1 * WS 2 m₂ l₂ + w2 * w2 * WS 2 m₁ l₁) * (dw * dw)
      + 4 * (w1 * WS 3 m₂ l₂ - w2 * WS 3 m₁ l₁) * dw := by
  intro w1 w2 d dw
  obtain ⟨e, hd, he⟩ := exists_quot m₁ m₂ hW
  simp only [w1, w2, d, dw]
  rw [hd, WS_append, WS_shift4, recentre he, WS_shift4, WS_one_mean h₁, WS_one_mean h₂, he]
  ring

end merge

section order
variable [LinearOrder K] [IsStrictOrderedRing K]

theorem wtot_pos {l : List (K × K)} (hp : ∀ p ∈ l, 0 < p.2) (hne : l ≠ []) : 0 < wtot l := by
  induction l with
  | nil => exact absurd rfl hne
  | cons p l ih =>
    have h1 : 0 < p.2 := hp p (by simp)
    by_cases hl : l = []
    · subst hl; simpa using h1
    · have := ih (fun q hq => hp q (by simp [hq])) hl
      simp only [wtot_cons]; linarith

theorem wtot_nonneg {l : List (K × K)} (hp : ∀ p ∈ l, 0 < p.2) : 0 ≤ wtot l := by
  by_cases hl : l = []
  · subst hl; simp
  · exact le_of_lt (wtot_pos hp hl)

theorem WS_two_nonneg {l : List (K × K)} (hp : ∀ p ∈ l, 0 ≤ p.2) (c : K) : 0 ≤ WS 2 c l := by
  induction l with
  | nil => simp
  | cons p l ih =>
    have h1 : 0 ≤ p.2 := hp p (by simp)
    have := ih (fun q hq => hp q (by simp [hq]))
    simp only [WS_cons]
    have : 0 ≤ p.2 * (p.1 - c) ^ 2 := mul_nonneg h1 (sq_nonneg _)
    linarith

end order

section extremes
variable {K : Type} [LinearOrder K]

/-- minimum of two non-empty parts, as the C code combines them -/
theorem min_merge {a b : K} {xs ys : List K} (ha : a ∈ xs) (hb : b ∈ ys) (hale : ∀ x ∈ xs, a ≤ x) (hble : ∀ x ∈ ys, b ≤ x) :
    (if a < b then a else b) ∈ xs ++ ys ∧ ∀ x ∈ xs ++ ys, (if a < b then a else b) ≤ x := by
  by_cases h : a < b
  · simp only [h, if_true]
    refine ⟨List.mem_append.mpr (Or.inl ha), fun x hx => ?_⟩
    rcases List.mem_append.mp hx with hx | hx
    · exact hale x hx
    · exact le_of_lt (lt_of_lt_of_le h (hble x hx))
  · simp only [h, if_false]
    refine ⟨List.mem_append.mpr (Or.inr hb), fun x hx => ?_⟩
    rcases List.mem_append.mp hx with hx | hx
    · exact le_trans (not_lt.mp h) (hale x hx)
    · exact hble x hx

theorem max_merge {a b : K} {xs ys : List K} (ha : a ∈ xs) (hb : b ∈ ys) (hale : ∀ x ∈ xs, x ≤ a) (hble : ∀ x ∈ ys, x ≤ b) :
    (if a > b then a else b) ∈ xs ++ ys ∧ ∀ x ∈ xs ++ ys, x ≤ (if a > b then a else b) :=
  min_merge (K := Kᵒᵈ) ha hb hale hble

/-- the C code's two spellings of the smaller of two values -/
theorem ite_lt_comm (a b : K) : (if a < b then a else b) = if b < a then b else a := by
  rcases lt_trichotomy a b with h | h | h
  · rw [if_pos h, if_neg (not_lt.mpr h.le)]
  · rw [h]
  · rw [if_neg (not_lt.mpr h.le), if_pos h]

theorem ite_gt_comm (a b : K) : (if a > b then a else b) = if b > a then b else a :=
  ite_lt_comm (K := Kᵒᵈ) a b

end extremes

end CimbaModel.Stats
