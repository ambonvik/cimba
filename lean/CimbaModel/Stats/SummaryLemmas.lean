/-
  C18 (not the `cmb_datasummary` of Summary.lean): medians and five-number summaries at the level of
  the objects (`DS.median`, `DS.fivenum`, `TS.median`, `TS.fivenum`): the copy + sort + index arithmetic
  of the model, put together from SortedCopyLemmas (the copy is exact, sorted and a permutation) and
  MedianLemmas (what the index arithmetic yields on sorted data).
-/
import CimbaModel.Stats.SortedCopyLemmas
import CimbaModel.Stats.MedianLemmas
import Mathlib.Algebra.BigOperators.Group.List.Basic

namespace CimbaModel.Stats
set_option linter.unusedSectionVars false

section
variable {K : Type} [Inhabited K] [Field K] [LinearOrder K] [IsStrictOrderedRing K]

theorem sortedArr_of_pairwise (v : Array K) (h : v.toList.Pairwise (· ≤ ·)) : SortedArr v := by
  intro i j hij hj
  rcases Nat.lt_or_ge i j with hlt | hge
  · have := (List.pairwise_iff_getElem.mp h) i j (by simpa using (by omega : i < v.size)) (by simpa using hj) hlt
    simpa [getElem!_pos, (by omega : i < v.size), hj] using this
  · have : i = j := by omega
    subst this; exact le_refl _

theorem mem_toList_of_getElem! (v : Array K) (i : Nat) (h : i < v.size) : v[i]! ∈ v.toList := by
  rw [getElem!_pos v i h]
  exact Array.getElem_mem_toList h

/-- `cmb_dataset_median` returns a median of the samples: at most half of them strictly below it,
    at most half strictly above it -/
theorem DS.median_spec (s : DS K) (h : s.WF) (hc : 0 < s.count) (hc32 : s.count < 4294967296) :
    ∃ m, s.median = some m ∧
      2 * s.samples.countP (fun x => decide (x < m)) ≤ s.samples.length ∧
      2 * s.samples.countP (fun x => decide (m < x)) ≤ s.samples.length := by
  obtain ⟨v, hv, vsz, vsorted, vperm⟩ := DS.sortedCopy_spec s h
  have hne : ¬ s.xa.size = 0 := by have := h.1; have := h.2; omega
  have hmod : s.count % 4294967296 = s.count := Nat.mod_eq_of_lt hc32
  obtain ⟨m, hm, lo, hi⟩ := arrMedian_bounds v 0 s.count hc hc32 (by omega) (sortedArr_of_pairwise v vsorted)
  refine ⟨m, by simp [DS.median, hne, hv, hmod, hm], ?_⟩
  have hlen : v.toList.length = s.count := by simpa using vsz
  have := sorted_middle_is_median v.toList vsorted (by omega) m
    (by rw [hlen, Array.getElem!_toList]; simpa using lo) (by rw [hlen, Array.getElem!_toList]; simpa using hi)
  rw [vperm.countP_eq, vperm.countP_eq, vperm.length_eq] at this
  exact this

/-- the five-number summary of a dataset: defined for every non-empty dataset (one sample
    included), `min ≤ Q1 ≤ median ≤ Q3 ≤ max`, `min` / `max` are the smallest / largest sample, and
    the median is the one `cmb_dataset_median` returns -/
theorem DS.fivenum_spec (s : DS K) (h : s.Inv) (hc : 0 < s.count) (hc32 : s.count < 4294967296) :
    ∃ f, s.fivenum = some f ∧ f.min ≤ f.q1 ∧ f.q1 ≤ f.med ∧ f.med ≤ f.q3 ∧ f.q3 ≤ f.max ∧
      f.min ∈ s.samples ∧ f.max ∈ s.samples ∧ (∀ x ∈ s.samples, f.min ≤ x ∧ x ≤ f.max) ∧
      s.median = some f.med := by
  obtain ⟨hw, _, hpos⟩ := h
  obtain ⟨mn, mx, emn, emx, memn, memx, hb⟩ := hpos hc
  obtain ⟨v, hv, vsz, vsorted, vperm⟩ := DS.sortedCopy_spec s hw
  have hne : ¬ s.xa.size = 0 := by have := hw.1; have := hw.2; omega
  have hmod : s.count % 4294967296 = s.count := Nat.mod_eq_of_lt hc32
  have m0 : v[0]! ∈ s.samples := vperm.mem_iff.mp (mem_toList_of_getElem! v 0 (by omega))
  have m1 : v[s.count - 1]! ∈ s.samples := vperm.mem_iff.mp (mem_toList_of_getElem! v _ (by omega))
  obtain ⟨f, hf, fmn, fmx, o1, o2, o3, o4, hmed⟩ :=
    fivenumOfSorted_ordered v s.count mn mx hc hc32 vsz (sortedArr_of_pairwise v vsorted) (hb _ m0).1 (hb _ m1).2
  refine ⟨f, by simp [DS.fivenum, hne, hv, emn, emx, hf], o1, o2, o3, o4, fmn ▸ memn, fmx ▸ memx, ?_, ?_⟩
  · intro x hx; rw [fmn, fmx]; exact hb x hx
  · simp [DS.median, hne, hv, hmod, hmed]

end

/-! ### time series: weights are the third component of the live (x, t, w) triples -/
section
variable {K : Type} [Inhabited K] [Field K] [LinearOrder K] [IsStrictOrderedRing K]

/-- total duration of the samples strictly below `m` -/
def tBelow (tr : List (K × K × K)) (m : K) : K := ((tr.filter fun p => decide (p.1 < m)).map (·.2.2)).sum
/-- total duration of the samples strictly above `m` -/
def tAbove (tr : List (K × K × K)) (m : K) : K := ((tr.filter fun p => decide (m < p.1)).map (·.2.2)).sum
/-- total duration -/
def tTotal (tr : List (K × K × K)) : K := (tr.map (·.2.2)).sum

theorem tBelow_perm {a b : List (K × K × K)} (h : a.Perm b) (m : K) : tBelow a m = tBelow b m :=
  ((h.filter _).map _).sum_eq
theorem tAbove_perm {a b : List (K × K × K)} (h : a.Perm b) (m : K) : tAbove a m = tAbove b m :=
  ((h.filter _).map _).sum_eq
theorem tTotal_perm {a b : List (K × K × K)} (h : a.Perm b) : tTotal a = tTotal b := (h.map _).sum_eq

/-- the (sample, duration) pairs of a list of (x, t, w) triples -/
def pairsOf (tr : List (K × K × K)) : List (K × K) := tr.map fun p => (p.1, p.2.2)

theorem pairsOf_sums (tr : List (K × K × K)) (m : K) :
    below (pairsOf tr) m = tBelow tr m ∧ above (pairsOf tr) m = tAbove tr m ∧ total (pairsOf tr) = tTotal tr := by
  simp [below, above, total, tBelow, tAbove, tTotal, pairsOf, List.filter_map, Function.comp_def]

theorem mem_xs_of_zip3 (xs ts ws : List K) (p : K × K × K) (hp : p ∈ xs.zip (ts.zip ws)) : p.1 ∈ xs := by
  have := List.of_mem_zip (a := p.1) (b := p.2) (by simpa using hp)
  exact this.1

theorem TS.triples_fst (s : TS K) (h : s.WF) : s.triples.map (·.1) = s.ds.samples := by
  obtain ⟨⟨h1, h2⟩, h3, h4⟩ := h
  simp only [TS.triples, DS.samples]
  apply List.map_fst_zip
  simp [List.length_zip, List.length_take, h1, h3, h4]

/-- the sorted working copy of a series with samples and durations ≥ 0, as ascending (sample, duration) pairs of a
    permutation `tr` of the live triples -/
theorem TS.sortedPairs_spec (s : TS K) (h : s.WF) (hc : 0 < s.ds.count) (hw : ∀ p ∈ s.triples, 0 ≤ p.2.2) :
    ∃ tr ts, s.sortedCopy = some ((pairsOf tr).map (·.1), ts, (pairsOf tr).map (·.2)) ∧ tr.Perm s.triples ∧
      Asc (pairsOf tr) ∧ pairsOf tr ≠ [] := by
  obtain ⟨xs, ts, ws, hsc, lx, lt, lw, hsorted, hperm⟩ := TS.sortedCopy_spec s h
  obtain ⟨m1, -, m3⟩ := zip3_maps xs ts ws (by omega) (by omega)
  have e1 : (pairsOf (xs.zip (ts.zip ws))).map (·.1) = xs := by rw [pairsOf, List.map_map]; exact m1
  have e2 : (pairsOf (xs.zip (ts.zip ws))).map (·.2) = ws := by rw [pairsOf, List.map_map]; exact m3
  refine ⟨xs.zip (ts.zip ws), ts, by rw [e1, e2]; exact hsc, hperm, ⟨?_, fun p hp => ?_⟩, fun e => ?_⟩
  · exact List.pairwise_map.mp (by rw [e1]; exact hsorted)
  · obtain ⟨q, hq, rfl⟩ := List.mem_map.mp hp
    exact hw q (hperm.mem_iff.mp hq)
  · have := congrArg List.length (e ▸ e1); simp at this; omega

/-- `cmb_timeseries_median` returns a duration-weighted median: at most half of the total
    duration lies strictly below it and at most half strictly above it; it is one of the samples -/
theorem TS.median_spec (s : TS K) (h : s.WF) (hc : 0 < s.ds.count) (hw : ∀ p ∈ s.triples, 0 ≤ p.2.2) :
    ∃ m, s.median = some m ∧ m ∈ s.ds.samples ∧
      2 * tBelow s.triples m ≤ tTotal s.triples ∧ 2 * tAbove s.triples m ≤ tTotal s.triples := by
  obtain ⟨tr, ts, hsc, hperm, hasc, hnil⟩ := TS.sortedPairs_spec s h hc hw
  have hne : ¬ s.wa.size = 0 := by have := h.2.2; have := h.1.2; omega
  obtain ⟨p, hp, hm, b, a⟩ := wMedian_pairs hasc hnil
  obtain ⟨q, hq, rfl⟩ := List.mem_map.mp hp
  obtain ⟨z1, z2, z3⟩ := pairsOf_sums tr q.1
  refine ⟨q.1, by simp [TS.median, hne, hsc, hm], ?_, ?_, ?_⟩
  · rw [← TS.triples_fst s h]; exact List.mem_map_of_mem (hperm.mem_iff.mp hq)
  · rw [← tBelow_perm hperm, ← tTotal_perm hperm, ← z1, ← z3]; exact b
  · rw [← tAbove_perm hperm, ← tTotal_perm hperm, ← z2, ← z3]; exact a

/-- the duration-weighted five-number summary: defined, ordered, `min` / `max` are the
    smallest / largest sample, quartiles are samples, its median is `cmb_timeseries_median`'s -/
theorem TS.fivenum_spec (s : TS K) (h : s.WF) (hmm : s.ds.MinMaxOK) (hc : 0 < s.ds.count)
    (hw : ∀ p ∈ s.triples, 0 ≤ p.2.2) :
    ∃ f, s.fivenum = some f ∧ f.min ≤ f.q1 ∧ f.q1 ≤ f.med ∧ f.med ≤ f.q3 ∧ f.q3 ≤ f.max ∧
      f.min ∈ s.ds.samples ∧ f.max ∈ s.ds.samples ∧ (∀ x ∈ s.ds.samples, f.min ≤ x ∧ x ≤ f.max) ∧
      s.median = some f.med := by
  obtain ⟨mn, mx, emn, emx, memn, memx, hb⟩ := hmm.2 hc
  obtain ⟨tr, ts, hsc, hperm, hasc, hnil⟩ := TS.sortedPairs_spec s h hc hw
  have hne : ¬ s.wa.size = 0 := by have := h.2.2; have := h.1.2; omega
  have hxs : ∀ p ∈ pairsOf tr, p.1 ∈ s.ds.samples := by
    intro p hp
    obtain ⟨q, hq, rfl⟩ := List.mem_map.mp hp
    rw [← TS.triples_fst s h]; exact List.mem_map_of_mem (hperm.mem_iff.mp hq)
  obtain ⟨f, hf, fmn, fmx, o1, o2, o3, o4, hmed⟩ := wFivenum_pairs hasc hnil mn mx
    (fun p hp => (hb _ (hxs p hp)).1) (fun p hp => (hb _ (hxs p hp)).2)
  refine ⟨f, by simp [TS.fivenum, hne, hsc, emn, emx, hf], o1, o2, o3, o4, fmn ▸ memn, fmx ▸ memx, ?_, ?_⟩
  · intro x hx; rw [fmn, fmx]; exact hb x hx
  · simp [TS.median, hne, hsc, hmed]

end
end CimbaModel.Stats
