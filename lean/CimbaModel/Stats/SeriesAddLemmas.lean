/-
  `cmb_timeseries_add` (Arrays.lean: `TS.add`) with non-decreasing time stamps keeps the invariant
  of a time series — the three allocations stay well-formed (any number of capacity doublings),
  `min` / `max` stay the extreme samples, every live duration stays ≥ 0 (zero durations allowed),
  the last live sample has duration 0 — appends the sample and the time stamp, and gives the
  previous sample the duration `t - t_prev`.
-/
import CimbaModel.Stats.ArraysLemmas
import Mathlib.Algebra.Order.Field.Basic
import Mathlib.Tactic.Linarith

namespace CimbaModel.Stats
set_option linter.unusedSectionVars false
set_option linter.unusedSimpArgs false

section
variable {A : Type}

theorem getElem?_of_take_succ (l pre : List A) (k : Nat) (v : A) (hp : pre.length = k)
    (h : l.take (k + 1) = pre ++ [v]) : l[k]? = some v := by
  have := congrArg (fun m => m[k]?) h
  simp only [List.getElem?_take, Nat.lt_succ_self, if_true] at this
  rw [this, List.getElem?_append_right (by omega)]
  simp [hp]

end

section
variable {K : Type} [Inhabited K]

theorem TS.triples_lengths (s : TS K) (h : s.WF) :
    (s.ta.toList.take s.ds.count).length = (s.ds.xa.toList.take s.ds.count).length ∧
    (s.wa.toList.take s.ds.count).length = (s.ds.xa.toList.take s.ds.count).length := by
  obtain ⟨⟨a, b⟩, c, d⟩ := h
  simp only [List.length_take, Array.length_toList]
  omega

end

section
variable {K : Type} [Inhabited K] [Field K] [LinearOrder K] [IsStrictOrderedRing K]

/-- what every time series built by `cmb_timeseries_add` with non-decreasing times satisfies -/
def TS.Inv (s : TS K) : Prop :=
  s.WF ∧ s.ds.MinMaxOK ∧ (∀ p ∈ s.triples, 0 ≤ p.2.2) ∧
  -- the last live sample has no duration yet
  (0 < s.ds.count → s.wa[s.ds.count - 1]! = 0)

theorem TS.Inv_empty : (({} : TS K)).Inv := by
  refine ⟨TS.WF_empty, DS.Inv_empty.2, ?_, ?_⟩
  · intro p hp; simp [TS.triples] at hp
  · intro h; simp at h

/-- the time stamp of the last live sample, if any -/
def TS.lastTime (s : TS K) : Option K := if s.ds.count = 0 then none else s.ta[s.ds.count - 1]?

/-- the common last step of `TS.add_inv`: the new state described by the live prefixes of its arrays -/
theorem TS.add_finish (s : TS K) (x t : K) (d' : DS K) (ta' wa' : Array K) (W : List K) (h : s.WF)
    (dinv : d'.Inv) (dc : d'.count = s.ds.count + 1) (dsm : d'.samples = s.ds.samples ++ [x])
    (sa : ta'.size = d'.cursize) (sw : wa'.size = d'.cursize)
    (hta : ta'.toList.take (s.ds.count + 1) = s.ta.toList.take s.ds.count ++ [t])
    (hwa : wa'.toList.take (s.ds.count + 1) = W ++ [0])
    (hWl : W.length = s.ds.count) (hW : ∀ w ∈ W, 0 ≤ w) :
    let s' : TS K := { ds := d', ta := ta', wa := wa' }
    s'.Inv ∧ s'.ds.count = s.ds.count + 1 ∧ s'.ds.samples = s.ds.samples ++ [x] ∧ s'.lastTime = some t ∧
      s'.triples.map (·.1) = s.triples.map (·.1) ++ [x] ∧
      s'.triples.map (·.2.1) = s.triples.map (·.2.1) ++ [t] := by
  intro s'
  have wf' : s'.WF := ⟨dinv.1, sa, sw⟩
  obtain ⟨l1, l2⟩ := TS.triples_lengths s h
  obtain ⟨l1', l2'⟩ := TS.triples_lengths s' wf'
  obtain ⟨m1, m2, m3⟩ := zip3_maps _ _ _ l1 l2
  obtain ⟨m1', m2', m3'⟩ := zip3_maps _ _ _ l1' l2'
  have hcnt' : s'.ds.count = s.ds.count + 1 := dc
  have hlen : (s.ta.toList.take s.ds.count).length = s.ds.count := by
    obtain ⟨⟨a, b⟩, c, d⟩ := h
    simp only [List.length_take, Array.length_toList]; omega
  have hlast : ta'[s.ds.count]? = some t := by
    have := getElem?_of_take_succ ta'.toList _ s.ds.count t hlen hta
    simpa using this
  have hwlast : wa'[s.ds.count]? = some 0 := by
    have := getElem?_of_take_succ wa'.toList _ s.ds.count 0 hWl hwa
    simpa using this
  refine ⟨⟨wf', dinv.2, ?_, ?_⟩, dc, dsm, ?_, ?_, ?_⟩
  · intro p hp
    have hmem : p.2.2 ∈ s'.triples.map (·.2.2) := List.mem_map_of_mem hp
    have e : s'.triples.map (·.2.2) = W ++ [0] := by
      unfold TS.triples
      rw [m3', hcnt', hwa]
    rw [e] at hmem
    rcases List.mem_append.mp hmem with hm | hm
    · exact hW _ hm
    · simp at hm; rw [hm]
  · intro _
    show wa'[d'.count - 1]! = 0
    rw [dc, Nat.add_sub_cancel]
    simp [getElem!_def, hwlast]
  · show (if d'.count = 0 then none else ta'[d'.count - 1]?) = some t
    rw [dc, Nat.add_sub_cancel, if_neg (by omega), hlast]
  · unfold TS.triples
    rw [m1', m1]
    exact dsm
  · unfold TS.triples
    rw [m2', m2, hcnt']
    exact hta

/-- `cmb_timeseries_add(x, t)` with `t` not before the last time stamp (the function's contract, a debug
    assert in C): in bounds, keeps the invariant (durations stay ≥ 0 — zero durations allowed —, min/max
    stay the extreme samples), appends the sample, and gives the previous sample the duration
    `t - t_prev` -/
theorem TS.add_inv (initSz : Nat) (s : TS K) (x t : K) (h : s.Inv) (hi : 0 < initSz)
    (ht : ∀ tp, s.lastTime = some tp → tp ≤ t) :
    ∃ s', s.add initSz x t = some s' ∧ s'.Inv ∧ s'.ds.count = s.ds.count + 1 ∧
      s'.ds.samples = s.ds.samples ++ [x] ∧ s'.lastTime = some t ∧
      s'.triples.map (·.1) = s.triples.map (·.1) ++ [x] ∧
      s'.triples.map (·.2.1) = s.triples.map (·.2.1) ++ [t] := by
  obtain ⟨hwf, hmm, hnn, _⟩ := h
  obtain ⟨e, he, ewf, elt, ec, esm, tka, tkw, emn, emx⟩ := TS.expand_if_spec initSz s hwf hi
  obtain ⟨d', hda, -, dcnt, dsm, dcs, hadd⟩ := TS.add_eq initSz s e x t he ewf elt
  -- the dataset part keeps its invariant
  have emm : e.ds.MinMaxOK := by simpa only [DS.MinMaxOK, ec, esm, emn, emx] using hmm
  obtain ⟨d'', hda', dinv, -, -⟩ := DS.add_inv initSz e.ds x ⟨ewf.1, emm⟩ hi
  obtain rfl : d'' = d' := Option.some.inj (hda'.symm.trans hda)
  rw [ec] at dcnt; rw [esm] at dsm
  -- the old durations are ≥ 0
  obtain ⟨l1, l2⟩ := TS.triples_lengths s hwf
  obtain ⟨_, _, m3⟩ := zip3_maps _ _ _ l1 l2
  have hold : ∀ w ∈ s.wa.toList.take s.ds.count, 0 ≤ w := by
    intro w hw
    rw [← m3] at hw
    obtain ⟨p, hp, rfl⟩ := List.mem_map.mp hw
    exact hnn p hp
  have hwl : (s.wa.toList.take s.ds.count).length = s.ds.count := by
    obtain ⟨⟨a, b⟩, c, d⟩ := hwf
    simp only [List.length_take, Array.length_toList]; omega
  have b1 : s.ds.count < e.ta.toList.length := by have := ewf.2.1; simp; omega
  have b2 : s.ds.count < e.wa.toList.length := by have := ewf.2.2; simp; omega
  refine ⟨_, hadd, ?_⟩
  rw [ec]
  have htaK : (e.ta.setIfInBounds s.ds.count t).toList.take (s.ds.count + 1) = s.ta.toList.take s.ds.count ++ [t] := by
    rw [Array.toList_setIfInBounds, take_succ_set _ _ _ b1, tka]
  by_cases hpos : 0 < s.ds.count
  · rw [if_pos hpos]
    -- the previous time stamp is the last time of `s`
    have hprev : s.lastTime = some e.ta[s.ds.count - 1]! := by
      have hlt : s.ds.count - 1 < s.ds.count := by omega
      have := congrArg (fun m => m[s.ds.count - 1]?) tka
      simp only [List.getElem?_take, hlt, if_true, Array.getElem?_toList] at this
      have b5 : s.ds.count - 1 < e.ta.size := by simp at b1; omega
      rw [TS.lastTime, if_neg (by omega), ← this, getElem!_pos e.ta _ b5, Array.getElem?_eq_getElem b5]
    have hdur : 0 ≤ t - e.ta[s.ds.count - 1]! := sub_nonneg.mpr (ht _ hprev)
    apply TS.add_finish s x t d'' _ _ ((s.wa.toList.take s.ds.count).set (s.ds.count - 1) (t - e.ta[s.ds.count - 1]!))
      hwf dinv dcnt dsm (by simp [dcs, ewf.2.1]) (by simp [dcs, ewf.2.2]) htaK
    · rw [Array.toList_setIfInBounds, Array.toList_setIfInBounds, List.set_comm _ _ (by omega),
        take_succ_set _ _ _ (by simpa using b2), List.take_set, tkw]
    · simpa using hwl
    · intro w hw
      rcases List.mem_or_eq_of_mem_set hw with hm | hm
      · exact hold w hm
      · rw [hm]; exact hdur
  · rw [if_neg hpos]
    apply TS.add_finish s x t d'' _ _ (s.wa.toList.take s.ds.count) hwf dinv dcnt dsm
      (by simp [dcs, ewf.2.1]) (by simp [dcs, ewf.2.2]) htaK
    · rw [Array.toList_setIfInBounds, take_succ_set _ _ _ b2, tkw]
    · exact hwl
    · exact hold

/-! ### non-vacuity: three samples at times 0, 8, 8 (a zero duration) over ℚ -/

example : ∃ s : TS ℚ, s.Inv ∧ s.ds.count = 3 := by
  obtain ⟨s1, _, i1, c1, _, t1, _, _⟩ := TS.add_inv 4 ({} : TS ℚ) 5 0 TS.Inv_empty (by omega)
    (by intro tp h; simp [TS.lastTime] at h)
  obtain ⟨s2, _, i2, c2, _, t2, _, _⟩ := TS.add_inv 4 s1 7 8 i1 (by omega)
    (by intro tp h; rw [t1] at h; cases h; norm_num)
  obtain ⟨s3, _, i3, c3, _, _, _, _⟩ := TS.add_inv 4 s2 6 8 i2 (by omega)
    (by intro tp h; rw [t2] at h; cases h; exact le_refl _)
  exact ⟨s3, i3, by rw [c3, c2, c1]⟩

end
end CimbaModel.Stats
