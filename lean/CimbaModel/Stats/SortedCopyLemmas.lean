/-
  The sorted copies that the median / five-number routines work on
  (`cmb_dataset_copy` + `cmb_dataset_sort`, `cmb_timeseries_copy` + `cmb_timeseries_sort_x`):
  defined for every well-formed object, ascending, and a permutation of the live samples
  (of the live (x, t, w) triples for a series).
-/
import CimbaModel.Stats.SortLemmas
import CimbaModel.Stats.ArraysLemmas
import CimbaModel.Stats.Median

namespace CimbaModel.Stats
set_option linter.unusedSectionVars false

section
variable {K : Type} [Inhabited K] [LinearOrder K]

theorem take_zip {α β : Type} (l₁ : List α) (l₂ : List β) (n : Nat) :
    (l₁.zip l₂).take n = (l₁.take n).zip (l₂.take n) := by
  induction l₁ generalizing l₂ n with
  | nil => simp
  | cons a l₁ ih =>
    cases l₂ with
    | nil => simp
    | cons b l₂ =>
      cases n with
      | zero => simp
      | succ n => simp [ih]

theorem DS.sortedCopy_spec [OfNat K 0] (s : DS K) (h : s.WF) :
    ∃ v, s.sortedCopy = some v ∧ v.size = s.count ∧ v.toList.Pairwise (· ≤ ·) ∧ v.toList.Perm s.samples := by
  obtain ⟨c, hc, cw, csm, cc, ccs, _, _⟩ := DS.copy_spec s h
  have hle : c.count ≤ c.xa.size := by rw [cw.1]; exact cw.2
  obtain ⟨p1, p2, _⟩ := heapsort_prefix (id : K → K) c.count c.xa hle
  have hsz : (heapsort (id : K → K) c.count c.xa).size = c.xa.size := heapsort_size _ _ _
  have htl : ((heapsort (id : K → K) c.count c.xa).extract 0 c.count).toList
      = (heapsort (id : K → K) c.count c.xa).toList.take c.count := by
    simp [Array.toList_extract, List.extract_eq_take_drop]
  refine ⟨(heapsort id c.count c.xa).extract 0 c.count, by simp [DS.sortedCopy, hc], ?_, ?_, ?_⟩
  · simp [hsz]; omega
  · rw [htl]; exact p1
  · rw [htl]; exact csm ▸ p2

end

section
variable {K : Type} [Inhabited K] [LinearOrder K] [Sub K] [OfNat K 0]

theorem toList_zip3 (s : Arr3 K) : (zip3 s).toList = s.1.toList.zip (s.2.1.toList.zip s.2.2.toList) := by
  simp [zip3, Array.toList_zip]

/-- the sorted working copy of a time series: three lists of `count` entries, ascending in x, whose
    zipped (x, t, w) triples are a permutation of the live triples of the series -/
theorem TS.sortedCopy_spec (s : TS K) (h : s.WF) :
    ∃ xs ts ws, s.sortedCopy = some (xs, ts, ws) ∧ xs.length = s.ds.count ∧ ts.length = s.ds.count ∧
      ws.length = s.ds.count ∧ xs.Pairwise (· ≤ ·) ∧ (xs.zip (ts.zip ws)).Perm s.triples := by
  obtain ⟨c, hc, ⟨cdw, cta, cwa⟩, ctr, cc, ccs, _, _⟩ := TS.copy_spec s h
  have hle : c.ds.count ≤ c.ds.xa.size := by rw [cdw.1]; exact cdw.2
  have e1 : c.ta.size = c.ds.xa.size := by rw [cta, cdw.1]
  have e2 : c.wa.size = c.ds.xa.size := by rw [cwa, cdw.1]
  obtain ⟨hz, s1, s2, s3⟩ := heapsort3_zip c.ds.count (c.ds.xa, c.ta, c.wa) e1 e2
  have hzs : (zip3 (c.ds.xa, c.ta, c.wa)).size = c.ds.xa.size := by
    simp [zip3, Array.size_zip, e1, e2]
  obtain ⟨p1, p2, _⟩ := heapsort_prefix (fun p : K × K × K => p.1) c.ds.count (zip3 (c.ds.xa, c.ta, c.wa))
    (by rw [hzs]; exact hle)
  rw [← hz, toList_zip3, take_zip, take_zip] at p1 p2
  rw [toList_zip3, take_zip, take_zip] at p2
  let r := heapsort3 c.ds.count (c.ds.xa, c.ta, c.wa)
  have l1 : (r.1.toList.take c.ds.count).length = c.ds.count := by
    simp [r, List.length_take, s1]; omega
  have l2 : (r.2.1.toList.take c.ds.count).length = c.ds.count := by
    simp [r, List.length_take, s2]; omega
  have l3 : (r.2.2.toList.take c.ds.count).length = c.ds.count := by
    simp [r, List.length_take, s3]; omega
  refine ⟨r.1.toList.take c.ds.count, r.2.1.toList.take c.ds.count, r.2.2.toList.take c.ds.count,
    by simp [TS.sortedCopy, hc, r], by rw [l1, cc], by rw [l2, cc], by rw [l3, cc], ?_, ?_⟩
  · have := List.Pairwise.map (fun p : K × K × K => p.1) (S := fun a b : K => a ≤ b) (fun a b hab => hab) p1
    rwa [List.map_fst_zip (by simp only [List.length_zip]; rw [l1, l2, l3]; simp)] at this
  · have : s.triples = c.triples := ctr.symm
    rw [this]
    exact p2

end
end CimbaModel.Stats
