/-
  Lemmas about the growing sample arrays (Arrays.lean): the well-formedness invariant of the
  allocations is kept by `add` (through any number of capacity doublings) and by `copy`;
  `add` appends exactly one live sample; `copy` is exact and leaves room for later adds.
-/
import CimbaModel.Stats.Arrays
import Mathlib.Order.Defs.LinearOrder

namespace CimbaModel.Stats
set_option linter.unusedSectionVars false
set_option linter.unusedSimpArgs false

section
variable {K : Type} [Inhabited K]

/-- the allocation has `cursize` slots and the live samples fit -/
def DS.WF (s : DS K) : Prop := s.xa.size = s.cursize ∧ s.count ≤ s.cursize

/-- all three allocations have `cursize` slots -/
def TS.WF (s : TS K) : Prop := s.ds.WF ∧ s.ta.size = s.ds.cursize ∧ s.wa.size = s.ds.cursize

theorem DS.WF_empty : (({} : DS K)).WF := by simp [DS.WF]
theorem TS.WF_empty : (({} : TS K)).WF := by simp [TS.WF, DS.WF]

theorem wr_eq_some (a : Array K) (i : Nat) (x : K) (h : i < a.size) : wr a i x = some (a.set i x h) := by
  simp [wr, h]

theorem wr_size (a b : Array K) (i : Nat) (x : K) (h : wr a i x = some b) : b.size = a.size := by
  unfold wr at h
  split at h
  · cases h; simp
  · cases h

theorem size_realloc (a : Array K) (n : Nat) : (realloc a n).size = n := by
  unfold realloc
  split
  · simp; omega
  · simp; omega

theorem toList_realloc_take (a : Array K) (n k : Nat) (hk : k ≤ a.size) (hn : a.size ≤ n) :
    (realloc a n).toList.take k = a.toList.take k := by
  unfold realloc
  split
  · have : n = a.size := by omega
    subst this
    simp
  · rw [Array.toList_append, List.take_append_of_le_length (by simpa using hk)]

theorem callocCopy_spec (src : Array K) (cap n : Nat) (h1 : n ≤ src.size) (h2 : n ≤ cap) :
    ∃ q, callocCopy src cap n = some q ∧ q.size = cap ∧ q.toList.take n = src.toList.take n := by
  unfold callocCopy
  rw [if_pos ⟨h1, h2⟩]
  refine ⟨_, rfl, ?_, ?_⟩
  · simp; omega
  · rw [Array.toList_append, List.take_append_of_le_length (by simp; omega)]
    simp [Array.toList_extract, List.extract]
    rw [List.take_take]; simp

/-- projections of a zipped list of triples -/
theorem zip3_maps {A : Type} (xs ts ws : List A) (h1 : ts.length = xs.length) (h2 : ws.length = xs.length) :
    (xs.zip (ts.zip ws)).map (·.1) = xs ∧ (xs.zip (ts.zip ws)).map (·.2.1) = ts ∧
    (xs.zip (ts.zip ws)).map (·.2.2) = ws := by
  induction xs generalizing ts ws with
  | nil =>
    have e1 : ts = [] := by simpa using h1
    have e2 : ws = [] := by simpa using h2
    subst e1; subst e2
    simp
  | cons x xs ih =>
    cases ts with
    | nil => simp at h1
    | cons t ts =>
      cases ws with
      | nil => simp at h2
      | cons w ws =>
        obtain ⟨i1, i2, i3⟩ := ih ts ws (by simpa using h1) (by simpa using h2)
        simp only [List.zip_cons_cons, List.map_cons, i1, i2, i3, and_self]

/-- taking `k ≤ i` elements does not see a write at slot `i` -/
theorem take_set_of_le (l : List K) (i k : Nat) (x : K) (h : k ≤ i) : (l.set i x).take k = l.take k := by
  rw [List.take_set]
  apply List.set_eq_of_length_le
  simp; omega

theorem take_succ_set (l : List K) (i : Nat) (x : K) (h : i < l.length) :
    (l.set i x).take (i + 1) = l.take i ++ [x] := by
  rw [List.set_eq_take_append_cons_drop, if_pos h, List.take_append]
  simp [List.take_take, Nat.min_eq_left (Nat.le_succ i), List.length_take, Nat.min_eq_left (Nat.le_of_lt h)]

/-- `cmi_dataset_expand`: a real capacity doubling; the live samples survive it -/
theorem DS.expand_spec (initSz : Nat) (s : DS K) (h : s.WF) (hi : 0 < initSz) (hfull : s.count = s.cursize) :
    (s.expand initSz).WF ∧ (s.expand initSz).count = s.count ∧ s.count < (s.expand initSz).cursize ∧
    (s.expand initSz).samples = s.samples ∧ (s.expand initSz).min = s.min ∧ (s.expand initSz).max = s.max := by
  obtain ⟨h1, h2⟩ := h
  unfold DS.expand
  split
  · rename_i hz
    have hc : s.count = 0 := by omega
    simp [DS.WF, DS.samples, hc, hi]
  · rename_i hz
    refine ⟨⟨by simp [size_realloc], by simp; omega⟩, rfl, by simp; omega, ?_, rfl, rfl⟩
    simp only [DS.samples]
    exact toList_realloc_take _ _ _ (by omega) (by omega)

end

section
variable {K : Type} [Inhabited K] [LT K] [DecidableLT K]

/-- `cmb_dataset_add` on a dataset with room: in bounds, appends exactly the new sample, keeps the invariant -/
theorem DS.add_of_room (initSz : Nat) (s : DS K) (x : K) (h : s.WF) (hlt : s.count < s.cursize) :
    ∃ s', s.add initSz x = some s' ∧ s'.WF ∧ s'.count = s.count + 1 ∧ s'.samples = s.samples ++ [x] ∧
      s'.cursize = s.cursize ∧
      s'.min = some (match s.min with | none => x | some m => if x < m then x else m) ∧
      s'.max = some (match s.max with | none => x | some m => if x > m then x else m) := by
  have hne : ¬ s.count = s.cursize := by omega
  have hb : s.count < s.xa.size := by rw [h.1]; exact hlt
  unfold DS.add
  simp only [hne, if_false, hlt, if_true, wr_eq_some _ _ _ hb, Option.map_some]
  refine ⟨_, rfl, ⟨by simp [h.1], by simp; omega⟩, rfl, ?_, rfl, rfl, rfl⟩
  simp only [DS.samples, Array.toList_set]
  rw [take_succ_set _ _ _ (by simpa using hb)]

/-- a full dataset is expanded first (the added sample sees the old `min` / `max`) -/
theorem DS.add_full (initSz : Nat) (s : DS K) (x : K) (hfull : s.count = s.cursize)
    (hlt : (s.expand initSz).count < (s.expand initSz).cursize) :
    s.add initSz x = (s.expand initSz).add initSz x := by
  have e1 : (s.expand initSz).max = s.max := by unfold DS.expand; split <;> rfl
  have e2 : (s.expand initSz).min = s.min := by unfold DS.expand; split <;> rfl
  unfold DS.add
  simp only [hfull, if_true, Nat.ne_of_lt hlt, if_false, e1, e2]

/-- `cmb_dataset_add` whatever the fill (a full dataset doubles its capacity first) -/
theorem DS.add_spec (initSz : Nat) (s : DS K) (x : K) (h : s.WF) (hi : 0 < initSz) :
    ∃ s', s.add initSz x = some s' ∧ s'.WF ∧ s'.count = s.count + 1 ∧ s'.samples = s.samples ++ [x] ∧
      s'.min = some (match s.min with | none => x | some m => if x < m then x else m) ∧
      s'.max = some (match s.max with | none => x | some m => if x > m then x else m) := by
  by_cases hfull : s.count = s.cursize
  · obtain ⟨w, c, lt, sm, emn, emx⟩ := DS.expand_spec initSz s h hi hfull
    obtain ⟨s', h1, h2, h3, h4, _, h5, h6⟩ := DS.add_of_room initSz (s.expand initSz) x w (by omega)
    exact ⟨s', by rw [DS.add_full initSz s x hfull (by omega), h1], h2, by omega, by rw [h4, sm], by rw [h5, emn],
      by rw [h6, emx]⟩
  · obtain ⟨s', h1, h2, h3, h4, _, h5, h6⟩ := DS.add_of_room initSz s x h (by have := h.2; omega)
    exact ⟨s', h1, h2, h3, h4, h5, h6⟩

end

section
variable {K : Type} [Inhabited K]

/-- `cmb_dataset_copy` is exact: same samples, count, capacity, min, max; the copy owns `cursize`
    slots, so it can be added to like the original -/
theorem DS.copy_spec (s : DS K) (h : s.WF) :
    ∃ c, s.copy = some c ∧ c.WF ∧ c.samples = s.samples ∧ c.count = s.count ∧ c.cursize = s.cursize ∧
      c.min = s.min ∧ c.max = s.max := by
  obtain ⟨h1, h2⟩ := h
  unfold DS.copy
  split
  · rename_i hz
    refine ⟨_, rfl, ⟨by simp; omega, by simp; omega⟩, ?_, rfl, rfl, rfl, rfl⟩
    have : s.xa = #[] := by simpa using hz
    simp [DS.samples, this]
  · obtain ⟨q, hq, hsz, htk⟩ := callocCopy_spec s.xa s.cursize s.cursize (by omega) (Nat.le_refl _)
    rw [hq]
    refine ⟨_, rfl, ⟨by simpa using hsz, h2⟩, ?_, rfl, rfl, rfl, rfl⟩
    simp only [Option.map, DS.samples]
    have := congrArg (List.take s.count) htk
    simpa [List.take_take, Nat.min_eq_left h2] using this

theorem callocCopy_size (src q : Array K) (cap n : Nat) (h : callocCopy src cap n = some q) : q.size = cap := by
  unfold callocCopy at h
  split at h
  · cases h; simp; omega
  · cases h

theorem DS.copy_fields (s c : DS K) (h : s.copy = some c) : c.count = s.count ∧ c.cursize = s.cursize := by
  unfold DS.copy at h
  split at h
  · cases h; exact ⟨rfl, rfl⟩
  · cases hq : callocCopy s.xa s.cursize s.cursize <;> rw [hq] at h <;> cases h
    exact ⟨rfl, rfl⟩

/-- the state after the optional expansion in `TS.add`: well-formed, room for one more, and the live
    part of all three arrays as well as `min` / `max` untouched -/
theorem TS.expand_if_spec (initSz : Nat) (s : TS K) (h : s.WF) (hi : 0 < initSz) :
    ∃ e : TS K, (if s.ds.count = s.ds.cursize then s.expand initSz else s) = e ∧ e.WF ∧
      e.ds.count < e.ds.cursize ∧ e.ds.count = s.ds.count ∧ e.ds.samples = s.ds.samples ∧
      e.ta.toList.take s.ds.count = s.ta.toList.take s.ds.count ∧
      e.wa.toList.take s.ds.count = s.wa.toList.take s.ds.count ∧
      e.ds.min = s.ds.min ∧ e.ds.max = s.ds.max := by
  obtain ⟨hd, hta, hwa⟩ := h
  by_cases hfull : s.ds.count = s.ds.cursize
  · obtain ⟨w, c, lt, sm, emn, emx⟩ := DS.expand_spec initSz s.ds hd hi hfull
    by_cases hz : s.ta.size = 0
    · have hcs : s.ds.cursize = 0 := by omega
      have hc0 : s.ds.count = 0 := by omega
      refine ⟨{ ds := s.ds.expand initSz, ta := Array.replicate initSz default,
                wa := Array.replicate initSz default }, ?_, ⟨w, ?_, ?_⟩, ?_, c, sm, ?_, ?_, emn, emx⟩
      · simp [hfull, TS.expand, hz]
      · simp [DS.expand, hcs]
      · simp [DS.expand, hcs]
      · simpa [c] using lt
      · simp [hc0]
      · simp [hc0]
    · have hcs : ¬ s.ds.cursize = 0 := by omega
      have ecs : (s.ds.expand initSz).cursize = 2 * s.ds.cursize := by simp [DS.expand, hcs]
      refine ⟨{ ds := s.ds.expand initSz, ta := realloc s.ta (s.ds.expand initSz).cursize,
                wa := realloc s.wa (s.ds.expand initSz).cursize }, ?_, ⟨w, ?_, ?_⟩, ?_, c, sm, ?_, ?_, emn, emx⟩
      · simp [hfull, TS.expand, hz]
      · simp [size_realloc]
      · simp [size_realloc]
      · simpa [c] using lt
      · exact toList_realloc_take _ _ _ (by omega) (by omega)
      · exact toList_realloc_take _ _ _ (by omega) (by omega)
  · exact ⟨s, by simp [hfull], ⟨hd, hta, hwa⟩, by have := hd.2; omega, rfl, rfl, rfl, rfl, rfl, rfl⟩

end

section
variable {K : Type} [Inhabited K] [LT K] [DecidableLT K] [Sub K] [OfNat K 0]

/-- `cmb_timeseries_copy` is exact — every live (x, t, w) triple, count, capacity, min, max —
    and the copy's three allocations all have `cursize` slots -/
theorem TS.copy_spec (s : TS K) (h : s.WF) :
    ∃ c, s.copy = some c ∧ c.WF ∧ c.triples = s.triples ∧ c.ds.count = s.ds.count ∧
      c.ds.cursize = s.ds.cursize ∧ c.ds.min = s.ds.min ∧ c.ds.max = s.ds.max := by
  obtain ⟨hd, hta, hwa⟩ := h
  obtain ⟨d, hcopy, dwf, dsm, dc, dcs, dmn, dmx⟩ := DS.copy_spec s.ds hd
  have hcnt : s.ds.count ≤ s.ds.cursize := hd.2
  by_cases hz : s.ds.cursize = 0
  · -- nothing allocated yet
    have hc0 : s.ds.count = 0 := by omega
    have e1 : s.ta.size = 0 := by omega
    have e2 : s.wa.size = 0 := by omega
    refine ⟨{ ds := d, ta := #[], wa := #[] }, by simp [TS.copy, hcopy, e1, e2], ⟨dwf, by simp; omega, by simp; omega⟩, ?_, dc, dcs, dmn, dmx⟩
    simp [TS.triples, dc, hc0]
  · obtain ⟨qa, hqa, sza, tka⟩ := callocCopy_spec s.ta s.ds.cursize s.ds.count (by omega) hcnt
    obtain ⟨qw, hqw, szw, tkw⟩ := callocCopy_spec s.wa s.ds.cursize s.ds.count (by omega) hcnt
    have e1 : ¬ s.ta.size = 0 := by omega
    have e2 : ¬ s.wa.size = 0 := by omega
    refine ⟨{ ds := d, ta := qa, wa := qw }, by simp [TS.copy, hcopy, e1, e2, hqa, hqw], ⟨dwf, by simp; omega, by simp; omega⟩, ?_, dc, dcs, dmn, dmx⟩
    simp only [TS.triples, dc]
    have : d.xa.toList.take s.ds.count = s.ds.xa.toList.take s.ds.count := by
      have := dsm; simpa [DS.samples, dc] using this
    rw [this, tka, tkw]

/-- what `cmb_timeseries_add` computes, on the state `e` after the optional expansion (well-formed, with room):
    the dataset part is `DS.add`, slot `count` of the time array gets `t`, slot `count` of the weight array gets 0 and
    the slot before it the time since the previous sample -/
theorem TS.add_eq (initSz : Nat) (s e : TS K) (x t : K)
    (he : (if s.ds.count = s.ds.cursize then s.expand initSz else s) = e) (hw : e.WF)
    (hlt : e.ds.count < e.ds.cursize) :
    ∃ d', e.ds.add initSz x = some d' ∧ d'.WF ∧ d'.count = e.ds.count + 1 ∧ d'.samples = e.ds.samples ++ [x] ∧
      d'.cursize = e.ds.cursize ∧
      s.add initSz x t = some
        { ds := d', ta := e.ta.setIfInBounds e.ds.count t,
          wa := if 0 < e.ds.count then
                  (e.wa.setIfInBounds e.ds.count 0).setIfInBounds (e.ds.count - 1) (t - e.ta[e.ds.count - 1]!)
                else e.wa.setIfInBounds e.ds.count 0 } := by
  obtain ⟨ed, eta, ewa⟩ := hw
  obtain ⟨d', hadd, dwf, dcnt, dsm, dcs, -⟩ := DS.add_of_room initSz e.ds x ed hlt
  have b1 : e.ds.count < e.ta.size := by omega
  have b2 : e.ds.count < e.wa.size := by omega
  refine ⟨d', hadd, dwf, dcnt, dsm, dcs, ?_⟩
  unfold TS.add
  simp only [he, hadd, wr_eq_some _ _ _ b1, Option.bind_eq_bind, Option.bind_some]
  rw [wr_eq_some _ _ _ b2]
  simp only [Option.bind_some]
  by_cases hpos : e.ds.count > 0
  · have b3 : e.ds.count - 1 < (e.ta.set e.ds.count t b1).size := by simp; omega
    have b4 : e.ds.count - 1 < (e.wa.set e.ds.count 0 b2).size := by simp; omega
    have b5 : e.ds.count - 1 < e.ta.size := by omega
    simp only [hpos, if_true, Array.getElem?_eq_getElem b3, Option.bind_some, wr_eq_some _ _ _ b4]
    rw [Array.getElem_set_ne (pj := b5) (h := by omega), getElem!_pos e.ta _ b5]
    have b6 : e.ds.count - 1 < e.wa.size := by omega
    simp [Array.setIfInBounds, b1, b2, b6]
  · simp only [hpos, if_false]
    simp [Array.setIfInBounds, b1, b2]

/-- `cmb_timeseries_add` stays inside all three allocations of a well-formed series (so of a copy) -/
theorem TS.add_ok (initSz : Nat) (s : TS K) (x t : K) (h : s.WF) (hi : 0 < initSz) :
    ∃ s', s.add initSz x t = some s' ∧ s'.WF ∧ s'.ds.count = s.ds.count + 1 := by
  obtain ⟨e, he, hw, elt, ec, -⟩ := TS.expand_if_spec initSz s h hi
  obtain ⟨d', -, dwf, dcnt, -, dcs, hadd⟩ := TS.add_eq initSz s e x t he hw elt
  refine ⟨_, hadd, ⟨dwf, ?_, ?_⟩, by rw [← ec]; exact dcnt⟩
  · simp [dcs, hw.2.1]
  · show (if _ then _ else _ : Array K).size = _
    split <;> simp [dcs, hw.2.2]

/-- `TS.copyShipped` takes `count` and `cursize` over into the struct but gives the time array `count` slots -/
theorem TS.copyShipped_fields (s c : TS K) (h : s.copyShipped = some c) (hne : s.ta.size ≠ 0) :
    c.ds.count = s.ds.count ∧ c.ds.cursize = s.ds.cursize ∧ c.ta.size = s.ds.count := by
  simp only [TS.copyShipped, if_neg hne, Option.bind_eq_bind, Option.bind_eq_some_iff, Option.pure_def] at h
  obtain ⟨d, hd, ta, hta, h⟩ := h
  have hf : c.ds = d ∧ c.ta = ta := by
    split at h
    · cases h; exact ⟨rfl, rfl⟩
    · cases hq : callocCopy s.wa s.ds.count s.ds.count <;> rw [hq] at h <;> cases h
      exact ⟨rfl, rfl⟩
  obtain ⟨dc, dcs⟩ := DS.copy_fields s.ds d hd
  rw [hf.1, hf.2, callocCopy_size _ _ _ _ hta]
  exact ⟨dc, dcs, rfl⟩

/-- an `add` that needs no expansion writes slot `count` of the time array: a fault if the array is shorter -/
theorem TS.add_none_of_short (initSz : Nat) (s : TS K) (x t : K) (hlt : s.ds.count < s.ds.cursize)
    (hta : s.ta.size ≤ s.ds.count) : s.add initSz x t = none := by
  have hw : wr s.ta s.ds.count t = none := by simp [wr]; omega
  cases hd : s.ds.add initSz x <;> simp [TS.add, Nat.ne_of_lt hlt, hd, hw]

/-- the defect `TS.copyShipped` models: adding to the copy of any series that holds
    samples and is not full is an out-of-bounds write -/
theorem TS.copyShipped_then_add (initSz : Nat) (s : TS K) (x t : K) (hne : s.ta.size ≠ 0)
    (hlt : s.ds.count < s.ds.cursize) : s.copyShipped.bind (·.add initSz x t) = none := by
  cases hc : s.copyShipped with
  | none => rfl
  | some c =>
    obtain ⟨dc, dcs, hta⟩ := TS.copyShipped_fields s c hc hne
    exact TS.add_none_of_short initSz c x t (by rw [dc, dcs]; exact hlt) (by rw [hta, dc]; exact Nat.le_refl _)

end
section
variable {K : Type} [Inhabited K] [LinearOrder K]

/-- the tracked `min` / `max` fields are the smallest / largest live sample (`none` = no sample yet) -/
def DS.MinMaxOK (s : DS K) : Prop :=
  (s.count = 0 → s.min = none ∧ s.max = none) ∧
  (0 < s.count → ∃ mn mx, s.min = some mn ∧ s.max = some mx ∧ mn ∈ s.samples ∧ mx ∈ s.samples ∧
      ∀ x ∈ s.samples, mn ≤ x ∧ x ≤ mx)

/-- what every dataset built by `cmb_dataset_add` from an initialized one satisfies -/
def DS.Inv (s : DS K) : Prop := s.WF ∧ s.MinMaxOK

theorem DS.Inv_empty : (({} : DS K)).Inv := by
  refine ⟨DS.WF_empty, ?_, ?_⟩
  · intro _; exact ⟨rfl, rfl⟩
  · intro h; simp at h

theorem DS.samples_length (s : DS K) (h : s.WF) : s.samples.length = s.count := by
  simp [DS.samples, h.1]; exact Nat.min_eq_left h.2

/-- `cmb_dataset_add` keeps the invariant and appends the sample -/
theorem DS.add_inv (initSz : Nat) (s : DS K) (x : K) (h : s.Inv) (hi : 0 < initSz) :
    ∃ s', s.add initSz x = some s' ∧ s'.Inv ∧ s'.count = s.count + 1 ∧ s'.samples = s.samples ++ [x] := by
  obtain ⟨hw, h0, hpos⟩ := h
  obtain ⟨s', hadd, w', c', sm', mn', mx'⟩ := DS.add_spec initSz s x hw hi
  refine ⟨s', hadd, ⟨w', ?_, ?_⟩, c', sm'⟩
  · intro hz; omega
  · intro _
    by_cases hc : s.count = 0
    · obtain ⟨e1, e2⟩ := h0 hc
      have hs : s.samples = [] := by
        have := DS.samples_length s hw
        exact List.eq_nil_of_length_eq_zero (by omega)
      refine ⟨x, x, by rw [mn', e1], by rw [mx', e2], by simp [sm'], by simp [sm'], ?_⟩
      intro y hy
      simp [sm', hs] at hy
      subst hy
      exact ⟨le_refl _, le_refl _⟩
    · obtain ⟨mn, mx, e1, e2, m1, m2, hb⟩ := hpos (by omega)
      have mn'' : s'.min = some (if x < mn then x else mn) := by rw [mn', e1]
      have mx'' : s'.max = some (if x > mx then x else mx) := by rw [mx', e2]
      refine ⟨_, _, mn'', mx'', ?_, ?_, ?_⟩
      · simp only [sm', List.mem_append, List.mem_singleton]
        split
        · right; rfl
        · left; exact m1
      · simp only [sm', List.mem_append, List.mem_singleton]
        split
        · right; rfl
        · left; exact m2
      · intro y hy
        simp only [sm', List.mem_append, List.mem_singleton] at hy
        rcases hy with hy | hy
        · obtain ⟨a, b⟩ := hb y hy
          constructor
          · split
            · rename_i hlt; exact le_trans (le_of_lt hlt) a
            · exact a
          · split
            · rename_i hgt; exact le_trans b (le_of_lt hgt)
            · exact b
        · subst hy
          constructor
          · split
            · exact le_refl _
            · rename_i hn; exact not_lt.mp hn
          · split
            · exact le_refl _
            · rename_i hn; exact not_lt.mp hn

end
end CimbaModel.Stats
