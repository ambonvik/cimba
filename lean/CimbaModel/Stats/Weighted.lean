/-
  C17, weighted summaries: representation invariant `WRepr`; the merge preserves it along concatenation (the one theorem
  with algebra in it); the one-sample update is the merge with a one-sample summary; weights may be rescaled.
  In front: the closed forms of the unweighted accessors in terms of the fields, which the weighted accessors call on the
  normalised summary.
-/
import CimbaModel.Stats.Moments
import CimbaModel.Generated.Stats

namespace CimbaModel.Stats
open CimbaModel.Generated.Stats

variable {K : Type} [Field K] [LinearOrder K] [IsStrictOrderedRing K]
set_option linter.unusedSectionVars false

/-! ### Closed forms of the accessors in terms of the fields (no list involved)

`70391967513698304` = `0x00FA151F1AB1E000` is `CMI_INITIALIZED`, the cookie every accessor release-asserts. -/

/-- what the theorems assume of libm's `sqrt` and `pow(·, 1.5)` (hypotheses, never axioms) -/
structure RootFns (sqrt : K → K) (pow : K → K → K) : Prop where
  sqrt_sq : ∀ x, 0 ≤ x → sqrt x * sqrt x = x
  sqrt_nonneg : ∀ x, 0 ≤ x → 0 ≤ sqrt x
  pow_sq : ∀ x, 0 ≤ x → pow x ((3 : K) / 2) * pow x ((3 : K) / 2) = x ^ 3
  pow_nonneg : ∀ x, 0 ≤ x → 0 ≤ pow x ((3 : K) / 2)

section formulas
variable {s : DataSummary K}

theorem variance_formula (hc : 1 < s.count) (hck : s.cookie = 70391967513698304) :
    cmb_datasummary_variance_dom s ∧ cmb_datasummary_variance s = s.m2 / ((s.count : K) - 1) := by
  have hcast : (((s.count - 1 : ℕ)) : K) = (s.count : K) - 1 := by
    rw [Nat.cast_sub (by omega)]; simp
  have hnz : (s.count : K) - 1 ≠ 0 := by
    have : (1 : K) < (s.count : K) := by exact_mod_cast hc
    intro e; linarith
  constructor
  · -- whatever way the guard `count > 1` reaches the two obligations (enclosing if, or implications of a conditional store)
    have h1 : 1 ≤ s.count := by omega
    simp only [cmb_datasummary_variance_dom, hck, true_and, and_true, gt_iff_lt, hc, if_true, hcast, forall_const, h1]
    first
      | exact hnz
      | exact ⟨by omega, hnz⟩
      | exact ⟨hnz, by omega⟩
      | (simp [hnz])
  · simp only [cmb_datasummary_variance, gt_iff_lt, hc, if_true, hcast]

theorem variance_small_count (hc : s.count ≤ 1) (hck : s.cookie = 70391967513698304) :
    cmb_datasummary_variance_dom s ∧ cmb_datasummary_variance s = 0 := by
  have hc' : ¬ 1 < s.count := by omega
  simp [cmb_datasummary_variance, cmb_datasummary_variance_dom, hc', hck]
  -- `try`: depending on how the regenerated guard is spelt `simp` leaves an arithmetic side goal or none
  try omega

theorem kurtosis_formula (hc : 3 < s.count) (hck : s.cookie = 70391967513698304) :
    (cmb_datasummary_kurtosis_dom s ↔ s.m2 ≠ 0) ∧
    cmb_datasummary_kurtosis s = ((s.count : K) - 1) / (((s.count : K) - 2) * ((s.count : K) - 3))
      * (((s.count : K) + 1) * ((s.count : K) * s.m4 / (s.m2 * s.m2) - 3) + 6) := by
  have h4 : (4 : K) ≤ (s.count : K) := by exact_mod_cast hc
  have hn2 : (s.count : K) - 2 ≠ 0 := by intro e; linarith
  have hn3 : (s.count : K) - 3 ≠ 0 := by intro e; linarith
  constructor
  · simp only [cmb_datasummary_kurtosis_dom, hck, true_and, and_true, gt_iff_lt, hc, if_true]
    constructor
    · intro hd e; rw [e] at hd; simp at hd
    · intro hm2; exact ⟨mul_ne_zero hm2 hm2, mul_ne_zero hn2 hn3⟩
  · simp only [cmb_datasummary_kurtosis, gt_iff_lt, hc, if_true]

theorem skewness_formula {sqrt : K → K} {pow : K → K → K} (hr : RootFns sqrt pow)
    (hc : 2 < s.count) (hck : s.cookie = 70391967513698304) (hm2pos : 0 < s.m2) :
    cmb_datasummary_skewness_dom sqrt pow s
      ∧ (cmb_datasummary_skewness sqrt pow s) ^ 2
          = ((s.count : K) * ((s.count : K) - 1)) * (s.count : K) * s.m3 ^ 2 / (s.m2 ^ 3 * ((s.count : K) - 2) ^ 2)
      ∧ ∃ F : K, 0 < F ∧ cmb_datasummary_skewness sqrt pow s = F * s.m3 := by
  have h3 : (3 : K) ≤ (s.count : K) := by exact_mod_cast hc
  set n : K := (s.count : K) with hndef
  have hn0 : 0 < n := by linarith
  have hn2 : 0 < n - 2 := by linarith
  have hnn : 0 < n * (n - 1) := mul_pos hn0 (by linarith)
  -- the roots: P = pow m2 1.5 > 0 with P² = m2³, A = sqrt n > 0, B = sqrt (n(n-1)) > 0
  have hP2 := hr.pow_sq s.m2 (le_of_lt hm2pos)
  have hP0 := hr.pow_nonneg s.m2 (le_of_lt hm2pos)
  have hPne : pow s.m2 ((3 : K) / 2) ≠ 0 := by
    intro e; rw [e] at hP2
    have : s.m2 ^ 3 = 0 := by rw [← hP2]; ring
    exact absurd (pow_eq_zero_iff (by norm_num) |>.mp this) (ne_of_gt hm2pos)
  have hPpos : 0 < pow s.m2 ((3 : K) / 2) := lt_of_le_of_ne hP0 (Ne.symm hPne)
  have hA2 := hr.sqrt_sq n (le_of_lt hn0)
  have hA0 := hr.sqrt_nonneg n (le_of_lt hn0)
  have hApos : 0 < sqrt n :=
    lt_of_le_of_ne hA0 (by intro e; rw [← e, zero_mul] at hA2; exact absurd hA2.symm (ne_of_gt hn0))
  have hB2 := hr.sqrt_sq (n * (n - 1)) (le_of_lt hnn)
  have hB0 := hr.sqrt_nonneg (n * (n - 1)) (le_of_lt hnn)
  have hBpos : 0 < sqrt (n * (n - 1)) :=
    lt_of_le_of_ne hB0 (by intro e; rw [← e, zero_mul] at hB2; exact absurd hB2.symm (ne_of_gt hnn))
  have hval : cmb_datasummary_skewness sqrt pow s
      = sqrt (n * (n - 1)) * (sqrt n * s.m3 / pow s.m2 ((3 : K) / 2)) / (n - 2) := by
    simp only [cmb_datasummary_skewness, gt_iff_lt, hc, if_true, hndef]
  have hfac : 0 < sqrt (n * (n - 1)) * sqrt n / (pow s.m2 ((3 : K) / 2) * (n - 2)) :=
    div_pos (mul_pos hBpos hApos) (mul_pos hPpos hn2)
  have hval' : cmb_datasummary_skewness sqrt pow s
      = (sqrt (n * (n - 1)) * sqrt n / (pow s.m2 ((3 : K) / 2) * (n - 2))) * s.m3 := by
    rw [hval]; generalize n - 2 = k; ring
  refine ⟨?_, ?_, _, hfac, hval'⟩
  · simp only [cmb_datasummary_skewness_dom, hck, true_and, and_true, gt_iff_lt, hc, if_true]
    exact ⟨hPne, ne_of_gt hn2⟩
  · rw [hval']
    have hn2' := ne_of_gt hn2
    have e : (sqrt (n * (n - 1)) * sqrt n / (pow s.m2 ((3 : K) / 2) * (n - 2)) * s.m3) ^ 2
        = (sqrt (n * (n - 1)) * sqrt (n * (n - 1))) * (sqrt n * sqrt n) * s.m3 ^ 2
          / ((pow s.m2 ((3 : K) / 2) * pow s.m2 ((3 : K) / 2)) * (n - 2) ^ 2) := by
      generalize n - 2 = k; ring
    rw [e, hA2, hB2, hP2]

end formulas

/-! ### The representation invariant of a weighted summary -/

/-- the sample values of a weighted sample list -/
def xsOf (l : List (K × K)) : List K := l.map Prod.fst

@[simp] theorem xsOf_nil : xsOf ([] : List (K × K)) = [] := rfl
@[simp] theorem xsOf_append (l₁ l₂ : List (K × K)) : xsOf (l₁ ++ l₂) = xsOf l₁ ++ xsOf l₂ := by simp [xsOf]
@[simp] theorem xsOf_single (p : K × K) : xsOf [p] = [p.1] := rfl
theorem xsOf_eq_nil {l : List (K × K)} : xsOf l = [] ↔ l = [] := by simp [xsOf]
theorem mem_xsOf {l : List (K × K)} {p : K × K} (h : p ∈ l) : p.1 ∈ xsOf l := List.mem_map_of_mem (f := Prod.fst) h

/-- `WRepr D s l`: the weighted summary `s` is what the library holds after the weighted samples `l` = [(x, w), …],
    all of strictly positive weight (zero-weight samples never enter), have been added. -/
structure WRepr (D : K) (s : WtdSummary K) (l : List (K × K)) : Prop where
  cookie : s.ds.cookie = (cmb_datasummary_initialize D s.ds).cookie
  count : s.ds.count = l.length
  pos : ∀ p ∈ l, 0 < p.2
  bounded : ∀ x ∈ xsOf l, -D ≤ x ∧ x ≤ D
  wsum : s.wsum = wtot l
  empty : l = [] → s.ds.min = D ∧ s.ds.max = -D ∧ s.ds.m1 = 0
  min_mem : xsOf l ≠ [] → s.ds.min ∈ xsOf l
  min_le : ∀ x ∈ xsOf l, s.ds.min ≤ x
  max_mem : xsOf l ≠ [] → s.ds.max ∈ xsOf l
  le_max : ∀ x ∈ xsOf l, x ≤ s.ds.max
  mean : s.ds.m1 * wtot l = wxsum l
  m2 : s.ds.m2 = WS 2 s.ds.m1 l
  m3 : s.ds.m3 = WS 3 s.ds.m1 l
  m4 : s.ds.m4 = WS 4 s.ds.m1 l

theorem WRepr.cookie_val {D : K} {s : WtdSummary K} {l : List (K × K)} (h : WRepr D s l) :
    s.ds.cookie = 70391967513698304 := by
  have := h.cookie; simpa [cmb_datasummary_initialize] using this

theorem winit_repr (D : K) (s0 : WtdSummary K) : WRepr D (cmb_wtdsummary_initialize D s0) [] := by
  constructor <;> simp [cmb_wtdsummary_initialize, cmb_datasummary_initialize]

/-- a zero-weight sample changes nothing at all (whatever the summary holds) -/
theorem wadd_zero_weight (s : WtdSummary K) (x : K) : (cmb_wtdsummary_add s x 0).2 = s ∧ (cmb_wtdsummary_add s x 0).1 = s.ds.count := by
  simp [cmb_wtdsummary_add]

/-- the samples that count: those of non-zero weight -/
def effective (l : List (K × K)) : List (K × K) := l.filter fun p => p.2 ≠ 0

/-! ### The fields are determined by the (effective) data; order does not matter -/

/-- weighted mean -/
def wmean (l : List (K × K)) : K := wxsum l / wtot l

theorem WRepr.m1_eq {D : K} {s : WtdSummary K} {l : List (K × K)} (h : WRepr D s l) (hne : l ≠ []) :
    s.ds.m1 = wmean l := by
  have hl : wtot l ≠ 0 := ne_of_gt (wtot_pos h.pos hne)
  rw [wmean, ← h.mean]; field_simp

theorem WRepr.unique {D : K} {s s' : WtdSummary K} {l : List (K × K)} (h : WRepr D s l) (h' : WRepr D s' l) : s = s' := by
  have hx : xsOf l = [] ↔ l = [] := xsOf_eq_nil
  have hm1 : s.ds.m1 = s'.ds.m1 := by
    by_cases hne : l = []
    · rw [(h.empty hne).2.2, (h'.empty hne).2.2]
    · rw [h.m1_eq hne, h'.m1_eq hne]
  have hmin : s.ds.min = s'.ds.min := by
    by_cases hne : l = []
    · rw [(h.empty hne).1, (h'.empty hne).1]
    · have hne' : xsOf l ≠ [] := fun e => hne (hx.mp e)
      exact le_antisymm (h.min_le _ (h'.min_mem hne')) (h'.min_le _ (h.min_mem hne'))
  have hmax : s.ds.max = s'.ds.max := by
    by_cases hne : l = []
    · rw [(h.empty hne).2.1, (h'.empty hne).2.1]
    · have hne' : xsOf l ≠ [] := fun e => hne (hx.mp e)
      exact le_antisymm (h'.le_max _ (h.max_mem hne')) (h.le_max _ (h'.max_mem hne'))
  have h2 := h.m2; have h3 := h.m3; have h4 := h.m4
  rw [hm1] at h2 h3 h4
  obtain ⟨ds, ws⟩ := s
  obtain ⟨ds', ws'⟩ := s'
  cases ds; cases ds'
  simp only [WtdSummary.mk.injEq, DataSummary.mk.injEq]
  exact ⟨⟨h.cookie_val.trans h'.cookie_val.symm, h.count.trans h'.count.symm, hmin, hmax, hm1, h2.trans h'.m2.symm,
    h3.trans h'.m3.symm, h4.trans h'.m4.symm⟩, h.wsum.trans h'.wsum.symm⟩

theorem WRepr.perm {D : K} {s : WtdSummary K} {l l' : List (K × K)} (h : WRepr D s l) (p : l.Perm l') : WRepr D s l' := by
  have px : (xsOf l).Perm (xsOf l') := p.map _
  have hnil : xsOf l' = [] ↔ xsOf l = [] :=
    ⟨fun e => by rw [e] at px; exact px.eq_nil, fun e => by rw [e] at px; exact px.symm.eq_nil⟩
  constructor
  · exact h.cookie
  · rw [h.count, p.length_eq]
  · intro q hq; exact h.pos q (p.mem_iff.mpr hq)
  · intro x hx; exact h.bounded x (px.mem_iff.mpr hx)
  · rw [h.wsum]; exact wtot_perm p
  · intro e; subst e; exact h.empty p.eq_nil
  · intro hne; exact px.mem_iff.mp (h.min_mem (fun e => hne (hnil.mpr e)))
  · intro x hx; exact h.min_le x (px.mem_iff.mpr hx)
  · intro hne; exact px.mem_iff.mp (h.max_mem (fun e => hne (hnil.mpr e)))
  · intro x hx; exact h.le_max x (px.mem_iff.mpr hx)
  · rw [← wtot_perm p, ← wxsum_perm p]; exact h.mean
  · rw [h.m2]; exact WS_perm p 2 _
  · rw [h.m3]; exact WS_perm p 3 _
  · rw [h.m4]; exact WS_perm p 4 _

/-! ### Merge of weighted summaries -/

theorem wmerge_repr {D : K} {t a b : WtdSummary K} {l₁ l₂ : List (K × K)} (ha : WRepr D a l₁) (hb : WRepr D b l₂) :
    cmb_wtdsummary_merge_dom D t a b ∧ WRepr D (cmb_wtdsummary_merge D t a b).2 (l₁ ++ l₂)
      ∧ (cmb_wtdsummary_merge D t a b).1 = (l₁ ++ l₂).length := by
  have hca := ha.cookie_val
  have hcb := hb.cookie_val
  by_cases h2 : l₂ = []
  · subst h2
    have hb0 : b.ds.count = 0 := by simpa using hb.count
    refine ⟨?_, ?_, ?_⟩
    · simp [cmb_wtdsummary_merge_dom, cmb_wtdsummary_count_dom, cmb_datasummary_count_dom, cmb_wtdsummary_count,
        cmb_datasummary_count, hca, hcb, hb0]
    · simpa [cmb_wtdsummary_merge, cmb_wtdsummary_count, cmb_datasummary_count, hb0] using ha
    · simp [cmb_wtdsummary_merge, cmb_wtdsummary_count, cmb_datasummary_count, hb0, ha.count]
  by_cases h1 : l₁ = []
  · subst h1
    have ha0 : a.ds.count = 0 := by simpa using ha.count
    have hb0 : b.ds.count ≠ 0 := by rw [hb.count]; simpa [List.length_eq_zero_iff] using h2
    refine ⟨?_, ?_, ?_⟩
    · simp [cmb_wtdsummary_merge_dom, cmb_wtdsummary_count_dom, cmb_datasummary_count_dom, cmb_wtdsummary_count,
        cmb_datasummary_count, hca, hcb, hb0, ha0]
    · simpa [cmb_wtdsummary_merge, cmb_wtdsummary_count, cmb_datasummary_count, hb0, ha0] using hb
    · simp [cmb_wtdsummary_merge, cmb_wtdsummary_count, cmb_datasummary_count, hb0, ha0]; exact hb.count
  have ha0 : a.ds.count ≠ 0 := by rw [ha.count]; simpa [List.length_eq_zero_iff] using h1
  have hb0 : b.ds.count ≠ 0 := by rw [hb.count]; simpa [List.length_eq_zero_iff] using h2
  have hW : wtot l₁ + wtot l₂ ≠ 0 := by
    have := wtot_pos ha.pos h1; have := wtot_pos hb.pos h2
    intro e; linarith
  have hx1 : xsOf l₁ ≠ [] := fun e => h1 (xsOf_eq_nil.mp e)
  have hx2 : xsOf l₂ ≠ [] := fun e => h2 (xsOf_eq_nil.mp e)
  have hmin := min_merge (ha.min_mem hx1) (hb.min_mem hx2) ha.min_le hb.min_le
  have hmax := max_merge (ha.max_mem hx1) (hb.max_mem hx2) ha.le_max hb.le_max
  have hdom : cmb_wtdsummary_merge_dom D t a b := by
    simp [cmb_wtdsummary_merge_dom, cmb_wtdsummary_count_dom, cmb_datasummary_count_dom, cmb_wtdsummary_count,
      cmb_datasummary_count, cmb_wtdsummary_initialize_dom, cmb_datasummary_initialize_dom, hca, hcb, ha0, hb0,
      ha.wsum, hb.wsum]
    exact hW
  -- the generated merge is unfolded once; every field below is a projection of the resulting term
  generalize hr : cmb_wtdsummary_merge D t a b = r
  simp only [cmb_wtdsummary_merge, cmb_wtdsummary_count, cmb_datasummary_count, cmb_wtdsummary_initialize,
    cmb_datasummary_initialize, ha0, hb0, if_false] at hr
  subst hr
  refine ⟨hdom, ?_, ?_⟩
  · constructor
    · rfl
    · simp [ha.count, hb.count]
    · intro p hp
      rcases List.mem_append.mp hp with hp | hp
      · exact ha.pos p hp
      · exact hb.pos p hp
    · intro x hx
      rw [xsOf_append] at hx
      rcases List.mem_append.mp hx with hx | hx
      · exact ha.bounded x hx
      · exact hb.bounded x hx
    · dsimp only; rw [ha.wsum, hb.wsum, wtot_append]
    · intro e; exact absurd (List.append_eq_nil_iff.mp e).1 h1
    · intro _; rw [xsOf_append]; exact hmin.1
    · rw [xsOf_append]; exact hmin.2
    · intro _; rw [xsOf_append]; exact hmax.1
    · rw [xsOf_append]; exact hmax.2
    · dsimp only; rw [ha.wsum, hb.wsum]; exact merge_mean ha.mean hb.mean hW
    -- `try ring`: the regenerated formula may already be in the shape of `merge2..4`, or differ by re-association
    · dsimp only; rw [ha.wsum, hb.wsum, merge2 ha.mean hb.mean hW, ha.m2, hb.m2]
      try ring
    · dsimp only; rw [ha.wsum, hb.wsum, merge3 ha.mean hb.mean hW, ha.m2, hb.m2, ha.m3, hb.m3]
      try ring
    · dsimp only; rw [ha.wsum, hb.wsum, merge4 ha.mean hb.mean hW, ha.m2, hb.m2, ha.m3, hb.m3, ha.m4, hb.m4]
      try ring
  · simp [ha.count, hb.count]

theorem wmerge_comm {D : K} {t t' a b : WtdSummary K} {l₁ l₂ : List (K × K)} (ha : WRepr D a l₁) (hb : WRepr D b l₂) :
    (cmb_wtdsummary_merge D t a b).2 = (cmb_wtdsummary_merge D t' b a).2 :=
  (wmerge_repr (t := t) ha hb).2.1.unique ((wmerge_repr (t := t') hb ha).2.1.perm List.perm_append_comm)

/-! ### The one-sample update is the merge with a one-sample summary -/

/-- the summary of the single sample `x` with weight `w` -/
def wsingle (x w : K) : WtdSummary K :=
  ⟨{ cookie := 70391967513698304, count := 1, min := x, max := x, m1 := x, m2 := 0, m3 := 0, m4 := 0 }, w⟩

theorem wsingle_repr {D x w : K} (hw : 0 < w) (hx : -D ≤ x ∧ x ≤ D) : WRepr D (wsingle x w) [(x, w)] := by
  constructor <;> simp [wsingle, cmb_datasummary_initialize, hw, hx.1, hx.2, mul_comm]

/-- `cmb_wtdsummary_add(s, x, w)` with `w ≠ 0` is `cmb_wtdsummary_merge(·, s, single x w)`: the update formulas are the
    merge formulas at `m2 = m3 = m4 = 0` for the second operand; on an empty `s` both return the single sample. -/
theorem wadd_eq_merge (D : K) (t s : WtdSummary K) (x w : K) (hw : w ≠ 0) (hck : s.ds.cookie = 70391967513698304) :
    cmb_wtdsummary_add s x w = cmb_wtdsummary_merge D t s (wsingle x w) := by
  have h1 : (1 : ℕ) ≠ 0 := one_ne_zero
  by_cases hc : s.ds.count = 0
  · simp only [cmb_wtdsummary_add, cmb_wtdsummary_merge, cmb_wtdsummary_count, cmb_datasummary_count, wsingle,
      hw, hc, h1, if_true, if_false, hck]
  · simp only [cmb_wtdsummary_add, cmb_wtdsummary_merge, cmb_wtdsummary_count, cmb_datasummary_count,
      cmb_wtdsummary_initialize, cmb_datasummary_initialize, wsingle, hw, hc, h1, if_false]
    -- field by field, so that the two functions may write their sums and products differently
    rw [Prod.mk.injEq, WtdSummary.mk.injEq, DataSummary.mk.injEq]
    exact ⟨rfl, ⟨hck, rfl, ite_lt_comm _ _, ite_gt_comm _ _, by ring, by ring, by ring, by ring⟩, by ring⟩

theorem wadd_repr {D : K} {s : WtdSummary K} {l : List (K × K)} {x w : K} (h : WRepr D s l) (hw : 0 ≤ w)
    (hx : -D ≤ x ∧ x ≤ D) :
    cmb_wtdsummary_add_dom s x w ∧ WRepr D (cmb_wtdsummary_add s x w).2 (l ++ effective [(x, w)])
      ∧ (cmb_wtdsummary_add s x w).1 = (l ++ effective [(x, w)]).length := by
  have hck := h.cookie_val
  by_cases hw0 : w = 0
  · subst hw0
    have he : effective [(x, (0 : K))] = [] := by simp [effective]
    rw [he, List.append_nil, (wadd_zero_weight s x).1, (wadd_zero_weight s x).2]
    exact ⟨by simp [cmb_wtdsummary_add_dom, hck], h, h.count⟩
  have he : effective [(x, w)] = [(x, w)] := by simp [effective, hw0]
  obtain ⟨hd, hr, hc⟩ := wmerge_repr (t := s) h (wsingle_repr (lt_of_le_of_ne hw (Ne.symm hw0)) hx)
  rw [he, wadd_eq_merge D s s x w hw0 hck]
  refine ⟨?_, hr, hc⟩
  -- definedness: the only division is by `wsum + w`, which is the merge's `w1 + w2`
  by_cases hc0 : s.ds.count = 0
  · simp [cmb_wtdsummary_add_dom, hck, hw, hw0, hc0]
  · have hW : s.wsum + w ≠ 0 := by
      simpa [cmb_wtdsummary_merge_dom, cmb_wtdsummary_count_dom, cmb_datasummary_count_dom, cmb_wtdsummary_count,
        cmb_datasummary_count, cmb_wtdsummary_initialize_dom, cmb_datasummary_initialize_dom, wsingle, hck, hc0] using hd
    simp only [cmb_wtdsummary_add_dom, hck, hw, hw0, hc0, if_false, true_and, and_true]
    exact hW

/-! ### Whole weighted sequences (zero weights allowed in the input) -/

theorem effective_append (l₁ l₂ : List (K × K)) : effective (l₁ ++ l₂) = effective l₁ ++ effective l₂ := by
  simp [effective]

theorem effective_cons (p : K × K) (l : List (K × K)) : effective (p :: l) = effective [p] ++ effective l := by
  rw [← effective_append]; rfl

theorem wtot_effective (l : List (K × K)) : wtot (effective l) = wtot l := by
  induction l with
  | nil => rfl
  | cons p l ih =>
    by_cases hp : p.2 = 0
    · simp [effective, hp] at ih ⊢; exact ih
    · simp [effective, hp] at ih ⊢; rw [ih]

theorem wxsum_effective (l : List (K × K)) : wxsum (effective l) = wxsum l := by
  induction l with
  | nil => rfl
  | cons p l ih =>
    by_cases hp : p.2 = 0
    · simp [effective, hp] at ih ⊢; exact ih
    · simp [effective, hp] at ih ⊢; rw [ih]

/-- the weighted summary of a sequence of (x, w): `initialize`, then `add` for every pair in turn -/
def wrun (D : K) (s0 : WtdSummary K) (l : List (K × K)) : WtdSummary K :=
  l.foldl (fun s p => (cmb_wtdsummary_add s p.1 p.2).2) (cmb_wtdsummary_initialize D s0)

theorem wfoldl_repr {D : K} (l : List (K × K)) (hb : ∀ p ∈ l, 0 ≤ p.2 ∧ -D ≤ p.1 ∧ p.1 ≤ D) :
    ∀ (s : WtdSummary K) (l0 : List (K × K)), WRepr D s l0 →
      WRepr D (l.foldl (fun s p => (cmb_wtdsummary_add s p.1 p.2).2) s) (l0 ++ effective l) := by
  induction l with
  | nil => intro s l0 h; simpa [effective] using h
  | cons p l ih =>
    intro s l0 h
    have hp := hb p (by simp)
    have h1 := (wadd_repr h hp.1 hp.2).2.1
    have := ih (fun q hq => hb q (by simp [hq])) _ _ h1
    rw [effective_cons, ← List.append_assoc]
    simpa using this

theorem wrun_repr (D : K) (s0 : WtdSummary K) (l : List (K × K)) (hb : ∀ p ∈ l, 0 ≤ p.2 ∧ -D ≤ p.1 ∧ p.1 ≤ D) :
    WRepr D (wrun D s0 l) (effective l) := by
  have := wfoldl_repr l hb _ _ (winit_repr D s0)
  simpa [wrun] using this

/-! ### The normalised moment sums used by the weighted accessors -/

section normalized
variable {D : K} {s : WtdSummary K} {l : List (K × K)}

theorem normalized_of_pos (hW : 0 < s.wsum) :
    cmi_wtdsummary_normalized_dom s ∧
    cmi_wtdsummary_normalized s = { s.ds with m2 := s.ds.m2 * ((s.ds.count : K) / s.wsum),
                                              m3 := s.ds.m3 * ((s.ds.count : K) / s.wsum),
                                              m4 := s.ds.m4 * ((s.ds.count : K) / s.wsum) } := by
  constructor
  · simp only [cmi_wtdsummary_normalized_dom, gt_iff_lt, hW, if_true, and_true]
    exact ne_of_gt hW
  · simp only [cmi_wtdsummary_normalized, gt_iff_lt, hW, if_true]

theorem normalized_of_not_pos (hW : ¬ 0 < s.wsum) :
    cmi_wtdsummary_normalized_dom s ∧ cmi_wtdsummary_normalized s = s.ds := by
  simp [cmi_wtdsummary_normalized_dom, cmi_wtdsummary_normalized, hW]

theorem normalized_dom_always (s : WtdSummary K) : cmi_wtdsummary_normalized_dom s := by
  by_cases hW : 0 < s.wsum
  · exact (normalized_of_pos hW).1
  · exact (normalized_of_not_pos hW).1

/-- when the weights sum to the sample count (in particular: unit weights) nothing is rescaled -/
theorem normalized_unit (hw : s.wsum = (s.ds.count : K)) : cmi_wtdsummary_normalized s = s.ds := by
  by_cases hW : 0 < s.wsum
  · rw [(normalized_of_pos hW).2, ← hw, div_self (ne_of_gt hW)]
    simp
  · exact (normalized_of_not_pos hW).2

theorem WRepr.wsum_pos (h : WRepr D s l) (hne : l ≠ []) : 0 < s.wsum := by
  rw [h.wsum]; exact wtot_pos h.pos hne

theorem WRepr.m2_nonneg (h : WRepr D s l) : 0 ≤ s.ds.m2 := by
  rw [h.m2]; exact WS_two_nonneg (fun p hp => (h.pos p hp).le) _

end normalized

/-! ### Rescaling all weights by a positive constant -/

theorem xsOf_scaleW (c : K) (l : List (K × K)) : xsOf (scaleW c l) = xsOf l := by
  simp [xsOf, scaleW, Function.comp_def]

theorem effective_scaleW {c : K} (hc : c ≠ 0) (l : List (K × K)) : effective (scaleW c l) = scaleW c (effective l) := by
  induction l with
  | nil => rfl
  | cons p l ih =>
    by_cases hp : p.2 = 0
    · simp [effective, scaleW, hp] at ih ⊢; exact ih
    · simp [effective, scaleW, hp, hc] at ih ⊢; exact ih

/-- the summary of the rescaled data: same count, extremes and mean; weight sum and moment sums multiplied by `c` -/
theorem WRepr.scale {D c : K} {s s' : WtdSummary K} {l : List (K × K)} (h : WRepr D s l) (h' : WRepr D s' (scaleW c l))
    (hc : 0 < c) :
    s' = { ds := { s.ds with m2 := c * s.ds.m2, m3 := c * s.ds.m3, m4 := c * s.ds.m4 }, wsum := c * s.wsum } := by
  apply h'.unique
  have hnil : scaleW c l = [] ↔ l = [] := by simp [scaleW]
  constructor
  · exact h.cookie
  · simp [h.count]
  · intro p hp
    simp only [scaleW, List.mem_map] at hp
    obtain ⟨q, hq, rfl⟩ := hp
    exact mul_pos hc (h.pos q hq)
  · rw [xsOf_scaleW]; exact h.bounded
  · simp [h.wsum, wtot_scaleW]
  · intro e; exact h.empty (hnil.mp e)
  · rw [xsOf_scaleW]; exact h.min_mem
  · rw [xsOf_scaleW]; exact h.min_le
  · rw [xsOf_scaleW]; exact h.max_mem
  · rw [xsOf_scaleW]; exact h.le_max
  · rw [wtot_scaleW, wxsum_scaleW, ← h.mean]; simp only; ring
  · simp only; rw [WS_scaleW, h.m2]
  · simp only; rw [WS_scaleW, h.m3]
  · simp only; rw [WS_scaleW, h.m4]

theorem normalized_scale {D c : K} {s s' : WtdSummary K} {l : List (K × K)} (h : WRepr D s l)
    (h' : WRepr D s' (scaleW c l)) (hc : 0 < c) :
    cmi_wtdsummary_normalized s' = cmi_wtdsummary_normalized s := by
  rw [h.scale h' hc]
  by_cases hne : l = []
  · subst hne
    have hw : s.wsum = 0 := by simpa using h.wsum
    have h2 := h.m2; have h3 := h.m3; have h4 := h.m4
    simp only [WS_nil] at h2 h3 h4
    have e : ({ ds := { s.ds with m2 := c * s.ds.m2, m3 := c * s.ds.m3, m4 := c * s.ds.m4 }, wsum := c * s.wsum }
        : WtdSummary K) = s := by
      obtain ⟨ds, ws⟩ := s
      cases ds
      simp_all
    rw [e]
  · have hW := h.wsum_pos hne
    have hW' : 0 < c * s.wsum := mul_pos hc hW
    rw [(normalized_of_pos hW).2, (normalized_of_pos (s := _) hW').2]
    have := ne_of_gt hW; have := ne_of_gt hc
    simp only [DataSummary.mk.injEq, true_and]
    refine ⟨?_, ?_, ?_⟩ <;> field_simp

/-! ### Textbook weighted sample statistics (reliability weights; n = number of samples of non-zero weight) -/

/-- weighted (biased) central moment Σ w (x − mean)^k / Σ w -/
def wcmoment (k : ℕ) (l : List (K × K)) : K := WS k (wmean l) l / wtot l
/-- weighted sample variance, n/(n−1) · Σ w (x − mean)² / Σ w  (NIST/Dataplot convention; with equal weights the
    ordinary unbiased sample variance) -/
def wsampleVariance (l : List (K × K)) : K := (l.length : K) / ((l.length : K) - 1) * wcmoment 2 l
def wsampleKurtosis (l : List (K × K)) : K :=
  let n : K := l.length
  (n - 1) / ((n - 2) * (n - 3)) * ((n + 1) * (wcmoment 4 l / (wcmoment 2 l) ^ 2 - 3) + 6)
def wsampleSkewnessSq (l : List (K × K)) : K :=
  let n : K := l.length
  n * (n - 1) / (n - 2) ^ 2 * ((wcmoment 3 l) ^ 2 / (wcmoment 2 l) ^ 3)

/-- the ratios of weighted central moments in terms of the normalised sums (`n / W` is the normalising factor) -/
theorem wratio4 (n W a b : K) (hn : n ≠ 0) (hW : W ≠ 0) :
    n * (a * (n / W)) / (b * (n / W) * (b * (n / W))) = a / W / (b / W) ^ 2 := by
  field_simp

theorem wratio3 (n W a b : K) (hn : n ≠ 0) (hW : W ≠ 0) :
    n * (a * (n / W)) ^ 2 / (b * (n / W)) ^ 3 = (a / W) ^ 2 / (b / W) ^ 3 := by
  field_simp

section waccessors
variable {D : K} {s : WtdSummary K} {l : List (K × K)}

theorem wmean_reported (h : WRepr D s l) (hne : l ≠ []) :
    cmb_wtdsummary_mean_dom s ∧ cmb_wtdsummary_mean s = wmean l := by
  simp only [cmb_wtdsummary_mean_dom, cmb_wtdsummary_mean, cmb_datasummary_mean_dom, cmb_datasummary_mean,
    h.cookie_val, true_and, and_true]
  exact h.m1_eq hne

theorem wvariance_reported (h : WRepr D s l) (hn : 2 ≤ l.length) :
    cmb_wtdsummary_variance_dom s ∧ cmb_wtdsummary_variance s = wsampleVariance l := by
  have hne : l ≠ [] := by intro e; subst e; simp at hn
  have hW := h.wsum_pos hne
  obtain ⟨hnd, hnv⟩ := normalized_of_pos hW
  have hcnt : 1 < (cmi_wtdsummary_normalized s).count := by rw [hnv]; simp only; rw [h.count]; omega
  obtain ⟨hd, hv⟩ := variance_formula (s := cmi_wtdsummary_normalized s) hcnt (by rw [hnv]; exact h.cookie_val)
  refine ⟨by simp only [cmb_wtdsummary_variance_dom]; exact ⟨hnd, hd, trivial⟩, ?_⟩
  simp only [cmb_wtdsummary_variance]
  rw [hv, hnv]
  simp only [wsampleVariance, wcmoment]
  rw [h.count, h.m2, h.m1_eq hne, h.wsum]
  have : (2 : K) ≤ (l.length : K) := by exact_mod_cast hn
  have : (l.length : K) - 1 ≠ 0 := by intro e; linarith
  have := ne_of_gt (wtot_pos h.pos hne)
  field_simp

theorem wkurtosis_reported (h : WRepr D s l) (hn : 4 ≤ l.length) (hv : WS 2 (wmean l) l ≠ 0) :
    cmb_wtdsummary_kurtosis_dom s ∧ cmb_wtdsummary_kurtosis s = wsampleKurtosis l := by
  have hne : l ≠ [] := by intro e; subst e; simp at hn
  have hW := h.wsum_pos hne
  obtain ⟨hnd, hnv⟩ := normalized_of_pos hW
  have hcnt : 3 < (cmi_wtdsummary_normalized s).count := by rw [hnv]; simp only; rw [h.count]; omega
  obtain ⟨hd, hk⟩ := kurtosis_formula (s := cmi_wtdsummary_normalized s) hcnt (by rw [hnv]; exact h.cookie_val)
  have hn0 : (l.length : K) ≠ 0 := Nat.cast_ne_zero.mpr (by omega)
  have hWne := ne_of_gt (wtot_pos h.pos hne)
  have hm2n : (cmi_wtdsummary_normalized s).m2 ≠ 0 := by
    rw [hnv]; simp only
    rw [h.count, h.m2, h.m1_eq hne, h.wsum]
    exact mul_ne_zero hv (div_ne_zero hn0 hWne)
  refine ⟨by simp only [cmb_wtdsummary_kurtosis_dom]; exact ⟨hnd, hd.mpr hm2n, trivial⟩, ?_⟩
  simp only [cmb_wtdsummary_kurtosis]
  rw [hk, hnv]
  simp only [wsampleKurtosis, wcmoment]
  rw [h.count, h.m2, h.m4, h.m1_eq hne, h.wsum, wratio4 _ _ _ _ hn0 hWne]

theorem wskewness_reported {sqrt : K → K} {pow : K → K → K} (hr : RootFns sqrt pow) (h : WRepr D s l)
    (hn : 3 ≤ l.length) (hv : WS 2 (wmean l) l ≠ 0) :
    cmb_wtdsummary_skewness_dom sqrt pow s
      ∧ (cmb_wtdsummary_skewness sqrt pow s) ^ 2 = wsampleSkewnessSq l
      ∧ (0 < WS 3 (wmean l) l → 0 < cmb_wtdsummary_skewness sqrt pow s)
      ∧ (WS 3 (wmean l) l < 0 → cmb_wtdsummary_skewness sqrt pow s < 0) := by
  have hne : l ≠ [] := by intro e; subst e; simp at hn
  have hW := h.wsum_pos hne
  obtain ⟨hnd, hnv⟩ := normalized_of_pos hW
  have hcnt : 2 < (cmi_wtdsummary_normalized s).count := by rw [hnv]; simp only; rw [h.count]; omega
  have h3 : (3 : K) ≤ (l.length : K) := by exact_mod_cast hn
  have hn0 : (0 : K) < (l.length : K) := by linarith
  have hWpos := wtot_pos h.pos hne
  have hWne := ne_of_gt hWpos
  have hm2pos0 : 0 < s.ds.m2 := lt_of_le_of_ne h.m2_nonneg (by rw [h.m2, h.m1_eq hne]; exact fun e => hv e.symm)
  have hfpos : 0 < (l.length : K) / wtot l := div_pos hn0 hWpos
  have hm2pos : 0 < (cmi_wtdsummary_normalized s).m2 := by
    rw [hnv]; simp only; rw [h.count, h.wsum]; exact mul_pos hm2pos0 hfpos
  obtain ⟨hd, hsq, F, hF, hval⟩ :=
    skewness_formula hr (s := cmi_wtdsummary_normalized s) hcnt (by rw [hnv]; exact h.cookie_val) hm2pos
  have hm3 : (cmi_wtdsummary_normalized s).m3 = WS 3 (wmean l) l * ((l.length : K) / wtot l) := by
    rw [hnv]; simp only; rw [h.count, h.m3, h.m1_eq hne, h.wsum]
  refine ⟨by simp only [cmb_wtdsummary_skewness_dom]; exact ⟨hnd, hd, trivial⟩, ?_, ?_, ?_⟩
  · simp only [cmb_wtdsummary_skewness]
    rw [hsq, hnv]
    simp only [wsampleSkewnessSq, wcmoment]
    rw [h.count, h.m2, h.m3, h.m1_eq hne, h.wsum, ← wratio3 _ _ _ _ (ne_of_gt hn0) hWne]
    generalize (l.length : K) - 2 = k
    ring
  · intro hp; simp only [cmb_wtdsummary_skewness]; rw [hval, hm3]; exact mul_pos hF (mul_pos hp hfpos)
  · intro hp; simp only [cmb_wtdsummary_skewness]; rw [hval, hm3]
    exact mul_neg_of_pos_of_neg hF (mul_neg_of_neg_of_pos hp hfpos)

end waccessors

end CimbaModel.Stats
