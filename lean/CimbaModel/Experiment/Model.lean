/-
  The experiment runner of src/cimba.c as a transition system over interleavings.  Core Lean only
  (linked into the compiled driver `expmain`).

  Actors: the main thread (`cimba_run_experiment`) and W worker threads (`worker_thread_func`).
  A schedule is a list of actors: who performs its next atomic action.  An actor whose next action is
  not enabled (a worker that has not been created yet or has left its loop; the main thread blocked in
  `pthread_join` on a worker that has not finished) stutters, so every list of actors is a schedule.

  Atomic actions, exactly those of the C code:
    main    : one `pthread_create`            (spawning k     → spawning (k+1), while spawnCond k W)
              one `pthread_join` returning    (joining k      → joining (k+1), enabled iff worker k is done)
              leaving the join loop           (joining k      → returned, when ¬ joinCond k W)
    worker  : `idx = __atomic_fetch_add(&next, incr)`   (idle → fetched next; next += incr)       [atomicFetchAdd]
              or `idx = next` / `next = idx + incr`     (idle → loaded v → fetched v)              [loadThenStore]
              `if (stopWhen idx total) break;` else call the trial function on `elemAddr base idx sz`
                                                        (fetched i → done | running i)
              the trial function returns               (running i → idle)
  The code parameters (`fetchMode`, `fetchIncr`, `initNext`, `stopWhen`, `elemAddr`, `spawnCond`, `joinCond`)
  are passed in as a `Code` record; Experiment/Current.lean (`currentCode`) assembles it from the definitions that
  Generated/Dispenser.lean reads off the current C source.

  Ghost history (never read by a step): `calls`, `finished`, `discarded`.
-/
import CimbaModel.Experiment.Types

namespace CimbaModel.Experiment

/-- what the C source says (filled from Generated/Dispenser.lean) -/
structure Code where
  fetchMode : FetchMode
  fetchIncr : Nat
  initNext : Nat
  resetsNext : Bool            -- `initNext` is stored at the start of every call of cimba_run_experiment (not only statically)
  stopWhen : Nat → Nat → Bool
  elemAddr : Nat → Nat → Nat → Nat
  spawnStart : Nat
  spawnCond : Nat → Nat → Bool
  joinStart : Nat
  joinCond : Nat → Nat → Bool

/-- the dispenser as documented: one atomic fetch-and-add of 1 from 0, stop at `idx ≥ n`, element `base + idx·sz`,
    create and join every one of the W threads -/
def Code.reference : Code :=
  { fetchMode := .atomicFetchAdd, fetchIncr := 1, initNext := 0, resetsNext := true,
    stopWhen := fun i n => decide (n ≤ i), elemAddr := fun b i s => b + i * s,
    spawnStart := 0, spawnCond := fun k W => decide (k < W), joinStart := 0, joinCond := fun k W => decide (k < W) }

/-- parameters of one call of `cimba_run_experiment` -/
structure Params where
  n : Nat        -- number of trials
  W : Nat        -- number of worker threads (logical cores)
  sz : Nat       -- size of one trial struct
  base : Nat     -- address of the trial array
  deriving Repr, DecidableEq

inductive WState where
  | idle                 -- about to fetch
  | loaded (v : Nat)     -- (loadThenStore only) has read the counter, has not yet stored
  | fetched (i : Nat)    -- holds index i, has not yet compared it with the bound
  | running (i : Nat)    -- inside the trial function for index i
  | done                 -- left the loop (thread finished)
  deriving Repr, DecidableEq, BEq

inductive Main where
  | spawning (k : Nat)   -- next thread to create
  | joining (k : Nat)    -- next thread to join
  | returned
  deriving Repr, DecidableEq, BEq

inductive Actor where
  | main
  | worker (w : Nat)
  deriving Repr, DecidableEq, BEq

structure State where
  next : Nat                      -- cmg_next_trial_idx
  ws : List WState                -- one per worker
  created : List Bool             -- thread w has been created
  main : Main
  calls : List (Nat × Nat)        -- ghost: (index, element address) of every call started, latest first
  finished : List Nat             -- ghost: indices whose call has returned, latest first
  discarded : List Nat            -- ghost: indices fetched and found past the bound, latest first
  deriving Repr, DecidableEq

def init (c : Code) (p : Params) : State :=
  { next := c.initNext, ws := List.replicate p.W .idle, created := List.replicate p.W false,
    main := .spawning c.spawnStart, calls := [], finished := [], discarded := [] }

def stepMain (c : Code) (p : Params) (s : State) : State :=
  match s.main with
  | .spawning k =>
    if c.spawnCond k p.W then { s with created := s.created.set k true, main := .spawning (k + 1) }
    else { s with main := .joining c.joinStart }
  | .joining k =>
    if c.joinCond k p.W then
      (if s.ws[k]? = some .done then { s with main := .joining (k + 1) } else s)
    else { s with main := .returned }
  | .returned => s

def stepWorker (c : Code) (p : Params) (s : State) (w : Nat) : State :=
  if s.created[w]? = some true then
    match s.ws[w]? with
    | some .idle =>
      match c.fetchMode with
      | .atomicFetchAdd => { s with next := s.next + c.fetchIncr, ws := s.ws.set w (.fetched s.next) }
      | .loadThenStore => { s with ws := s.ws.set w (.loaded s.next) }
    | some (.loaded v) => { s with next := v + c.fetchIncr, ws := s.ws.set w (.fetched v) }
    | some (.fetched i) =>
      if c.stopWhen i p.n then { s with ws := s.ws.set w .done, discarded := i :: s.discarded }
      else { s with ws := s.ws.set w (.running i), calls := (i, c.elemAddr p.base i p.sz) :: s.calls }
    | some (.running i) => { s with ws := s.ws.set w .idle, finished := i :: s.finished }
    | some .done => s
    | none => s
  else s

def step (c : Code) (p : Params) (s : State) : Actor → State
  | .main => stepMain c p s
  | .worker w => stepWorker c p s w

/-- the state after a schedule -/
def run (c : Code) (p : Params) (sched : List Actor) : State :=
  sched.foldl (step c p) (init c p)

/-- value of the shared counter when an experiment starts, given what the previous experiment of the process left in it
    (`initNext`, the static initialiser, for the first one) -/
def startNext (c : Code) (prev : Nat) : Nat := if c.resetsNext then c.initNext else prev

def initFrom (c : Code) (p : Params) (prev : Nat) : State := { init c p with next := startNext c prev }

def runFrom (c : Code) (p : Params) (prev : Nat) (sched : List Actor) : State :=
  sched.foldl (step c p) (initFrom c p prev)

/-- one process calling `cimba_run_experiment` several times, one call after the other: the states in which the calls end -/
def runSeq (c : Code) : Nat → List (Params × List Actor) → List State
  | _, [] => []
  | prev, (p, sched) :: rest => runFrom c p prev sched :: runSeq c (runFrom c p prev sched).next rest

def runProcess (c : Code) (exps : List (Params × List Actor)) : List State := runSeq c c.initNext exps

/-- indices held by workers that have fetched but not yet compared -/
def pendingOf : WState → List Nat
  | .fetched i => [i]
  | _ => []

/-- indices whose trial function is executing -/
def runningOf : WState → List Nat
  | .running i => [i]
  | _ => []

def State.pending (s : State) : List Nat := s.ws.flatMap pendingOf
def State.inflight (s : State) : List Nat := s.ws.flatMap runningOf

def allDone (s : State) : Bool := s.ws.all (· == .done)

/-- a round-robin schedule long enough to finish: used by the driver and by the non-vacuity examples -/
def roundRobin (W rounds : Nat) : List Actor :=
  (List.range rounds).flatMap fun _ => Actor.main :: (List.range W).map Actor.worker

end CimbaModel.Experiment
