/-
  Consequences of the run invariant: exactly-once in every reachable and every terminal state, the join condition.
  Core Lean only.
-/
import CimbaModel.Experiment.Invariant

namespace CimbaModel.Experiment

theorem count_filter_lt (i n : Nat) : ∀ l : List Nat,
    List.count i (l.filter (fun x => decide (x < n))) = if i < n then List.count i l else 0 := by
  intro l
  by_cases hi : i < n
  · rw [if_pos hi, List.count_filter (by simpa using hi)]
  · rw [if_neg hi]
    exact List.count_eq_zero_of_not_mem fun hm => hi (by simpa using (List.mem_filter.1 hm).2)

/-- In every state satisfying the invariant the trials in flight (fetched and in range, or executing) together with the
    finished ones are exactly the indices below `min next n`, each once. -/
theorem exact_of_inv (p : Params) (s : State) (h : RunInv p s) :
    ((s.pending.filter (fun x => decide (x < p.n))) ++ s.inflight ++ s.finished).Perm (List.range (min s.next p.n)) := by
  rw [List.perm_iff_count]
  intro i
  have h0 := h.occ i
  rw [List.count_range] at h0
  rw [List.count_append, List.count_append, count_filter_lt, List.count_range]
  by_cases hi : i < p.n
  · have hd : List.count i s.discarded = 0 :=
      List.count_eq_zero_of_not_mem fun hm => Nat.lt_irrefl _ (Nat.lt_of_lt_of_le hi (h.disc_ge i hm))
    simp only [Nat.lt_min, hi, and_true, if_true]; omega
  · have := h.run_lt i (Nat.le_of_not_lt hi)
    simp only [Nat.lt_min, hi, and_false, if_false]; omega

theorem handed_out_of_inv (p : Params) (s : State) (h : RunInv p s) :
    (s.pending ++ s.inflight ++ s.finished ++ s.discarded).Perm (List.range s.next) := by
  rw [List.perm_iff_count]
  intro i
  rw [List.count_append, List.count_append, List.count_append]
  exact h.occ i

theorem terminal_of_inv (p : Params) (hW : 1 ≤ p.W) (s : State) (h : RunInv p s) (hret : s.main = .returned) :
    s.pending = [] ∧ s.inflight = [] ∧ s.finished.Perm (List.range p.n) ∧
    (s.calls.map Prod.fst).Perm (List.range p.n) ∧ ∀ x ∈ s.calls, x.2 = p.base + x.1 * p.sz := by
  have hdone : ∀ j, j < p.W → s.ws[j]? = some .done := fun j hj => h.joined j (by rw [hret]; exact hj)
  have hall : ∀ x ∈ s.ws, x = .done := fun x hx => by
    obtain ⟨j, hj⟩ := List.mem_iff_getElem?.1 hx
    have hlt : j < s.ws.length := (List.getElem?_eq_some_iff.1 hj).1
    exact Option.some.inj (hj.symm.trans (hdone j (h.len_ws ▸ hlt)))
  have hp : s.pending = [] := flatMap_eq_nil_of_all rfl hall
  have hr : s.inflight = [] := flatMap_eq_nil_of_all rfl hall
  -- worker 0 has left its loop, so the counter has reached the bound
  have hnext : p.n ≤ s.next := h.ws_ok 0 .done (hdone 0 hW)
  have hfin : s.finished.Perm (List.range p.n) := by
    have := exact_of_inv p s h
    rwa [hp, hr, List.filter_nil, List.nil_append, List.nil_append, Nat.min_eq_right hnext] at this
  refine ⟨hp, hr, hfin, ?_, h.calls_addr⟩
  rw [List.perm_iff_count]
  intro i
  rw [h.calls_idx i, hr, List.count_nil, Nat.zero_add]
  exact (List.perm_iff_count.1 hfin) i

/-- the main thread has returned only if every worker has left its loop -/
theorem returned_all_done (c : Code) (hc : c.Correct) (p : Params) (sched : List Actor)
    (hret : (run c p sched).main = .returned) : ∀ w, w < p.W → (run c p sched).ws[w]? = some .done :=
  fun w hw => (inv_run c hc p sched).joined w (by rw [hret]; exact hw)

/-- the `k`-th `pthread_join` cannot return before worker `k` has finished (by definition of the step) -/
theorem join_waits (c : Code) (p : Params) (s : State) (k : Nat) (hm : s.main = .joining k) (hj : c.joinCond k p.W = true)
    (hnd : s.ws[k]? ≠ some .done) : stepMain c p s = s := by
  unfold stepMain
  rw [hm]
  simp [hj, hnd]

/-- the defective dispenser: the fetch split into a load and a store -/
def Code.split : Code := { Code.reference with fetchMode := .loadThenStore }

/-- a schedule on which the split fetch runs trial 0 twice (n = 1, two workers) -/
def splitWitness : List Actor :=
  [.main, .main, .main,                 -- create both threads, leave the create loop
   .worker 0, .worker 1,                -- both load next = 0
   .worker 0, .worker 1,                -- both store 1
   .worker 0, .worker 1,                -- both compare 0 < 1 and call the trial function on element 0
   .worker 0, .worker 1,                -- both calls return
   .worker 0, .worker 0, .worker 0,     -- load 1, store 2, 1 ≥ 1: leave
   .worker 1, .worker 1, .worker 1,
   .main, .main, .main]                 -- join both, return

end CimbaModel.Experiment
