/-
  What one step of the experiment runner can do, for any `Code` that is the documented dispenser (`Code.Correct`): the
  moves of a worker (`WMove`) and of the main thread (`MMove`); and the invariant of the runner under every interleaving,
  by induction over the moves.  Core Lean only.
-/
import CimbaModel.Experiment.Model

namespace CimbaModel.Experiment

/-- what the theorems need of the code read off the C source -/
structure Code.Correct (c : Code) : Prop where
  mode : c.fetchMode = .atomicFetchAdd
  incr : c.fetchIncr = 1
  init : c.initNext = 0
  reset : c.resetsNext = true
  stop : ∀ i n, c.stopWhen i n = true ↔ n ≤ i
  addr : ∀ b i s, c.elemAddr b i s = b + i * s
  spawn0 : c.spawnStart = 0
  spawn : ∀ k W, c.spawnCond k W = true ↔ k < W
  join0 : c.joinStart = 0
  join : ∀ k W, c.joinCond k W = true ↔ k < W

theorem Code.reference_correct : Code.reference.Correct :=
  ⟨rfl, rfl, rfl, rfl, by simp [Code.reference], by simp [Code.reference], rfl, by simp [Code.reference], rfl,
   by simp [Code.reference]⟩

/-- replacing one worker state changes a total over the workers by exactly that worker's share -/
theorem sum_map_set (f : WState → Nat) : ∀ (ws : List WState) (w : Nat) (a b : WState), ws[w]? = some a →
    ((ws.set w b).map f).sum + f a = (ws.map f).sum + f b
  | [], w, a, b, h => by simp at h
  | x :: xs, 0, a, b, h => by
    simp at h; subst h
    simp [List.sum_cons]; omega
  | x :: xs, w + 1, a, b, h => by
    simp at h
    have ih := sum_map_set f xs w a b h
    simp only [List.set_cons_succ, List.map_cons, List.sum_cons]; omega

theorem count_flatMap_set (f : WState → List Nat) (i : Nat) :
    ∀ (ws : List WState) (w : Nat) (a b : WState), ws[w]? = some a →
      List.count i ((ws.set w b).flatMap f) + List.count i (f a) = List.count i (ws.flatMap f) + List.count i (f b) := by
  intro ws w a b h
  rw [List.count_flatMap, List.count_flatMap]
  exact sum_map_set (List.count i ∘ f) ws w a b h

/-- The effective steps of worker `w` under the documented dispenser, from worker state `a` to `b`: fetch an index, leave
    the loop on an index past the bound, call the trial function, return from it. -/
inductive WMove (p : Params) (s : State) (w : Nat) : WState → WState → State → Prop
  | fetch : s.ws[w]? = some .idle →
      WMove p s w .idle (.fetched s.next) { s with next := s.next + 1, ws := s.ws.set w (.fetched s.next) }
  | stop {i} : s.ws[w]? = some (.fetched i) → p.n ≤ i →
      WMove p s w (.fetched i) .done { s with ws := s.ws.set w .done, discarded := i :: s.discarded }
  | call {i} : s.ws[w]? = some (.fetched i) → i < p.n →
      WMove p s w (.fetched i) (.running i)
        { s with ws := s.ws.set w (.running i), calls := (i, p.base + i * p.sz) :: s.calls }
  | ret {i} : s.ws[w]? = some (.running i) →
      WMove p s w (.running i) .idle { s with ws := s.ws.set w .idle, finished := i :: s.finished }

/-- The effective steps of the main thread: one `pthread_create`, leaving the create loop, one `pthread_join` returning,
    leaving the join loop. -/
inductive MMove (p : Params) (s : State) : State → Prop
  | create {k} : s.main = .spawning k → k < p.W →
      MMove p s { s with created := s.created.set k true, main := .spawning (k + 1) }
  | createDone {k} : s.main = .spawning k → p.W ≤ k → MMove p s { s with main := .joining 0 }
  | join {k} : s.main = .joining k → k < p.W → s.ws[k]? = some .done → MMove p s { s with main := .joining (k + 1) }
  | joinDone {k} : s.main = .joining k → p.W ≤ k → MMove p s { s with main := .returned }

/-- a created worker that is neither done nor between load and store moves, everything else stutters -/
theorem stepWorker_cases {c : Code} (hc : c.Correct) (p : Params) (s : State) (w : Nat)
    (hnl : ∀ v, s.ws[w]? ≠ some (.loaded v)) :
    (s.created[w]? = some true ∧ ∃ a b, WMove p s w a b (stepWorker c p s w)) ∨
    ((s.created[w]? ≠ some true ∨ s.ws[w]? = some .done ∨ s.ws[w]? = none) ∧ stepWorker c p s w = s) := by
  unfold stepWorker
  split
  case isFalse hcr => exact .inr ⟨.inl hcr, rfl⟩
  case isTrue hcr =>
  split
  · rename_i hw
    simp only [hc.mode, hc.incr]
    exact .inl ⟨hcr, _, _, .fetch hw⟩
  · rename_i v hw
    exact absurd hw (hnl v)
  · rename_i i hw
    split
    · rename_i hs
      exact .inl ⟨hcr, _, _, .stop hw ((hc.stop i p.n).1 hs)⟩
    · rename_i hs
      rw [hc.addr]
      exact .inl ⟨hcr, _, _, .call hw (Nat.lt_of_not_le fun x => hs ((hc.stop i p.n).2 x))⟩
  · rename_i i hw
    exact .inl ⟨hcr, _, _, .ret hw⟩
  · rename_i hw
    exact .inr ⟨.inr (.inl hw), rfl⟩
  · rename_i hw
    exact .inr ⟨.inr (.inr hw), rfl⟩

/-- the main thread moves unless it has returned or waits in a join -/
theorem stepMain_cases {c : Code} (hc : c.Correct) (p : Params) (s : State) :
    MMove p s (stepMain c p s) ∨
    ((s.main = .returned ∨ ∃ k, s.main = .joining k ∧ k < p.W ∧ s.ws[k]? ≠ some .done) ∧ stepMain c p s = s) := by
  unfold stepMain
  split
  · rename_i k hk
    split
    · rename_i hcnd
      exact .inl (.create hk ((hc.spawn k p.W).1 hcnd))
    · rename_i hcnd
      rw [hc.join0]
      exact .inl (.createDone hk (Nat.le_of_not_lt fun x => hcnd ((hc.spawn k p.W).2 x)))
  · rename_i k hk
    split
    · rename_i hcnd
      split
      · rename_i hd
        exact .inl (.join hk ((hc.join k p.W).1 hcnd) hd)
      · rename_i hd
        exact .inr ⟨.inr ⟨k, hk, (hc.join k p.W).1 hcnd, hd⟩, rfl⟩
    · rename_i hcnd
      exact .inl (.joinDone hk (Nat.le_of_not_lt fun x => hcnd ((hc.join k p.W).2 x)))
  · rename_i hk
    exact .inr ⟨.inl hk, rfl⟩

/-- what the worker moves have in common: `w` held `a`, was not done, and now holds `b`; nobody else changed, `created`
    and `main` are untouched -/
theorem WMove.frame {p : Params} {s s' : State} {w : Nat} {a b : WState} (m : WMove p s w a b s') :
    s.ws[w]? = some a ∧ s'.ws = s.ws.set w b ∧ s'.created = s.created ∧ s'.main = s.main ∧ a ≠ .done := by
  cases m with
  | fetch hw => exact ⟨hw, rfl, rfl, rfl, nofun⟩
  | stop hw _ => exact ⟨hw, rfl, rfl, rfl, nofun⟩
  | call hw _ => exact ⟨hw, rfl, rfl, rfl, nofun⟩
  | ret hw => exact ⟨hw, rfl, rfl, rfl, nofun⟩

/-- threads below `spawned` have been created -/
def Main.spawned (W : Nat) : Main → Nat
  | .spawning k => k
  | _ => W

/-- threads below `joined` have been joined -/
def Main.joined (W : Nat) : Main → Nat
  | .spawning _ => 0
  | .joining k => k
  | .returned => W

/-- the main thread's loops: which threads exist, and that a joined thread is done -/
structure Threads (p : Params) (s : State) : Prop where
  len_ws : s.ws.length = p.W
  len_cr : s.created.length = p.W
  spawned_le : s.main.spawned p.W ≤ p.W
  joined_le : s.main.joined p.W ≤ p.W
  created : ∀ w, w < p.W → (s.created[w]? = some true ↔ w < s.main.spawned p.W)
  joined : ∀ j, j < s.main.joined p.W → s.ws[j]? = some .done

/-- what a worker state says about the counter: a held index has been handed out, a worker leaves only once the
    counter has reached the bound, and no worker is ever between a load and a store -/
def WOk (n next : Nat) : WState → Prop
  | .loaded _ => False
  | .fetched i => i < next
  | .done => n ≤ next
  | _ => True

/-- the books of the dispenser: every index below `next` is in exactly one place, none above is anywhere -/
structure Ledger (p : Params) (s : State) : Prop where
  ws_ok : ∀ (w : Nat) (x : WState), s.ws[w]? = some x → WOk p.n s.next x
  occ : ∀ i, List.count i s.pending + List.count i s.inflight + List.count i s.finished + List.count i s.discarded
            = List.count i (List.range s.next)
  calls_idx : ∀ i, List.count i (s.calls.map Prod.fst) = List.count i s.inflight + List.count i s.finished
  run_lt : ∀ i, p.n ≤ i → List.count i s.inflight + List.count i s.finished = 0
  disc_ge : ∀ i ∈ s.discarded, p.n ≤ i
  calls_addr : ∀ x ∈ s.calls, x.2 = p.base + x.1 * p.sz

structure RunInv (p : Params) (s : State) : Prop extends Threads p s, Ledger p s

theorem RunInv.no_loaded {p : Params} {s : State} (h : RunInv p s) (w v : Nat) : s.ws[w]? ≠ some (.loaded v) :=
  fun e => h.ws_ok w _ e

theorem getElem?_set_cases {ws : List WState} {w j : Nat} {b x : WState} (h : (ws.set w b)[j]? = some x) :
    x = b ∨ ws[j]? = some x := by
  rw [List.getElem?_set] at h
  split at h
  · split at h
    · exact .inl (Option.some.inj h).symm
    · cases h
  · exact .inr h

theorem Threads.wmove {p : Params} {s s' : State} {w : Nat} {a b : WState} (h : Threads p s) (m : WMove p s w a b s') :
    Threads p s' := by
  obtain ⟨hw, hws, hcr, hmn, had⟩ := m.frame
  refine ⟨by rw [hws, List.length_set, h.len_ws], hcr ▸ h.len_cr, hmn ▸ h.spawned_le, hmn ▸ h.joined_le,
    hcr ▸ hmn ▸ h.created, fun j hj => ?_⟩
  have hd := h.joined j (hmn ▸ hj)
  -- a worker that is done does not move
  rw [hws, List.getElem?_set_ne (fun e => had (Option.some.inj ((e ▸ hw).symm.trans hd)))]
  exact hd

theorem Threads.mmove {p : Params} {s s' : State} (h : Threads p s) (m : MMove p s s') : Threads p s' := by
  have ⟨h1, h2, h3, h4, h5, h6⟩ := h
  cases m with
  | @create k hk hlt =>
    simp only [hk, Main.spawned, Main.joined] at h3 h4 h5 h6
    refine ⟨h1, by rw [List.length_set, h2], hlt, h4, fun w hw => ?_, h6⟩
    show (s.created.set k true)[w]? = some true ↔ w < k + 1
    rw [List.getElem?_set]
    split
    · rename_i e; subst e; simp [h2, hlt]
    · rw [h5 w hw]; omega
  | @createDone k hk hge =>
    simp only [hk, Main.spawned, Main.joined] at h3 h4 h5 h6
    exact ⟨h1, h2, Nat.le_refl _, Nat.zero_le _, fun w hw => (h5 w hw).trans ⟨fun _ => hw, fun _ => by omega⟩,
      fun j hj => absurd hj (Nat.not_lt_zero j)⟩
  | @join k hk hlt hd =>
    simp only [hk, Main.spawned, Main.joined] at h3 h4 h5 h6
    refine ⟨h1, h2, h3, hlt, h5, fun j (hj : j < k + 1) => ?_⟩
    by_cases e : j = k
    · exact e ▸ hd
    · exact h6 j (by omega)
  | @joinDone k hk hge =>
    simp only [hk, Main.spawned, Main.joined] at h3 h4 h5 h6
    exact ⟨h1, h2, h3, Nat.le_refl _, h5, fun j (hj : j < p.W) => h6 j (by omega)⟩

theorem WOk.mono {n next next' : Nat} (hle : next ≤ next') : ∀ {x : WState}, WOk n next x → WOk n next' x
  | .idle, h | .running _, h => h
  | .loaded _, h => h
  | .fetched _, h => Nat.lt_of_lt_of_le h hle
  | .done, h => Nat.le_trans h hle

theorem Ledger.wmove {p : Params} {s s' : State} {w : Nat} {a b : WState} (h : Ledger p s) (m : WMove p s w a b s') :
    Ledger p s' := by
  obtain ⟨hw, hws, -⟩ := m.frame
  have ha := h.ws_ok w a hw
  -- every other worker keeps its state, and the counter never goes back
  have hok : s.next ≤ s'.next → WOk p.n s'.next b → ∀ (j : Nat) x, s'.ws[j]? = some x → WOk p.n s'.next x := by
    intro hle hb j x hj
    rcases getElem?_set_cases (hws ▸ hj) with rfl | o
    · exact hb
    · exact (h.ws_ok j x o).mono hle
  -- the indices that workers hold change by what `w` held and holds
  have hP : ∀ i, List.count i s'.pending + List.count i (pendingOf a) = List.count i s.pending + List.count i (pendingOf b) :=
    fun i => by rw [State.pending, hws]; exact count_flatMap_set pendingOf i s.ws w a b hw
  have hR : ∀ i, List.count i s'.inflight + List.count i (runningOf a) = List.count i s.inflight + List.count i (runningOf b) :=
    fun i => by rw [State.inflight, hws]; exact count_flatMap_set runningOf i s.ws w a b hw
  cases m with
  | fetch _ =>
    simp only [pendingOf, runningOf, List.count_nil] at hP hR
    refine ⟨hok (Nat.le_succ _) (Nat.lt_succ_self _), fun j => ?_, fun j => ?_, fun j hj => ?_, h.disc_ge, h.calls_addr⟩
    · have := h.occ j; have := hP j; have := hR j
      simp only [List.range_succ, List.count_append]; omega
    -- `omega` compares atoms syntactically: the projections of the new state have to be reduced first
    · have := h.calls_idx j; have := hR j; dsimp only; omega
    · have := h.run_lt j hj; have := hR j; dsimp only; omega
  | @stop i _ hge =>
    simp only [pendingOf, runningOf, List.count_nil, List.count_cons] at hP hR
    refine ⟨hok (Nat.le_refl _) (Nat.le_trans hge (Nat.le_of_lt ha)), fun j => ?_, fun j => ?_, fun j hj => ?_,
      List.forall_mem_cons.2 ⟨hge, h.disc_ge⟩, h.calls_addr⟩
    · have := h.occ j; have := hP j; have := hR j
      simp only [List.count_cons]; omega
    · have := h.calls_idx j; have := hR j; dsimp only; omega
    · have := h.run_lt j hj; have := hR j; dsimp only; omega
  | @call i _ hlt =>
    simp only [pendingOf, runningOf, List.count_nil, List.count_cons, beq_iff_eq] at hP hR
    refine ⟨hok (Nat.le_refl _) trivial, fun j => ?_, fun j => ?_, fun j hj => ?_, h.disc_ge,
      List.forall_mem_cons.2 ⟨rfl, h.calls_addr⟩⟩
    · have := h.occ j; have := hP j; have := hR j; dsimp only; omega
    · have := h.calls_idx j; have := hR j
      simp only [List.map_cons, List.count_cons, beq_iff_eq]; omega
    · have := h.run_lt j hj; have := hR j
      rw [if_neg (by omega)] at this; dsimp only; omega
  | @ret i _ =>
    simp only [pendingOf, runningOf, List.count_nil, List.count_cons] at hP hR
    refine ⟨hok (Nat.le_refl _) trivial, fun j => ?_, fun j => ?_, fun j hj => ?_, h.disc_ge, h.calls_addr⟩
    · have := h.occ j; have := hP j; have := hR j
      simp only [List.count_cons]; omega
    · have := h.calls_idx j; have := hR j
      simp only [List.count_cons]; omega
    · have := h.run_lt j hj; have := hR j
      simp only [List.count_cons]; omega

/-- the main thread does not touch the books -/
theorem Ledger.mmove {p : Params} {s s' : State} (h : Ledger p s) (m : MMove p s s') : Ledger p s' := by
  cases m <;> exact { h with }

theorem flatMap_eq_nil_of_all {f : WState → List Nat} {ws : List WState} {a : WState} (hf : f a = [])
    (h : ∀ x ∈ ws, x = a) : ws.flatMap f = [] :=
  List.flatMap_eq_nil_iff.2 fun x hx => h x hx ▸ hf

theorem inv_init (c : Code) (hc : c.Correct) (p : Params) : RunInv p (init c p) := by
  have hidle : ∀ x ∈ (init c p).ws, x = .idle := fun x hx => List.eq_of_mem_replicate hx
  have hP : (init c p).pending = [] := flatMap_eq_nil_of_all rfl hidle
  have hR : (init c p).inflight = [] := flatMap_eq_nil_of_all rfl hidle
  refine ⟨⟨List.length_replicate, List.length_replicate, ?_, Nat.zero_le _, fun w hw => ?_, (fun j hj => nomatch hj)⟩,
    ⟨fun w x hx => ?_, fun i => ?_, fun i => ?_, fun i _ => ?_, (fun i hi => nomatch hi), (fun x hx => nomatch hx)⟩⟩
  · simp [init, hc.spawn0, Main.spawned]
  · simp [init, hc.spawn0, Main.spawned, List.getElem?_replicate]
  · rw [hidle x (List.mem_of_getElem? hx)]; trivial
  · rw [hP, hR]; simp [init, hc.init]
  · rw [hR]; simp [init]
  · rw [hR]; simp [init]

theorem inv_step (c : Code) (hc : c.Correct) (p : Params) (s : State) (a : Actor) (h : RunInv p s) : RunInv p (step c p s a) := by
  cases a with
  | main =>
    rcases stepMain_cases hc p s with m | ⟨-, e⟩
    · exact ⟨h.toThreads.mmove m, h.toLedger.mmove m⟩
    · exact (show step c p s .main = s from e).symm ▸ h
  | worker w =>
    rcases stepWorker_cases hc p s w (h.no_loaded w) with ⟨-, a, b, m⟩ | ⟨-, e⟩
    · exact ⟨h.toThreads.wmove m, h.toLedger.wmove m⟩
    · exact (show step c p s (.worker w) = s from e).symm ▸ h

theorem inv_foldl (c : Code) (hc : c.Correct) (p : Params) :
    ∀ (sched : List Actor) (s : State), RunInv p s → RunInv p (sched.foldl (step c p) s)
  | [], _, h => h
  | a :: rest, s, h => inv_foldl c hc p rest _ (inv_step c hc p s a h)

/-- the invariant holds after every schedule -/
theorem inv_run (c : Code) (hc : c.Correct) (p : Params) (sched : List Actor) : RunInv p (run c p sched) :=
  inv_foldl c hc p sched _ (inv_init c hc p)

end CimbaModel.Experiment
