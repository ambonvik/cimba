/-
  Progress of the runner: a measure that every move lowers.  Hence a move changes the state, so as long as the main thread
  has not returned some actor can move; from every reachable state the run can be completed; and no schedule contains more
  than `measure (init)` effective steps.  Then several experiments in one process: with the counter stored at the start of
  every call each runs like the first (`runSeq_eq_map_run`; `Code.noReset` is the runner without that store).  Core Lean only.
-/
import CimbaModel.Experiment.Invariant

namespace CimbaModel.Experiment

/-- remaining work of one worker, given the number of trials -/
def wt (n : Nat) : WState → Nat
  | .idle => 2
  | .loaded _ => 0
  | .fetched i => if i < n then 4 else 1
  | .running _ => 3
  | .done => 0

def mainWt (W : Nat) : Main → Nat
  | .spawning k => (W - k) + W + 2
  | .joining k => (W - k) + 1
  | .returned => 0

def measure (p : Params) (s : State) : Nat :=
  4 * (p.n - min s.next p.n) + (s.ws.map (wt p.n)).sum + mainWt p.W s.main

theorem MMove.decreases {p : Params} {s s' : State} (m : MMove p s s') : measure p s' < measure p s := by
  cases m with
  | create hk hlt => simp only [measure, mainWt, hk]; omega
  | createDone hk hge => simp only [measure, mainWt, hk]; omega
  | join hk hlt _ => simp only [measure, mainWt, hk]; omega
  | joinDone hk hge => simp only [measure, mainWt, hk]; omega

theorem WMove.decreases {p : Params} {s s' : State} {w : Nat} {a b : WState} (m : WMove p s w a b s') :
    measure p s' < measure p s := by
  have hs := sum_map_set (wt p.n) s.ws w a b m.frame.1
  cases m with
  | fetch _ => simp only [measure, wt] at hs ⊢; split at hs <;> omega
  | stop _ hge => simp only [measure, wt, if_neg (Nat.not_lt.2 hge)] at hs ⊢; omega
  | call _ hlt => simp only [measure, wt, if_pos hlt] at hs ⊢; omega
  | ret _ => simp only [measure, wt] at hs ⊢; omega

/-- every step that changes the state decreases the measure -/
theorem step_decreases (c : Code) (hc : c.Correct) (p : Params) (s : State) (h : RunInv p s) (a : Actor)
    (hne : step c p s a ≠ s) : measure p (step c p s a) < measure p s := by
  cases a with
  | main => exact (stepMain_cases hc p s).elim MMove.decreases fun e => absurd e.2 hne
  | worker w =>
    rcases stepWorker_cases hc p s w (h.no_loaded w) with ⟨-, a, b, m⟩ | ⟨-, e⟩
    · exact m.decreases
    · exact absurd e hne

theorem MMove.ne {p : Params} {s s' : State} (m : MMove p s s') : s' ≠ s :=
  fun e => Nat.lt_irrefl _ (e ▸ m.decreases)

theorem WMove.ne {p : Params} {s s' : State} {w : Nat} {a b : WState} (m : WMove p s w a b s') : s' ≠ s :=
  fun e => Nat.lt_irrefl _ (e ▸ m.decreases)

/-- no deadlock: as long as the main thread has not returned, some actor can move (trial functions terminate) -/
theorem no_deadlock (c : Code) (hc : c.Correct) (p : Params) (sched : List Actor)
    (hnr : (run c p sched).main ≠ .returned) : ∃ a, step c p (run c p sched) a ≠ run c p sched := by
  have h := inv_run c hc p sched
  generalize run c p sched = s at *
  rcases stepMain_cases hc p s with m | ⟨hr | ⟨k, hk, hlt, hnd⟩, -⟩
  · exact ⟨.main, m.ne⟩
  · exact absurd hr hnr
  · -- the main thread waits for worker `k`, which exists and is not done: that worker moves
    have hcr : s.created[k]? = some true := (h.created k hlt).2 (by rw [hk]; exact hlt)
    rcases stepWorker_cases hc p s k (h.no_loaded k) with ⟨-, a, b, m⟩ | ⟨hcr' | hd | hn, -⟩
    · exact ⟨.worker k, m.ne⟩
    · exact absurd hcr hcr'
    · exact absurd hd hnd
    · rw [List.getElem?_eq_none_iff, h.len_ws] at hn; omega

theorem run_append (c : Code) (p : Params) (s1 s2 : List Actor) :
    run c p (s1 ++ s2) = s2.foldl (step c p) (run c p s1) := by
  simp [run, List.foldl_append]

/-- From every reachable state the experiment can be completed: there is a continuation after which the main thread has
    returned.  (With `no_deadlock` and `step_decreases`: every scheduler that keeps choosing threads that can move gets there.) -/
theorem can_always_finish (c : Code) (hc : c.Correct) (p : Params) :
    ∀ (m : Nat) (sched : List Actor), measure p (run c p sched) ≤ m →
      ∃ ext, (run c p (sched ++ ext)).main = .returned := by
  intro m
  induction m with
  | zero =>
    intro sched hm
    by_cases hr : (run c p sched).main = .returned
    · exact ⟨[], by simpa using hr⟩
    · obtain ⟨a, ha⟩ := no_deadlock c hc p sched hr
      have := step_decreases c hc p _ (inv_run c hc p sched) a ha
      omega
  | succ m ih =>
    intro sched hm
    by_cases hr : (run c p sched).main = .returned
    · exact ⟨[], by simpa using hr⟩
    · obtain ⟨a, ha⟩ := no_deadlock c hc p sched hr
      have hd := step_decreases c hc p _ (inv_run c hc p sched) a ha
      have hrun : run c p (sched ++ [a]) = step c p (run c p sched) a := by
        rw [run_append]; rfl
      obtain ⟨ext, he⟩ := ih (sched ++ [a]) (by rw [hrun]; omega)
      exact ⟨a :: ext, by simpa [List.append_assoc] using he⟩

/-- number of steps of a schedule that change the state -/
def effective (c : Code) (p : Params) : State → List Actor → Nat
  | _, [] => 0
  | s, a :: rest => (if step c p s a ≠ s then 1 else 0) + effective c p (step c p s a) rest

theorem effective_le_measure (c : Code) (hc : c.Correct) (p : Params) :
    ∀ (sched : List Actor) (s : State), RunInv p s → effective c p s sched + measure p (sched.foldl (step c p) s) ≤ measure p s
  | [], s, _ => by simp [effective]
  | a :: rest, s, h => by
    have ih := effective_le_measure c hc p rest (step c p s a) (inv_step c hc p s a h)
    simp only [effective, List.foldl_cons]
    by_cases hne : step c p s a ≠ s
    · have := step_decreases c hc p s h a hne
      rw [if_pos hne]; omega
    · have he : step c p s a = s := Classical.not_not.1 hne
      rw [if_neg hne]
      rw [he] at ih ⊢
      omega

/-- with the counter stored at the start of every call, a later experiment of a process starts exactly like the first -/
theorem initFrom_eq_init (c : Code) (hc : c.Correct) (p : Params) (prev : Nat) : initFrom c p prev = init c p := by
  simp [initFrom, startNext, hc.reset, init]

theorem runSeq_eq_map_run (c : Code) (hc : c.Correct) : ∀ (exps : List (Params × List Actor)) (prev : Nat),
    runSeq c prev exps = exps.map (fun e => run c e.1 e.2)
  | [], _ => rfl
  | (p, sched) :: rest, prev => by
    have h : runFrom c p prev sched = run c p sched := by simp [runFrom, run, initFrom_eq_init c hc]
    simp only [runSeq, List.map_cons, h, runSeq_eq_map_run c hc rest]

/-- the defective runner: the counter only has its static initialiser -/
def Code.noReset : Code := { Code.reference with resetsNext := false }

theorem sum_map_replicate_idle (n : Nat) : ∀ W, ((List.replicate W WState.idle).map (wt n)).sum = 2 * W
  | 0 => rfl
  | W + 1 => by
    simp only [List.replicate_succ, List.map_cons, List.sum_cons, sum_map_replicate_idle n W, wt]; omega

theorem measure_init (c : Code) (hc : c.Correct) (p : Params) : measure p (init c p) = 4 * p.n + 4 * p.W + 2 := by
  simp only [measure, init, hc.init, hc.spawn0, sum_map_replicate_idle, mainWt, Nat.zero_min, Nat.sub_zero]
  omega

end CimbaModel.Experiment
