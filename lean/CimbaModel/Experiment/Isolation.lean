/-
  Classification of every variable with static storage duration of the library (Generated/TlsInventory.lean) with respect to
  isolation between trials.  Core Lean only (linked into `expmain`).

  A trial's results can depend on an earlier trial run by the same worker thread, or on a concurrent trial, only through
  state that outlives the trial function.  In this library that is: the variables below, heap memory still referenced
  from them, and libc's allocator state (not a variable of the library: see `AddressOnly` and the address tie-break finding).

  The allow-list is keyed on (file, function, name).  Const-qualified objects need no entry.  Every class carries a
  machine-checked side condition over the access sets and reset sets that the translator extracts from the C AST on every
  run, so the justification given in `why` cannot silently stop being true.
-/
import CimbaModel.Experiment.Types

namespace CimbaModel.Experiment

inductive Class where
  /-- assigned (whole variable) by a per-trial initialisation call before the trial uses it:
      `cmb_event_queue_initialize`, `cmb_random_initialize`, or the worker loop itself -/
  | ResetByTrialInit
  /-- function-local cache whose content is a function of the cached key alone; a hit returns what a miss would compute -/
  | PureMemo
  /-- function-local buffer that is written on every call before it is read -/
  | Scratch
  /-- per-thread bookkeeping of allocations (free lists, lazily created singletons): influences which addresses objects
      get, not the values computed — provided no result depends on an address (see finding `address-tiebreak`) -/
  | AddressOnly
  /-- const-qualified, or never written by any function of the library -/
  | ConstOrImmutable
  /-- one instance for the whole process, accessed only atomically / under a mutex / before the threads exist -/
  | SharedSynchronised
  /-- per-thread logger setting with no per-trial reset: gates and formats what is printed, never read by the simulation -/
  | LogOutputOnly
  /-- survives the per-trial initialisation and feeds into results: a trial's outcome depends on what ran before it -/
  | Leaks
  deriving Repr, DecidableEq, BEq

structure Rule where
  file : String
  function : String
  name : String
  cls : Class
  why : String

/-- the documented per-trial initialisation entry points (plus the worker loop, which runs before every trial) -/
def trialInit : List String := ["cmb_event_queue_initialize", "cmb_random_initialize", "worker_thread_func"]

/-- functions that run in the calling thread before any worker thread exists -/
def preSpawn : List String := ["cimba_run_experiment"]

def rules : List Rule := [
  -- src/cimba.c ---------------------------------------------------------------------------------------------------
  ⟨"src/cimba.c", "", "cmg_next_trial_idx", .SharedSynchronised,
    "stored once by cimba_run_experiment before pthread_create; afterwards only __atomic_fetch_add (SEQ_CST) by the workers"⟩,
  ⟨"src/cimba.c", "", "cmg_experiment_arr", .SharedSynchronised,
    "stored by cimba_run_experiment before pthread_create (which synchronises), only read by the workers"⟩,
  ⟨"src/cimba.c", "", "cmg_trial_struct_sz", .SharedSynchronised, "as cmg_experiment_arr"⟩,
  ⟨"src/cimba.c", "", "cmg_trial_func", .SharedSynchronised, "as cmg_experiment_arr"⟩,
  ⟨"src/cimba.c", "", "cmg_total_trials", .SharedSynchronised, "as cmg_experiment_arr"⟩,
  -- src/cmb_dataset.c ---------------------------------------------------------------------------------------------
  ⟨"src/cmb_dataset.c", "", "symbol_bar", .ConstOrImmutable, "plain static without const, but no function writes it"⟩,
  ⟨"src/cmb_dataset.c", "", "symbol_full", .ConstOrImmutable, "never written"⟩,
  ⟨"src/cmb_dataset.c", "", "symbol_half", .ConstOrImmutable, "never written"⟩,
  ⟨"src/cmb_dataset.c", "", "symbol_thin", .ConstOrImmutable, "never written"⟩,
  ⟨"src/cmb_dataset.c", "", "symbol_empty", .ConstOrImmutable, "never written"⟩,
  ⟨"src/cmb_dataset.c", "", "symbol_newline", .ConstOrImmutable, "never written"⟩,
  -- src/cmb_event.c -----------------------------------------------------------------------------------------------
  ⟨"src/cmb_event.c", "", "sim_time", .ResetByTrialInit, "cmb_event_queue_initialize: sim_time = start_time"⟩,
  ⟨"src/cmb_event.c", "", "event_queue", .ResetByTrialInit,
    "cmb_event_queue_initialize: event_queue = cmi_hashheap_create(), freshly initialised (handle counter restarts)"⟩,
  ⟨"src/cmb_event.c", "", "current_event", .ResetByTrialInit, "cmb_event_queue_initialize: current_event = 0"⟩,
  -- src/cmb_logger.c ----------------------------------------------------------------------------------------------
  ⟨"src/cmb_logger.c", "", "cmi_logger_mask", .LogOutputOnly,
    "only |= / &= by cmb_logger_flags_on/off, no reset function; read only to decide whether a line is printed"⟩,
  ⟨"src/cmb_logger.c", "", "cmi_logger_mutex", .SharedSynchronised, "the mutex itself: only pthread_mutex_lock / unlock"⟩,
  ⟨"src/cmb_logger.c", "", "cmi_logger_trial_idx", .ResetByTrialInit,
    "worker_thread_func stores the trial index before every call of the trial function; only printed"⟩,
  ⟨"src/cmb_logger.c", "", "timeformatter", .LogOutputOnly,
    "set only by cmb_logger_set_timeformatter; used only to format the time column of a log line"⟩,
  ⟨"src/cmb_logger.c", "time_to_string", "timestrbuf", .Scratch,
    "snprintf'ed on every call before the pointer is returned to the one caller that prints it"⟩,
  -- memory pools --------------------------------------------------------------------------------------------------
  ⟨"src/cmb_objectqueue.c", "", "objectqueue_tags", .AddressOnly,
    "per-thread free list of queue tags; every tag field is written after cmi_mempool_alloc before it is read"⟩,
  ⟨"src/cmb_process.c", "", "cmi_process_awaitabletags", .AddressOnly, "per-thread free list of tags"⟩,
  ⟨"src/cmb_process.c", "", "cmi_process_holdabletags", .AddressOnly, "per-thread free list of tags"⟩,
  ⟨"src/cmb_process.c", "", "cmi_process_waitertags", .AddressOnly, "per-thread free list of tags"⟩,
  ⟨"src/cmb_resourceguard.c", "", "observer_tagpool", .AddressOnly, "per-thread free list of tags"⟩,
  ⟨"src/cmi_mempool.c", "", "static_pools", .AddressOnly,
    "list of this thread's static pools, used only by the thread-exit cleanup"⟩,
  -- src/cmb_random.c ----------------------------------------------------------------------------------------------
  ⟨"src/cmb_random.c", "", "prng_state", .ResetByTrialInit, "cmb_random_initialize assigns a, b, c, d from the seed"⟩,
  ⟨"src/cmb_random.c", "", "initial_seed", .ResetByTrialInit, "cmb_random_initialize: initial_seed = seed"⟩,
  ⟨"src/cmb_random.c", "", "splitmix_state", .ResetByTrialInit,
    "cmb_random_initialize -> splitmix_initialize(seed): splitmix_state = seed"⟩,
  ⟨"src/cmb_random.c", "", "sum_tolerance", .ConstOrImmutable, "plain static without const, but no function writes it"⟩,
  ⟨"src/cmb_random.c", "cmb_random_std_gamma", "a_prev", .PureMemo,
    "key of the cache (c, d); a_prev = 0 initially and shape > 0 is asserted, so the first call always misses"⟩,
  ⟨"src/cmb_random.c", "cmb_random_std_gamma", "c", .PureMemo, "c = 1/sqrt(9 d), recomputed whenever shape != a_prev"⟩,
  ⟨"src/cmb_random.c", "cmb_random_std_gamma", "d", .PureMemo, "d = a_prev - 1/3, recomputed whenever shape != a_prev"⟩,
  ⟨"src/cmb_random.c", "cmb_random_geometric", "prev", .ConstOrImmutable,
    "never written (stays 0.0), so the cache below never hits"⟩,
  ⟨"src/cmb_random.c", "cmb_random_geometric", "denom", .PureMemo,
    "recomputed from p on every call with p != 0.0 (p > 0 is the documented precondition)"⟩,
  -- the coin-flip bit cache as function statics (before fixes/C15-flip-cache-reset.patch; DESIGN §5 row 16)
  ⟨"src/cmb_random.c", "cmb_random_flip", "bits", .Leaks,
    "up to 63 cached bits of the previous stream survive cmb_random_initialize"⟩,
  ⟨"src/cmb_random.c", "cmb_random_flip", "bitpos", .Leaks,
    "number of cached bits left; not reset by cmb_random_initialize"⟩,
  -- the same cache as it is in the source: file scope, reset by cmb_random_initialize
  ⟨"src/cmb_random.c", "", "flip_bits", .ResetByTrialInit, "cmb_random_initialize: flip_bits = 0"⟩,
  ⟨"src/cmb_random.c", "", "flip_bitpos", .ResetByTrialInit, "cmb_random_initialize: flip_bitpos = 0 (cache empty)"⟩,
  -- src/cmi_coroutine.c -------------------------------------------------------------------------------------------
  ⟨"src/cmi_coroutine.c", "", "coroutine_main", .AddressOnly,
    "lazily created per-thread descriptor of the thread's own stack; only compared with coroutine_current"⟩,
  ⟨"src/cmi_coroutine.c", "", "coroutine_current", .AddressOnly,
    "equals coroutine_main (or both NULL) whenever a trial function is entered or left: trials start and end on the thread's own stack"⟩
]

def Rule.covers (r : Rule) (e : Entry) : Bool :=
  r.name == e.name && r.function == e.function && r.file == e.file

def classify (e : Entry) : Option Class :=
  if e.isConst then some .ConstOrImmutable
  else (rules.find? (·.covers e)).map (·.cls)

def AccessKind.isRead : AccessKind → Bool
  | .read => true
  | _ => false

def AccessKind.isPlain : AccessKind → Bool
  | .read | .write | .rmw => true
  | _ => false

def Entry.neverWritten (e : Entry) : Bool := e.accesses.all (·.kind.isRead)

/-- can change after program start -/
def Entry.isMutable (e : Entry) : Bool := !e.isConst && !e.neverWritten

/-- one access to a process-wide variable is safe -/
def syncAccess (e : Entry) (a : Access) : Bool :=
  match a.kind with
  | .atomic _ => true
  | .mutexOp _ => true
  | .read => preSpawn.contains a.fn || e.accesses.all (fun b => b.kind.isRead || preSpawn.contains b.fn)
  | _ => preSpawn.contains a.fn

/-- the machine-checked side condition of each class -/
def sideCondition (e : Entry) : Class → Bool
  | .ResetByTrialInit =>
    -- some per-trial initialisation call assigns it on every path (no early return before the assignment) without looking at
    -- the old value first
    e.isThreadLocal && trialInit.any (fun f => e.resetBy.contains f && !e.readFirstBy.contains f)
  | .PureMemo => e.isThreadLocal && e.function != "" && e.accesses.all (fun a => a.kind.isPlain && a.fn == e.function)
  | .Scratch => e.isThreadLocal && e.function != "" && e.accesses.all (·.fn == e.function)
  | .AddressOnly => e.isThreadLocal
  | .ConstOrImmutable => e.isConst || e.neverWritten
  | .SharedSynchronised => !e.isThreadLocal && e.accesses.all (syncAccess e)
  | .LogOutputOnly => e.isThreadLocal
  | .Leaks => true

def entryOK (e : Entry) : Bool :=
  match classify e with
  | none => false
  | some c => sideCondition e c && (!e.isMutable || e.isThreadLocal || c == .SharedSynchronised)

def leaksOf (inv : List Entry) : List Entry := inv.filter (fun e => classify e == some .Leaks)

/-- the gamma sampler's cache, as a function of the key: what a call computes on a miss -/
structure GammaMemo (K : Type) where
  aPrev : K
  c : K
  d : K

/-- prologue of cmb_random_std_gamma over an abstract number type: `f shape = shape - 1/3`, `g d = 1/sqrt(9 d)` -/
def gammaPrologue {K : Type} [DecidableEq K] (f g : K → K) (m : GammaMemo K) (shape : K) : GammaMemo K :=
  if shape ≠ m.aPrev then { aPrev := shape, d := f shape, c := g (f shape) } else m

/-- the cache is consistent: either still in its initial state (key 0, which no valid call uses) or it holds the values
    a miss would compute for its key -/
def GammaMemo.consistent {K : Type} (zero : K) (f g : K → K) (m : GammaMemo K) : Prop :=
  m.aPrev = zero ∨ (m.d = f m.aPrev ∧ m.c = g (f m.aPrev))

/-- whatever consistent state an earlier trial left behind, a call with `shape ≠ 0` continues with the same `(c, d)` as a
    call on the initial cache, and leaves the cache consistent -/
theorem gamma_memo_pure {K : Type} [DecidableEq K] (zero : K) (f g : K → K) (m : GammaMemo K) (shape : K)
    (hm : m.consistent zero f g) (hs : shape ≠ zero) :
    (gammaPrologue f g m shape).d = f shape ∧ (gammaPrologue f g m shape).c = g (f shape) ∧
    (gammaPrologue f g m shape).consistent zero f g := by
  unfold gammaPrologue
  by_cases e : shape = m.aPrev
  · have hz : m.aPrev ≠ zero := fun x => hs (e.trans x)
    rcases hm with h0 | ⟨h1, h2⟩
    · exact absurd h0 hz
    · rw [if_neg (fun x => x e)]
      rw [e]
      exact ⟨h1, h2, Or.inr ⟨h1, h2⟩⟩
  · rw [if_pos e]
    exact ⟨rfl, rfl, Or.inr ⟨rfl, rfl⟩⟩

end CimbaModel.Experiment
