/-
  Hand-written model of the exponential ziggurat of src/cmb_random.c / include/cmb_random.h:
      cmb_random_std_exponential (hot path, header inline)  ->  `stdExp`
      cmi_random_exp_not_hot     (alias step, overhang rejection loop, tail iteration)  ->  `notHot`, `overhang`
      zig_exp_convert_x / _y                                ->  `convX`, `convY`
  over a number type `K` (exact: `Rat`, Props/C16.lean `zig_exp_support`; IEEE: `Float`, executed by `distmain` and compared
  bit for bit with the library — that comparison, not a translator, is what ties this model to the code).
  Core Lean only.  The tables are the regenerated ones (Generated/RngDist.lean, `ZigTables`).

  The C loops `for (;;)` end only through `return`; here they carry fuel (`none` = fuel exhausted).  `exp` is a parameter.
  The raw generator is `raw k` with the draw counter `k` threaded through, as in the regenerated definitions.
-/
import CimbaModel.Generated.RngDist

namespace CimbaModel.Rng.Zig
open CimbaModel.Rng.Dist

/-- the lookup tables of `cmi_random_exp_zig.inc` -/
structure ExpTab (K : Type) where
  zmax : Nat            -- cmi_random_exp_zig_max
  x : Nat → K           -- cmi_random_exp_zig_pdf_x
  y : Nat → K           -- cmi_random_exp_zig_pdf_y
  conc : Nat → Nat      -- exp_zig_u_concavity
  alias : Nat → Nat     -- exp_zig_alias
  prob : Nat → Nat      -- exp_zig_u_prob
  tail : K              -- exp_zig_x_tail_start

/-- a table of doubles given as numerators over one power of two -/
def dyadic {K : Type} [CNum K] [Div K] (nums : List Nat) (e : Nat) : Nat → K :=
  fun j => CNum.ofNat (nums.getD j 0) / CNum.ofNat (2 ^ e)

section
variable {K : Type} [CNum K] [Add K] [Sub K] [Mul K] [Neg K] [LE K] [DecidableLE K]

def M64 : Nat := 18446744073709551615

/-- `zig_exp_convert_x(&x[j], u) = ldexp(x[j], 64) + (x[j-1] - x[j]) * (double)u` -/
def convX (T : ExpTab K) (j u : Nat) : K :=
  T.x j * CNum.ofNat 18446744073709551616 + (T.x (j - 1) - T.x j) * CNum.ofNat u

/-- `zig_exp_convert_y(&y[j], u) = ldexp(y[j-1], 64) + (y[j] - y[j-1]) * (double)u` -/
def convY (T : ExpTab K) (j u : Nat) : K :=
  T.y (j - 1) * CNum.ofNat 18446744073709551616 + (T.y j - T.y (j - 1)) * CNum.ofNat u

/-- `if (u_cand_y > UINT64_MAX - u_cand_x) { u_cand_y = UINT64_MAX - u_cand_y; u_cand_x = UINT64_MAX - u_cand_x; }` -/
def reflect (ucx ucy : Nat) : Nat × Nat :=
  if ucy > M64 - ucx then (M64 - ucx, M64 - ucy) else (ucx, ucy)

/-- the alias step: `jdx = u & 0xff; jdx = (sfc64() >= prob[jdx]) ? alias[jdx] : jdx` -/
def aliasStep (T : ExpTab K) (r0 r1 : Nat) : Nat :=
  if r1 ≥ T.prob (r0 % 256) then T.alias (r0 % 256) else r0 % 256

/-- the rejection loop inside overhang `jdx`; returns the accepted x (without the tail offset) and the draw counter -/
def overhang (T : ExpTab K) (fexp : K → K) (raw : Nat → Nat) (jdx : Nat) : Nat → Nat → Nat → Nat → Option (K × Nat)
  | 0, _, _, _ => none
  | f + 1, k, ucx, ucy =>
    let ucx' := (reflect ucx ucy).1
    let ucy' := (reflect ucx ucy).2
    let udist := (M64 - ucx') - ucy'
    if udist ≥ T.conc jdx then some (convX T jdx ucx', k)
    else
      let x := convX T jdx ucx'
      let y := convY T jdx ucy'
      if y ≤ fexp (-x) then some (x, k)
      else overhang T fexp raw jdx f (k + 2) (raw (k + 1)) (raw k)

/-- `cmi_random_exp_not_hot(u_cand_x)` with the accumulated tail offset -/
def notHot (T : ExpTab K) (fexp : K → K) (raw : Nat → Nat) : Nat → Nat → Nat → K → Option (K × Nat)
  | 0, _, _, _ => none
  | f + 1, k, ucx, xoff =>
    let ucy := raw k
    let jdx := aliasStep T ucy (raw (k + 1))
    if jdx > 0 then
      match overhang T fexp raw jdx f (k + 2) ucx ucy with
      | none => none
      | some r => some (r.1 + xoff, r.2)
    else
      let xoff := xoff + T.tail
      let ucx := raw (k + 2)
      let idx := ucx % 256
      if idx ≤ T.zmax then some (T.x idx * CNum.ofNat ucx + xoff, k + 3)
      else notHot T fexp raw f (k + 3) ucx xoff

/-- `cmb_random_std_exponential()` -/
def stdExp (T : ExpTab K) (fexp : K → K) (zero : K) (raw : Nat → Nat) (fuel k : Nat) : Option (K × Nat) :=
  let u := raw k
  let idx := u % 256
  if idx ≤ T.zmax then some (T.x idx * CNum.ofNat u, k + 1)
  else notHot T fexp raw fuel (k + 1) u zero

end

/-- the regenerated tables of the current build as an `ExpTab` -/
def expTab (K : Type) [CNum K] [Div K] : ExpTab K :=
  open CimbaModel.Generated.ZigTables in
  { zmax := cmi_random_exp_zig_max
    x := dyadic cmi_random_exp_zig_pdf_x_num cmi_random_exp_zig_pdf_x_exp
    y := dyadic cmi_random_exp_zig_pdf_y_num cmi_random_exp_zig_pdf_y_exp
    conc := fun j => exp_zig_u_concavity.getD j 0
    alias := fun j => exp_zig_alias.getD j 0
    prob := fun j => exp_zig_u_prob.getD j 0
    tail := CNum.ofInt exp_zig_x_tail_start_num / CNum.ofNat (2 ^ exp_zig_x_tail_start_exp) }

end CimbaModel.Rng.Zig
