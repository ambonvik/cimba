/-
  What Props/C16.lean is stated and proved with: the specifications (`Raw64`, `psum`, Marsaglia's tail algorithm, `SqrtLike`,
  `AliasValid`, the table checks), the loop invariants of the alias construction (`StackInv`, `FlushInv`, `flush_valid`), the
  one-pass form of the neighbour sweeps (`all_adj_of_isChain`) and the support lemmas of the hand model Rng/Zig.lean
  (`ExpFacts`, `convX_nonneg` … `notHot_nonneg`).
-/
import CimbaModel.Rng.Discrete
import CimbaModel.Rng.Zig

namespace CimbaModel.Rng.Dist
open CimbaModel.Generated CimbaModel.Generated.DistQ CimbaModel.Rng.Zig

/-- the raw generator returns 64-bit words (`uint64_t cmb_random_sfc64(void)`) -/
def Raw64 (raw : Nat → Nat) : Prop := ∀ i, raw i < 18446744073709551616

/-- prefix sums of a probability vector: `psum pa j = pa 0 + … + pa (j-1)` -/
def psum (pa : Nat → Rat) : Nat → Rat
  | 0 => 0
  | j + 1 => psum pa j + pa j

/-! ### what the slow paths of the ziggurat samplers must be (specifications, written from the literature, not from the code) -/

/-- Marsaglia's tail algorithm for the standard normal distribution beyond `r` (Marsaglia 1964; "Ziggurat algorithm", fallback
    for the tail).  One iteration draws e1, e2 ~ Exp(1), proposes the excess `x = c * e1` with `c = 1 / r` and REJECTS (goes
    round again) iff `2 * e2 ≤ x * x`.  Returns (x, e2, reject?). -/
def marsagliaIter (c e1 e2 : Rat) : Rat × Rat × Bool :=
  (c * e1, e2, decide (2 * e2 ≤ (c * e1) * (c * e1)))

/-- … the accepted variate is `± (x + r)` -/
def marsagliaResult (r sign x : Rat) : Rat := sign * (x + r)

/-- what is assumed of `sqrt` (a hypothesis of the triangular bound, never an axiom) -/
structure SqrtLike (f : Rat → Rat) : Prop where
  nonneg : ∀ y, 0 ≤ y → 0 ≤ f y
  le_of_le_sq : ∀ y z, 0 ≤ y → 0 ≤ z → y ≤ z * z → f y ≤ z

/-- invariant of the Vose construction: the stacks `small[0..idxs)` and `large[0..idxl)` hold indices below n, together they
    hold at most n entries, every alias entry is below n, every threshold is a 64-bit word -/
def StackInv (n : Nat) (idxs idxl : Nat) (alp : cmb_random_alias) (small large : Nat → Nat) : Prop :=
  idxs + idxl ≤ n ∧ (∀ j, j < idxs → small j < n) ∧ (∀ j, j < idxl → large j < n) ∧
  (∀ i, alp.alias i < n) ∧ (∀ i, alp.uprob i < 18446744073709551616) ∧ alp.n = n

/-- an alias table is valid: n entries, every alias index below n, every threshold in [0, 2^64) i.e. a probability in [0, 1] -/
def AliasValid (n : Nat) (t : cmb_random_alias) : Prop :=
  t.n = n ∧ (∀ i, t.alias i < n) ∧ (∀ i, t.uprob i < 18446744073709551616)

/-- invariant of the two flush loops: the stack index is at most `n`, the table stays valid -/
def FlushInv (n : Nat) (st : Nat × cmb_random_alias) : Prop :=
  st.1 ≤ n ∧ AliasValid n st.2

/-- a flush loop (`while (idx > 0) uprob[stack[--idx]] = UINT64_MAX`): `n` units of fuel suffice, the table stays valid -/
theorem flush_valid (n fuel : Nat) (hn32 : n < 4294967296) (hf : n ≤ fuel) (stack : Nat → Nat)
    (st : Nat × cmb_random_alias) (h : FlushInv n st) :
    ∃ s', whileFuel fuel (fun st => decide (st.1 > 0))
        (fun st => (u32 (st.1 + 4294967296 - 1),
          { st.2 with uprob := upd st.2.uprob (stack (u32 (st.1 + 4294967296 - 1))) 18446744073709551615 })) st = some s'
      ∧ FlushInv n s' := by
  refine whileFuel_inv' (FlushInv n) (fun st => st.1) _ _ ?_ fuel st h (Nat.le_trans h.1 hf)
  intro st ⟨h1, hn, hal, hup⟩ hc
  simp only [decide_eq_true_eq] at hc
  rw [u32_pred hc (by omega)]
  exact ⟨⟨by simp only []; omega, hn, hal, upd_lt_all _ hup (by omega)⟩, by simp only []; omega⟩

/-! table checks as executable predicates (decided by the kernel over the regenerated tables) -/
def strictDecUpTo (l : List Nat) (m : Nat) : Bool := (List.range m).all (fun i => decide (l.getD (i + 1) 0 < l.getD i 0))
def strictIncUpTo (l : List Nat) (m : Nat) : Bool := (List.range m).all (fun i => decide (l.getD i 0 < l.getD (i + 1) 0))
def antitoneAll (l : List Nat) : Bool := (List.range l.length).all (fun i => decide (l.getD (i + 1) 0 ≤ l.getD i 0))

theorem getD_eq_getElem_append (l : List Nat) (j : Nat) (hj : j < (l ++ [0]).length) : l.getD j 0 = (l ++ [0])[j] := by
  rw [List.getD_eq_getElem?_getD, List.getElem_append]
  split
  · rename_i h; rw [List.getElem?_eq_getElem h]; rfl
  · rename_i h; rw [List.getElem?_eq_none (Nat.le_of_not_lt h), List.getElem_singleton]; rfl

/-- A sweep by index over neighbouring entries (quadratic in the kernel, `getD` walks the list each time) follows from
    the chain condition on the prefix, which is decided in one pass.  The appended 0 is the default that `getD` reads
    behind the last entry. -/
theorem all_adj_of_isChain (r : Nat → Nat → Prop) [DecidableRel r] (l : List Nat) (m : Nat) (hm : m ≤ l.length)
    (h : ((l ++ [0]).take (m + 1)).IsChain r) :
    (List.range m).all (fun i => decide (r (l.getD i 0) (l.getD (i + 1) 0))) = true := by
  rw [List.all_eq_true]
  intro i hi
  rw [List.mem_range] at hi
  have hlen : (l ++ [0]).length = l.length + 1 := by simp
  have hc := List.isChain_iff_getElem.mp h i (by rw [List.length_take, hlen]; omega)
  rw [List.getElem_take, List.getElem_take] at hc
  rw [getD_eq_getElem_append l i (by omega), getD_eq_getElem_append l (i + 1) (by omega)]
  exact decide_eq_true hc

/-- the facts about the exponential tables that the support argument uses -/
structure ExpFacts (T : ExpTab Rat) : Prop where
  x_nonneg : ∀ j, 0 ≤ T.x j
  x_antitone : ∀ j, T.x j ≤ T.x (j - 1)
  tail_nonneg : 0 ≤ T.tail

theorem convX_nonneg (T : ExpTab Rat) (h : ExpFacts T) (j u : Nat) : 0 ≤ convX T j u := by
  unfold convX
  simp only [cnum_ofNat]
  have h1 := h.x_nonneg j
  have h2 := h.x_antitone j
  have h3 : (0 : Rat) ≤ (u : Rat) := by positivity
  have : 0 ≤ (T.x (j - 1) - T.x j) * (u : Rat) := mul_nonneg (by linarith) h3
  have : 0 ≤ T.x j * ((18446744073709551616 : Nat) : Rat) := mul_nonneg h1 (by positivity)
  linarith

theorem overhang_nonneg (T : ExpTab Rat) (h : ExpFacts T) (fexp : Rat → Rat) (raw : Nat → Nat) (jdx : Nat) :
    ∀ fuel k ucx ucy r, overhang T fexp raw jdx fuel k ucx ucy = some r → 0 ≤ r.1 := by
  intro fuel
  induction fuel with
  | zero => intro k ucx ucy r hr; simp [overhang] at hr
  | succ f ih =>
    intro k ucx ucy r hr
    unfold overhang at hr
    simp only [] at hr
    split at hr
    · cases hr; exact convX_nonneg T h _ _
    · split at hr
      · cases hr; exact convX_nonneg T h _ _
      · exact ih _ _ _ _ hr

/-- the tail of the exponential ziggurat uses the memoryless property: every value returned after the offset has been advanced is
    at least the offset (offset + a fresh exponential variate) -/
theorem overhang_ge_zero_offset (T : ExpTab Rat) (h : ExpFacts T) (fexp : Rat → Rat) (raw : Nat → Nat) :
    ∀ fuel k ucx xoff r, 0 ≤ xoff → notHot T fexp raw fuel k ucx xoff = some r → xoff ≤ r.1 := by
  intro fuel
  induction fuel with
  | zero => intro k ucx xoff r _ hr; simp [notHot] at hr
  | succ f ih =>
    intro k ucx xoff r hx hr
    unfold notHot at hr
    simp only [] at hr
    split at hr
    · split at hr
      · cases hr
      · rename_i r' hov
        cases hr
        have := overhang_nonneg T h fexp raw _ _ _ _ _ _ hov
        simp only []; linarith
    · have ht := h.tail_nonneg
      have hx' : 0 ≤ xoff + T.tail := by linarith
      split at hr
      · cases hr
        simp only [cnum_ofNat]
        have := h.x_nonneg (raw (k + 2) % 256)
        have : 0 ≤ T.x (raw (k + 2) % 256) * ((raw (k + 2) : Nat) : Rat) := mul_nonneg this (by positivity)
        linarith
      · have := ih _ _ _ _ hx' hr
        linarith

theorem notHot_nonneg (T : ExpTab Rat) (h : ExpFacts T) (fexp : Rat → Rat) (raw : Nat → Nat) (fuel k ucx : Nat)
    (xoff : Rat) (r : Rat × Nat) (hx : 0 ≤ xoff) (hr : notHot T fexp raw fuel k ucx xoff = some r) : 0 ≤ r.1 :=
  le_trans hx (overhang_ge_zero_offset T h fexp raw fuel k ucx xoff r hx hr)

/-- the radicand of the triangular sampler: a fraction `u` of the width `w` times a part `a` of it lies in `[0, w²]` -/
theorem frac_part_sq (u w a : Rat) (h0 : 0 ≤ u) (h1 : u ≤ 1) (hw : 0 ≤ w) (ha0 : 0 ≤ a) (ha : a ≤ w) :
    0 ≤ u * w * a ∧ u * w * a ≤ w * w :=
  ⟨mul_nonneg (mul_nonneg h0 hw) ha0, mul_le_mul (mul_le_of_le_one_left hw h1) ha ha0 hw⟩

end CimbaModel.Rng.Dist
