/-
  Lemmas about the vocabulary of the regenerated sampler definitions (Rng/DistBase.lean) used by Props/C16.lean:
  loop invariants for `forLoop` / `whileFuel`, wrap-around arithmetic, the exact (`Rat`) instantiation of `CNum`.
-/
import CimbaModel.Rng.DistBase
import Mathlib.Tactic.Linarith
import Mathlib.Tactic.Ring
import Mathlib.Tactic.Positivity
import Mathlib.Algebra.Order.Field.Rat
import Mathlib.Data.Rat.Floor

namespace CimbaModel.Rng.Dist

/-! ### loops -/

theorem forLoop_fst_le {σ : Type} (n : Nat) (body : Nat → σ → Bool × σ) (i : Nat) (s : σ) (h : i ≤ n) :
    (forLoop n body i s).1 ≤ n := by
  induction hk : n - i generalizing i s with
  | zero =>
    unfold forLoop
    have : ¬ i < n := by omega
    simp [this]; exact h
  | succ m ih =>
    unfold forLoop
    have : i < n := by omega
    simp only [this, if_true]
    split
    · exact Nat.le_of_lt this
    · exact ih _ _ (by omega) (by omega)

theorem forLoop_fst_ge {σ : Type} (n : Nat) (body : Nat → σ → Bool × σ) (i : Nat) (s : σ) :
    i ≤ (forLoop n body i s).1 := by
  induction hk : n - i generalizing i s with
  | zero =>
    unfold forLoop
    have : ¬ i < n := by omega
    simp [this]
  | succ m ih =>
    unfold forLoop
    have : i < n := by omega
    simp only [this, if_true]
    split
    · exact Nat.le_refl _
    · exact Nat.le_trans (Nat.le_succ i) (ih _ _ (by omega))

/-- Invariant rule.  `P j t`: the loop is about to test `j < n` with state `t`.  The loop ends either by exhausting the range
    (index `n`, `P n`) or by a `break` in some iteration `j < n` that started in a state satisfying `P j`. -/
theorem forLoop_inv {σ : Type} (n : Nat) (body : Nat → σ → Bool × σ) (P : Nat → σ → Prop) (i : Nat) (s : σ)
    (hi : i ≤ n) (h0 : P i s)
    (hstep : ∀ j t, i ≤ j → j < n → P j t → (body j t).1 = false → P (j + 1) (body j t).2) :
    ((forLoop n body i s).1 = n ∧ P n (forLoop n body i s).2) ∨
    (∃ j t, j < n ∧ P j t ∧ (body j t).1 = true ∧ forLoop n body i s = (j, (body j t).2)) := by
  induction hk : n - i generalizing i s with
  | zero =>
    have hin : i = n := by omega
    subst hin
    unfold forLoop
    simp [h0]
  | succ m ih =>
    have hlt : i < n := by omega
    unfold forLoop
    simp only [hlt, if_true]
    by_cases hb : (body i s).1 = true
    · simp only [hb, if_true]
      exact Or.inr ⟨i, s, hlt, h0, hb, rfl⟩
    · have hb' : (body i s).1 = false := by simpa using hb
      simp only [hb', Bool.false_eq_true, if_false]
      exact ih (i + 1) (body i s).2 (by omega) (hstep i s (Nat.le_refl _) hlt h0 hb')
        (fun j t hj => hstep j t (by omega)) (by omega)

/-- the same as a case rule: prove `Q` of the loop's result from the two ways a loop can end -/
theorem forLoop_cases {σ : Type} (n : Nat) (body : Nat → σ → Bool × σ) (P : Nat → σ → Prop) (i : Nat) (s : σ)
    (hi : i ≤ n) (h0 : P i s)
    (hstep : ∀ j t, i ≤ j → j < n → P j t → (body j t).1 = false → P (j + 1) (body j t).2)
    (Q : Nat × σ → Prop) (hA : ∀ t, P n t → Q (n, t))
    (hB : ∀ j t, j < n → P j t → (body j t).1 = true → Q (j, (body j t).2)) : Q (forLoop n body i s) := by
  rcases forLoop_inv n body P i s hi h0 hstep with ⟨h1, h2⟩ | ⟨j, t, hj, hP, hb, he⟩
  · have : forLoop n body i s = (n, (forLoop n body i s).2) := Prod.ext h1 rfl
    rw [this]; exact hA _ h2
  · rw [he]; exact hB j t hj hP hb

/-- a loop without `break` runs to the end -/
theorem forLoop_nobreak {σ : Type} (n : Nat) (body : Nat → σ → Bool × σ) (P : Nat → σ → Prop) (i : Nat) (s : σ)
    (hi : i ≤ n) (h0 : P i s) (hnb : ∀ j t, (body j t).1 = false)
    (hstep : ∀ j t, i ≤ j → j < n → P j t → P (j + 1) (body j t).2) :
    (forLoop n body i s).1 = n ∧ P n (forLoop n body i s).2 := by
  rcases forLoop_inv n body P i s hi h0 (fun j t h1 h2 h3 _ => hstep j t h1 h2 h3) with h | ⟨j, t, _, _, hb, _⟩
  · exact h
  · rw [hnb] at hb; cases hb

/-- Total-correctness rule for `while`: with an invariant `P` and a measure `μ` that every iteration decreases, `μ s` units of
    fuel are enough; the loop ends in a state satisfying `P` in which the condition is false. -/
theorem whileFuel_inv {σ : Type} (P : σ → Prop) (μ : σ → Nat) (c : σ → Bool) (b : σ → σ)
    (hstep : ∀ s, P s → c s = true → P (b s) ∧ μ (b s) < μ s) :
    ∀ (fuel : Nat) (s : σ), P s → μ s ≤ fuel → ∃ s', whileFuel fuel c b s = some s' ∧ P s' ∧ c s' = false ∧ μ s' ≤ μ s := by
  intro fuel
  induction fuel with
  | zero =>
    intro s hP hμ
    by_cases hc : c s = true
    · have := (hstep s hP hc).2; omega
    · exact ⟨s, by simp [whileFuel, hc], hP, by simpa using hc, Nat.le_refl _⟩
  | succ f ih =>
    intro s hP hμ
    by_cases hc : c s = true
    · obtain ⟨hP', hlt⟩ := hstep s hP hc
      obtain ⟨s', h1, h2, h3, h4⟩ := ih (b s) hP' (by omega)
      exact ⟨s', by simp [whileFuel, hc, h1], h2, h3, by omega⟩
    · exact ⟨s, by simp [whileFuel, hc], hP, by simpa using hc, Nat.le_refl _⟩

theorem whileFuel_inv' {σ : Type} (P : σ → Prop) (μ : σ → Nat) (c : σ → Bool) (b : σ → σ)
    (hstep : ∀ s, P s → c s = true → P (b s) ∧ μ (b s) < μ s) (fuel : Nat) (s : σ) (hP : P s) (hμ : μ s ≤ fuel) :
    ∃ s', whileFuel fuel c b s = some s' ∧ P s' := by
  obtain ⟨s', h1, h2, _, _⟩ := whileFuel_inv P μ c b hstep fuel s hP hμ
  exact ⟨s', h1, h2⟩

/-! ### array assignment under a bound -/

theorem upd_lt_all {f : Nat → Nat} {b v : Nat} (k : Nat) (hf : ∀ i, f i < b) (hv : v < b) : ∀ i, upd f k v i < b := by
  intro i; unfold upd; split
  · exact hv
  · exact hf i

/-- pushing a value below `n` on a stack whose `m` entries are below `n` -/
theorem push_lt {f : Nat → Nat} {n m v : Nat} (hf : ∀ i, i < m → f i < n) (hv : v < n) :
    ∀ i, i < m + 1 → upd f m v i < n := by
  intro i hi
  by_cases hie : i = m
  · subst hie; rw [upd_same]; exact hv
  · rw [upd_other _ _ _ _ hie]; exact hf i (by omega)

theorem all_range {p : Nat → Bool} {m : Nat} (h : (List.range m).all p = true) : ∀ i, i < m → p i = true := by
  intro i hi
  rw [List.all_eq_true] at h
  exact h i (List.mem_range.mpr hi)

/-! ### wrap-around arithmetic -/

theorem u32_of_lt {x : Nat} (h : x < 4294967296) : u32 x = x := by unfold u32; omega
theorem u32_lt (x : Nat) : u32 x < 4294967296 := by unfold u32; omega
theorem u32_pred {x : Nat} (h0 : 0 < x) (h : x < 4294967296) : u32 (x + 4294967296 - 1) = x - 1 := by unfold u32; omega
theorem u64_lt (x : Nat) : u64 x < 18446744073709551616 := by unfold u64; omega
theorem u64_of_lt {x : Nat} (h : x < 18446744073709551616) : u64 x = x := by unfold u64; omega
theorem i64_of_range {x : Int} (h1 : -9223372036854775808 ≤ x) (h2 : x < 9223372036854775808) : i64 x = x := by
  unfold i64; omega

/-! ### the exact instantiation -/

@[simp] theorem cnum_ofNat (n : Nat) : (CNum.ofNat n : Rat) = (n : Rat) := rfl
@[simp] theorem cnum_ofInt (i : Int) : (CNum.ofInt i : Rat) = (i : Rat) := rfl
theorem rat_floor_eq (x : Rat) : Rat.floor x = ⌊x⌋ := rfl
theorem rat_ceil_eq (x : Rat) : Rat.ceil x = ⌈x⌉ := by
  rw [Rat.ceil_eq_neg_floor_neg, rat_floor_eq, Int.floor_neg, neg_neg]
@[simp] theorem cnum_floor (x : Rat) : (CNum.floor x : Rat) = ((⌊x⌋ : Int) : Rat) := rfl
@[simp] theorem cnum_ceil (x : Rat) : (CNum.ceil x : Rat) = ((⌈x⌉ : Int) : Rat) := by
  show ((Rat.ceil x : Int) : Rat) = _
  rw [rat_ceil_eq]
theorem cnum_abs (x : Rat) : (CNum.abs x : Rat) = |x| := by
  show (if x < 0 then -x else x) = |x|
  split
  · rw [abs_of_neg (by assumption)]
  · rw [abs_of_nonneg (by linarith)]

/-- `(long) x` of an integer-valued double is that integer -/
@[simp] theorem cnum_trunc_int (z : Int) : (CNum.trunc ((z : Int) : Rat) : Int) = z := by
  show (if ((z : Int) : Rat) < 0 then Rat.ceil (z : Rat) else Rat.floor (z : Rat)) = z
  rw [rat_floor_eq, rat_ceil_eq]
  split <;> simp

theorem cnum_trunc_nonneg {x : Rat} (h : 0 ≤ x) : (CNum.trunc x : Int) = ⌊x⌋ := by
  show (if x < 0 then Rat.ceil x else Rat.floor x) = _
  rw [if_neg (by linarith), rat_floor_eq]

end CimbaModel.Rng.Dist
