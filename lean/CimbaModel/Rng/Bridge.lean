/-
  Bridge between the regenerated definitions (Generated/Rng.lean, from cmb_random.c) and the documented
  generator (Rng/Spec.lean): which C variables hold the sfc64 state (`core`, `setCore`), the calls a user can make
  after seeding (`Call`, `step`, `runCalls`), and the states a memo cache can reach (`MemoReach`).  Core Lean only.

  Everything about "what survives re-seeding" (Props/C15.lean §2) is stated through the generated relation
  `RngState.AgreeOnReads` and proved without naming a field, so moving or renaming a cache variable does not disturb
  it.  C variables are named in `core`, `setCore`, the `*_spec` lemmas of Rng/Lemmas.lean (prng_state.{a,b,c,d},
  splitmix_state) and the statements about the coin-flip cache (Props/C15.lean §4: `flip_bitpos`).
-/
import CimbaModel.Generated.Rng
import CimbaModel.Rng.Spec

namespace CimbaModel.Rng
open CimbaModel.Generated

/-- the sfc64 state held in `prng_state` (the counter is the member `d`) -/
def core (s : RngState) : Spec.Sfc64 :=
  { a := s.prng_state_a, b := s.prng_state_b, c := s.prng_state_c, counter := s.prng_state_d }

def setCore (s : RngState) (g : Spec.Sfc64) : RngState :=
  { s with prng_state_a := g.a, prng_state_b := g.b, prng_state_c := g.c, prng_state_d := g.counter }

@[simp] theorem core_setCore (s : RngState) (g : Spec.Sfc64) : core (setCore s g) = g := rfl

/-! ### the calls a user can make after seeding (integer-only part of the API) -/

inductive Call where
  | raw        -- cmb_random_sfc64()
  | flip       -- cmb_random_flip()
  | curseed    -- cmb_random_curseed()
  | terminate  -- cmb_random_terminate()
  | unit53     -- cmb_random(): ldexp((double)(sfc64() >> 11), -53); the model returns the exact numerator sfc64() >> 11
deriving DecidableEq, Repr

inductive Out where
  | word (w : UInt64)
  | int (i : Int)
  | none
deriving DecidableEq, Repr

def step : Call → RngState → Out × RngState
  | .raw, s => (.word (cmb_random_sfc64 s).1, (cmb_random_sfc64 s).2)
  | .flip, s => (.int (cmb_random_flip s).1, (cmb_random_flip s).2)
  | .curseed, s => (.word (cmb_random_curseed s).1, (cmb_random_curseed s).2)
  | .terminate, s => (.none, cmb_random_terminate s)
  | .unit53, s => (.word ((cmb_random_sfc64 s).1 >>> 11), (cmb_random_sfc64 s).2)

/-- the values returned by a sequence of calls -/
def runCalls : RngState → List Call → List Out
  | _, [] => []
  | s, c :: cs => (step c s).1 :: runCalls (step c s).2 cs

/-- the state after a sequence of calls -/
def afterCalls : RngState → List Call → RngState
  | s, [] => s
  | s, c :: cs => afterCalls (step c s).2 cs

/-! ### memo caches of the floating-point samplers -/

/-- the states a sampler's function-static cache can be in: the static initialisers, or what its memo prologue leaves after
    any number of calls with valid arguments -/
inductive MemoReach {M F : Type} (init : M) (pro : F → M → M) (valid : F → Prop) : M → Prop where
  | init : MemoReach init pro valid init
  | call (x : F) (m : M) : valid x → MemoReach init pro valid m → MemoReach init pro valid (pro x m)

end CimbaModel.Rng
