/-
  CoLemmas - invariants of the coroutine bookkeeping machine (Ctx/Coroutine.lean) over arbitrary scripts.
  The invariants and the persistence lemmas go through `Did`: the four things a successful operation does.  What one
  particular operation does (`start_effect`, `reset_effect`, `exitCur_effect`) is read off `stepCore` directly.
-/
import CimbaModel.Ctx.Coroutine

namespace CimbaModel.Ctx.Co

/-- what a switch to `to` needs of the state; in a reachable state it holds for every `to` (`Inv.pre`) -/
structure Pre (s : St) (to : Cid) : Prop where
  /-- a coroutine that can be switched into and is not current is suspended inside a switching call -/
  suspended : ∀ c, c ≠ s.cur → c ≠ to → (s.co c).status = .running → ∃ k, (s.co c).pending = some k
  pendingPast : ∀ c k, (s.co c).pending = some k → k < s.clock
  mainInited : (s.co 0).inited = true

/-- what holds in every state reachable from `init` by any script -/
structure Inv (s : St) : Prop extends Pre s s.cur where
  curRunning : (s.co s.cur).status = .running
  curInited : (s.co s.cur).inited = true
  curNoPending : (s.co s.cur).pending = none

theorem Inv.pre {s : St} (h : Inv s) (to : Cid) : Pre s to :=
  ⟨fun c hc _ hr => h.suspended c hc hc hr, h.pendingPast, h.mainInited⟩

theorem inv_init : Inv init := by
  refine ⟨⟨?_, ?_, by simp [init]⟩, by simp [init], by simp [init], by simp [init]⟩
  · intro c hc _; simp [init] at hc ⊢; simp [hc]
  · intro c k; simp [init]; split <;> simp

theorem St.upd_co_self (s : St) (c : Cid) (f : Co → Co) : (s.upd c f).co c = f (s.co c) := if_pos rfl

theorem St.upd_co_ne (s : St) {c x : Cid} (f : Co → Co) (h : x ≠ c) : (s.upd c f).co x = s.co x := if_neg h

theorem step_ok {s s' : St} {op : Op} {ev : Ev} (h : step s op = .ok (s', ev)) :
    ∃ s1, stepCore s op = .ok (s1, ev) ∧ s' = s1.tick := by
  unfold step at h
  split at h
  · rename_i s1 ev1 hc
    cases h
    exact ⟨s1, hc, rfl⟩
  · cases h

theorem transferTo_ok {s s1 : St} {to : Cid} {msg : Val} {ev : Ev} (h : transferTo s to msg = .ok (s1, ev)) :
    (s.co to).inited = true ∧ (s.co to).status = .running ∧ s1 = switchTo s to ∧
      ev = .deliver to msg (arrival s to) := by
  unfold transferTo at h
  split at h; · cases h
  split at h; · cases h
  split at h; · cases h
  rename_i hin hst _
  cases h
  exact ⟨by simpa using hin, by simpa using hst, rfl, rfl⟩

/-- The four things a successful operation does. -/
inductive Did (s : St) (op : Op) : St → Ev → Prop
  /-- create, stop of another coroutine, reset: a coroutine that is neither main nor current is rewritten, not
      to `running`, and stays suspended where it is; it was running (stop) or the operation revives it -/
  | mark (c : Cid) (f : Co → Co) : c ≠ s.cur → c ≠ 0 → (∀ x, (f x).status ≠ .running) →
      (∀ x, (f x).pending = x.pending) → (op.revives c = true ∨ (s.co c).status = .running) →
      Did s op (s.upd c f) .none
  /-- resume, transfer, yield -/
  | switch (to : Cid) : (s.co to).inited = true → (s.co to).status = .running →
      Did s op (switchTo s to) (.deliver to op.msg (arrival s to))
  /-- exit, return, stop of oneself: the issuer is marked finished, then control goes to its parent -/
  | exit (p : Cid) : (s.co s.cur).parent = some p → p ≠ s.cur → (s.co p).inited = true →
      (s.co p).status = .running →
      Did s op (switchTo (s.upd s.cur fun c => { c with exitv := op.msg, status := .finished }) p)
        (.deliver p op.msg (s.co p).pending)
  /-- start: the target is marked running with the issuer as parent, then entered -/
  | start (c : Cid) (m : Val) : op = .start c m → (s.co c).inited = true → (s.co c).status ≠ .running →
      Did s op (switchTo (s.upd c fun x => { x with parent := some s.cur, exitv := 0, status := .running }) c)
        (.enter c (s.co c).ctx)

theorem transferTo_did {s s1 : St} {op : Op} {to : Cid} {ev : Ev} (h : transferTo s to op.msg = .ok (s1, ev)) :
    Did s op s1 ev := by
  obtain ⟨hin, hst, rfl, rfl⟩ := transferTo_ok h
  exact .switch to hin hst

/-- cmi_coroutine_exit(v): the issuer is marked finished, then control goes to its parent `p` -/
theorem exitCur_ok {s s1 : St} {v : Val} {ev : Ev} (h : exitCur s v = .ok (s1, ev)) :
    ∃ p, (s.co s.cur).parent = some p ∧ p ≠ s.cur ∧ (s.co p).inited = true ∧ (s.co p).status = .running ∧
      s1 = switchTo (s.upd s.cur fun c => { c with exitv := v, status := .finished }) p ∧
      ev = .deliver p v (s.co p).pending := by
  unfold exitCur at h
  split at h; · cases h
  split at h; · cases h
  split at h; · cases h
  rename_i p hp
  obtain ⟨hin, hst, rfl, rfl⟩ := transferTo_ok h
  have hpc : p ≠ s.cur := by
    intro e; subst e; rw [St.upd_co_self] at hst; cases hst
  rw [St.upd_co_ne s _ hpc] at hin hst
  refine ⟨p, hp, hpc, hin, hst, rfl, ?_⟩
  simp only [arrival, St.upd]
  rw [if_neg hpc, if_neg hpc]

theorem exitCur_did {s s1 : St} {op : Op} {ev : Ev} (h : exitCur s op.msg = .ok (s1, ev)) : Did s op s1 ev := by
  obtain ⟨p, hp, hpc, hin, hst, rfl, rfl⟩ := exitCur_ok h
  exact .exit p hp hpc hin hst

theorem stepCore_did {s s1 : St} {op : Op} {ev : Ev} (h : stepCore s op = .ok (s1, ev)) : Did s op s1 ev := by
  cases op with
  | start c msg =>
    simp only [stepCore] at h
    split at h; · cases h
    split at h; · cases h
    rename_i hin hst
    cases h
    exact .start c msg rfl (by simpa using hin) hst
  | resume c msg =>
    simp only [stepCore] at h
    split at h; · cases h
    split at h; · cases h
    exact transferTo_did h
  | transfer c msg => exact transferTo_did h
  | yield msg =>
    simp only [stepCore] at h
    split at h; · cases h
    split at h
    · cases h
    · exact transferTo_did h
  | exit v | ret v => exact exitCur_did h
  | stop c v =>
    simp only [stepCore] at h
    split at h; · cases h
    split at h; · cases h
    split at h; · exact exitCur_did h
    split at h; · cases h
    rename_i _ hst hcc hc0
    cases h
    exact .mark c _ hcc hc0 (fun _ => by simp) (fun _ => rfl) (Or.inr (by simpa using hst))
  | create c _ | reset c =>
    simp only [stepCore] at h
    split at h; · cases h
    split at h; · cases h
    have hc : ¬(c = 0 ∨ c = s.cur) := by assumption
    cases h
    exact .mark c _ (fun e => hc (Or.inr e)) (fun e => hc (Or.inl e)) (fun _ => by simp) (fun _ => rfl)
      (Or.inl (by simp [Op.revives]))

theorem step_did {s s' : St} {op : Op} {ev : Ev} (h : step s op = .ok (s', ev)) :
    ∃ s1, Did s op s1 ev ∧ s' = s1.tick := by
  obtain ⟨s1, hc, rfl⟩ := step_ok h
  exact ⟨s1, stepCore_did hc, rfl⟩

theorem St.upd_pending (s : St) (c x : Cid) {f : Co → Co} (hp : ∀ y, (f y).pending = y.pending) :
    ((s.upd c f).co x).pending = (s.co x).pending := by
  by_cases hx : x = c
  · subst hx; rw [St.upd_co_self]; exact hp _
  · rw [St.upd_co_ne s f hx]

theorem switchTo_status (s : St) (to x : Cid) : ((switchTo s to).co x).status = (s.co x).status := by
  simp only [switchTo]
  split
  · rfl
  · split <;> rfl

theorem switchTo_exitv (s : St) (to x : Cid) : ((switchTo s to).co x).exitv = (s.co x).exitv := by
  simp only [switchTo]
  split
  · rfl
  · split <;> rfl

theorem switchTo_inv {s : St} {to : Cid} (h : Pre s to) (hr : (s.co to).status = .running)
    (hi : (s.co to).inited = true) : Inv (switchTo s to).tick := by
  refine ⟨⟨?_, ?_, ?_⟩, ?_, ?_, ?_⟩
  · intro c hc _ hrun
    simp only [switchTo, St.tick] at hc hrun ⊢
    simp only [hc, if_false] at hrun ⊢
    by_cases hcc : c = s.cur
    · simp [hcc]
    · simp only [hcc, if_false] at hrun ⊢; exact h.suspended c hcc hc hrun
  · intro c k hk
    simp only [switchTo, St.tick] at hk ⊢
    by_cases h1 : c = to
    · simp [h1] at hk
    · by_cases h2 : c = s.cur
      · subst h2; simp [h1] at hk; omega
      · simp [h1, h2] at hk; have := h.pendingPast c k hk; omega
  · have := h.mainInited
    simp only [switchTo, St.tick]; split <;> (try split) <;> simp_all
  · simp [switchTo, St.tick, hr]
  · simp [switchTo, St.tick, hi]
  · simp [switchTo, St.tick]

/-- marking some other coroutine (not main, not current) as not running keeps everything -/
theorem upd_other_inv {s : St} {c : Cid} {f : Co → Co} (h : Inv s) (hc : c ≠ s.cur) (h0 : c ≠ 0)
    (hf1 : ∀ x, (f x).status ≠ .running) (hf2 : ∀ x, (f x).pending = x.pending) : Inv (s.upd c f).tick := by
  have hcc : s.cur ≠ c := fun e => hc e.symm
  have hcur : (s.upd c f).tick.co s.cur = s.co s.cur := St.upd_co_ne s f hcc
  refine ⟨⟨?_, ?_, ?_⟩, ?_, ?_, ?_⟩
  · intro x hx _ hrun
    have hxc : x ≠ c := by intro e; subst e; exact hf1 _ (by simpa [St.upd, St.tick] using hrun)
    exact (St.upd_co_ne s f hxc) ▸ h.suspended x hx hx ((St.upd_co_ne s f hxc) ▸ hrun)
  · intro x k hk
    have : (s.co x).pending = some k := (St.upd_pending s c x hf2) ▸ hk
    exact Nat.lt_succ_of_lt (h.pendingPast x k this)
  · exact (St.upd_co_ne s f (Ne.symm h0)) ▸ h.mainInited
  · exact hcur ▸ h.curRunning
  · exact hcur ▸ h.curInited
  · exact hcur ▸ h.curNoPending

/-- rewriting the issuer or the target, `pending` and `inited` kept, keeps what `switchTo` needs -/
theorem Pre.upd {s : St} {to c : Cid} {f : Co → Co} (h : Pre s to) (hc : c = s.cur ∨ c = to)
    (hp : ∀ x, (f x).pending = x.pending) (hi : ∀ x, (f x).inited = x.inited) : Pre (s.upd c f) to := by
  refine ⟨?_, ?_, ?_⟩
  · intro x hx hxt hrun
    have hxc : x ≠ c := by rcases hc with rfl | rfl <;> assumption
    rw [St.upd_co_ne s f hxc] at hrun ⊢
    exact h.suspended x hx hxt hrun
  · intro x k hk
    rw [St.upd_pending s c x hp] at hk
    exact h.pendingPast x k hk
  · by_cases h0 : 0 = c
    · subst h0; rw [St.upd_co_self, hi]; exact h.mainInited
    · rw [St.upd_co_ne s f h0]; exact h.mainInited

theorem step_inv {s s' : St} {op : Op} {ev : Ev} (h : Inv s) (hstep : step s op = .ok (s', ev)) : Inv s' := by
  obtain ⟨s1, hd, rfl⟩ := step_did hstep
  cases hd with
  | mark c f hc h0 hf1 hf2 _ => exact upd_other_inv h hc h0 hf1 hf2
  | switch to hin hst => exact switchTo_inv (h.pre to) hst hin
  | exit p _ hpc hin hst =>
    refine switchTo_inv ((h.pre p).upd (.inl rfl) (fun _ => rfl) (fun _ => rfl)) ?_ ?_
    · rw [St.upd_co_ne s _ hpc]; exact hst
    · rw [St.upd_co_ne s _ hpc]; exact hin
  | start c m _ hin _ =>
    refine switchTo_inv ((h.pre c).upd (.inr rfl) (fun _ => rfl) (fun _ => rfl)) ?_ ?_
    · rw [St.upd_co_self]
    · rw [St.upd_co_self]; exact hin


theorem run_cons_ok {s s' : St} {op : Op} {ops : List Op} {log : List (Cid × Ev)}
    (h : run s (op :: ops) = .ok (s', log)) :
    ∃ s1 ev log1, step s op = .ok (s1, ev) ∧ run s1 ops = .ok (s', log1) ∧ log = (s.cur, ev) :: log1 := by
  simp only [run] at h
  split at h; · cases h
  rename_i s1 ev hs
  split at h; · cases h
  rename_i s2 log1 hr
  cases h
  exact ⟨s1, ev, log1, hs, hr, rfl⟩

theorem run_nil_ok {s s' : St} {log : List (Cid × Ev)} (h : run s [] = .ok (s', log)) : s' = s ∧ log = [] := by
  cases h; exact ⟨rfl, rfl⟩

/-- **induction over arbitrary scripts**: every state reached by a script that hits no assert is `Inv` -/
theorem run_inv : ∀ (ops : List Op) {s s' : St} {log : List (Cid × Ev)}, Inv s → run s ops = .ok (s', log) → Inv s'
  | [], s, s', log, h, hr => (run_nil_ok hr).1 ▸ h
  | op :: ops, s, s', log, h, hr => by
    obtain ⟨s1, ev, log1, hs, hr1, -⟩ := run_cons_ok hr
    exact run_inv ops (step_inv h hs) hr1

/-- reachable from the initial state by some script that hits no assert -/
def Reach (s : St) : Prop := ∃ ops log, run init ops = .ok (s, log)

theorem Reach.inv {s : St} (h : Reach s) : Inv s := by
  obtain ⟨ops, log, hr⟩ := h
  exact run_inv ops inv_init hr

/-- what a switch does to the suspended calls: the issuer's is recorded, everybody else's (but the target's) is kept -/
theorem switchTo_pending_cur (s : St) {to : Cid} (h : to ≠ s.cur) : ((switchTo s to).co s.cur).pending = some s.clock := by
  simp [switchTo, Ne.symm h]

theorem switchTo_pending_other (s : St) {to x : Cid} (h1 : x ≠ to) (h2 : x ≠ s.cur) :
    ((switchTo s to).co x).pending = (s.co x).pending := by
  simp only [switchTo]
  rw [if_neg h1, if_neg h2]

/-- giving up control: the issuer is then suspended in the call with the current script index -/
theorem step_gives_up {s s' : St} {op : Op} {ev : Ev} (h : step s op = .ok (s', ev)) (hc : s'.cur ≠ s.cur) :
    (s'.co s.cur).pending = some s.clock := by
  obtain ⟨s1, hd, rfl⟩ := step_did h
  cases hd with
  | mark => exact absurd rfl hc
  | switch to => exact switchTo_pending_cur s hc
  | exit to => exact switchTo_pending_cur (s.upd s.cur _) hc
  | start to => exact switchTo_pending_cur (s.upd to _) hc

/-- a coroutine that neither issues the operation nor receives control keeps its suspended call -/
theorem step_pending_other {s s' : St} {op : Op} {ev : Ev} {x : Cid} (h : step s op = .ok (s', ev))
    (h1 : x ≠ s.cur) (h2 : x ≠ s'.cur) : (s'.co x).pending = (s.co x).pending := by
  obtain ⟨s1, hd, rfl⟩ := step_did h
  cases hd with
  | mark c f _ _ _ hf2 => exact St.upd_pending s c x hf2
  | switch to => exact switchTo_pending_other s h2 h1
  | exit to => exact (switchTo_pending_other (s.upd s.cur _) h2 h1).trans (St.upd_pending s _ x fun _ => rfl)
  | start to => exact (switchTo_pending_other (s.upd to _) h2 h1).trans (St.upd_pending s _ x fun _ => rfl)

/-- arriving: what the event of a control transfer says -/
theorem step_arrive {s s' : St} {op : Op} {ev : Ev} (h : step s op = .ok (s', ev)) (hc : s'.cur ≠ s.cur) :
    ev = .deliver s'.cur op.msg (s.co s'.cur).pending ∨
    (ev = .enter s'.cur (s.co s'.cur).ctx ∧ ∃ m, op = .start s'.cur m) := by
  obtain ⟨s1, hd, rfl⟩ := step_did h
  cases hd with
  | mark => exact absurd rfl hc
  | switch to =>
    have hc' : to ≠ s.cur := hc
    left; rw [arrival, if_neg hc']; rfl
  | exit to => exact .inl rfl
  | start to m hop => exact .inr ⟨rfl, m, hop⟩

/-- **induction over the script**: while `x` never has control, the call it is suspended in does not change -/
theorem suspended_pending {x : Cid} : ∀ (ops : List Op) {s s' : St} {log : List (Cid × Ev)},
    Suspended x s ops → run s ops = .ok (s', log) → (s'.co x).pending = (s.co x).pending ∧ s'.cur ≠ x
  | [], s, s', log, hs, hr => by
    obtain ⟨rfl, -⟩ := run_nil_ok hr; exact ⟨rfl, hs⟩
  | op :: ops, s, s', log, hs, hr => by
    obtain ⟨s1, ev, log1, hstep, hr1, -⟩ := run_cons_ok hr
    obtain ⟨hcur, hrest⟩ := hs
    have hs1 := hrest s1 ev hstep
    have ih := suspended_pending ops hs1 hr1
    have hc1 : s1.cur ≠ x := by
      cases ops with
      | nil => exact hs1
      | cons _ _ => exact hs1.1
    refine ⟨?_, ih.2⟩
    rw [ih.1]
    exact step_pending_other hstep (Ne.symm hcur) (Ne.symm hc1)

theorem step_finished {s s' : St} {op : Op} {ev : Ev} {x : Cid} (h : step s op = .ok (s', ev))
    (hf : (s.co x).status = .finished) (hx : s.cur ≠ x) (hr : op.revives x = false) :
    (s'.co x).status = .finished ∧ (s'.co x).exitv = (s.co x).exitv ∧ s'.cur ≠ x := by
  obtain ⟨s1, hd, rfl⟩ := step_did h
  -- whoever is running, and whoever the operation revives, is not `x`
  have ne_of_running : ∀ c, (s.co c).status = .running → x ≠ c := by
    intro c hc e; subst e; rw [hf] at hc; cases hc
  -- a switch to somebody else, from a state that has not touched `x`
  have sw : ∀ (s0 : St) (to : Cid), s0.co x = s.co x → x ≠ to →
      ((switchTo s0 to).tick.co x).status = .finished ∧ ((switchTo s0 to).tick.co x).exitv = (s.co x).exitv ∧
        (switchTo s0 to).tick.cur ≠ x := fun s0 to h0 hto =>
    ⟨(switchTo_status s0 to x).trans (h0 ▸ hf), (switchTo_exitv s0 to x).trans (congrArg Co.exitv h0), hto.symm⟩
  cases hd with
  | mark c f _ _ _ _ hc =>
    have hxc : x ≠ c := by
      rcases hc with hc | hc
      · intro e; subst e; rw [hr] at hc; cases hc
      · exact ne_of_running c hc
    have : (s.upd c f).tick.co x = s.co x := St.upd_co_ne s f hxc
    exact ⟨this ▸ hf, by rw [this], hx⟩
  | switch to _ hst => exact sw s to rfl (ne_of_running to hst)
  | exit p _ _ _ hst => exact sw _ p (St.upd_co_ne s _ hx.symm) (ne_of_running p hst)
  | start c m hop _ _ =>
    have hxc : x ≠ c := by
      intro e; subst e; subst hop; simp [Op.revives] at hr
    exact sw _ c (St.upd_co_ne s _ hxc) hxc

/-- **induction over the script**: a finished coroutine keeps its status and exit value and never has control,
    whatever the others do, until somebody re-creates, resets or restarts it -/
theorem finished_inert {x : Cid} : ∀ (ops : List Op) {s s' : St} {log : List (Cid × Ev)},
    (s.co x).status = .finished → s.cur ≠ x → (∀ op ∈ ops, op.revives x = false) → run s ops = .ok (s', log) →
    (s'.co x).status = .finished ∧ (s'.co x).exitv = (s.co x).exitv ∧ Suspended x s ops
  | [], s, s', log, hf, hx, _, hr => by
    obtain ⟨rfl, -⟩ := run_nil_ok hr; exact ⟨hf, rfl, hx⟩
  | op :: ops, s, s', log, hf, hx, hrev, hr => by
    obtain ⟨s1, ev, log1, hstep, hr1, -⟩ := run_cons_ok hr
    obtain ⟨f1, e1, c1⟩ := step_finished hstep hf hx (hrev op (List.mem_cons_self ..))
    obtain ⟨f2, e2, c2⟩ := finished_inert ops f1 c1 (fun o ho => hrev o (List.mem_cons_of_mem _ ho)) hr1
    refine ⟨f2, by rw [e2, e1], hx, ?_⟩
    intro s1' ev' hstep'
    rw [hstep] at hstep'
    cases hstep'
    exact c2


theorem start_effect {s s' : St} {c : Cid} {m : Val} {ev : Ev} (h : step s (.start c m) = .ok (s', ev)) :
    ev = .enter c (s.co c).ctx ∧ s'.cur = c ∧ (s'.co c).parent = some s.cur ∧ (s'.co c).caller = some s.cur ∧
    (s'.co c).status = .running ∧ (s'.co c).exitv = 0 ∧ (s'.co c).pending = none ∧
    (c ≠ s.cur → (s'.co s.cur).pending = some s.clock) ∧ s'.clock = s.clock + 1 := by
  obtain ⟨s1, hc, rfl⟩ := step_ok h
  simp only [stepCore] at hc
  split at hc; · cases hc
  split at hc; · cases hc
  cases hc
  refine ⟨rfl, rfl, ?_, ?_, ?_, ?_, ?_, ?_, rfl⟩ <;> simp [switchTo, St.upd, St.tick]
  intro h1
  have h2 : ¬ s.cur = c := fun e => h1 e.symm
  simp [h2]

theorem reset_effect {s s' : St} {c : Cid} {ev : Ev} (h : step s (.reset c) = .ok (s', ev)) :
    ev = .none ∧ s'.cur = s.cur ∧ c ≠ s.cur ∧ (s'.co c).ctx = (s.co c).ctx ∧ s'.clock = s.clock + 1 := by
  obtain ⟨s1, hc, rfl⟩ := step_ok h
  simp only [stepCore] at hc
  split at hc; · cases hc
  split at hc; · cases hc
  rename_i _ hne
  cases hc
  exact ⟨rfl, rfl, fun e => hne (Or.inr e), by rw [St.tick, St.upd_co_self], rfl⟩

theorem restart_effect {s s' : St} {c : Cid} {m : Val} {log : List (Cid × Ev)}
    (h : run s [.reset c, .start c m] = .ok (s', log)) :
    log = [(s.cur, .none), (s.cur, .enter c (s.co c).ctx)] ∧ s'.cur = c ∧
    (s'.co c).parent = some s.cur ∧ (s'.co c).caller = some s.cur ∧ (s'.co c).status = .running ∧
    (s'.co c).exitv = 0 ∧ (s'.co c).pending = none ∧ (s'.co s.cur).pending = some (s.clock + 1) := by
  obtain ⟨s1, ev1, log1, h1, hr1, rfl⟩ := run_cons_ok h
  obtain ⟨s2, ev2, log2, h2, hr2, rfl⟩ := run_cons_ok hr1
  obtain ⟨rfl, rfl⟩ := run_nil_ok hr2
  obtain ⟨rfl, r2, r3, r4, r5⟩ := reset_effect h1
  obtain ⟨rfl, t2, t3, t4, t5, t6, t7, t8, -⟩ := start_effect h2
  rw [r2] at t3 t4 t8
  rw [r2, r4, r5] at *
  exact ⟨rfl, t2, t3, t4, t5, t6, t7, t8 r3⟩

/-- what cmi_coroutine_exit(v) does, given the invariant -/
theorem exitCur_effect {s s1 : St} {v : Val} {ev : Ev} (inv : Inv s) (h : exitCur s v = .ok (s1, ev)) :
    ∃ p k, (s.co s.cur).parent = some p ∧ p ≠ s.cur ∧ s1.cur = p ∧ ev = .deliver p v (some k) ∧
      (s.co p).pending = some k ∧ (s1.co p).caller = some s.cur ∧
      (s1.co s.cur).exitv = v ∧ (s1.co s.cur).status = .finished ∧ (s1.co s.cur).pending = some s.clock := by
  obtain ⟨p, hp, hpc, -, hrun, rfl, rfl⟩ := exitCur_ok h
  obtain ⟨k, hk⟩ := inv.suspended p hpc hpc hrun
  refine ⟨p, k, hp, hpc, rfl, by rw [hk], hk, ?_, ?_, ?_, ?_⟩
  · simp [switchTo, St.upd]
  · simp [switchTo, St.upd, Ne.symm hpc]
  · simp [switchTo, St.upd, Ne.symm hpc]
  · simp [switchTo, St.upd, Ne.symm hpc]

end CimbaModel.Ctx.Co
