/-
  Switch - lemmas about the *regenerated* instruction lists of cmi_coroutine_context_switch and
  cmi_coroutine_trampoline (Generated/CtxAsm.lean), obtained by symbolic execution of Ctx/X86.lean.

  Everything that depends on the shape of the object code is in this file and is proved by `simp` over
  the semantics, so that a harmless change of the code (other scratch registers, `lea` instead of `add`)
  has a chance of going through, while a change of the frame layout or of what is saved does not.
-/
import CimbaModel.Generated.CtxAsm

set_option linter.unusedSimpArgs false

namespace CimbaModel.Ctx
open CimbaModel.Generated

theorem al_sub (a k : W) (hk : k.toNat % 8 = 0) : al (a - k) = al a := by
  unfold al; congr 1; rw [BitVec.toNat_sub]; have := a.isLt; have := k.isLt; omega

theorem al_add (a k : W) (hk : k.toNat % 8 = 0) : al (a + k) = al a := by
  unfold al; congr 1; rw [BitVec.toNat_add]; have := a.isLt; have := k.isLt; omega

theorem sub_add' (a x y : W) : a - x + y = a - (x - y) := by
  simp only [BitVec.sub_eq_add_neg, BitVec.neg_add, BitVec.neg_neg, BitVec.add_assoc]
theorem self_eq_sub (a x : W) : (a = a - x) = (x = 0#64) := by
  apply propext; constructor
  · intro h; bv_omega
  · intro h; rw [h]; simp
theorem sub_eq_self (a x : W) : (a - x = a) = (x = 0#64) := by
  apply propext; constructor
  · intro h; bv_omega
  · intro h; rw [h]; simp

/-- POPFQ gives the user-visible flags exactly the popped value -/
theorem popf_user (old v : W) : popfValue old v &&& userMask = v &&& userMask := by
  unfold popfValue
  ext i
  simp only [BitVec.getElem_and, BitVec.getElem_or, BitVec.getElem_not]
  cases old[i] <;> cases v[i] <;> cases userMask[i] <;> cases popfClear[i] <;> rfl

/-- POPFQ does not change a flag outside the user-changeable set and outside RF, VIF, VIP -/
theorem popf_and (old v m : W) (h : m &&& (userMask ||| popfClear) = 0#64) :
    popfValue old v &&& m = old &&& m := by
  unfold popfValue
  ext i hi
  have hb : (m[i] && (userMask[i] || popfClear[i])) = false := by
    have := congrArg (fun x : W => x[i]) h; simpa using this
  simp only [BitVec.getElem_and, BitVec.getElem_or, BitVec.getElem_not]
  revert hb
  cases old[i] <;> cases v[i] <;> cases m[i] <;> cases userMask[i] <;> cases popfClear[i] <;> simp

/-- an arithmetic instruction changes the six status flags only -/
theorem setArith_and (old v m : W) (h : m &&& arithMask = 0#64) : setArith old v &&& m = old &&& m := by
  unfold setArith
  ext i hi
  have hb : (m[i] && arithMask[i]) = false := by
    have := congrArg (fun x : W => x[i]) h; simpa using this
  simp only [BitVec.getElem_and, BitVec.getElem_or, BitVec.getElem_not]
  revert hb
  cases old[i] <;> cases v[i] <;> cases m[i] <;> cases arithMask[i] <;> simp

/-- flags that neither POPFQ at CPL 3 nor an arithmetic instruction changes: IF, IOPL, VM, reserved bits -/
def sysMask : W := ~~~(userMask ||| popfClear ||| arithMask)

/-- the image PUSHFQ stores holds all user-visible flags -/
theorem pushf_user (x : W) : (x &&& pushfMask) &&& userMask = x &&& userMask := by
  rw [BitVec.and_assoc]; rfl

/-- addresses of the saved context, counted up from its lowest word and down from the return address -/
theorem frame_addr_eqs (a : W) :
    a - 64#64 + 8#64 = a - 56#64 ∧ a - 64#64 + 16#64 = a - 48#64 ∧ a - 64#64 + 24#64 = a - 40#64 ∧
    a - 64#64 + 32#64 = a - 32#64 ∧ a - 64#64 + 40#64 = a - 24#64 ∧ a - 64#64 + 48#64 = a - 16#64 ∧
    a - 64#64 + 56#64 = a - 8#64 ∧ a - 64#64 + 64#64 = a ∧ a - 64#64 + 72#64 = a + 8#64 := by
  simp only [sub_add', BitVec.reduceSub, BitVec.sub_zero, true_and]
  rw [BitVec.sub_eq_add_neg]; rfl

/-- the eight words the switch writes below the outgoing stack pointer `sp` (flags, MXCSR slot, rbp, rbx, r12–r15) -/
def frameAddrs (sp : W) : List W :=
  [sp - 8#64, sp - 16#64, sp - 24#64, sp - 32#64, sp - 40#64, sp - 48#64, sp - 56#64, sp - 64#64]

/-- the saved context of a suspended coroutine whose `call cmi_coroutine_context_switch` pushed the return
    address at `sp`: that return address and the eight words below it -/
def savedAddrs (sp : W) : List W := sp :: frameAddrs sp

/-- the nine words of a frame that starts at `lo` (ascending) -/
def frameWords (lo : W) : List W :=
  [lo, lo + 8#64, lo + 16#64, lo + 24#64, lo + 32#64, lo + 40#64, lo + 48#64, lo + 56#64, lo + 64#64]

theorem savedAddrs_eq_frameWords (sp : W) : ∀ a, a ∈ savedAddrs sp ↔ a ∈ frameWords (sp - 64#64) := by
  intro a
  simp only [savedAddrs, frameAddrs, frameWords, List.mem_cons, List.not_mem_nil, or_false, sub_add']
  simp only [BitVec.reduceSub, BitVec.sub_zero]
  constructor <;> intro h <;> (rcases h with h | h | h | h | h | h | h | h | h <;> simp [h])

/-- memory after the save half of the switch: the eight words below `sp`, then `*old` -/
def saveMem (s : State) : W → W :=
  upd (upd (upd (upd (upd (upd (upd (upd (upd s.mem
    (s.rsp - 8#64) (s.rflags &&& pushfMask))
    (s.rsp - 16#64) (mk64 s.mxcsr (lo32 (upd s.mem (s.rsp - 8#64) (s.rflags &&& pushfMask) (s.rsp - 16#64)))))
    (s.rsp - 24#64) s.rbp) (s.rsp - 32#64) s.rbx) (s.rsp - 40#64) s.r12) (s.rsp - 48#64) s.r13)
    (s.rsp - 56#64) s.r14) (s.rsp - 64#64) s.r15) s.rdi (s.rsp - 64#64)

/-- The one symbolic execution of the switch.  It speaks of the user-visible and the system flags only, of no
    scratch register and of no intermediate `rip`, so that it survives the code changes the lemmas below survive. -/
theorem switch_effect (s : State) :
    let s' := exec switchCode s
    let m := saveMem s
    let n := m s.rsi
    s'.mem = m ∧
    s'.r15 = m n ∧ s'.r14 = m (n + 8#64) ∧ s'.r13 = m (n + 16#64) ∧ s'.r12 = m (n + 24#64) ∧
    s'.rbx = m (n + 32#64) ∧ s'.rbp = m (n + 40#64) ∧ s'.mxcsr = hi32 (m (n + 48#64)) ∧
    userFlags s' = m (n + 56#64) &&& userMask ∧ s'.rip = m (n + 64#64) ∧ s'.rsp = n + 72#64 ∧
    s'.rax = s.rdx ∧
    s'.rflags &&& sysMask = s.rflags &&& sysMask ∧
    s'.ok = (s.ok && al s.rsp && al s.rdi && al s.rsi && al n &&
      (hi32 (m (n + 48#64)) &&& mxcsrReserved == 0#32)) := by
  have h1 : sysMask &&& (userMask ||| popfClear) = 0#64 := by decide
  have h2 : sysMask &&& arithMask = 0#64 := by decide
  simp [switchCode, exec, step, Instr.isTransfer, State.wr, State.rdOk, half, BitVec.sub_sub, BitVec.add_assoc,
    userFlags, popf_user, flagsAdd, flagsSub, popf_and _ _ _ h1, setArith_and _ _ _ h2, saveMem, al_sub, al_add]
  -- left over: the `ok` conjunct as an implication whose conclusion is its fifth hypothesis
  intro _ _ _ _ e _
  exact e

theorem saveMem_other (s : State) (a : W) (h1 : a ∉ frameAddrs s.rsp) (h2 : a ≠ s.rdi) : saveMem s a = s.mem a := by
  simp [frameAddrs] at h1
  simp [saveMem, upd, h1, h2]

/-- **frame-only**: memory outside the eight words below the outgoing rsp and outside `*old` is untouched -/
theorem switch_mem_other (s : State) (a : W) (h1 : a ∉ frameAddrs s.rsp) (h2 : a ≠ s.rdi) :
    (exec switchCode s).mem a = s.mem a := by
  rw [(switch_effect s).1]; exact saveMem_other s a h1 h2

/-- what the save half leaves in memory (layout of the saved context) -/
theorem switch_save (s : State) (hd : s.rdi ∉ savedAddrs s.rsp) :
    let m := (exec switchCode s).mem
    m s.rdi = s.rsp - 64#64 ∧
    m (s.rsp - 64#64) = s.r15 ∧ m (s.rsp - 56#64) = s.r14 ∧ m (s.rsp - 48#64) = s.r13 ∧
    m (s.rsp - 40#64) = s.r12 ∧ m (s.rsp - 32#64) = s.rbx ∧ m (s.rsp - 24#64) = s.rbp ∧
    hi32 (m (s.rsp - 16#64)) = s.mxcsr ∧ m (s.rsp - 8#64) = s.rflags &&& pushfMask ∧
    m s.rsp = s.mem s.rsp := by
  simp [savedAddrs, frameAddrs] at hd
  rw [(switch_effect s).1]
  simp [saveMem, upd, hd, Ne.symm, self_eq_sub, sub_eq_self]

/-- what the load half puts into the registers, in terms of the memory after the save half and the
    stack pointer `n` found at `*new` -/
theorem switch_load (s : State) :
    let s' := exec switchCode s
    let m := s'.mem
    let n := m s.rsi
    s'.r15 = m n ∧ s'.r14 = m (n + 8#64) ∧ s'.r13 = m (n + 16#64) ∧ s'.r12 = m (n + 24#64) ∧
    s'.rbx = m (n + 32#64) ∧ s'.rbp = m (n + 40#64) ∧ s'.mxcsr = hi32 (m (n + 48#64)) ∧
    userFlags s' = m (n + 56#64) &&& userMask ∧ s'.rip = m (n + 64#64) ∧ s'.rsp = n + 72#64 ∧
    s'.rax = s.rdx := by
  obtain ⟨hm, a, b, c, d, e, f, g, h, i, j, k, -⟩ := switch_effect s
  dsimp only
  rw [hm]
  exact ⟨a, b, c, d, e, f, g, h, i, j, k⟩

/-- the flags a user program cannot change are not changed by the switch either -/
theorem switch_sysflags (s : State) : (exec switchCode s).rflags &&& sysMask = s.rflags &&& sysMask :=
  (switch_effect s).2.2.2.2.2.2.2.2.2.2.2.2.1

/-- the switch stays inside the word-granular model and LDMXCSR does not fault iff the loaded stack pointer is
    aligned and the MXCSR image in the frame has no reserved bit -/
theorem switch_ok (s : State) (h : s.ok = true) (h1 : al s.rsp = true) (h2 : al s.rdi = true)
    (h3 : al s.rsi = true) :
    let s' := exec switchCode s
    let n := s'.mem s.rsi
    s'.ok = (al n && (hi32 (s'.mem (n + 48#64)) &&& mxcsrReserved == 0#32)) := by
  obtain ⟨hm, -, -, -, -, -, -, -, -, -, -, -, -, hok⟩ := switch_effect s
  dsimp only
  rw [hm, hok, h, h1, h2, h3]
  rfl

/-- **switching into a saved context**: if `*new` holds `S`, and neither `*new` nor the nine words from `S`
    overlap the outgoing frame and `*old`, every restored item comes from the corresponding word of
    the frame at `S` as it was in memory *before* the switch. -/
theorem switch_into (s : State) (S : W) (hn : s.mem s.rsi = S)
    (hd : ∀ a ∈ s.rsi :: frameWords S, a ∉ frameAddrs s.rsp ∧ a ≠ s.rdi) :
    ∀ s', s' = exec switchCode s →
    s'.r15 = s.mem S ∧ s'.r14 = s.mem (S + 8#64) ∧ s'.r13 = s.mem (S + 16#64) ∧ s'.r12 = s.mem (S + 24#64) ∧
    s'.rbx = s.mem (S + 32#64) ∧ s'.rbp = s.mem (S + 40#64) ∧ s'.mxcsr = hi32 (s.mem (S + 48#64)) ∧
    userFlags s' = s.mem (S + 56#64) &&& userMask ∧ s'.rip = s.mem (S + 64#64) ∧ s'.rsp = S + 72#64 ∧
    s'.rax = s.rdx ∧
    (s.ok = true → al s.rsp = true → al s.rdi = true → al s.rsi = true →
      s'.ok = (al S && (hi32 (s.mem (S + 48#64)) &&& mxcsrReserved == 0#32))) := by
  intro s' hs'
  subst hs'
  have m0 : (exec switchCode s).mem s.rsi = S := by
    rw [switch_mem_other s _ (hd _ (by simp)).1 (hd _ (by simp)).2, hn]
  have mk : ∀ a ∈ frameWords S, (exec switchCode s).mem a = s.mem a := fun a ha =>
    switch_mem_other s a (hd a (List.mem_cons_of_mem _ ha)).1 (hd a (List.mem_cons_of_mem _ ha)).2
  have L := switch_load s
  simp only [m0] at L
  obtain ⟨l15, l14, l13, l12, lbx, lbp, lmx, lfl, lip, lsp, lax⟩ := L
  refine ⟨?_, ?_, ?_, ?_, ?_, ?_, ?_, ?_, ?_, lsp, lax, ?_⟩
  · rw [l15, mk _ (by simp [frameWords])]
  · rw [l14, mk _ (by simp [frameWords])]
  · rw [l13, mk _ (by simp [frameWords])]
  · rw [l12, mk _ (by simp [frameWords])]
  · rw [lbx, mk _ (by simp [frameWords])]
  · rw [lbp, mk _ (by simp [frameWords])]
  · rw [lmx, mk _ (by simp [frameWords])]
  · rw [lfl, mk _ (by simp [frameWords])]
  · rw [lip, mk _ (by simp [frameWords])]
  · intro h h1 h2 h3
    have K := switch_ok s h h1 h2 h3
    simp only [m0] at K
    rw [K, mk _ (by simp [frameWords])]

/-! ### anything that may happen between switch-out and switch-in -/

/-- one piece of activity of the *other* coroutines (and of the dispatcher): a context switch, or any code at all -/
inductive Act
  | switch
  | code (f : State → State)

def Act.run : Act → State → State
  | .switch, s => exec switchCode s
  | .code f, s => f s

/-- the activity stays off the protected addresses: a switch is issued from a stack, and with an `old` slot, that does
    not contain one of them; other code does not write them -/
def Act.respects (prot : List W) : Act → State → Prop
  | .switch, s => ∀ a ∈ prot, a ∉ frameAddrs s.rsp ∧ a ≠ s.rdi
  | .code f, s => ∀ a ∈ prot, (f s).mem a = s.mem a

def runActs : List Act → State → State
  | [], s => s
  | a :: as, s => runActs as (a.run s)

def Respects (prot : List W) : List Act → State → Prop
  | [], _ => True
  | a :: as, s => a.respects prot s ∧ Respects prot as (a.run s)

/-- **induction over the interleaving**: however many switches and whatever code run in between, protected words
    keep their contents -/
theorem protected_survives (prot : List W) : ∀ (acts : List Act) (s : State), Respects prot acts s →
    ∀ a ∈ prot, (runActs acts s).mem a = s.mem a
  | [], _, _, _, _ => rfl
  | act :: acts, s, h, a, ha => by
    obtain ⟨h1, h2⟩ := h
    rw [runActs, protected_survives prot acts _ h2 a ha]
    cases act with
    | switch => exact switch_mem_other s a (h1 a ha).1 (h1 a ha).2
    | code f => exact h1 a ha

/-- entry half of the trampoline: up to and including `call` -/
theorem tramp_entry (s : State) :
    let s' := exec trampCode s
    s'.rip = s.r12 ∧ s'.rdi = s.r13 ∧ s'.rsi = s.r14 ∧ s'.rax = 0#64 ∧ s'.rsp = s.rsp - 8#64 ∧
    s'.mem (s.rsp - 8#64) = s.rip + 12#64 ∧ s'.mxcsr = s.mxcsr ∧
    s'.rbx = s.rbx ∧ s'.rbp = s.rbp ∧ s'.r12 = s.r12 ∧ s'.r13 = s.r13 ∧ s'.r14 = s.r14 ∧ s'.r15 = s.r15 ∧
    s'.ok = (s.ok && al s.rsp) ∧ (∀ a, a ≠ s.rsp - 8#64 → s'.mem a = s.mem a) ∧
    s'.rflags &&& 0x400#64 = s.rflags &&& 0x400#64 := by
  have df : ∀ old r : W, flagsLogic old r &&& 0x400#64 = old &&& 0x400#64 := by
    intro old r; unfold flagsLogic; exact setArith_and _ _ _ (by decide)
  simp [trampCode, exec, step, Instr.isTransfer, State.wr, State.rdOk, half, upd, al_sub, BitVec.add_assoc, df]
  intro a h; simp [h]

/-- return half of the trampoline: the code at `trampoline + 12` (the return address `call` pushed) -/
theorem tramp_return_code : ∃ tail, codeFrom trampCode 12 = some tail ∧
    ∀ s, let s' := exec tail s
      s'.rip = s.r15 ∧ s'.rdi = s.rax ∧ s'.rsp = s.rsp - 8#64 ∧ s'.ok = (s.ok && al s.rsp) ∧
      (∀ a, a ≠ s.rsp - 8#64 → s'.mem a = s.mem a) := by
  refine ⟨_, rfl, ?_⟩
  intro s
  simp [exec, step, Instr.isTransfer, State.wr, upd, al_sub]
  intro a h; simp [h]

/-- What the System V AMD64 ABI promises about a function that was entered in state `e` (return address on top
    of the stack) and returns `v`: control is at that return address, the stack pointer is one word above its
    value at entry, the callee-saved registers are as at entry, `rax = v`.  (Trusted: the C compiler.) -/
def SysVReturn (e t : State) (v : W) : Prop :=
  t.rip = e.mem e.rsp ∧ t.rsp = e.rsp + 8#64 ∧ (∀ r ∈ calleeSaved, t.get r = e.get r) ∧ t.rax = v

end CimbaModel.Ctx
