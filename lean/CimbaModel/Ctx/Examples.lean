/-
  Examples - concrete machine states used by the non-vacuity examples of Props/C03.lean.
-/
import CimbaModel.Generated.CtxAsm

namespace CimbaModel.Ctx
open CimbaModel.Generated

/-- a concrete machine state: coroutine A at its call of the switch -/
def exA : State :=
  { rax := 1, rcx := 2, rdx := 3, rbx := 0xb0b#64, rsp := 0x10000#64, rbp := 0xb9#64, rsi := 0x20008#64, rdi := 0x20000#64,
    r8 := 8, r9 := 9, r10 := 10, r11 := 11, r12 := 0x12#64, r13 := 0x13#64, r14 := 0x14#64, r15 := 0x15#64,
    rflags := 0x246#64, mxcsr := 0x7f80#32, rip := 0x400000#64, mem := fun a => a ^^^ 0x5555#64, ok := true }

/-- somebody else, later, switching back into A with message 99 from a different stack -/
def exC : State :=
  { exA with rbx := 0, rbp := 0, r12 := 0, r13 := 0, r14 := 0, r15 := 0, rflags := 0x202#64, mxcsr := 0x1f80#32,
             rsp := 0x50000#64, rdi := 0x20010#64, rsi := 0x20000#64, rdx := 99#64, mem := (exec switchCode exA).mem }

/-- a caller on the main stack about to switch into a freshly initialised coroutine -/
def exFrame : List W := initFrame 0x401000#64 0x402000#64 0x30000#64 0x77#64 0x403000#64 0x90000#64
def exM : W → W :=
  upd (upd (upd (upd (upd (upd (upd (upd (upd (upd (fun _ => 0#64)
    0x30028#64 (0x90000#64 - 72#64))
    0x8ffb8#64 0x403000#64) 0x8ffc0#64 0x77#64) 0x8ffc8#64 0x30000#64) 0x8ffd0#64 0x402000#64) 0x8ffd8#64 0#64)
    0x8ffe0#64 (0x90000#64 - 40#64)) 0x8ffe8#64 (mk64 initMxcsr 0#32)) 0x8fff0#64 0#64) 0x8fff8#64 0x401000#64
def exS : State := { exA with rsi := 0x30028#64, mem := exM }

end CimbaModel.Ctx
