/-
  X86 - the part of the x86-64 user-mode machine that the context switch touches (DESIGN.md §4 C03).

  Core Lean only (the compiled driver Drivers/CtxMain links this file).

  State: 16 general purpose registers, RFLAGS, MXCSR, RIP, and memory as a function from
  (8-aligned) word addresses to 64-bit words.  The model is word-granular: every qword access has to
  be 8-aligned and the only 32-bit accesses (STMXCSR / LDMXCSR m32) have to hit one half of an
  aligned word.  An access that does not satisfy this clears `ok`; the theorems of Props/C03 conclude
  `ok = true`, so the alignment hypotheses they state (rsp 8-aligned, `old`/`new` 8-aligned) are exactly
  what makes the word-granular model a faithful picture of the byte-addressed machine.

  Semantics transcribed from the Intel SDM vol. 2 (PUSHFQ, POPFQ at CPL 3 with IOPL 0, PUSH, POP, MOV,
  ADD, SUB, XOR, LEA, STMXCSR, LDMXCSR, CALL r64, JMP r64, RET near).  This transcription is in the
  trusted base; harness/ctxprobe.asm compares it with the CPU on seeded register files on every run.
-/
namespace CimbaModel.Ctx

abbrev W := BitVec 64

inductive Reg
  | rax | rcx | rdx | rbx | rsp | rbp | rsi | rdi | r8 | r9 | r10 | r11 | r12 | r13 | r14 | r15
  deriving DecidableEq, Repr, Inhabited

structure State where
  rax : W
  rcx : W
  rdx : W
  rbx : W
  rsp : W
  rbp : W
  rsi : W
  rdi : W
  r8 : W
  r9 : W
  r10 : W
  r11 : W
  r12 : W
  r13 : W
  r14 : W
  r15 : W
  rflags : W
  mxcsr : BitVec 32
  rip : W
  mem : W → W
  /-- every memory access so far was inside the word-granular model (aligned), and no LDMXCSR #GP -/
  ok : Bool

namespace State

@[simp] def get (s : State) : Reg → W
  | .rax => s.rax | .rcx => s.rcx | .rdx => s.rdx | .rbx => s.rbx
  | .rsp => s.rsp | .rbp => s.rbp | .rsi => s.rsi | .rdi => s.rdi
  | .r8 => s.r8 | .r9 => s.r9 | .r10 => s.r10 | .r11 => s.r11
  | .r12 => s.r12 | .r13 => s.r13 | .r14 => s.r14 | .r15 => s.r15

@[simp] def set (s : State) (r : Reg) (v : W) : State :=
  match r with
  | .rax => { s with rax := v } | .rcx => { s with rcx := v } | .rdx => { s with rdx := v }
  | .rbx => { s with rbx := v } | .rsp => { s with rsp := v } | .rbp => { s with rbp := v }
  | .rsi => { s with rsi := v } | .rdi => { s with rdi := v } | .r8 => { s with r8 := v }
  | .r9 => { s with r9 := v } | .r10 => { s with r10 := v } | .r11 => { s with r11 := v }
  | .r12 => { s with r12 := v } | .r13 => { s with r13 := v } | .r14 => { s with r14 := v }
  | .r15 => { s with r15 := v }

end State

/-- 8-byte alignment of an address -/
def al (a : W) : Bool := a.toNat % 8 == 0

/-- memory with one word replaced -/
def upd (m : W → W) (a v : W) : W → W := fun x => if x = a then v else m x

/-- aligned qword store -/
def State.wr (s : State) (a v : W) : State := { s with mem := upd s.mem a v, ok := s.ok && al a }

/-- aligned qword load: the state with the alignment obligation recorded (the caller reads the value from `mem`) -/
def State.rdOk (s : State) (a : W) : State := { s with ok := s.ok && al a }

/-! ### RFLAGS -/

/-- what PUSHFQ stores: RFLAGS with VM (17) and RF (16) cleared (SDM: `RFLAGS AND 00FCFFFFH`) -/
def pushfMask : W := 0x00FCFFFF#64

/-- flags a CPL-3 POPFQ with IOPL 0 can change: CF PF AF ZF SF TF DF OF NT AC ID
    (bits 0 2 4 6 7 8 10 11 14 18 21).  IF and IOPL stay, reserved bits stay. -/
def userMask : W := 0x244DD5#64

/-- flags POPFQ always clears: RF (16), VIF (19), VIP (20) -/
def popfClear : W := 0x190000#64

def popfValue (old v : W) : W := (old &&& ~~~(userMask ||| popfClear)) ||| (v &&& userMask)

/-- the user-visible (user-changeable) flags -/
def userFlags (s : State) : W := s.rflags &&& userMask

/-- the six arithmetic status flags CF PF AF ZF SF OF -/
def arithMask : W := 0x8D5#64

def bit (b : Bool) (n : Nat) : W := if b then (1#64 <<< n) else 0#64

/-- even parity of the low byte -/
def parity (r : W) : Bool :=
  let b := fun (i : Nat) => r.getLsbD i
  !(b 0 ^^ b 1 ^^ b 2 ^^ b 3 ^^ b 4 ^^ b 5 ^^ b 6 ^^ b 7)

def szp (r : W) : W := bit (r == 0#64) 6 ||| bit r.msb 7 ||| bit (parity r) 2

/-- replace the six arithmetic status flags of `old` by those of `v` -/
def setArith (old v : W) : W := (old &&& ~~~arithMask) ||| (v &&& arithMask)

/-- RFLAGS after `SUB a, b` (result r = a - b) -/
def flagsSub (old a b : W) : W :=
  let r := a - b
  setArith old (szp r ||| bit (a.ult b) 0 ||| bit ((a &&& 15#64).ult (b &&& 15#64)) 4
    ||| bit ((a.msb != b.msb) && (r.msb != a.msb)) 11)

/-- RFLAGS after `ADD a, b` (result r = a + b) -/
def flagsAdd (old a b : W) : W :=
  let r := a + b
  setArith old (szp r ||| bit (r.ult a) 0 ||| bit ((15#64).ult ((a &&& 15#64) + (b &&& 15#64))) 4
    ||| bit ((a.msb == b.msb) && (r.msb != a.msb)) 11)

/-- RFLAGS after a logical operation with result r (CF = OF = 0; AF is undefined in the SDM, modelled as 0) -/
def flagsLogic (old r : W) : W := setArith old (szp r)

/-! ### MXCSR -/

/-- reserved bits of MXCSR: loading a value with any of them set raises #GP -/
def mxcsrReserved : BitVec 32 := 0xFFFF0000#32

def hi32 (w : W) : BitVec 32 := w.extractLsb' 32 32
def lo32 (w : W) : BitVec 32 := w.extractLsb' 0 32
def mk64 (hi lo : BitVec 32) : W := hi ++ lo

/-! ### instructions -/

inductive Instr
  | pushfq
  | popfq
  | push (r : Reg)
  | pop (r : Reg)
  | movRR (dst src : Reg)
  /-- `mov dst, QWORD PTR [base + disp]` -/
  | movRM (dst base : Reg) (disp : W)
  /-- `mov QWORD PTR [base + disp], src` -/
  | movMR (base : Reg) (disp : W) (src : Reg)
  | subRI (r : Reg) (imm : W)
  | addRI (r : Reg) (imm : W)
  | xorRR (dst src : Reg)
  | leaRM (dst base : Reg) (disp : W)
  /-- `stmxcsr DWORD PTR [base + disp]` -/
  | stmxcsr (base : Reg) (disp : W)
  | ldmxcsr (base : Reg) (disp : W)
  | callR (r : Reg)
  | jmpR (r : Reg)
  | ret
  deriving DecidableEq, Repr, Inhabited

def Instr.isTransfer : Instr → Bool
  | .callR _ | .jmpR _ | .ret => true
  | _ => false

/-- word address and half (true = upper) of a 4-byte access at `base + disp`; `disp` is a literal in
    the code, so which half is hit is decided by `disp` once `base` is 8-aligned -/
def half (disp : W) : Option (W × Bool) :=
  if disp.toNat % 8 == 4 then some (disp - 4#64, true)
  else if disp.toNat % 8 == 0 then some (disp, false)
  else none

/-- one instruction of encoded length `len` -/
def step (i : Instr) (len : Nat) (s : State) : State :=
  let next := s.rip + BitVec.ofNat 64 len
  match i with
  | .pushfq =>
    let sp := s.rsp - 8#64
    { (s.wr sp (s.rflags &&& pushfMask)) with rsp := sp, rip := next }
  | .popfq =>
    let v := s.mem s.rsp
    { (s.rdOk s.rsp) with rflags := popfValue s.rflags v, rsp := s.rsp + 8#64, rip := next }
  | .push r =>
    let sp := s.rsp - 8#64
    -- PUSH RSP pushes the value before the decrement; `s.get r` is read from the old state
    { (s.wr sp (s.get r)) with rsp := sp, rip := next }
  | .pop r =>
    let v := s.mem s.rsp
    -- POP RSP: the increment happens before the load result is written
    { (({ (s.rdOk s.rsp) with rsp := s.rsp + 8#64 }).set r v) with rip := next }
  | .movRR d r => { (s.set d (s.get r)) with rip := next }
  | .movRM d b disp =>
    let a := s.get b + disp
    { ((s.rdOk a).set d (s.mem a)) with rip := next }
  | .movMR b disp r =>
    let a := s.get b + disp
    { (s.wr a (s.get r)) with rip := next }
  | .subRI r imm =>
    let a := s.get r
    { ((s.set r (a - imm))) with rflags := flagsSub s.rflags a imm, rip := next }
  | .addRI r imm =>
    let a := s.get r
    { ((s.set r (a + imm))) with rflags := flagsAdd s.rflags a imm, rip := next }
  | .xorRR d r =>
    let v := s.get d ^^^ s.get r
    { (s.set d v) with rflags := flagsLogic s.rflags v, rip := next }
  | .leaRM d b disp => { (s.set d (s.get b + disp)) with rip := next }
  | .stmxcsr b disp =>
    match half disp with
    | some (d, true) =>
      let a := s.get b + d
      { (s.wr a (mk64 s.mxcsr (lo32 (s.mem a)))) with rip := next }
    | some (d, false) =>
      let a := s.get b + d
      { (s.wr a (mk64 (hi32 (s.mem a)) s.mxcsr)) with rip := next }
    | none => { s with ok := false, rip := next }
  | .ldmxcsr b disp =>
    match half disp with
    | some (d, up) =>
      let a := s.get b + d
      let v := if up then hi32 (s.mem a) else lo32 (s.mem a)
      { (s.rdOk a) with mxcsr := v, ok := s.ok && al a && (v &&& mxcsrReserved == 0#32), rip := next }
    | none => { s with ok := false, rip := next }
  | .callR r =>
    let sp := s.rsp - 8#64
    { (s.wr sp next) with rsp := sp, rip := s.get r }
  | .jmpR r => { s with rip := s.get r }
  | .ret =>
    { (s.rdOk s.rsp) with rip := s.mem s.rsp, rsp := s.rsp + 8#64 }

/-- A routine as the translator emits it: instructions with their encoded lengths. -/
abbrev Code := List (Instr × Nat)

/-- Run straight-line code up to and including the first control transfer (`call`/`jmp`/`ret`),
    which leaves its target in `rip`. -/
def exec : Code → State → State
  | [], s => s
  | (i, n) :: rest, s => if i.isTransfer then step i n s else exec rest (step i n s)

/-- the code that starts `off` bytes into a routine (instruction fetch at `routine + off`) -/
def codeFrom : Code → Nat → Option Code
  | c, 0 => some c
  | [], _ + 1 => none
  | (_, n) :: rest, off + 1 => if n ≤ off + 1 then codeFrom rest (off + 1 - n) else none

/-! ### basic facts used by every client -/

@[simp] theorem hi32_mk64 (a b : BitVec 32) : hi32 (mk64 a b) = a := by
  unfold hi32 mk64; ext i hi; simp
  rw [BitVec.getLsbD_append]
  have : ¬ (32 + i < 32) := by omega
  simp [this, BitVec.getLsbD_eq_getElem hi]
@[simp] theorem lo32_mk64 (a b : BitVec 32) : lo32 (mk64 a b) = b := by
  unfold lo32 mk64; ext i hi; simp
  rw [BitVec.getLsbD_append]; simp [hi]
theorem mk64_hi_lo (w : W) : mk64 (hi32 w) (lo32 w) = w := by
  unfold hi32 lo32 mk64; ext i hi
  rw [BitVec.getElem_append]; simp
  have hi' : i < 64 := hi
  split
  · exact BitVec.getLsbD_eq_getElem hi'
  · have : 32 + (i - 32) = i := by omega
    rw [this]; exact BitVec.getLsbD_eq_getElem hi'

/-- the callee-saved general purpose registers of the System V AMD64 ABI (besides rsp) -/
def calleeSaved : List Reg := [.rbx, .rbp, .r12, .r13, .r14, .r15]

end CimbaModel.Ctx
