/-
  Coroutine - the bookkeeping state machine of src/cmi_coroutine.c (DESIGN.md §4 C03): `coroutine_current`,
  and per coroutine `parent`, `caller`, `status`, `exit_value`, for
  initialize / start / resume / transfer / yield / exit / return / stop / reset.

  Core Lean only (linked by Drivers/CtxMain).  Tie: harness/ctxdrv.c drives the real API with the same
  scripts, every line of output is compared (tools/props/C03.py).

  Whoever is current issues the next operation of the script.  Release asserts of the C code (and the debug
  asserts that document a precondition) are `Except` faults here: the C side would abort.  A switching
  operation suspends its issuer *inside* that call; `pending` remembers the script index of the call, and the
  event of a later switch into that coroutine says which call returns, with which value.
-/
namespace CimbaModel.Ctx.Co

abbrev Val := Nat
abbrev Cid := Nat

inductive Status
  | created | running | finished
  deriving DecidableEq, Repr, Inhabited

def Status.toNat : Status → Nat
  | .created => 0 | .running => 1 | .finished => 2

structure Co where
  parent : Option Cid := none
  caller : Option Cid := none
  status : Status := .created
  exitv : Val := 0
  /-- the context argument handed to cmi_coroutine_initialize -/
  ctx : Val := 0
  /-- script index of the switching call this coroutine is suspended in (none: it is current, or never ran) -/
  pending : Option Nat := none
  /-- cmi_coroutine_initialize has been called (it has a stack) -/
  inited : Bool := false
  deriving Repr, Inhabited

inductive Op
  | create (c : Cid) (ctx : Val)
  | start (c : Cid) (msg : Val)
  | resume (c : Cid) (msg : Val)
  | transfer (c : Cid) (msg : Val)
  | yield (msg : Val)
  | exit (v : Val)
  /-- the coroutine function returns `v` (through the trampoline into the exit function) -/
  | ret (v : Val)
  | stop (c : Cid) (v : Val)
  | reset (c : Cid)
  deriving DecidableEq, Repr, Inhabited

inductive Ev
  /-- no control transfer -/
  | none
  /-- the function of `c` is entered with its own handle and context argument `ctx` -/
  | enter (c : Cid) (ctx : Val)
  /-- control continues in `c`: the switching call `c` issued at script index `at` returns `v` -/
  | deliver (c : Cid) (v : Val) (at_ : Option Nat)
  deriving DecidableEq, Repr, Inhabited

inductive Fault
  | nullTarget        -- `to != NULL` / not initialised
  | targetNotRunning  -- `to->status == CMI_COROUTINE_RUNNING`
  | fromNotLive       -- `from->status` is neither RUNNING nor FINISHED
  | startRunning      -- `cp->status != CMI_COROUTINE_RUNNING` in start
  | mainCannotExit    -- `coroutine_current != coroutine_main` in exit
  | notRunning        -- `coroutine_current->status == RUNNING` / `cp->status == RUNNING` in stop
  | noCaller          -- `to != NULL` in yield
  | resumeSelf        -- `cp != cmi_coroutine_current()` in resume
  | isMainOrCurrent   -- reset of main or of the current coroutine (debug asserts); for initialize and stop of main a precondition of the model
  deriving DecidableEq, Repr, Inhabited

structure St where
  cur : Cid
  co : Cid → Co
  /-- number of operations executed so far = script index of the next one -/
  clock : Nat

def St.upd (s : St) (c : Cid) (f : Co → Co) : St :=
  { s with co := fun x => if x = c then f (s.co x) else s.co x }

def St.tick (s : St) : St := { s with clock := s.clock + 1 }

/-- after the first cmi_coroutine_initialize: the main coroutine exists, is running and current -/
def init : St :=
  { cur := 0, co := fun c => if c = 0 then { status := .running, inited := true } else {}, clock := 0 }

/-- The control transfer itself (the tail of cmi_coroutine_transfer): `to->caller = from`,
    `coroutine_current = to`, the issuer stays suspended inside this call (script index `s.clock`). -/
def switchTo (s : St) (to : Cid) : St :=
  { s with
    cur := to
    co := fun x =>
      if x = to then { (s.co x) with caller := some s.cur, pending := none }
      else if x = s.cur then { (s.co x) with pending := some s.clock }
      else s.co x }

/-- which call of `to` returns when control arrives there now -/
def arrival (s : St) (to : Cid) : Option Nat := if to = s.cur then some s.clock else (s.co to).pending

/-- cmi_coroutine_transfer(to, msg) issued by the current coroutine -/
def transferTo (s : St) (to : Cid) (msg : Val) : Except Fault (St × Ev) :=
  if (s.co to).inited = false then .error .nullTarget
  else if (s.co to).status ≠ .running then .error .targetNotRunning
  else if (s.co s.cur).status = .created then .error .fromNotLive
  else .ok (switchTo s to, .deliver to msg (arrival s to))

/-- cmi_coroutine_exit(v) issued by the current coroutine -/
def exitCur (s : St) (v : Val) : Except Fault (St × Ev) :=
  if s.cur = 0 then .error .mainCannotExit
  else if (s.co s.cur).status ≠ .running then .error .notRunning
  else
    match (s.co s.cur).parent with
    | none => .error .nullTarget
    | some p => transferTo (s.upd s.cur (fun c => { c with exitv := v, status := .finished })) p v

def stepCore (s : St) : Op → Except Fault (St × Ev)
  | .create c ctx =>
    -- re-initialising a coroutine that is still RUNNING (suspended somewhere) would leak its stack and trips the
    -- debug asserts of whoever is suspended in a transfer to it: excluded as a precondition
    if c = 0 ∨ c = s.cur then .error .isMainOrCurrent
    else if (s.co c).status = .running then .error .startRunning
    else .ok (s.upd c (fun x => { x with parent := none, caller := none, status := .created, exitv := 0,
                                          ctx := ctx, inited := true }), .none)
  | .start c _ =>
    -- the message given to start is dropped: the trampoline clears rax and calls cr_function(cp, context)
    if (s.co c).inited = false then .error .nullTarget
    else if (s.co c).status = .running then .error .startRunning
    else
      .ok (switchTo (s.upd c (fun x => { x with parent := some s.cur, exitv := 0, status := .running })) c,
           .enter c (s.co c).ctx)
  | .resume c msg =>
    if (s.co c).inited = false then .error .nullTarget
    else if c = s.cur then .error .resumeSelf
    else transferTo s c msg
  | .transfer c msg => transferTo s c msg
  | .yield msg =>
    if (s.co s.cur).status ≠ .running then .error .notRunning
    else match (s.co s.cur).caller with
      | none => .error .noCaller
      | some c => transferTo s c msg
  | .exit v => exitCur s v
  | .ret v => exitCur s v
  | .stop c v =>
    if (s.co c).inited = false then .error .nullTarget
    else if (s.co c).status ≠ .running then .error .notRunning
    else if c = s.cur then exitCur s v
    else if c = 0 then .error .isMainOrCurrent
    else .ok (s.upd c (fun x => { x with exitv := v, status := .finished }), .none)
  | .reset c =>
    if (s.co c).inited = false then .error .nullTarget
    else if c = 0 ∨ c = s.cur then .error .isMainOrCurrent
    else .ok (s.upd c (fun x => { x with status := .created, exitv := 0 }), .none)

/-- one operation of the script, issued by the current coroutine -/
def step (s : St) (op : Op) : Except Fault (St × Ev) :=
  match stepCore s op with
  | .ok (s', ev) => .ok (s'.tick, ev)
  | .error e => .error e

/-- a whole script; the log pairs each operation's issuer with what happened -/
def run : St → List Op → Except Fault (St × List (Cid × Ev))
  | s, [] => .ok (s, [])
  | s, op :: ops =>
    match step s op with
    | .error e => .error e
    | .ok (s', ev) =>
      match run s' ops with
      | .error e => .error e
      | .ok (s'', log) => .ok (s'', (s.cur, ev) :: log)

/-- `x` does not have control at any point of the script (before, between and after its operations) -/
def Suspended (x : Cid) : St → List Op → Prop
  | s, [] => s.cur ≠ x
  | s, op :: ops => s.cur ≠ x ∧ ∀ s' ev, step s op = .ok (s', ev) → Suspended x s' ops

/-- operations that (re)create the context of `x`: until one of them a finished coroutine stays as it is -/
def Op.revives (x : Cid) : Op → Bool
  | .create c _ => c = x
  | .start c _ => c = x
  | .reset c => c = x
  | _ => false

/-- the value an operation hands over -/
def Op.msg : Op → Val
  | .start _ m | .resume _ m | .transfer _ m | .yield m | .exit m | .ret m | .stop _ m => m
  | _ => 0

end CimbaModel.Ctx.Co
