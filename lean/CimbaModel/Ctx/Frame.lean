/-
  Frame - the initial stack frame that cmi_coroutine_context_init (src/port/x86-64/linux/
  cmi_coroutine_context.c) leaves below `stack_base`, and a half-word-granular model of the C stores
  that produce it (the shipped sequence with its misaligned 8-byte store of the MXCSR image, and the
  sequence after fixes/C10-mxcsr-store.patch).  Core Lean only.

  Tie: harness/ctxdrv.c calls the real cmi_coroutine_context_init on a pattern-filled stack and dumps
  the 80 bytes below stack_base; Drivers/CtxMain prints `initFrame`; tools/props/C03.py compares.
-/
import CimbaModel.Ctx.X86

namespace CimbaModel.Ctx

/-- the documented initial MXCSR: all exceptions masked except invalid-operation and divide-by-zero,
    round to nearest -/
def initMxcsr : BitVec 32 := 0x1d00#32

/-- The initial frame image, ascending from `stack_base - 72` (= the initial `stack_pointer`):
    r15 = exit function, r14 = context argument, r13 = coroutine pointer, r12 = coroutine function,
    rbx = 0, rbp = stack_base - 40, MXCSR slot (image in the upper half), RFLAGS image = 0,
    return address = trampoline. -/
def initFrame (tramp fn cp ctx exitf base : W) : List W :=
  [exitf, ctx, cp, fn, 0#64, base - 40#64, mk64 initMxcsr 0#32, 0#64, tramp]

/-- `fr` lies in memory `m` at ascending word addresses from `a` -/
def FrameAt (m : W → W) : W → List W → Prop
  | _, [] => True
  | a, w :: ws => m a = w ∧ FrameAt m (a + 8#64) ws

/-! ### the C stores, at 4-byte granularity -/

/-- One store of the C function at `below` bytes below `stack_base` (which is 16-aligned). -/
inductive CStore
  /-- `*(uint64_t *)(stack_base - below) = v` -/
  | u64 (below : Nat) (v : W)
  /-- `*(uint32_t *)(stack_base - below) = v` -/
  | u32 (below : Nat) (v : BitVec 32)

/-- memory as 32-bit units keyed by their distance below `stack_base` (a multiple of 4) -/
abbrev HMem := Nat → BitVec 32

/-- little endian: the low half of a qword is at the lower address, i.e. at the larger distance -/
def CStore.apply (m : HMem) : CStore → HMem
  | .u64 d v => fun x => if x = d then lo32 v else if x + 4 = d then hi32 v else m x
  | .u32 d v => fun x => if x = d then v else m x

/-- naturally aligned, as C requires (UBSan's `-fsanitize=alignment`) -/
def CStore.aligned : CStore → Bool
  | .u64 d _ => d % 8 == 0
  | .u32 d _ => d % 4 == 0

def runStores (m : HMem) (l : List CStore) : HMem := l.foldl CStore.apply m

/-- the k-th word of the frame (ascending from `stack_base - 72`) -/
def image (m : HMem) (k : Nat) : W := mk64 (m (68 - 8 * k)) (m (72 - 8 * k))

/-- the stores of cmi_coroutine_context_init before fixes/C10-mxcsr-store.patch: the 8-byte store of the MXCSR image at
    `stkptr + 4` (20 bytes below `stack_base`) is the misaligned one -/
def shippedStores (tramp fn cp ctx exitf base : W) : List CStore :=
  [.u64 8 tramp, .u64 16 0#64, .u64 20 0x1d00#64, .u32 24 0#32, .u64 32 (base - 40#64), .u64 40 0#64,
   .u64 48 fn, .u64 56 cp, .u64 64 ctx, .u64 72 exitf]

/-- the same with the MXCSR image written by a 32-bit store (fixes/C10-mxcsr-store.patch) -/
def patchedStores (tramp fn cp ctx exitf base : W) : List CStore :=
  [.u64 8 tramp, .u64 16 0#64, .u32 20 0x1d00#32, .u32 24 0#32, .u64 32 (base - 40#64), .u64 40 0#64,
   .u64 48 fn, .u64 56 cp, .u64 64 ctx, .u64 72 exitf]

theorem shipped_image (m : HMem) (tramp fn cp ctx exitf base : W) :
    (List.range 9).map (image (runStores m (shippedStores tramp fn cp ctx exitf base)))
      = initFrame tramp fn cp ctx exitf base := by
  simp [List.range, List.range.loop, image, runStores, shippedStores, CStore.apply, initFrame, mk64_hi_lo,
    initMxcsr]
  refine ⟨?_, ?_⟩ <;> rfl

theorem patched_image (m : HMem) (tramp fn cp ctx exitf base : W) :
    (List.range 9).map (image (runStores m (patchedStores tramp fn cp ctx exitf base)))
      = initFrame tramp fn cp ctx exitf base := by
  simp [List.range, List.range.loop, image, runStores, patchedStores, CStore.apply, initFrame, mk64_hi_lo,
    initMxcsr]

/-- where a store starts, as a distance below `stack_base` -/
def CStore.below : CStore → Nat
  | .u64 d _ => d
  | .u32 d _ => d

/-- a store writes no unit that ends above its start or lies more than one unit beyond it -/
theorem runStores_outside (l : List CStore) (m : HMem) (x : Nat) (h : ∀ st ∈ l, x + 4 < st.below ∨ st.below < x) :
    runStores m l x = m x := by
  induction l generalizing m with
  | nil => rfl
  | cons st l ih =>
    have hst := h st List.mem_cons_self
    rw [runStores, List.foldl_cons, ← runStores, ih _ fun t ht => h t (List.mem_cons_of_mem _ ht)]
    cases st with
    | u64 d v => exact (if_neg (by rw [CStore.below] at hst; omega)).trans (if_neg (by rw [CStore.below] at hst; omega))
    | u32 d v => exact if_neg (by rw [CStore.below] at hst; omega)

/-- neither sequence writes below `stack_base - 72` or at/above `stack_base` -/
theorem stores_extent (m : HMem) (tramp fn cp ctx exitf base : W) (x : Nat) (h : x = 0 ∨ 72 < x) :
    runStores m (shippedStores tramp fn cp ctx exitf base) x = m x ∧
    runStores m (patchedStores tramp fn cp ctx exitf base) x = m x := by
  constructor
  · apply runStores_outside
    simp only [shippedStores, List.forall_mem_cons, List.not_mem_nil, false_imp_iff, implies_true, and_true, CStore.below]
    omega
  · apply runStores_outside
    simp only [patchedStores, List.forall_mem_cons, List.not_mem_nil, false_imp_iff, implies_true, and_true, CStore.below]
    omega

/-- the shipped sequence contains a misaligned store, the patched one does not -/
theorem shipped_misaligned (tramp fn cp ctx exitf base : W) :
    (shippedStores tramp fn cp ctx exitf base).all CStore.aligned = false := by
  simp [shippedStores, CStore.aligned]

theorem patched_aligned (tramp fn cp ctx exitf base : W) :
    (patchedStores tramp fn cp ctx exitf base).all CStore.aligned = true := by
  simp [patchedStores, CStore.aligned]

end CimbaModel.Ctx
