/-
  Lemmas about the object memory of the pool model: bounds-checked read / write, the free-list chain
  threaded through memory, and the loop of `cmi_mempool_expand` that threads a fresh chunk.
-/
import CimbaModel.Mempool.Model

namespace CimbaModel.Mempool

/-- number of words of chunk `c` (0 if there is no such chunk) -/
def Mem.row (m : Mem) (c : Nat) : Nat := (m.getD c #[]).size

theorem Mem.get_def (m : Mem) (c w : Nat) : m.get c w = ((m[c]?.getD #[])[w]?).getD .junk := by
  simp [Mem.get, Array.getD_eq_getD_getElem?]

theorem Mem.row_def (m : Mem) (c : Nat) : m.row c = (m[c]?.getD #[]).size := by
  simp [Mem.row, Array.getD_eq_getD_getElem?]

theorem Mem.row_zero_of_ge (m : Mem) (c : Nat) (h : m.size ≤ c) : m.row c = 0 := by
  simp [Mem.row_def, Array.getElem?_eq_none h]

theorem rdW_eq {m : Mem} {c w : Nat} (hc : c < m.size) (hw : w < m.row c) : rdW m c w = .ok (m.get c w) := by
  have hw' : w < m[c].size := by simpa [Mem.row_def, hc] using hw
  simp [rdW, hc, hw', Mem.get_def]

theorem wrW_isOk {m : Mem} {c w : Nat} (v : Word) (hc : c < m.size) (hw : w < m.row c) :
    ∃ m', wrW m c w v = .ok m' := by
  have hw' : w < m[c].size := by simpa [Mem.row_def, hc] using hw
  exact ⟨m.modify c fun row => row.setIfInBounds w v, by simp [wrW, hc, hw']⟩

theorem wrW_inv {m m' : Mem} {c w : Nat} {v : Word} (h : wrW m c w v = .ok m') :
    c < m.size ∧ w < m.row c ∧ m' = m.modify c fun row => row.setIfInBounds w v := by
  unfold wrW at h
  split at h
  · rename_i hc
    split at h
    · rename_i hw
      refine ⟨hc, by simpa [Mem.row_def, hc] using hw, ?_⟩
      cases h; rfl
    · cases h
  · cases h

theorem wrW_size {m m' : Mem} {c w : Nat} {v : Word} (h : wrW m c w v = .ok m') : m'.size = m.size := by
  obtain ⟨_, _, rfl⟩ := wrW_inv h
  simp

theorem wrW_row {m m' : Mem} {c w : Nat} {v : Word} (h : wrW m c w v = .ok m') (c' : Nat) : m'.row c' = m.row c' := by
  obtain ⟨hc, _, rfl⟩ := wrW_inv h
  simp only [Mem.row_def, Array.getElem?_modify]
  split
  · rename_i h1; subst h1; simp [hc]
  · rfl

theorem wrW_get {m m' : Mem} {c w : Nat} {v : Word} (h : wrW m c w v = .ok m') (c' w' : Nat) :
    m'.get c' w' = if c' = c ∧ w' = w then v else m.get c' w' := by
  obtain ⟨hc, hw, rfl⟩ := wrW_inv h
  have hw' : w < m[c].size := by simpa [Mem.row_def, hc] using hw
  simp only [Mem.get_def, Array.getElem?_modify]
  by_cases h1 : c = c'
  · subst h1
    simp only [if_true, hc, Array.getElem?_eq_getElem, Option.map_some, Option.getD_some, true_and,
      Array.getElem?_setIfInBounds]
    by_cases h2 : w = w'
    · subst h2; simp [hw']
    · have : ¬ w' = w := fun e => h2 e.symm
      simp [h2, this]
  · have : ¬ c' = c := fun e => h1 e.symm
    simp [h1, this]

/-! ### a fresh chunk -/

theorem Mem.row_push (m : Mem) (r : Array Word) (c : Nat) :
    Mem.row (m.push r) c = if c = m.size then r.size else m.row c := by
  simp only [Mem.row_def, Array.getElem?_push]
  split
  · simp
  · rfl

theorem Mem.get_push_of_lt (m : Mem) (r : Array Word) {c : Nat} (hc : c < m.size) (w : Nat) :
    Mem.get (m.push r) c w = m.get c w := by
  simp only [Mem.get_def, Array.getElem?_push, if_neg (Nat.ne_of_lt hc)]

/-! ### the free list as it lies in memory -/

/-- `Chain m hd l`: starting from `next_obj = hd` and following the first words, memory spells out exactly `l` -/
def Chain (m : Mem) : Option Addr → List Addr → Prop
  | hd, [] => hd = none
  | hd, a :: rest => hd = some a ∧ ∃ nx, m.get a.1 a.2 = .link nx ∧ Chain m nx rest

theorem Chain.frame {m m' : Mem} : ∀ {l : List Addr} {hd : Option Addr}, Chain m hd l →
    (∀ a, a ∈ l → m'.get a.1 a.2 = m.get a.1 a.2) → Chain m' hd l
  | [], _, h, _ => h
  | a :: rest, _, ⟨h1, nx, h2, h3⟩, hf =>
    ⟨h1, nx, by rw [hf a (by simp)]; exact h2, Chain.frame h3 fun b hb => hf b (by simp [hb])⟩

/-- a write outside the free list leaves the chain standing -/
theorem Chain.wrW {m m' : Mem} {c w : Nat} {v : Word} (hm' : wrW m c w v = .ok m') {hd : Option Addr}
    {l : List Addr} (h : Chain m hd l) (hout : ∀ b, b ∈ l → ¬ (b.1 = c ∧ b.2 = w)) : Chain m' hd l :=
  Chain.frame h fun b hb => by rw [wrW_get hm', if_neg (hout b hb)]

theorem Chain.nil_iff {m : Mem} {hd : Option Addr} : Chain m hd [] ↔ hd = none := Iff.rfl

/-- a chain starting at NULL is empty -/
theorem Chain.of_none {m : Mem} {l : List Addr} (h : Chain m none l) : l = [] := by
  cases l with
  | nil => rfl
  | cons a rest => exact absurd h.1 (by simp)

/-! ### the object addresses of one chunk -/

/-- consecutive slots of `u` words (or bytes) do not overlap -/
theorem slot_next {k k' : Nat} (u : Nat) (h : k < k') : k * u + u ≤ k' * u := by
  rw [← Nat.succ_mul]; exact Nat.mul_le_mul_right u h

theorem slot_lt {k n u j W : Nat} (hk : k < n) (hj : j < u) (hfit : n * u ≤ W) : k * u + j < W := by
  have := slot_next u hk
  omega

theorem slot_inj {k k' u j j' : Nat} (hj : j < u) (hj' : j' < u) (h : k * u + j = k' * u + j') :
    k = k' ∧ j = j' := by
  rcases Nat.lt_trichotomy k k' with hlt | heq | hgt
  · have := slot_next u hlt; omega
  · subst heq; omega
  · have := slot_next u hgt; omega

/-- `n` object addresses in chunk `c`, starting at word `w`, `u` words apart -/
def objsFrom (c w u : Nat) : Nat → List Addr
  | 0 => []
  | n + 1 => (c, w) :: objsFrom c (w + u) u n

theorem mem_objsFrom {c u : Nat} : ∀ {n w : Nat} {a : Addr},
    a ∈ objsFrom c w u n ↔ ∃ j, j < n ∧ a = (c, w + j * u)
  | 0, w, a => by simp [objsFrom]
  | n + 1, w, a => by
    simp only [objsFrom, List.mem_cons, mem_objsFrom (n := n)]
    constructor
    · rintro (h | ⟨j, hj, h⟩)
      · exact ⟨0, by omega, by simpa using h⟩
      · exact ⟨j + 1, by omega, by rw [h, Nat.succ_mul]; congr 1; omega⟩
    · rintro ⟨j, hj, h⟩
      cases j with
      | zero => left; simpa using h
      | succ j => right; exact ⟨j, by omega, by rw [h, Nat.succ_mul]; congr 1; omega⟩

theorem mem_objsFrom_zero {c u n : Nat} {a : Addr} : a ∈ objsFrom c 0 u n ↔ a.1 = c ∧ ∃ k, k < n ∧ a.2 = k * u := by
  rw [mem_objsFrom]
  constructor
  · rintro ⟨j, hj, rfl⟩
    exact ⟨rfl, j, hj, Nat.zero_add _⟩
  · rintro ⟨e, k, hk, hw⟩
    exact ⟨k, hk, Prod.ext e (hw.trans (Nat.zero_add _).symm)⟩

theorem nodup_objsFrom {c u : Nat} (hu : 0 < u) : ∀ (n w : Nat), (objsFrom c w u n).Nodup
  | 0, _ => by simp [objsFrom]
  | n + 1, w => by
    simp only [objsFrom, List.nodup_cons]
    refine ⟨?_, nodup_objsFrom hu n (w + u)⟩
    rw [mem_objsFrom]
    rintro ⟨j, _, h⟩
    have : w = w + u + j * u := congrArg Prod.snd h
    omega

theorem length_objsFrom {c u : Nat} : ∀ (n w : Nat), (objsFrom c w u n).length = n
  | 0, _ => rfl
  | n + 1, w => by simp [objsFrom, length_objsFrom n]

/-! ### the threading loop of `cmi_mempool_expand` -/

theorem threadLoop_spec (c u : Nat) (hu : 0 < u) : ∀ (k : Nat) (m : Mem) (w : Nat),
    c < m.size → w + k * u < m.row c →
    ∃ m', threadLoop m c w u k = .ok m' ∧ m'.size = m.size ∧ (∀ c', m'.row c' = m.row c') ∧
      (∀ c' w', (c' ≠ c ∨ w' < w) → m'.get c' w' = m.get c' w') ∧
      Chain m' (some (c, w)) (objsFrom c w u (k + 1))
  | 0, m, w, hc, hw => by
    obtain ⟨m', hm'⟩ := wrW_isOk (.link none) hc (by simpa using hw)
    refine ⟨m', by simpa [threadLoop] using hm', wrW_size hm', wrW_row hm', ?_, ?_⟩
    · intro c' w' h
      rw [wrW_get hm']
      have : ¬ (c' = c ∧ w' = w) := by omega
      simp [this]
    · refine ⟨rfl, none, ?_, rfl⟩
      rw [wrW_get hm']; simp
  | k + 1, m, w, hc, hw => by
    have hw1 : w < m.row c := by rw [Nat.succ_mul] at hw; omega
    obtain ⟨m1, hm1⟩ := wrW_isOk (.link (some (c, w + u))) hc hw1
    have hc1 : c < m1.size := by rw [wrW_size hm1]; exact hc
    have hw2 : w + u + k * u < m1.row c := by rw [wrW_row hm1, Nat.succ_mul] at *; omega
    obtain ⟨m', h1, h2, h3, h4, h5⟩ := threadLoop_spec c u hu k m1 (w + u) hc1 hw2
    refine ⟨m', ?_, by rw [h2, wrW_size hm1], fun c' => by rw [h3, wrW_row hm1], ?_, ?_⟩
    · simp [threadLoop, hm1, h1, bind, Except.bind]
    · intro c' w' h
      rw [h4 c' w' (by omega), wrW_get hm1]
      have : ¬ (c' = c ∧ w' = w) := by omega
      simp [this]
    · refine ⟨rfl, some (c, w + u), ?_, h5⟩
      rw [h4 c w (by omega), wrW_get hm1]; simp

/-- `aligned_alloc` of `W` words followed by the threading loop: one more chunk, the old ones untouched, the new
    one spells out its `n` objects as a free list -/
theorem newChunk_spec (m : Mem) {u n W : Nat} (hu : 0 < u) (hn : 0 < n) (hfit : n * u ≤ W) :
    ∃ m', threadLoop (m.push (Array.replicate W .junk)) m.size 0 u (n - 1) = .ok m' ∧ m'.size = m.size + 1 ∧
      (∀ c, m'.row c = if c = m.size then W else m.row c) ∧
      (∀ c w, c < m.size → m'.get c w = m.get c w) ∧
      Chain m' (some (m.size, 0)) (objsFrom m.size 0 u n) := by
  have hk : 0 + (n - 1) * u < Mem.row (m.push (Array.replicate W .junk)) m.size := by
    have := slot_lt (k := n - 1) (j := 0) (by omega) hu hfit
    simpa [Mem.row_push] using this
  obtain ⟨m', ht, hsize, hrow, hget, hchain⟩ := threadLoop_spec m.size u hu (n - 1) _ 0 (by simp) hk
  rw [show n - 1 + 1 = n by omega] at hchain
  refine ⟨m', ht, by simpa using hsize, fun c => by rw [hrow, Mem.row_push, Array.size_replicate], ?_, hchain⟩
  intro c w hc
  rw [hget c w (Or.inl (by omega)), Mem.get_push_of_lt m _ hc]

end CimbaModel.Mempool
