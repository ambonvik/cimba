/-
  Concrete model of src/cmi_mempool.c + the inline functions of src/cmi_mempool.h, statement by
  statement (DESIGN.md §4 C20).  Core Lean only: this file is linked into the compiled driver.

  What is modelled
  * `struct cmi_mempool`: cookie, obj_sz, incr_num, incr_sz, chunk_list_len, chunk_list_cnt,
    chunk_list (a *handle* of a malloc'ed block, `none` = NULL), next_obj (`none` = NULL).
  * the part of the C heap the pool touches:
      - the chunk-list block: `blkLive` = the handle that is valid right now, `blkData` = its
        pointer-sized entries (`size` = byte size / 8).  `realloc` is abstract: it always hands out
        a NEW handle and kills the old one ("may move; the result must be used"), the new block
        has exactly `bytes / 8` entries ("the byte size must cover the new count").  Every access
        through `mp->chunk_list` is checked against the valid handle and the block size, so code
        that drops realloc's result or undersizes the block ends in a `Fault`.
      - the chunks: `mem[c]` = the 8-byte words of chunk `c` (chunk ids = order of the
        `aligned_alloc` calls, `incr_sz / 8` words each).  An address is `(chunk, word index)`;
        its byte address is `base c + 8 * w` with `base c` page aligned (`Props/C20.lean`).
      - a word is junk (never written), a free-list link written by the allocator, or user data.
  * the free list is *in memory*, threaded through the first word of the free objects exactly as
    the C code does it; `alloc` follows the link it reads.

  Not modelled: `size_t`/`unsigned` wrap-around (sizes are `Nat`), `malloc` failure,
  `cmi_mempool_terminate/destroy/cleanup` (the property ends when the pool ends), the
  `static_pools` registration list of the thread-local pools (it does not touch pool objects).
-/
namespace CimbaModel.Mempool

inductive Fault where
  | assert (tag : Nat)    -- a cmb_assert_release fired (tag = stable number, see the code below)
  | divZero               -- incr_sz / obj_sz with obj_sz = 0
  | listNull              -- chunk_list used while NULL
  | listStale             -- chunk_list used after realloc without taking realloc's result
  | listOob (i : Nat)     -- chunk_list[i] outside the block
  | objOob (c w : Nat)    -- object word outside every chunk
  | nullObj               -- next_obj == NULL dereferenced
  | badLink (c w : Nat)   -- alloc read something that is not a free-list link
  deriving Repr, DecidableEq, Inhabited

def Fault.toString : Fault → String
  | .assert n => s!"assert {n}"
  | .divZero => "div-zero"
  | .listNull => "list-null"
  | .listStale => "list-stale"
  | .listOob i => s!"list-oob {i}"
  | .objOob c w => s!"obj-oob {c} {w}"
  | .nullObj => "null-obj"
  | .badLink c w => s!"bad-link {c} {w}"

instance : ToString Fault := ⟨Fault.toString⟩

/-- (chunk id, index of the 8-byte word inside the chunk) -/
abbrev Addr := Nat × Nat

inductive Word where
  | junk
  | link (nx : Option Addr)
  | data (v : Nat)
  deriving Repr, DecidableEq, Inhabited

inductive Cookie where
  | zero | uninit | init | threadStatic
  deriving Repr, DecidableEq, Inhabited

/-- what the code gets from its environment: `cmi_pagesize()` and `CHUNK_LIST_SIZE` -/
structure Cfg where
  page : Nat
  cls : Nat
  deriving Repr, DecidableEq

abbrev Mem := Array (Array Word)

structure MP where
  cookie : Cookie := .zero
  objSz : Nat := 0
  incrNum : Nat := 0
  incrSz : Nat := 0
  listLen : Nat := 0
  listCnt : Nat := 0
  chunkList : Option Nat := none
  nextObj : Option Addr := none
  /- heap -/
  blkNext : Nat := 0
  blkLive : Option Nat := none
  blkData : Array (Option Nat) := #[]
  mem : Mem := #[]
  deriving Repr

/-! ### object memory, bounds-checked -/

/-- total reader used in specifications -/
def Mem.get (m : Mem) (c w : Nat) : Word := (m.getD c #[]).getD w .junk

def rdW (m : Mem) (c w : Nat) : Except Fault Word :=
  if hc : c < m.size then
    if hw : w < m[c].size then .ok m[c][w] else .error (.objOob c w)
  else .error (.objOob c w)

def wrW (m : Mem) (c w : Nat) (v : Word) : Except Fault Mem :=
  if hc : c < m.size then
    if hw : w < m[c].size then .ok (m.modify c fun row => row.setIfInBounds w v) else .error (.objOob c w)
  else .error (.objOob c w)

/-! ### libc, abstractly -/

/-- `cmi_malloc(bytes)` for the chunk list: a fresh handle, `bytes / 8` uninitialised entries -/
def mallocList (s : MP) (bytes : Nat) : MP × Nat :=
  ({ s with blkNext := s.blkNext + 1, blkLive := some s.blkNext,
            blkData := Array.replicate (bytes / 8) none }, s.blkNext)

/-- `cmi_realloc(p, bytes)`: `p` must be the valid block; the result is a NEW handle, the old one is
    dead from here on; contents are kept as far as the new size reaches. -/
def reallocList (s : MP) (p : Option Nat) (bytes : Nat) : Except Fault (MP × Nat) :=
  match p with
  | none => .error .listNull
  | some h =>
    if s.blkLive = some h then
      .ok ({ s with blkNext := s.blkNext + 1, blkLive := some s.blkNext,
                    blkData := Array.ofFn (n := bytes / 8) fun i => s.blkData.getD i.val none },
           s.blkNext)
    else .error .listStale

/-- `mp->chunk_list[i] = c` -/
def listWrite (s : MP) (i c : Nat) : Except Fault MP :=
  match s.chunkList with
  | none => .error .listNull
  | some h =>
    if s.blkLive = some h then
      if i < s.blkData.size then .ok { s with blkData := s.blkData.setIfInBounds i (some c) }
      else .error (.listOob i)
    else .error .listStale

/-- `mp->chunk_list[i]` -/
def listRead (s : MP) (i : Nat) : Except Fault (Option Nat) :=
  match s.chunkList with
  | none => .error .listNull
  | some h =>
    if s.blkLive = some h then
      if hi : i < s.blkData.size then .ok s.blkData[i] else .error (.listOob i)
    else .error .listStale

def isPow2 : Nat → Bool
  | 0 => false
  | n + 1 => (n + 1) &&& n == 0

/-- `cmi_aligned_alloc(align, sz)` with its release asserts; the new chunk gets the next id -/
def alignedAlloc (cfg : Cfg) (s : MP) (sz : Nat) : Except Fault (MP × Nat) :=
  if 8 < cfg.page ∧ cfg.page % 8 = 0 ∧ isPow2 cfg.page = true ∧ 8 < sz ∧ sz % cfg.page = 0 then
    .ok ({ s with mem := s.mem.push (Array.replicate (sz / 8) .junk) }, s.mem.size)
  else .error (.assert 6)

/-! ### cmi_mempool.c -/

/-- `cmi_mempool_create` -/
def create : MP := { cookie := .uninit }

/-- `CMI_MEMPOOL_STATIC_INIT(sz, num)` -/
def staticInit (sz num : Nat) : MP := { cookie := .threadStatic, objSz := sz, incrNum := num }

/-- `cmi_mempool_initialize` -/
def initPool (cfg : Cfg) (s : MP) (objSz objNum : Nat) : Except Fault MP :=
  if objSz % 8 ≠ 0 then .error (.assert 1)
  else if objNum = 0 then .error (.assert 2)
  else if objSz = 0 then .error .divZero
  else
    let total := objNum * objSz
    let incrSz := ((total + cfg.page - 1) / cfg.page) * cfg.page
    let s := { s with cookie := .init, objSz := objSz, incrSz := incrSz, incrNum := incrSz / objSz,
                      listLen := cfg.cls, listCnt := 0 }
    let (s, h) := mallocList s (s.listLen * 8)
    .ok { s with chunkList := some h, nextObj := none }

/-- the `for` loop of `cmi_mempool_expand` plus the final `*vp = NULL`:
    `k` iterations left, `vp` = word `w` of chunk `c`, `u` = `obj_sz / 8` -/
def threadLoop (m : Mem) (c w u : Nat) : (k : Nat) → Except Fault Mem
  | 0 => wrW m c w (.link none)
  | k + 1 => do
    let m ← wrW m c w (.link (some (c, w + u)))
    threadLoop m c (w + u) u k

/-- first part of `cmi_mempool_expand`: asserts and the first-use initialisation of a static pool -/
def expandEnter (cfg : Cfg) (s : MP) : Except Fault MP :=
  if s.nextObj ≠ none then .error (.assert 3)
  else match s.cookie with
    | .init => .ok s
    | .threadStatic => initPool cfg s s.objSz s.incrNum
    | _ => .error (.assert 4)

/-- "Expand the area list if necessary": `if (++cnt == len) { len += CHUNK_LIST_SIZE; realloc }`.
    `useResult` / `entryBytes` select between the code variants:
      the code  `mp->chunk_list = cmi_realloc(mp->chunk_list, len * sizeof(void *))`  = (true, 8)
      before fixes/C20-chunk-list-realloc.patch `cmi_realloc(mp->chunk_list, len)`     = (false, 1) -/
def growList (useResult : Bool) (entryBytes : Nat) (cfg : Cfg) (s : MP) : Except Fault MP :=
  let s := { s with listCnt := s.listCnt + 1 }
  if s.listCnt = s.listLen then
    let s := { s with listLen := s.listLen + cfg.cls }
    match reallocList s s.chunkList (s.listLen * entryBytes) with
    | .error e => .error e
    | .ok (s, h) => .ok (if useResult then { s with chunkList := some h } else s)
  else .ok s

/-- rest of `cmi_mempool_expand`: new chunk, record it, thread its objects -/
def addChunk (cfg : Cfg) (s : MP) : Except Fault MP :=
  match alignedAlloc cfg s s.incrSz with
  | .error e => .error e
  | .ok (s, c) =>
    match listWrite s (s.listCnt - 1) c with
    | .error e => .error e
    | .ok s =>
      match threadLoop s.mem c 0 (s.objSz / 8) (s.incrNum - 1) with
      | .error e => .error e
      | .ok m => .ok { s with nextObj := some (c, 0), mem := m }

def expandWith (useResult : Bool) (entryBytes : Nat) (cfg : Cfg) (s : MP) : Except Fault MP :=
  match expandEnter cfg s with
  | .error e => .error e
  | .ok s =>
    match growList useResult entryBytes cfg s with
    | .error e => .error e
    | .ok s => addChunk cfg s

/-- `cmi_mempool_expand` (since fixes/C20-chunk-list-realloc.patch) -/
def expand : Cfg → MP → Except Fault MP := expandWith true 8

/-- `cmi_mempool_expand` before that patch: realloc's result dropped, element count passed as byte size -/
def expandDefective : Cfg → MP → Except Fault MP := expandWith false 1

/-- `cmi_mempool_alloc`, parametrised by the expand routine -/
def allocWith (ex : Cfg → MP → Except Fault MP) (cfg : Cfg) (s : MP) : Except Fault (MP × Addr) :=
  match (if s.nextObj = none then ex cfg s else .ok s) with
  | .error e => .error e
  | .ok s =>
    match s.nextObj with
    | none => .error .nullObj
    | some a =>
      match rdW s.mem a.1 a.2 with
      | .error e => .error e
      | .ok (.link nx) => .ok ({ s with nextObj := nx }, a)
      | .ok _ => .error (.badLink a.1 a.2)

def alloc : Cfg → MP → Except Fault (MP × Addr) := allocWith expand
def allocDefective : Cfg → MP → Except Fault (MP × Addr) := allocWith expandDefective

/-- `cmi_mempool_free` -/
def free (s : MP) (a : Addr) : Except Fault MP :=
  if s.cookie ≠ .init then .error (.assert 5)
  else
    match wrW s.mem a.1 a.2 (.link s.nextObj) with
    | .error e => .error e
    | .ok m => .ok { s with mem := m, nextObj := some a }

/-- a store by the owner of an object: word `j` of the object at `a` -/
def userWrite (s : MP) (a : Addr) (j v : Nat) : Except Fault MP :=
  match wrW s.mem a.1 (a.2 + j) (.data v) with
  | .error e => .error e
  | .ok m => .ok { s with mem := m }

/-! ### client programs

A client holds the objects it has been given (`live`, newest first) and remembers what it stored in
them (`shadow`).  Operations name a live object by its position; positions that do not exist and
word indices outside the object are not valid client behaviour and are skipped. -/

inductive Op where
  | alloc
  | free (i : Nat)
  | write (i j v : Nat)
  deriving Repr, DecidableEq

structure Sys where
  mp : MP
  live : List Addr := []
  shadow : Addr → Nat → Option Nat := fun _ _ => none

def updShadow (sh : Addr → Nat → Option Nat) (a : Addr) (f : Nat → Option Nat) : Addr → Nat → Option Nat :=
  fun b => if b = a then f else sh b

def stepWith (al : Cfg → MP → Except Fault (MP × Addr)) (cfg : Cfg) (s : Sys) : Op → Except Fault Sys
  | .alloc =>
    match al cfg s.mp with
    | .error e => .error e
    | .ok (mp, a) => .ok { mp := mp, live := a :: s.live, shadow := updShadow s.shadow a fun _ => none }
  | .free i =>
    match s.live[i]? with
    | none => .ok s
    | some a =>
      match free s.mp a with
      | .error e => .error e
      | .ok mp => .ok { mp := mp, live := s.live.erase a, shadow := s.shadow }
  | .write i j v =>
    match s.live[i]? with
    | none => .ok s
    | some a =>
      if j < s.mp.objSz / 8 then
        match userWrite s.mp a j v with
        | .error e => .error e
        | .ok mp => .ok { s with mp := mp, shadow := updShadow s.shadow a fun j' => if j' = j then some v else s.shadow a j' }
      else .ok s

def step : Cfg → Sys → Op → Except Fault Sys := stepWith alloc
def stepDefective : Cfg → Sys → Op → Except Fault Sys := stepWith allocDefective

def runWith (st : Cfg → Sys → Op → Except Fault Sys) (cfg : Cfg) (s : Sys) : List Op → Except Fault Sys
  | [] => .ok s
  | op :: ops =>
    match st cfg s op with
    | .error e => .error e
    | .ok s => runWith st cfg s ops

def run : Cfg → Sys → List Op → Except Fault Sys := runWith step

/-- a dynamically created pool: `cmi_mempool_create` + `cmi_mempool_initialize` -/
def newDynamic (cfg : Cfg) (objSz objNum : Nat) : Except Fault Sys :=
  match initPool cfg create objSz objNum with
  | .error e => .error e
  | .ok mp => .ok { mp := mp }

/-- a thread-local pool declared with `CMI_MEMPOOL_STATIC_INIT` (initialised on first use) -/
def newStatic (objSz objNum : Nat) : Sys := { mp := staticInit objSz objNum }

end CimbaModel.Mempool
