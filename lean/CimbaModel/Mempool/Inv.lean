/-
  The invariant of the memory-pool model: what it says about sizes, slots and words, the one way in which pop, push
  and store keep it (`Inv.reheap`), and that `cmi_mempool_initialize` establishes it.
-/
import CimbaModel.Mempool.Mem

namespace CimbaModel.Mempool

/-- what the code asserts about its environment (`cmi_aligned_alloc`) and `CHUNK_LIST_SIZE > 0` -/
structure CfgOK (cfg : Cfg) : Prop where
  pageBig : 8 < cfg.page
  page8 : cfg.page % 8 = 0
  pagePow : isPow2 cfg.page = true
  clsPos : 0 < cfg.cls

/-- `a` is the first word of one of the `incr_num` objects of an existing chunk -/
def ValidObj (s : MP) (a : Addr) : Prop :=
  a.1 < s.mem.size ∧ ∃ k, k < s.incrNum ∧ a.2 = k * (s.objSz / 8)

/-- The invariant of an initialised pool.  `fl` = the free list as threaded through memory (top first),
    `live` = the objects currently held by the client. -/
structure Inv (cfg : Cfg) (s : MP) (fl live : List Addr) : Prop where
  cookie : s.cookie = .init
  sz8 : s.objSz % 8 = 0
  szPos : 0 < s.objSz
  numPos : 0 < s.incrNum
  fits : s.incrNum * s.objSz ≤ s.incrSz
  isz : s.incrSz % cfg.page = 0
  /-- the pool holds the valid handle of its chunk list -/
  lptr : s.chunkList = s.blkLive
  lsome : s.blkLive ≠ none
  /-- handles are handed out in increasing order: the next one is fresh -/
  lfresh : ∀ h, s.blkLive = some h → h < s.blkNext
  /-- the block is large enough for `chunk_list_len` entries -/
  lcap : s.listLen ≤ s.blkData.size
  cntLt : s.listCnt < s.listLen
  cntMem : s.listCnt = s.mem.size
  /-- `chunk_list[i]` is the i-th chunk -/
  ldata : ∀ i, i < s.listCnt → s.blkData.getD i none = some i
  rows : ∀ c, c < s.mem.size → s.mem.row c = s.incrSz / 8
  chain : Chain s.mem s.nextObj fl
  flNodup : fl.Nodup
  liveNodup : live.Nodup
  disj : ∀ a, a ∈ fl → a ∉ live
  /-- free list and live set together are exactly the object slots of all chunks -/
  part : ∀ a, (a ∈ fl ∨ a ∈ live) ↔ ValidObj s a

/-- a `CMI_MEMPOOL_STATIC_INIT` pool before its first use -/
structure Pre (s : MP) : Prop where
  cookie : s.cookie = .threadStatic
  sz8 : s.objSz % 8 = 0
  szPos : 0 < s.objSz
  numPos : 0 < s.incrNum
  next : s.nextObj = none
  mem : s.mem = #[]

theorem slots_fit {n sz isz : Nat} (h8 : sz % 8 = 0) (hf : n * sz ≤ isz) : n * (sz / 8) ≤ isz / 8 := by
  have e : 8 * (sz / 8) = sz := by omega
  rw [Nat.le_div_iff_mul_le (by omega)]
  calc n * (sz / 8) * 8 = n * (8 * (sz / 8)) := by rw [Nat.mul_assoc, Nat.mul_comm (sz / 8) 8]
    _ = n * sz := by rw [e]
    _ ≤ isz := hf

theorem round_up_ge (t p : Nat) (hp : 0 < p) : t ≤ ((t + p - 1) / p) * p := by
  have h1 := Nat.div_add_mod (t + p - 1) p
  have h2 := Nat.mod_lt (t + p - 1) hp
  rw [Nat.mul_comm]
  omega

/-- `incr_sz`, a positive multiple of the page size, exceeds the 8 bytes that `cmi_aligned_alloc` asserts -/
theorem incr_big {cfg : Cfg} (hcfg : CfgOK cfg) {n sz isz : Nat} (hsz : 0 < sz) (hn : 0 < n) (hfit : n * sz ≤ isz)
    (hisz : isz % cfg.page = 0) : 8 < isz := by
  have : 1 * sz ≤ n * sz := Nat.mul_le_mul_right _ hn
  have := Nat.le_of_dvd (by omega) (Nat.dvd_of_mod_eq_zero hisz)
  have := hcfg.pageBig
  omega

/-- words per object are positive -/
theorem Inv.uPos {cfg s fl live} (h : Inv cfg s fl live) : 0 < s.objSz / 8 := by
  have := h.sz8; have := h.szPos; omega

theorem Inv.wordsFit {cfg s fl live} (h : Inv cfg s fl live) : s.incrNum * (s.objSz / 8) ≤ s.incrSz / 8 :=
  slots_fit h.sz8 h.fits

theorem Inv.incrBig {cfg s fl live} (hcfg : CfgOK cfg) (h : Inv cfg s fl live) : 8 < s.incrSz :=
  incr_big hcfg h.szPos h.numPos h.fits h.isz

/-- every word of a valid object lies inside its chunk -/
theorem Inv.inBounds {cfg s fl live} (h : Inv cfg s fl live) {a : Addr} (ha : ValidObj s a) {j : Nat}
    (hj : j < s.objSz / 8) : a.1 < s.mem.size ∧ a.2 + j < s.mem.row a.1 := by
  obtain ⟨hc, k, hk, hw⟩ := ha
  refine ⟨hc, ?_⟩
  rw [h.rows _ hc, hw]
  exact slot_lt hk hj h.wordsFit

/-- words of two valid objects coincide only if it is the same word of the same object -/
theorem ValidObj.word_inj {s : MP} {a b : Addr} (ha : ValidObj s a) (hb : ValidObj s b) {j j' : Nat}
    (hj : j < s.objSz / 8) (hj' : j' < s.objSz / 8) (h1 : a.1 = b.1) (h2 : a.2 + j = b.2 + j') : a = b ∧ j = j' := by
  obtain ⟨_, k, _, hw⟩ := ha
  obtain ⟨_, k', _, hw'⟩ := hb
  rw [hw, hw'] at h2
  obtain ⟨e1, e2⟩ := slot_inj hj hj' h2
  refine ⟨Prod.ext h1 ?_, e2⟩
  rw [hw, hw', e1]

/-- two live objects share a word only if they are the same object and it is the same word of it -/
theorem Inv.live_word_inj {cfg s fl live} (h : Inv cfg s fl live) {a b : Addr} (hb : b ∈ live) (ha : a ∈ live)
    {j j' : Nat} (hj' : j' < s.objSz / 8) (hj : j < s.objSz / 8) (e1 : b.1 = a.1) (e2 : b.2 + j' = a.2 + j) :
    b = a ∧ j' = j :=
  ValidObj.word_inj ((h.part b).mp (Or.inr hb)) ((h.part a).mp (Or.inr ha)) hj' hj e1 e2

/-! ### steps that leave everything but the contents of the object memory and `next_obj` alone -/

/-- free list and live list together list every object slot exactly once -/
theorem Inv.slots {cfg s fl live} (h : Inv cfg s fl live) :
    (fl ++ live).Nodup ∧ ∀ a, a ∈ fl ++ live ↔ ValidObj s a :=
  ⟨List.nodup_append.mpr ⟨h.flNodup, h.liveNodup, fun a hf _ hl e => h.disj a hf (e ▸ hl)⟩,
   fun a => List.mem_append.trans (h.part a)⟩

/-- A pop, a push or a store keeps the invariant if the new free list is again spelled out in memory and
    free list ++ live list is a rearrangement of what it was. -/
theorem Inv.reheap {cfg s fl live} (h : Inv cfg s fl live) {m' : Mem} {nx : Option Addr} {fl' live' : List Addr}
    (hsize : m'.size = s.mem.size) (hrow : ∀ c, m'.row c = s.mem.row c)
    (hperm : (fl' ++ live').Perm (fl ++ live)) (hchain : Chain m' nx fl') :
    Inv cfg { s with mem := m', nextObj := nx } fl' live' := by
  obtain ⟨hnd, hmem⟩ := h.slots
  obtain ⟨n1, n2, n3⟩ := List.nodup_append.mp (hperm.nodup_iff.mpr hnd)
  exact {
    cookie := h.cookie, sz8 := h.sz8, szPos := h.szPos, numPos := h.numPos, fits := h.fits, isz := h.isz
    lptr := h.lptr, lsome := h.lsome, lfresh := h.lfresh, lcap := h.lcap, cntLt := h.cntLt
    cntMem := h.cntMem.trans hsize.symm
    ldata := h.ldata
    rows := fun c hc => (hrow c).trans (h.rows c (hsize ▸ hc))
    chain := hchain
    flNodup := n1, liveNodup := n2
    disj := fun a hf hl => n3 a hf a hl rfl
    part := fun a => by
      show _ ↔ a.1 < m'.size ∧ _
      rw [hsize, ← List.mem_append, hperm.mem_iff]; exact hmem a }

/-- a write into an existing word changes neither the number of chunks nor their lengths -/
theorem Inv.reheap_wrW {cfg s fl live} (h : Inv cfg s fl live) {m' : Mem} {c w : Nat} {v : Word}
    (hm' : wrW s.mem c w v = .ok m') {nx : Option Addr} {fl' live' : List Addr}
    (hperm : (fl' ++ live').Perm (fl ++ live)) (hchain : Chain m' nx fl') :
    Inv cfg { s with mem := m', nextObj := nx } fl' live' :=
  h.reheap (wrW_size hm') (wrW_row hm') hperm hchain

theorem initPool_inv {cfg : Cfg} {s : MP} {sz num : Nat} (hcfg : CfgOK cfg) (h8 : sz % 8 = 0) (hsz : 0 < sz)
    (hnum : 0 < num) (hmem : s.mem = #[]) :
    ∃ s', initPool cfg s sz num = .ok s' ∧ Inv cfg s' [] [] ∧ s'.objSz = sz := by
  have hn : ¬ num = 0 := by omega
  have hs : ¬ sz = 0 := by omega
  have hp : 0 < cfg.page := by have := hcfg.pageBig; omega
  have hge := round_up_ge (num * sz) cfg.page hp
  have hle : sz ≤ num * sz := Nat.le_mul_of_pos_left sz hnum
  refine ⟨_, by simp only [initPool, h8, hn, hs, mallocList]; rfl, ?_, by rfl⟩
  exact {
    cookie := rfl, sz8 := h8, szPos := hsz
    numPos := Nat.div_pos (Nat.le_trans hle hge) hsz
    fits := Nat.div_mul_le_self _ _
    isz := Nat.mul_mod_left _ _
    lptr := rfl
    lsome := by simp
    lfresh := fun h e => by simp only [Option.some.injEq] at e; show h < s.blkNext + 1; omega
    lcap := by simp
    cntLt := hcfg.clsPos
    cntMem := by simp [hmem]
    ldata := fun i hi => by simp at hi
    rows := fun c hc => by simp [hmem] at hc
    chain := rfl
    flNodup := by simp
    liveNodup := by simp
    disj := by simp
    part := fun a => by simp [ValidObj, hmem] }

end CimbaModel.Mempool
