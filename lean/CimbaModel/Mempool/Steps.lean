/-
  alloc / free / user stores keep the invariant; client programs (`Sys`, `step`, `run`) never fault and
  keep `Good`, which adds the client's view: everything it stored in an object it still holds is still there.
-/
import CimbaModel.Mempool.Expand

namespace CimbaModel.Mempool

theorem pop_inv {cfg : Cfg} {s : MP} {a : Addr} {rest live : List Addr} (h : Inv cfg s (a :: rest) live) :
    ∃ nx, s.nextObj = some a ∧ rdW s.mem a.1 a.2 = .ok (.link nx) ∧
      Inv cfg { s with nextObj := nx } rest (a :: live) ∧ a ∉ live := by
  obtain ⟨h1, nx, h2, h3⟩ := h.chain
  obtain ⟨hc, hw⟩ := h.inBounds ((h.part a).mp (Or.inl (by simp))) h.uPos
  exact ⟨nx, h1, by rw [rdW_eq hc (by simpa using hw), h2],
    h.reheap rfl (fun _ => rfl) List.perm_middle h3, h.disj a (by simp)⟩

/-- `cmi_mempool_alloc` on an initialised pool: never faults, hands out an object that was not live -/
theorem alloc_inv {cfg : Cfg} {s : MP} {fl live : List Addr} (hcfg : CfgOK cfg) (h : Inv cfg s fl live) :
    ∃ s' a fl', alloc cfg s = .ok (s', a) ∧ Inv cfg s' fl' (a :: live) ∧ a ∉ live ∧
      (∀ c w, c < s.mem.size → s'.mem.get c w = s.mem.get c w) ∧ s'.objSz = s.objSz := by
  cases hn : s.nextObj with
  | none =>
    have hfl : fl = [] := by have := h.chain; rw [hn] at this; exact this.of_none
    subst hfl
    obtain ⟨s1, he, hi, hfr, hsz⟩ := expand_inv hcfg h
    obtain ⟨n', hn'⟩ : ∃ n', s.incrNum = n' + 1 := ⟨s.incrNum - 1, by have := h.numPos; omega⟩
    rw [hn'] at hi
    simp only [objsFrom] at hi
    obtain ⟨nx, p1, p2, p3, p4⟩ := pop_inv hi
    refine ⟨{ s1 with nextObj := nx }, _, _, ?_, p3, p4, hfr, hsz⟩
    simp [alloc, allocWith, hn, he, p1, p2]
  | some a0 =>
    cases fl with
    | nil => have := h.chain; rw [hn] at this; exact absurd this (by simp [Chain])
    | cons a rest =>
      obtain ⟨nx, p1, p2, p3, p4⟩ := pop_inv h
      refine ⟨{ s with nextObj := nx }, a, rest, ?_, p3, p4, fun _ _ _ => rfl, rfl⟩
      simp [alloc, allocWith, p1, p2]

/-- first use of a `CMI_MEMPOOL_STATIC_INIT` pool -/
theorem alloc_pre {cfg : Cfg} {s : MP} (hcfg : CfgOK cfg) (h : Pre s) :
    ∃ s' a fl', alloc cfg s = .ok (s', a) ∧ Inv cfg s' fl' [a] ∧ s'.objSz = s.objSz := by
  obtain ⟨s0, h0, hi, hsz0⟩ := initPool_inv (cfg := cfg) (s := s) hcfg h.sz8 h.szPos h.numPos h.mem
  have hnone0 : s0.nextObj = none := hi.chain
  obtain ⟨s', a, fl', ha, hi', _, _, hsz⟩ := alloc_inv hcfg hi
  refine ⟨s', a, fl', ?_, hi', by rw [hsz, hsz0]⟩
  rw [← ha]
  simp [alloc, allocWith, h.next, hnone0, expand, expandWith, expandEnter, h.cookie, h0, hi.cookie]

theorem free_inv {cfg : Cfg} {s : MP} {fl live : List Addr} {a : Addr} (h : Inv cfg s fl live) (ha : a ∈ live) :
    ∃ s', free s a = .ok s' ∧ Inv cfg s' (a :: fl) (live.erase a) ∧
      (∀ c w, ¬ (c = a.1 ∧ w = a.2) → s'.mem.get c w = s.mem.get c w) ∧ s'.objSz = s.objSz := by
  obtain ⟨hc, hw⟩ := h.inBounds ((h.part a).mp (Or.inr ha)) h.uPos
  obtain ⟨m', hm'⟩ := wrW_isOk (.link s.nextObj) hc (by simpa using hw)
  refine ⟨{ s with mem := m', nextObj := some a }, by simp [free, h.cookie, hm'], ?_,
    fun c w hne => by show m'.get c w = _; rw [wrW_get hm', if_neg hne], rfl⟩
  -- the returned object goes from the live list to the top of the free list
  refine h.reheap_wrW hm' (List.perm_middle.symm.trans ((List.perm_cons_erase ha).symm.append_left fl)) ?_
  refine ⟨rfl, s.nextObj, by rw [wrW_get hm']; simp, h.chain.wrW hm' ?_⟩
  rintro b hb ⟨e1, e2⟩
  exact h.disj b hb (Prod.ext e1 e2 ▸ ha)

theorem userWrite_inv {cfg : Cfg} {s : MP} {fl live : List Addr} {a : Addr} {j : Nat} (v : Nat)
    (h : Inv cfg s fl live) (ha : a ∈ live) (hj : j < s.objSz / 8) :
    ∃ s', userWrite s a j v = .ok s' ∧ Inv cfg s' fl live ∧
      (∀ c w, s'.mem.get c w = if c = a.1 ∧ w = a.2 + j then .data v else s.mem.get c w) ∧
      s'.objSz = s.objSz := by
  have hv : ValidObj s a := (h.part a).mp (Or.inr ha)
  obtain ⟨hc, hw⟩ := h.inBounds hv hj
  obtain ⟨m', hm'⟩ := wrW_isOk (.data v) hc hw
  refine ⟨{ s with mem := m' }, by simp [userWrite, hm'], ?_, fun c w => wrW_get hm' c w, rfl⟩
  refine h.reheap_wrW hm' (List.Perm.refl _) (h.chain.wrW hm' ?_)
  -- a word of a live object is not the first word of a free one
  rintro b hb ⟨e1, e2⟩
  have := (ValidObj.word_inj ((h.part b).mp (Or.inl hb)) hv h.uPos hj e1 (by simpa using e2)).1
  exact h.disj b hb (this ▸ ha)

/-- what the client stored in an object it still holds is still there -/
def ShadowOK (s : Sys) : Prop :=
  ∀ a, a ∈ s.live → ∀ j v, s.shadow a j = some v → j < s.mp.objSz / 8 ∧ s.mp.mem.get a.1 (a.2 + j) = .data v

/-- the pool is initialised and satisfies the invariant, or it is a static pool that has not been used yet -/
def PoolOK (cfg : Cfg) (s : Sys) : Prop :=
  (∃ fl, Inv cfg s.mp fl s.live) ∨ (Pre s.mp ∧ s.live = [])

def Good (cfg : Cfg) (s : Sys) : Prop := PoolOK cfg s ∧ ShadowOK s

/-- a pool that has handed out an object is initialised -/
theorem PoolOK.inv_of_mem {cfg : Cfg} {s : Sys} {a : Addr} (h : PoolOK cfg s) (ha : a ∈ s.live) :
    ∃ fl, Inv cfg s.mp fl s.live := by
  rcases h with h | ⟨_, hl⟩
  · exact h
  · rw [hl] at ha; exact absurd ha List.not_mem_nil

/-- first use or not, an allocation leaves an initialised pool, hands out a new object and changes no word of a
    live one -/
theorem PoolOK.alloc {cfg : Cfg} {s : Sys} (hcfg : CfgOK cfg) (h : PoolOK cfg s) :
    ∃ mp' a fl', alloc cfg s.mp = .ok (mp', a) ∧ Inv cfg mp' fl' (a :: s.live) ∧ a ∉ s.live ∧
      mp'.objSz = s.mp.objSz ∧ ∀ b, b ∈ s.live → ∀ j, mp'.mem.get b.1 (b.2 + j) = s.mp.mem.get b.1 (b.2 + j) := by
  rcases h with ⟨fl, hi⟩ | ⟨hpre, hl⟩
  · obtain ⟨mp', a, fl', ha, hi', hnl, hfr, hsz⟩ := alloc_inv hcfg hi
    exact ⟨mp', a, fl', ha, hi', hnl, hsz, fun b hb j => hfr _ _ ((hi.part b).mp (Or.inr hb)).1⟩
  · obtain ⟨mp', a, fl', ha, hi', hsz⟩ := alloc_pre hcfg hpre
    exact ⟨mp', a, fl', ha, hl ▸ hi', by simp [hl], hsz, by simp [hl]⟩

/-- a step that forgets objects or their shadow entries, keeps the object size and leaves the words of the objects
    it keeps alone keeps `ShadowOK` -/
theorem ShadowOK.of_frame {s s' : Sys} (h : ShadowOK s) (hsz : s'.mp.objSz = s.mp.objSz)
    (hsh : ∀ b, b ∈ s'.live → ∀ j v, s'.shadow b j = some v → b ∈ s.live ∧ s.shadow b j = some v)
    (hfr : ∀ b, b ∈ s'.live → b ∈ s.live → ∀ j, j < s.mp.objSz / 8 →
      s'.mp.mem.get b.1 (b.2 + j) = s.mp.mem.get b.1 (b.2 + j)) : ShadowOK s' := by
  intro b hb j v hs
  obtain ⟨hbl, hs0⟩ := hsh b hb j v hs
  obtain ⟨q1, q2⟩ := h b hbl j v hs0
  exact ⟨hsz ▸ q1, (hfr b hb hbl j q1).trans q2⟩

theorem step_alloc_good {cfg : Cfg} {s : Sys} (hcfg : CfgOK cfg) (h : Good cfg s) :
    ∃ s' a, step cfg s .alloc = .ok s' ∧ Good cfg s' ∧ s'.live = a :: s.live ∧ a ∉ s.live ∧
      (∀ b, b ∈ s.live → ∀ j, j < s.mp.objSz / 8 → s'.mp.mem.get b.1 (b.2 + j) = s.mp.mem.get b.1 (b.2 + j)) := by
  obtain ⟨hp, hsh⟩ := h
  obtain ⟨mp', a, fl', ha, hi', hnl, hsz, hframe⟩ := hp.alloc hcfg
  refine ⟨{ mp := mp', live := a :: s.live, shadow := updShadow s.shadow a fun _ => none }, a,
    by simp [step, stepWith, ha], ⟨Or.inl ⟨fl', hi'⟩, hsh.of_frame hsz ?_ fun b _ hb j _ => hframe b hb j⟩, rfl, hnl,
    fun b hb j _ => hframe b hb j⟩
  -- the new object has no shadow entries yet
  intro b hb j v hs
  by_cases e : b = a
  · simp [updShadow, e] at hs
  · exact ⟨by simpa [e] using hb, by simpa [updShadow, e] using hs⟩

theorem step_free_good {cfg : Cfg} {s : Sys} (i : Nat) (h : Good cfg s) :
    ∃ s', step cfg s (.free i) = .ok s' ∧ Good cfg s' ∧
      (∀ b, b ∈ s'.live → b ∈ s.live ∧
        ∀ j, j < s.mp.objSz / 8 → s'.mp.mem.get b.1 (b.2 + j) = s.mp.mem.get b.1 (b.2 + j)) := by
  obtain ⟨hp, hsh⟩ := h
  cases hget : s.live[i]? with
  | none => exact ⟨s, by simp [step, stepWith, hget], ⟨hp, hsh⟩, fun b hb => ⟨hb, fun _ _ => rfl⟩⟩
  | some a =>
    have ha : a ∈ s.live := List.mem_of_getElem? hget
    obtain ⟨fl, hi⟩ := hp.inv_of_mem ha
    obtain ⟨mp', hf, hi', hfr, hsz⟩ := free_inv hi ha
    -- the one word `free` writes is the first word of `a`, which is no word of another live object
    have hframe : ∀ b, b ∈ s.live.erase a → b ∈ s.live ∧
        ∀ j, j < s.mp.objSz / 8 → mp'.mem.get b.1 (b.2 + j) = s.mp.mem.get b.1 (b.2 + j) := by
      intro b hb
      rw [hi.liveNodup.mem_erase_iff] at hb
      exact ⟨hb.2, fun j hj => hfr _ _ fun ⟨e1, e2⟩ =>
        hb.1 (hi.live_word_inj hb.2 ha hj hi.uPos e1 (by simpa using e2)).1⟩
    exact ⟨{ mp := mp', live := s.live.erase a, shadow := s.shadow }, by simp [step, stepWith, hget, hf],
      ⟨Or.inl ⟨_, hi'⟩, hsh.of_frame hsz (fun b hb j v hs => ⟨(hframe b hb).1, hs⟩) fun b hb _ => (hframe b hb).2⟩,
      hframe⟩

/-- the client's record after a store differs in the one entry -/
theorem updShadow_store (sh : Addr → Nat → Option Nat) (a : Addr) (j v : Nat) (b : Addr) (j' : Nat) :
    updShadow sh a (fun j' => if j' = j then some v else sh a j') b j' =
      if b = a ∧ j' = j then some v else sh b j' := by
  unfold updShadow
  by_cases e : b = a
  · subst e; simp
  · simp [e]

theorem step_write_good {cfg : Cfg} {s : Sys} (i j v : Nat) (h : Good cfg s) :
    ∃ s', step cfg s (.write i j v) = .ok s' ∧ Good cfg s' ∧ s'.live = s.live ∧
      (∀ b, b ∈ s.live → ∀ j', j' < s.mp.objSz / 8 → ¬ (s.live[i]? = some b ∧ j' = j) →
        s'.mp.mem.get b.1 (b.2 + j') = s.mp.mem.get b.1 (b.2 + j')) := by
  obtain ⟨hp, hsh⟩ := h
  cases hget : s.live[i]? with
  | none => exact ⟨s, by simp [step, stepWith, hget], ⟨hp, hsh⟩, rfl, fun _ _ _ _ _ => rfl⟩
  | some a =>
    have ha : a ∈ s.live := List.mem_of_getElem? hget
    by_cases hj : j < s.mp.objSz / 8
    · obtain ⟨fl, hi⟩ := hp.inv_of_mem ha
      obtain ⟨mp', hw, hi', hmem, hsz⟩ := userWrite_inv v hi ha hj
      have hother : ∀ b, b ∈ s.live → ∀ j', j' < s.mp.objSz / 8 → ¬ (b = a ∧ j' = j) →
          mp'.mem.get b.1 (b.2 + j') = s.mp.mem.get b.1 (b.2 + j') := by
        intro b hb j' hj' hne
        rw [hmem, if_neg fun ⟨e1, e2⟩ => hne (hi.live_word_inj hb ha hj' hj e1 e2)]
      refine ⟨{ s with mp := mp', shadow := updShadow s.shadow a fun j' => if j' = j then some v else s.shadow a j' },
        by simp [step, stepWith, hget, hj, hw], ⟨Or.inl ⟨fl, hi'⟩, ?_⟩, rfl,
        fun b hb j' hj' hne => hother b hb j' hj' fun ⟨e1, e2⟩ => hne ⟨by rw [e1], e2⟩⟩
      intro b hb j' v' hs
      show j' < mp'.objSz / 8 ∧ mp'.mem.get b.1 (b.2 + j') = .data v'
      replace hs : (if b = a ∧ j' = j then some v else s.shadow b j') = some v' := (updShadow_store ..).symm.trans hs
      rw [hsz]
      split at hs
      · rename_i e
        obtain ⟨rfl, rfl⟩ := e
        cases hs
        exact ⟨hj, by rw [hmem]; simp⟩
      · rename_i e
        obtain ⟨q1, q2⟩ := hsh b hb j' v' hs
        exact ⟨q1, (hother b hb j' q1 e).trans q2⟩
    · exact ⟨s, by simp [step, stepWith, hget, hj], ⟨hp, hsh⟩, rfl, fun _ _ _ _ _ => rfl⟩

theorem step_good {cfg : Cfg} {s : Sys} (hcfg : CfgOK cfg) (h : Good cfg s) (op : Op) :
    ∃ s', step cfg s op = .ok s' ∧ Good cfg s' := by
  cases op with
  | alloc => obtain ⟨s', _, h1, h2, _⟩ := step_alloc_good hcfg h; exact ⟨s', h1, h2⟩
  | free i => obtain ⟨s', h1, h2, _⟩ := step_free_good i h; exact ⟨s', h1, h2⟩
  | write i j v => obtain ⟨s', h1, h2, _⟩ := step_write_good i j v h; exact ⟨s', h1, h2⟩

theorem run_good {cfg : Cfg} (hcfg : CfgOK cfg) : ∀ (ops : List Op) (s : Sys), Good cfg s →
    ∃ s', run cfg s ops = .ok s' ∧ Good cfg s'
  | [], s, h => ⟨s, rfl, h⟩
  | op :: ops, s, h => by
    obtain ⟨s1, h1, g1⟩ := step_good hcfg h op
    obtain ⟨s2, h2, g2⟩ := run_good hcfg ops s1 g1
    exact ⟨s2, by simp only [run, runWith, h1]; exact h2, g2⟩

theorem newDynamic_good {cfg : Cfg} {sz num : Nat} (hcfg : CfgOK cfg) (h8 : sz % 8 = 0) (hsz : 0 < sz)
    (hnum : 0 < num) : ∃ s, newDynamic cfg sz num = .ok s ∧ Good cfg s := by
  obtain ⟨mp, h0, hi, _⟩ := initPool_inv (cfg := cfg) (s := create) hcfg h8 hsz hnum rfl
  exact ⟨{ mp := mp }, by simp [newDynamic, h0], Or.inl ⟨[], hi⟩, fun a ha => by simp at ha⟩

theorem newStatic_good {cfg : Cfg} {sz num : Nat} (h8 : sz % 8 = 0) (hsz : 0 < sz) (hnum : 0 < num) :
    Good cfg (newStatic sz num) :=
  ⟨Or.inr ⟨{ cookie := rfl, sz8 := h8, szPos := hsz, numPos := hnum, next := rfl, mem := rfl }, rfl⟩,
   fun a ha => by simp [newStatic] at ha⟩

end CimbaModel.Mempool
