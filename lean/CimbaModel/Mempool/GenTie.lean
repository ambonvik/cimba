/-
  The hand-written `initPool` computes exactly the sizes that the C code of `cmi_mempool_initialize` computes
  (regenerated from the C AST into Generated/Mempool.lean on every run) and fails exactly its release asserts.
-/
import CimbaModel.Generated.Mempool

namespace CimbaModel.Mempool
open CimbaModel.Generated.Mempool

/-- `initPool` succeeds exactly when the code's release asserts hold (and `obj_sz ≠ 0`, where the C code divides
    by zero) -/
theorem initPool_ok_iff (cfg : Cfg) (s : MP) (sz num : Nat) :
    (∃ s', initPool cfg s sz num = .ok s') ↔ (initialize_asserts sz num = true ∧ sz ≠ 0) := by
  unfold initPool initialize_asserts
  by_cases h1 : sz % 8 = 0 <;> by_cases h2 : num = 0 <;> by_cases h3 : sz = 0 <;>
    simp [h1, h2, h3, mallocList] <;> omega

/-- the five size fields after `initPool` are the ones the C code assigns, as long as `obj_num * obj_sz + page`
    does not wrap around in 64 bits -/
theorem initPool_sizes_eq (page : Nat) (s s' : MP) (sz num : Nat) (hp : 0 < page)
    (hov : num * sz + page < 2 ^ 64)
    (h : initPool { page := page, cls := chunk_list_size } s sz num = .ok s') :
    s'.objSz = (initialize_sizes page s sz num).objSz ∧
    s'.incrSz = (initialize_sizes page s sz num).incrSz ∧
    s'.incrNum = (initialize_sizes page s sz num).incrNum ∧
    s'.listLen = (initialize_sizes page s sz num).listLen ∧
    s'.listCnt = (initialize_sizes page s sz num).listCnt := by
  unfold initPool at h
  split at h
  · cases h
  · split at h
    · cases h
    · split at h
      · cases h
      · simp only [mallocList] at h
        have e1 : (num * sz) % 18446744073709551616 = num * sz := Nat.mod_eq_of_lt (by omega)
        have e2 : (num * sz + page) % 18446744073709551616 = num * sz + page := Nat.mod_eq_of_lt (by omega)
        have e3 : (num * sz + page + 18446744073709551616 - 1) % 18446744073709551616 = num * sz + page - 1 := by omega
        have e4 : (num * sz + page - 1) / page * page % 18446744073709551616 = (num * sz + page - 1) / page * page := by
          have := Nat.div_mul_le_self (num * sz + page - 1) page
          exact Nat.mod_eq_of_lt (by omega)
        have hg : initialize_sizes page s sz num =
            { s with objSz := sz, incrSz := (num * sz + page - 1) / page * page,
                     incrNum := (num * sz + page - 1) / page * page / sz, listLen := chunk_list_size, listCnt := 0 } := by
          simp only [initialize_sizes, chunk_list_size]
          rw [e1, e2, e3, e4]
        rw [hg]
        injection h with h
        subst h
        exact ⟨rfl, rfl, rfl, rfl, rfl⟩

/-- The loop of `cmi_mempool_expand` that threads a fresh chunk (trip count and stride regenerated from the C AST)
    takes exactly the `incr_num - 1` steps of `obj_sz / 8` words that the model's `addChunk` passes to `threadLoop` —
    for EVERY chunk population `incr_num ≥ 1`, in particular for chunks that hold a single object (no link step,
    only the NULL terminator).  `unsigned` counters: `incr_num < 2^32`, `obj_sz / 8 < 2^32`. -/
theorem expand_loop_eq (s : MP) (hnum : 0 < s.incrNum) (hn : s.incrNum < 2 ^ 32) (hs : s.objSz / 8 < 2 ^ 32) :
    expand_links s = s.incrNum - 1 ∧ expand_stride s = s.objSz / 8 := by
  constructor
  · simp only [expand_links]
    first
      | omega
      | (simp only [Nat.max_def]; split <;> omega)
  · simp only [expand_stride]
    omega

end CimbaModel.Mempool
