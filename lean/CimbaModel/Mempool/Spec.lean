/-
  The last definitions the C20 theorems are stated with: byte layout, the small configuration, `faultOf`, `liveOf`.
  (`Chain`, `objsFrom` are in Mem.lean, `CfgOK ValidObj Inv Pre` in Inv.lean, `ShadowOK PoolOK Good` in Steps.lean.)
-/
import CimbaModel.Mempool.Model

namespace CimbaModel.Mempool

/-- assumption on libc: chunks are page aligned and pairwise disjoint blocks of `incr_sz` bytes -/
structure Layout (cfg : Cfg) (s : MP) (base : Nat → Nat) : Prop where
  aligned : ∀ c, base c % cfg.page = 0
  apart : ∀ c c', c ≠ c' → base c + s.incrSz ≤ base c' ∨ base c' + s.incrSz ≤ base c

def byteAddr (base : Nat → Nat) (a : Addr) : Nat := base a.1 + 8 * a.2

/-- small parameters for the concrete instances: page 16, CHUNK_LIST_SIZE 2 -/
def cfgSmall : Cfg := { page := 16, cls := 2 }

def faultOf : Except Fault Sys → Option Fault
  | .error e => some e
  | .ok _ => none

def liveOf : Except Fault Sys → List Addr
  | .error _ => []
  | .ok s => s.live

end CimbaModel.Mempool
