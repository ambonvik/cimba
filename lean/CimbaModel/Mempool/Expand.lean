/-
  `cmi_mempool_expand` keeps the invariant and never faults; the variant of before
  fixes/C20-chunk-list-realloc.patch (`expandDefective`) faults when the chunk list itself has to grow.
-/
import CimbaModel.Mempool.Inv

namespace CimbaModel.Mempool

theorem alignedAlloc_ok {cfg : Cfg} (hcfg : CfgOK cfg) (s : MP) {sz : Nat} (hbig : 8 < sz) (hpg : sz % cfg.page = 0) :
    alignedAlloc cfg s sz = .ok ({ s with mem := s.mem.push (Array.replicate (sz / 8) .junk) }, s.mem.size) := by
  simp [alignedAlloc, hcfg.pageBig, hcfg.page8, hcfg.pagePow, hbig, hpg]

/-- "Expand the area list if necessary" on a pool that holds the live handle `h0`, for every variant of the code -/
theorem growList_eq (useResult : Bool) (eb : Nat) (cfg : Cfg) {s : MP} {h0 : Nat} (hcl : s.chunkList = some h0)
    (hlive : s.blkLive = some h0) :
    growList useResult eb cfg s = .ok
      (if s.listCnt + 1 = s.listLen then
        { s with listCnt := s.listCnt + 1, listLen := s.listLen + cfg.cls, blkNext := s.blkNext + 1,
                 blkLive := some s.blkNext, chunkList := some (if useResult then s.blkNext else h0),
                 blkData := Array.ofFn (n := (s.listLen + cfg.cls) * eb / 8) fun i => s.blkData.getD i.val none }
       else { s with listCnt := s.listCnt + 1 }) := by
  by_cases hg : s.listCnt + 1 = s.listLen
  · cases useResult
    · simp [growList, hg, reallocList, hcl, hlive]
    · simp [growList, hg, reallocList, hcl, hlive]
  · simp [growList, hg]

/-- the code (`useResult`, 8 bytes per entry): only the chunk-list fields change, and they are ready for one more entry -/
theorem growList_ok {cfg : Cfg} {s : MP} (hcls : 0 < cfg.cls) (hp : s.chunkList = s.blkLive)
    (hl : s.blkLive ≠ none) (hcap : s.listLen ≤ s.blkData.size) (hlt : s.listCnt < s.listLen)
    (hfr : ∀ h, s.blkLive = some h → h < s.blkNext) :
    ∃ L cl n bl d,
      growList true 8 cfg s = .ok { s with listCnt := s.listCnt + 1, listLen := L, chunkList := cl, blkNext := n,
                                           blkLive := bl, blkData := d } ∧
      (∀ h, bl = some h → h < n) ∧ cl = bl ∧ bl ≠ none ∧ L ≤ d.size ∧ s.listCnt + 1 < L ∧
      ∀ i, i < s.listLen → d.getD i none = s.blkData.getD i none := by
  obtain ⟨h0, hlive⟩ := Option.ne_none_iff_exists'.mp hl
  rw [growList_eq true 8 cfg (hp.trans hlive) hlive]
  by_cases hg : s.listCnt + 1 = s.listLen
  · refine ⟨_, _, _, _, _, by rw [if_pos hg]; rfl, ?_, rfl, by simp, by simp, by omega, ?_⟩
    · intro h e; cases e; exact Nat.lt_succ_self _
    · intro i hi
      have : i < s.listLen + cfg.cls := by omega
      simp [Array.getD_eq_getD_getElem?, this]
  · exact ⟨_, _, _, _, _, by rw [if_neg hg], hfr, hp, hl, hcap, by omega, fun _ _ => rfl⟩

/-- new chunk, recorded in the list, objects threaded: only `blkData`, `mem` and `nextObj` change -/
theorem addChunk_ok {cfg : Cfg} {s : MP} (hcfg : CfgOK cfg) (hp : s.chunkList = s.blkLive)
    (hl : s.blkLive ≠ none) (hcap : s.listLen ≤ s.blkData.size) (hcnt : s.listCnt = s.mem.size + 1)
    (hlt : s.listCnt < s.listLen) (h8 : s.objSz % 8 = 0) (hsz : 0 < s.objSz) (hnum : 0 < s.incrNum)
    (hfit : s.incrNum * s.objSz ≤ s.incrSz) (hisz : s.incrSz % cfg.page = 0) :
    ∃ m', addChunk cfg s = .ok { s with mem := m', nextObj := some (s.mem.size, 0),
                                        blkData := s.blkData.setIfInBounds s.mem.size (some s.mem.size) } ∧
      m'.size = s.mem.size + 1 ∧ (∀ c, m'.row c = if c = s.mem.size then s.incrSz / 8 else s.mem.row c) ∧
      (∀ c w, c < s.mem.size → m'.get c w = s.mem.get c w) ∧
      Chain m' (some (s.mem.size, 0)) (objsFrom s.mem.size 0 (s.objSz / 8) s.incrNum) := by
  obtain ⟨h0, hlive⟩ := Option.ne_none_iff_exists'.mp hl
  obtain ⟨m', ht, hrest⟩ := newChunk_spec s.mem (u := s.objSz / 8) (by omega) hnum (slots_fit h8 hfit)
  refine ⟨m', ?_, hrest⟩
  have e1 : s.listCnt - 1 = s.mem.size := by omega
  have hidx : s.mem.size < s.blkData.size := by omega
  simp [addChunk, alignedAlloc_ok hcfg s (incr_big hcfg hsz hnum hfit hisz) hisz, listWrite, hp, hlive, e1, hidx, ht]

/-- on an initialised pool with an empty free list the entry part of `cmi_mempool_expand` does nothing -/
theorem expandWith_eq {useResult : Bool} {eb : Nat} {cfg : Cfg} {s s1 : MP} {live : List Addr}
    (h : Inv cfg s [] live) (hg : growList useResult eb cfg s = .ok s1) :
    expandWith useResult eb cfg s = addChunk cfg s1 := by
  have hnone : s.nextObj = none := h.chain
  simp [expandWith, expandEnter, hnone, h.cookie, hg]

/-- `cmi_mempool_expand` on a pool whose free list is exhausted -/
theorem expand_inv {cfg : Cfg} {s : MP} {live : List Addr} (hcfg : CfgOK cfg) (h : Inv cfg s [] live) :
    ∃ s', expand cfg s = .ok s' ∧
      Inv cfg s' (objsFrom s.mem.size 0 (s.objSz / 8) s.incrNum) live ∧
      (∀ c w, c < s.mem.size → s'.mem.get c w = s.mem.get c w) ∧ s'.objSz = s.objSz := by
  obtain ⟨L, cl, n, bl, d, hg, g0, g1, g2, g3, g5, g6⟩ :=
    growList_ok hcfg.clsPos h.lptr h.lsome h.lcap h.cntLt h.lfresh
  obtain ⟨m', ha, a1, a2, a4, a5⟩ :=
    addChunk_ok (s := { s with listCnt := s.listCnt + 1, listLen := L, chunkList := cl, blkNext := n,
                               blkLive := bl, blkData := d })
      hcfg g1 g2 g3 (congrArg (· + 1) h.cntMem) g5 h.sz8 h.szPos h.numPos h.fits h.isz
  dsimp only at ha a1 a2 a4 a5
  refine ⟨_, (expandWith_eq h hg).trans ha, ?_, a4, rfl⟩
  have hcm := h.cntMem
  exact {
    cookie := h.cookie, sz8 := h.sz8, szPos := h.szPos, numPos := h.numPos, fits := h.fits, isz := h.isz
    lptr := g1, lsome := g2, lfresh := g0
    lcap := by simpa using g3
    cntLt := g5
    cntMem := by show s.listCnt + 1 = m'.size; omega
    ldata := by
      intro i hi
      show (d.setIfInBounds s.mem.size (some s.mem.size)).getD i none = some i
      have hi : i < s.listCnt + 1 := hi
      rw [Array.getD_eq_getD_getElem?, Array.getElem?_setIfInBounds]
      by_cases e : s.mem.size = i
      · have : i < d.size := by omega
        simp [e, this]
      · rw [if_neg e, ← Array.getD_eq_getD_getElem?, g6 i (by have := h.cntLt; omega)]
        exact h.ldata i (by omega)
    rows := by
      intro c hc
      show m'.row c = s.incrSz / 8
      rw [a2]; split
      · rfl
      · exact h.rows c (by have : c < m'.size := hc; omega)
    chain := a5
    flNodup := nodup_objsFrom h.uPos _ _
    liveNodup := h.liveNodup
    disj := fun a ha hl => Nat.ne_of_lt ((h.part a).mp (Or.inr hl)).1 (mem_objsFrom_zero.mp ha).1
    -- a slot lies in the new chunk or in an old one
    part := fun a => by
      show _ ↔ a.1 < m'.size ∧ _
      rw [a1, Nat.lt_succ_iff_lt_or_eq, or_and_right, mem_objsFrom_zero, or_comm]
      exact or_congr (h.slots.2 a) Iff.rfl }

/-! ### the code before fixes/C20-chunk-list-realloc.patch, and the two half repairs -/

/-- Dropping realloc's result (`cmi_realloc(mp->chunk_list, …);` as a statement): the first expansion at which the
    chunk list has to grow writes through the dead pointer.  Holds whatever byte size is passed. -/
theorem expandWith_dropResult_faults {cfg : Cfg} {s : MP} {live : List Addr} (eb : Nat) (hcfg : CfgOK cfg)
    (h : Inv cfg s [] live) (hg : s.listCnt + 1 = s.listLen) :
    expandWith false eb cfg s = .error .listStale := by
  obtain ⟨h0, hlive⟩ := Option.ne_none_iff_exists'.mp h.lsome
  -- the pool still holds `h0`, the live block is the fresh `s.blkNext`
  have hne : ¬ s.blkNext = h0 := by have := h.lfresh h0 hlive; omega
  rw [expandWith_eq h (growList_eq false eb cfg (h.lptr.trans hlive) hlive), if_pos hg]
  simp [addChunk, alignedAlloc_ok hcfg _ (h.incrBig hcfg) h.isz, listWrite, hne]

/-- Using the result but passing the element count as the byte size: the block shrinks to `count / 8` entries and
    the store of the new chunk's address lands outside it. -/
theorem expandWith_undersized_faults {cfg : Cfg} {s : MP} {live : List Addr} (hcfg : CfgOK cfg)
    (h : Inv cfg s [] live) (hg : s.listCnt + 1 = s.listLen) (hsmall : (s.listLen + cfg.cls) / 8 ≤ s.listCnt) :
    expandWith true 1 cfg s = .error (.listOob s.listCnt) := by
  obtain ⟨h0, hlive⟩ := Option.ne_none_iff_exists'.mp h.lsome
  have hoob : ¬ s.listCnt < (s.listLen + cfg.cls) / 8 := by omega
  rw [expandWith_eq h (growList_eq true 1 cfg (h.lptr.trans hlive) hlive), if_pos hg]
  simp [addChunk, alignedAlloc_ok hcfg _ (h.incrBig hcfg) h.isz, listWrite, hoob]

end CimbaModel.Mempool
