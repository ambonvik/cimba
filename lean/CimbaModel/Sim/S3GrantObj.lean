/-
  S3 — the grant invariant: availability after an object record has been replaced; the bundle `GS` across
  the functions that leave the grant invariant alone and across an update of the objects.
-/
import CimbaModel.Sim.S3GrantRes

namespace CimbaModel.Sim.S3
open CimbaModel CimbaModel.Sim CimbaModel.Event CimbaModel.Generated CimbaModel.KPQ
open CimbaModel.HashHeap (HTag Item Order HH WF abs liveTags)

theorem need_pools_set {w : World} {r : Nat} {x : Pool} (hx : w.pools[r]? = some x) (y : Pool) (d : Demand) :
    need { w with pools := w.pools.set! r y } d = if d = .poolAvail r then poolNeed y else need w d := by
  rw [need_eq, need_eq]
  cases d <;> simp only [reduceCtorEq, if_false, Demand.poolAvail.injEq, getD_map_set!_of_some hx]

theorem need_pools_modify {w : World} {r : Nat} {x : Pool} (hx : w.pools[r]? = some x) (g : Pool → Pool) (d : Demand) :
    need { w with pools := w.pools.modify r g } d = if d = .poolAvail r then poolNeed (g x) else need w d := by
  rw [need_eq, need_eq]
  cases d <;> simp only [reduceCtorEq, if_false, Demand.poolAvail.injEq, getD_map_modify_of_some hx]

theorem need_pools_of {w : World} {r : Nat} {x : Pool} (hx : w.pools[r]? = some x) : need w (.poolAvail r) = poolNeed x := by
  rw [need_eq]; simp [hx]

theorem gOf_pools_of {w : World} {r : Nat} {x : Pool} (hx : w.pools[r]? = some x) : gOf w (.poolAvail r) = some x.guard := by
  simp [gOf, hx, poolStat]

theorem need_bufs_set {w : World} {r : Nat} {x : Buf} (hx : w.bufs[r]? = some x) (y : Buf) (d : Demand) :
    need { w with bufs := w.bufs.set! r y } d =
      if d = .bufContent r then (bufNeed y).1 else if d = .bufSpace r then (bufNeed y).2 else need w d := by
  rw [need_eq, need_eq]
  cases d <;> simp only [reduceCtorEq, if_false, Demand.bufContent.injEq, Demand.bufSpace.injEq, getD_map_set!_of_some hx]

theorem need_bufs_of {w : World} {r : Nat} {x : Buf} (hx : w.bufs[r]? = some x) :
    need w (.bufContent r) = (bufNeed x).1 ∧ need w (.bufSpace r) = (bufNeed x).2 := by
  rw [need_eq, need_eq]; simp [hx]

theorem gOf_bufs_of {w : World} {r : Nat} {x : Buf} (hx : w.bufs[r]? = some x) :
    gOf w (.bufContent r) = some x.front ∧ gOf w (.bufSpace r) = some x.rear := by
  simp [gOf, hx, bufStat]

theorem need_oqs_set {w : World} {r : Nat} {x : OQ} (hx : w.oqs[r]? = some x) (y : OQ) (d : Demand) :
    need { w with oqs := w.oqs.set! r y } d =
      if d = .oqContent r then (oqNeed y).1 else if d = .oqSpace r then (oqNeed y).2 else need w d := by
  rw [need_eq, need_eq]
  cases d <;> simp only [reduceCtorEq, if_false, Demand.oqContent.injEq, Demand.oqSpace.injEq, getD_map_set!_of_some hx]

theorem need_oqs_of {w : World} {r : Nat} {x : OQ} (hx : w.oqs[r]? = some x) :
    need w (.oqContent r) = (oqNeed x).1 ∧ need w (.oqSpace r) = (oqNeed x).2 := by
  rw [need_eq, need_eq]; simp [hx]

theorem gOf_oqs_of {w : World} {r : Nat} {x : OQ} (hx : w.oqs[r]? = some x) :
    gOf w (.oqContent r) = some x.front ∧ gOf w (.oqSpace r) = some x.rear := by
  simp [gOf, hx, oqStat]

theorem need_pqs_set {w : World} {r : Nat} {x : PQ} (hx : w.pqs[r]? = some x) (y : PQ) (d : Demand) :
    need { w with pqs := w.pqs.set! r y } d =
      if d = .pqContent r then (pqNeed y).1 else if d = .pqSpace r then (pqNeed y).2 else need w d := by
  rw [need_eq, need_eq]
  cases d <;> simp only [reduceCtorEq, if_false, Demand.pqContent.injEq, Demand.pqSpace.injEq, getD_map_set!_of_some hx]

theorem need_pqs_of {w : World} {r : Nat} {x : PQ} (hx : w.pqs[r]? = some x) :
    need w (.pqContent r) = (pqNeed x).1 ∧ need w (.pqSpace r) = (pqNeed x).2 := by
  rw [need_eq, need_eq]; simp [hx]

theorem gOf_pqs_of {w : World} {r : Nat} {x : PQ} (hx : w.pqs[r]? = some x) :
    gOf w (.pqContent r) = some x.front ∧ gOf w (.pqSpace r) = some x.rear := by
  simp [gOf, hx, pqStat]

variable {fr : Pid → Option Frame} {df : Demand → Nat} {w : World}

theorem GS.obj_nosignal (h : GS fr df w) {W : World} (hW : GInv noEx fr W) (hev : W.ev = w.ev) (hgd : W.guards = w.guards)
    (hp : ∀ x, (W.proc x).awaits = (w.proc x).awaits) (hgo : ∀ d, gOf W d = gOf w d)
    (hn : ∀ d, need W d ≤ need w d) : GS fr df W :=
  h.bump hW hev hgd hp hgo (fun d => by have := hn d; omega)

theorem GS.objUpd {df' : Demand → Nat} (h : GS fr df w) {W : World} (hst : Stat w W) (hev : W.ev = w.ev)
    (hgd : W.guards = w.guards) (hp : W.procs = w.procs) (hn : ∀ d, need W d + df d ≤ need w d + df' d) : GS fr df' W :=
  h.bump (h.ginv.same (fun _ => by rw [proc_congr hp]) (fun _ => by rw [proc_congr hp]) hgd (by rw [hp]) hst.conds
    (frameOn_of_stat hst) hev) hev hgd (fun x => by unfold World.proc; rw [hp]) (gOf_of_stat hst) hn

/-- an update of a two-ended object that moves one unit from the end `d0` to the end `d1`: what `d0` loses settles a
    deficit of one booked there; what `d1` gains is booked as a deficit until the guard of `d1` has been signalled -/
theorem GS.moveUnit {df' : Demand → Nat} (h : GS fr df w) {W : World} (hst : Stat w W) (hev : W.ev = w.ev)
    (hgd : W.guards = w.guards) (hp : W.procs = w.procs) {d0 d1 : Demand} (hne : d0 ≠ d1)
    (h0 : need W d0 + 1 ≤ need w d0) (h1 : need W d1 ≤ need w d1 + 1) (hN : ∀ d, d ≠ d0 → d ≠ d1 → need W d ≤ need w d)
    (hdf : ∀ d, d ≠ d0 → df d ≤ df' d) (hdf1 : df d0 ≤ df' d0 + 1) :
    GS fr (fun d => df' d + if d = d1 then 1 else 0) W := by
  refine h.objUpd hst hev hgd hp (fun d => ?_)
  show need W d + df d ≤ need w d + (df' d + if d = d1 then 1 else 0)
  by_cases e0 : d = d0
  · subst e0; rw [if_neg hne]; omega
  · have := hdf d e0
    by_cases e1 : d = d1
    · subst e1; rw [if_pos rfl]; omega
    · rw [if_neg e1]; have := hN d e0 e1; omega

theorem Inert.setHolders {w0 w : World} (h : Inert w0 w) {pl : Nat} {x : Pool} (hx : w.pools[pl]? = some x) (hs : HH) :
    Inert w0 { w with pools := w.pools.set! pl { x with holders := hs } } :=
  h.setPoolsSet pl _ (fun y hy => by rw [hx] at hy; cases hy; rfl)

theorem Inert.poolUpdateRecord {w0 w : World} (h : Inert w0 w) (pl : Nat) (p : Pid) (a : Nat) : Inert w0 (poolUpdateRecord w pl p a) := by
  unfold Sim.poolUpdateRecord
  split
  · exact h
  · rename_i x hx
    dsimp only
    generalize (if x.holders.count = 0 then false else _) = present
    cases present
    · have h1 : Inert w0 (w.modProc p fun y => { y with held := .pool pl :: y.held }) := h.modProc p _ (fun _ => rfl)
      rw [if_neg Bool.false_ne_true]
      split
      · exact h1.setHolders hx _
      · exact h1.fail _
    · rw [if_pos rfl]
      split
      · exact h.setHolders hx _
      · exact h.fail _

theorem Inert.setHeldAmount {w0 w : World} (h : Inert w0 w) (pl : Nat) (p : Pid) (a : Nat) : Inert w0 (setHeldAmount w pl p a) := by
  unfold Sim.setHeldAmount
  split
  · rename_i x hx
    split
    · split
      · exact h.fail _
      · exact h.setHolders hx _
    · exact h.fail _
  · exact h

theorem GS.same (h : GS fr df w) {W : World} (hs : Same w W) (hi : Inert w W) : GS fr df W := h.inert (h.ginv.ofSame hs) hi

theorem GS.fail (h : GS fr df w) (m : String) : GS fr df (w.fail m) := h.inert (h.ginv.fail m) ((Inert.refl w).fail m)
theorem GS.emit (h : GS fr df w) (l : String) : GS fr df (w.emit l) := h.inert (h.ginv.emit l) ((Inert.refl w).emit l)
theorem GS.recordRes (h : GS fr df w) (r : Nat) : GS fr df (recordRes w r) := h.same (Same.recordRes w r) ((Inert.refl w).recordRes r)
theorem GS.recordPool (h : GS fr df w) (r : Nat) : GS fr df (recordPool w r) := h.same (Same.recordPool w r) ((Inert.refl w).recordPool r)
theorem GS.recordBuf (h : GS fr df w) (r : Nat) : GS fr df (recordBuf w r) := h.same (Same.recordBuf w r) ((Inert.refl w).recordBuf r)
theorem GS.recordOQ (h : GS fr df w) (r : Nat) : GS fr df (recordOQ w r) := h.same (Same.recordOQ w r) ((Inert.refl w).recordOQ r)
theorem GS.recordPQ (h : GS fr df w) (r : Nat) : GS fr df (recordPQ w r) := h.same (Same.recordPQ w r) ((Inert.refl w).recordPQ r)
theorem GS.removeHeld_fst (h : GS fr df w) (p : Pid) (x : HoldRef) : GS fr df (removeHeld w p x).1 :=
  h.same (Same.removeHeld w p x) ((Inert.refl w).removeHeld_fst p x)
theorem GS.poolUpdateRecord (h : GS fr df w) (pl : Nat) (p : Pid) (a : Nat) : GS fr df (poolUpdateRecord w pl p a) :=
  h.same (Same.poolUpdateRecord w pl p a) ((Inert.refl w).poolUpdateRecord pl p a)
theorem GS.setHeldAmount (h : GS fr df w) (pl : Nat) (p : Pid) (a : Nat) : GS fr df (setHeldAmount w pl p a) :=
  h.same (Same.setHeldAmount w pl p a) ((Inert.refl w).setHeldAmount pl p a)
theorem GS.setVar (h : GS fr df w) (p : Pid) (v x : Nat) : GS fr df (setVar w p v x) :=
  h.same (Same.setVar w p v x) ((Inert.refl w).setVar p v x)
theorem GS.sched_harmless (h : GS fr df w) (a s : Nat) (sig t pri : Int) (ha : HarmlessNew a sig) :
    GS fr df (sched w a s sig t pri).1 :=
  h.inert (h.ginv.sched_harmless a s sig t pri ha) ((Inert.refl w).sched_fst a s sig t pri)

theorem GS.setResSet (h : GS fr df w) (r : Nat) (y : Res)
    (hy : ∀ x, w.res[r]? = some x → (resStat y, resNeed y) = (resStat x, resNeed x)) : GS fr df { w with res := w.res.set! r y } :=
  h.same (Same.ofStat ⟨rfl, rfl, fun _ => rfl, map_set!_same _ _ _ _ fun x hx => congrArg Prod.fst (hy x hx), fun _ => rfl, fun _ => rfl, fun _ => rfl, fun _ => rfl, fun _ => rfl⟩
    rfl rfl rfl rfl) ((Inert.refl w).setResSet r y hy)
theorem GS.setPoolsSet (h : GS fr df w) (r : Nat) (y : Pool)
    (hy : ∀ x, w.pools[r]? = some x → (poolStat y, poolNeed y) = (poolStat x, poolNeed x)) :
    GS fr df { w with pools := w.pools.set! r y } :=
  h.same (Same.ofStat ⟨rfl, rfl, fun _ => rfl, fun _ => rfl, map_set!_same _ _ _ _ fun x hx => congrArg Prod.fst (hy x hx), fun _ => rfl, fun _ => rfl, fun _ => rfl, fun _ => rfl⟩
    rfl rfl rfl rfl) ((Inert.refl w).setPoolsSet r y hy)
theorem GS.setHolders (h : GS fr df w) {pl : Nat} {x : Pool} (hx : w.pools[pl]? = some x) (hs : HH) :
    GS fr df { w with pools := w.pools.set! pl { x with holders := hs } } :=
  h.setPoolsSet pl _ (fun y hy => by rw [hx] at hy; cases hy; rfl)
theorem GS.setBufsSet (h : GS fr df w) (r : Nat) (y : Buf)
    (hy : ∀ x, w.bufs[r]? = some x → (bufStat y, bufNeed y) = (bufStat x, bufNeed x)) : GS fr df { w with bufs := w.bufs.set! r y } :=
  h.same (Same.ofStat ⟨rfl, rfl, fun _ => rfl, fun _ => rfl, fun _ => rfl, map_set!_same _ _ _ _ fun x hx => congrArg Prod.fst (hy x hx), fun _ => rfl, fun _ => rfl, fun _ => rfl⟩
    rfl rfl rfl rfl) ((Inert.refl w).setBufsSet r y hy)
theorem GS.setOqsSet (h : GS fr df w) (r : Nat) (y : OQ)
    (hy : ∀ x, w.oqs[r]? = some x → (oqStat y, oqNeed y) = (oqStat x, oqNeed x)) : GS fr df { w with oqs := w.oqs.set! r y } :=
  h.same (Same.ofStat ⟨rfl, rfl, fun _ => rfl, fun _ => rfl, fun _ => rfl, fun _ => rfl, map_set!_same _ _ _ _ fun x hx => congrArg Prod.fst (hy x hx), fun _ => rfl, fun _ => rfl⟩
    rfl rfl rfl rfl) ((Inert.refl w).setOqsSet r y hy)
theorem GS.setPqsSet (h : GS fr df w) (r : Nat) (y : PQ)
    (hy : ∀ x, w.pqs[r]? = some x → (pqStat y, pqNeed y) = (pqStat x, pqNeed x)) : GS fr df { w with pqs := w.pqs.set! r y } :=
  h.same (Same.ofStat ⟨rfl, rfl, fun _ => rfl, fun _ => rfl, fun _ => rfl, fun _ => rfl, fun _ => rfl, map_set!_same _ _ _ _ fun x hx => congrArg Prod.fst (hy x hx), fun _ => rfl⟩
    rfl rfl rfl rfl) ((Inert.refl w).setPqsSet r y hy)
theorem GS.modProcCtl (h : GS fr df w) (p : Pid) (f : Proc → Proc) (hf : ∀ x, (f x).awaits = x.awaits ∧ (f x).blocked = x.blocked) :
    GS fr df (w.modProc p f) :=
  h.inert (h.ginv.modProc_ctl p f hf) ((Inert.refl w).modProc p f (fun x => by rw [(hf x).1]))

end CimbaModel.Sim.S3
