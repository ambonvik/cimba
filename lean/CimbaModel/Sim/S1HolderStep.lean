/-
  S1 — the holder invariant is preserved by every command, every resumption, every dispatched event.
-/
import CimbaModel.Sim.S1Holder
import CimbaModel.Sim.S1Step

namespace CimbaModel.Sim
open CimbaModel CimbaModel.Event CimbaModel.Generated
open CimbaModel.HashHeap (HTag Item Order HH)

@[simp] theorem rv_modProc (w : World) (p : Pid) (f : Proc → Proc) (r : Nat) : (w.modProc p f).rv r = w.rv r := rfl

@[simp] theorem hcount_modProc_keep (w : World) (p : Pid) (f : Proc → Proc) (hf : ∀ x, (f x).held = x.held)
    (q : Pid) (r : Nat) : (w.modProc p f).hcount q r = w.hcount q r := by
  rw [hcount_modProc]; split
  · rename_i h; obtain ⟨rfl, _⟩ := h; unfold World.hcount; rw [hf]
  · rfl

theorem hinv_finishProc {w : World} (h : HInv w) (p : Pid) (val : Int) (stopped : Bool) :
    HInv (finishProc w p val stopped) := by
  have tail : ∀ {v : World}, HInv v → ∀ sig, HInv ((wakeWaiters v p sig).modProc p fun x =>
      { x with status := .finished, exitVal := val, blocked := none }) := fun hv sig =>
    (HInv.ofEff (wakeWaiters_eff _ p sig) (.inl rfl) rfl hv).of_same (fun _ => rfl) (hcount_modProc_keep _ p _ fun _ => rfl)
  unfold finishProc
  zeta
  split
  · exact tail (hinv_dropResources (HInv.ofEff (cancelAwaiteds_eff w p) (.inl rfl) rfl h) p) _
  · exact tail (HInv.ofEff (cancelAwaiteds_eff _ p) (.inl rfl) rfl (hinv_dropResources h p)) _

theorem hinv_acquireStep {w : World} (h : HInv w) (p : Pid) (hp : p < w.procs.size) (r : Nat) :
    HInv (acquireStep w p r).1 := by
  unfold acquireStep
  split
  · exact HInv.ofEff (fail_eff w _ p) (.inl rfl) rfl h
  · rename_i x hx
    split
    · rename_i hf
      exact HInv.ofEff (recordRes_eff _ r p) (.inr rfl) rfl
        (hinv_grab h r p x hx (by simpa [Option.isNone_iff_eq_none] using hf) hp)
    · exact HInv.ofEff (Eff.enter (s := enterScope) .refl p _ _ _) (.inl rfl) rfl h

theorem hinv_release {w : World} (h : HInv w) (p : Pid) (r : Nat) : HInv (execCmd w p (.release r)).1 := by
  simp only [execCmd]
  split
  · exact h
  · rename_i x hx
    split
    · exact h
    · rename_i hh
      have hh : x.holder = some p := Classical.not_not.1 hh
      dsimp only
      have hx1 : (removeHeld w p (.res r)).1.res[r]? = some x := by simp [hx]
      refine h.unhold r p (by rw [holder_eq w r x hx, hh]) ?_ ?_
      · intro q r'; simp
      · intro r'
        rw [signal_rv, recordRes_rv, rv_clear_set _ r x hx1]
        simp

theorem hinv_preempt {w : World} (h : HInv w) (p : Pid) (hp : p < w.procs.size) (r : Nat) :
    HInv (execCmd w p (.preempt r)).1 := by
  simp only [execCmd]
  split
  · exact h
  · rename_i x hx
    split
    · exact h
    · split
      · rename_i hnone
        exact HInv.ofEff (recordRes_eff _ r p) (.inr rfl) rfl (hinv_grab h r p x hx hnone hp)
      · rename_i victim hv
        split
        · dsimp only
          refine hinv_grab ?h4 r p { x with holder := none } ?hx4 rfl ?hp
          case hp => simpa using hp
          case hx4 => simp [Array.getElem?_modify, hx]
          case h4 =>
            refine h.unhold r victim (by rw [holder_eq w r x hx, hv]) ?_ ?_
            · intro q r'; simp
            · intro r'; rw [sched_rv, rv_clear_modify]; simp
        · exact hinv_acquireStep h p hp r

theorem hinv_execCmd {w : World} (h : HInv w) (p : Pid) (hp : p < w.procs.size) (c : Cmd) :
    HInv (execCmd w p c).1 := by
  cases c
  case stop q v =>
    simp only [execCmd]
    split
    · exact hinv_finishProc h p v true
    · split
      · exact hinv_finishProc h q v true
      · exact h
  case exit v => exact hinv_finishProc h p v false
  case acquire r => exact hinv_acquireStep h p hp r
  case preempt r => exact hinv_preempt h p hp r
  case release r => exact hinv_release h p r
  case recStart k i => match k with | 0 | 1 | 2 | 3 | _ + 4 => exact HInv.ofEff (Eff.execCmd w p _) (.inr rfl) rfl h
  case recStop k i => match k with | 0 | 1 | 2 | 3 | _ + 4 => exact HInv.ofEff (Eff.execCmd w p _) (.inr rfl) rfl h
  all_goals exact HInv.ofEff (Eff.execCmd w p _) (.inl rfl) rfl h

theorem hinv_resumeFrame {w : World} (h : HInv w) (p : Pid) (hp : p < w.procs.size) (f : Frame) (sig : Int) :
    HInv (resumeFrame w p f sig).1 := by
  cases f
  case acquire r =>
    simp only [resumeFrame]
    split
    · exact h
    · rename_i x hx
      have h1 : HInv (guardWaitLeave w x.guard p sig) := HInv.ofEff (guardWaitLeave_eff w x.guard p sig) (.inl rfl) rfl h
      split
      · exact hinv_acquireStep h1 p (by simpa using hp) r
      · exact h1
  all_goals exact HInv.ofEff (Eff.resumeFrame w p _ sig) (.inl rfl) rfl h

theorem hinv_emit {w : World} (h : HInv w) (l : String) : HInv (w.emit l) := h.of_same (emit_rv w l) (emit_hcount w l)

theorem hinv_fail {w : World} (h : HInv w) (m : String) : HInv (w.fail m) := h.of_same (fail_rv w m) (fail_hcount w m)

theorem hinv_modProc {w : World} (h : HInv w) (p : Pid) (f : Proc → Proc) (hf : ∀ x, (f x).held = x.held) :
    HInv (w.modProc p f) := h.of_same (rv_modProc w p f) (hcount_modProc_keep w p f hf)

theorem hinv_kept : Kept HInv fun _ _ => True where
  emit := hinv_emit
  fail := hinv_fail
  pc h p _ := hinv_modProc h p _ fun _ => rfl
  finish h p := hinv_finishProc h p 0 false
  exec {w} h p _ c _ hs l := hinv_execCmd (hinv_emit h l) p (by rw [emit_np]; exact lt_np_of_script w p _ _ hs) c
  next _ _ _ _ _ _ _ _ _ _ _ _ _ := trivial
  resume {w} h p f hrun _ sig :=
    ⟨hinv_resumeFrame (w := w.modProc p fun y => { y with blocked := none }) (hinv_modProc h p _ fun _ => rfl) p
      (by rw [np_modProc]; exact lt_np_of_status w p (by rw [hrun]; decide)) f sig, fun _ _ _ _ _ _ => trivial⟩
  pop {w} h t ev' _ :=
    show HInv (afterPop w t ev') from
      h.of_same (fun r => wakeEventWaiters_rv ..) (hcount_congr fun q => by rw [afterPop_proc])
  start h z _ := ⟨hinv_modProc h z _ fun _ => rfl, trivial⟩
  untime h _ _ := h.of_same (removeAwait_rv _ _ _) (removeAwait_hcount _ _ _)
  unawaitKind {w} h t ev' _ k _ :=
    show HInv (removeAwaitKind (afterPop w t ev') (t.item.b - 1) k).1 from
      h.of_same (fun r => (removeAwaitKind_rv _ _ _ r).trans (wakeEventWaiters_rv ..))
        fun q r => (removeAwaitKind_hcount _ _ _ q r).trans (hcount_congr (fun q => by rw [afterPop_proc]) q r)
  cancel h _ := h.of_same (cancelAwaiteds_rv _ _) (cancelAwaiteds_hcount _ _)

theorem hinv_runScript (fuel : Nat) {w : World} (h : HInv w) (p : Pid) : HInv (runScript fuel w p) :=
  hinv_kept.runScript p fuel h trivial

theorem hinv_dispatch {w w' : World} (h : HInv w) (hd : dispatch w = some w') : HInv w' := hinv_kept.dispatch h hd

theorem hinv_runAll (fuel : Nat) {w : World} (h : HInv w) : HInv (runAll fuel w) := hinv_kept.runAll fuel h

end CimbaModel.Sim
