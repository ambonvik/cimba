/-
  S3 — the grant invariant: functions that neither touch the waiting lists nor remove a grant.
  `Inert w w'`: same guards, object ends not more available, same RESOURCE awaitables, every pending grant still pending.
  It holds across whatever the library does within `Inert.scope` (`Inert.ofEff`); cancelling an event keeps it when the
  event is not a grant, which is a fact about the state and has lemmas of its own.
-/
import CimbaModel.Sim.S3GrantSignal
import CimbaModel.Sim.S3GrantK

namespace CimbaModel.Sim.S3
open CimbaModel CimbaModel.Sim CimbaModel.Event CimbaModel.Generated CimbaModel.KPQ
open CimbaModel.HashHeap (HTag Item Order HH WF abs liveTags)

structure Inert (w w' : World) : Prop where
  ei : EvInv w.ev → EvInv w'.ev
  guards : w'.guards = w.guards
  gof : ∀ d, gOf w' d = gOf w d
  need : ∀ d, need w' d ≤ need w d
  aw : ∀ x, guardAw w' x = guardAw w x
  keep : ∀ e ∈ w.ev.pending, isG01 e → ∃ e' ∈ w'.ev.pending, e'.key = e.key ∧ e'.item = e.item

theorem Inert.refl (w : World) : Inert w w :=
  ⟨id, rfl, fun _ => rfl, fun _ => Nat.le_refl _, fun _ => rfl, fun e he _ => ⟨e, he, rfl, rfl⟩⟩

theorem Inert.trans {w w1 w2 : World} (h1 : Inert w w1) (h2 : Inert w1 w2) : Inert w w2 := by
  refine ⟨fun h => h2.ei (h1.ei h), h2.guards.trans h1.guards, fun d => (h2.gof d).trans (h1.gof d),
    fun d => Nat.le_trans (h2.need d) (h1.need d), fun x => (h2.aw x).trans (h1.aw x), ?_⟩
  intro e he hg
  obtain ⟨e1, he1, hk1, hi1⟩ := h1.keep e he hg
  obtain ⟨e2, he2, hk2, hi2⟩ := h2.keep e1 he1 (by unfold isG01 at *; rw [hi1]; exact hg)
  exact ⟨e2, he2, hk2.trans hk1, hi2.trans hi1⟩

theorem grantOf_of_item {w w' : World} {g : Nat} {e e' : HTag} (hi : e'.item = e.item)
    (haw : guardAw w' (e.item.b - 1) = guardAw w (e.item.b - 1)) (h : grantOf w g e) : grantOf w' g e' := by
  unfold grantOf isG01 at *
  rw [hi]
  refine ⟨h.1, ?_⟩
  rw [mem_awaits_guard, haw, ← mem_awaits_guard]; exact h.2

theorem Inert.G_le {w w' : World} (h : Inert w w') (hi : EvInv w.ev) (g : Nat) : G w g ≤ G w' g := by
  refine G_le_of_keep hi g ?_
  intro e he hg
  obtain ⟨e', he', hk, hit⟩ := h.keep e he hg.1
  exact ⟨e', he', hk, grantOf_of_item hit (h.aw _) hg⟩

theorem GI.inert {df : Demand → Nat} {w w' : World} (hgi : GI df w) (hi : EvInv w.ev) (h : Inert w w') : GI df w' := by
  intro d g hd hq
  rw [h.gof] at hd
  obtain ⟨k, hk⟩ := hq
  have := hgi d g hd ⟨k, (queued_congr h.guards g k).1 hk⟩
  have := h.need d
  have := h.G_le hi g
  omega

theorem HG.inert {w w' : World} (hg : HG w) (h : Inert w w') : HG w' := by
  intro d g hd gd hgd k hk
  rw [h.gof] at hd
  rw [h.guards] at hgd
  exact hg d g hd gd hgd k hk

theorem QI.inert {ex : Pid → Prop} {w w' : World} (hq : QI ex w) (h : Inert w w') : QI ex w' := by
  refine ⟨h.ei hq.ei, fun g gd hg => hq.gwf g gd (by rw [← h.guards]; exact hg), ?_, hq.hg.inert h⟩
  intro g k hk
  obtain ⟨h1, h2⟩ := hq.gk g k ((queued_congr h.guards g k).1 hk)
  refine ⟨h1, fun hx => ?_⟩
  rw [mem_awaits_guard, h.aw, ← mem_awaits_guard]; exact h2 hx

theorem Inert.same {w0 w w' : World} (h : Inert w0 w) (hev : w'.ev = w.ev) (hg : w'.guards = w.guards)
    (hr : w'.res = w.res) (hpl : w'.pools = w.pools) (hb : w'.bufs = w.bufs) (ho : w'.oqs = w.oqs) (hq : w'.pqs = w.pqs)
    (ha : ∀ x, guardAw w' x = guardAw w x) : Inert w0 w' :=
  h.trans ⟨by rw [hev]; exact id, hg, gOf_congr hr hpl hb ho hq, fun d => Nat.le_of_eq (need_congr hr hpl hb ho hq d), ha,
    by rw [hev]; exact fun e he _ => ⟨e, he, rfl, rfl⟩⟩

theorem Inert.fail {w0 w : World} (h : Inert w0 w) (m : String) : Inert w0 (w.fail m) :=
  h.same (by simp) (by simp) (by simp) (by simp) (by simp) (by simp) (by simp) (fun x => by unfold guardAw; simp)
theorem Inert.emit {w0 w : World} (h : Inert w0 w) (l : String) : Inert w0 (w.emit l) :=
  h.same rfl rfl rfl rfl rfl rfl rfl (fun _ => rfl)
theorem Inert.modProc {w0 w : World} (h : Inert w0 w) (p : Pid) (f : Proc → Proc)
    (hf : ∀ x, (f x).awaits.filter isGuardA = x.awaits.filter isGuardA) : Inert w0 (w.modProc p f) := by
  refine h.same rfl rfl rfl rfl rfl rfl rfl (fun x => ?_)
  unfold guardAw
  rw [modProc_proc]; split
  · rename_i hq; rw [hq.1]; exact hf _
  · rfl
theorem Inert.setEvWaiters {w0 w : World} (h : Inert w0 w) (x : List (Nat × List Pid)) : Inert w0 { w with evWaiters := x } :=
  h.same rfl rfl rfl rfl rfl rfl rfl (fun _ => rfl)
theorem Inert.setFlags {w0 w : World} (h : Inert w0 w) (x : Array Int) : Inert w0 { w with flags := x } :=
  h.same rfl rfl rfl rfl rfl rfl rfl (fun _ => rfl)
theorem Inert.setGvars {w0 w : World} (h : Inert w0 w) (x : Array Nat) : Inert w0 { w with gvars := x } :=
  h.same rfl rfl rfl rfl rfl rfl rfl (fun _ => rfl)

theorem Inert.objs {w0 w w' : World} (h : Inert w0 w) (hev : w'.ev = w.ev) (hg : w'.guards = w.guards)
    (hp : w'.procs = w.procs) (hgo : ∀ d, gOf w' d = gOf w d) (hn : ∀ d, S3.need w' d ≤ S3.need w d) : Inert w0 w' :=
  h.trans ⟨by rw [hev]; exact id, hg, hgo, hn, fun x => by unfold guardAw World.proc; rw [hp],
    by rw [hev]; exact fun e he _ => ⟨e, he, rfl, rfl⟩⟩

theorem Inert.pushEv {w0 w : World} (h : Inert w0 w) (a s : Nat) (sig t pri : Int) (ht : w.now ≤ t) :
    Inert w0 (pushEv w a s sig t pri) :=
  h.trans ⟨pushEv_evinv a s sig t pri ht, rfl, fun _ => rfl, fun _ => Nat.le_refl _, fun _ => rfl,
    fun e he _ => ⟨e, by simp only [pushEv_pending]; exact List.mem_cons_of_mem _ he, rfl, rfl⟩⟩

theorem Inert.sched_fst {w0 w : World} (h : Inert w0 w) (a s : Nat) (sig t pri : Int) : Inert w0 (sched w a s sig t pri).1 := by
  rcases sched_cases w a s sig t pri with ⟨ht, he⟩ | ⟨_, m, he⟩
  · rw [he]; exact h.pushEv a s sig t pri ht
  · rw [he]; exact h.fail m

theorem Inert.pushAll {w0 w : World} (h : Inert w0 w) (l : List Wake) (hi : EvInv w.ev → EvInv (pushAll w l).ev) :
    Inert w0 (pushAll w l) :=
  h.trans ⟨hi, rfl, fun _ => rfl, fun _ => Nat.le_refl _, fun _ => rfl,
    fun e he _ => ⟨e, by simp only [pushAll_pending]; exact List.mem_append_right _ he, rfl, rfl⟩⟩

theorem Inert.evCancel_fst {w0 w : World} (h : Inert w0 w) (k : Nat) (hng : NG w k) : Inert w0 (evCancel w k).1 := by
  have hrel := evCancel_rel w k
  refine h.trans ⟨hrel.evinv, hrel.guards, gOf_congr hrel.res hrel.pools hrel.bufs hrel.oqs hrel.pqs,
    fun d => Nat.le_of_eq (need_congr hrel.res hrel.pools hrel.bufs hrel.oqs hrel.pqs d),
    fun x => by unfold guardAw; rw [hrel.proc], ?_⟩
  intro e he hg
  refine ⟨e, ?_, rfl, rfl⟩
  rw [evCancel_eq]
  split
  · simp only [pushAll_pending]
    apply List.mem_append_right
    show e ∈ KPQ.remove w.ev.pending k
    exact mem_remove.2 ⟨he, fun hk => hng e he hk hg⟩
  · exact he

theorem NG.ofCanRel {w w' : World} {k : Nat} (hn : NG w k) (hrel : CanRel w w') : NG w' k := by
  intro e he hk hg
  rcases hrel.pend e he with h | ⟨_, _, _, _, _, _, heq⟩
  · exact hn e h hk hg
  · rw [heq] at hg; exact absurd hg.1 (by show aEvent ≠ aRes; decide)

theorem Inert.cancelFold : ∀ (hs : List Nat) {w0 w : World}, Inert w0 w → (∀ k ∈ hs, NG w k) →
    Inert w0 (hs.foldl (fun w h => (evCancel w h).1) w) := by
  intro hs
  induction hs with
  | nil => intro w0 w h _; exact h
  | cons k hs ih =>
    intro w0 w h hng
    simp only [List.foldl_cons]
    refine ih (h.evCancel_fst k (hng k List.mem_cons_self)) ?_
    intro k' hk'
    exact (hng k' (List.mem_cons_of_mem _ hk')).ofCanRel (evCancel_rel w k)

theorem Inert.cancelKindFor_fst {w0 w : World} (h : Inert w0 w) (hi : EvInv w.ev) (p : Pid) (act : Nat) (sig : Option Int)
    (ha : act ≠ aRes) : Inert w0 (cancelKindFor w p act sig).1 := by
  rw [cancelKindFor_eq]
  refine Inert.cancelFold _ h ?_
  intro k hk e he hke hg
  simp only [List.mem_map, List.mem_filter] at hk
  obtain ⟨e', ⟨he', hm⟩, rfl⟩ := hk
  have : e = e' := HashHeap.eq_of_key_eq hi.part.keysNodup he he' hke
  subst this
  unfold kindMatch at hm
  simp only [Bool.and_eq_true, decide_eq_true_eq] at hm
  exact ha (hm.1.2.symm.trans hg.1)

/-- cancelling the pending user events (pattern cancel): none of them is a grant -/
theorem Inert.cancelUserAll_fst {w0 w : World} (h : Inert w0 w) (hi : EvInv w.ev) : Inert w0 (cancelUserAll w).1 := by
  unfold cancelUserAll
  refine Inert.cancelFold _ h ?_
  intro k hk e he hke hg
  obtain ⟨e', he', ha', rfl⟩ := mem_userPending.1 hk
  have : e = e' := HashHeap.eq_of_key_eq hi.part.keysNodup he he' hke
  subst this
  exact absurd (ha'.symm.trans hg.1) (by decide)

def resNeed (x : Res) : Nat := if x.holder.isNone then 1 else 0
def poolNeed (x : Pool) : Nat := min (x.cap - x.inUse) 1
def bufNeed (x : Buf) : Nat × Nat := (min x.level 1, min (x.cap - x.level) 1)
def oqNeed (x : OQ) : Nat × Nat := (x.items.length, x.cap - x.items.length)
def pqNeed (x : PQ) : Nat × Nat := (x.queue.count, x.cap - x.queue.count)

theorem need_eq (w : World) (d : Demand) : need w d = match d with
    | .resAvail r => ((w.res[r]?).map resNeed).getD 0
    | .poolAvail p => ((w.pools[p]?).map poolNeed).getD 0
    | .bufContent b => ((w.bufs[b]?).map fun x => (bufNeed x).1).getD 0
    | .bufSpace b => ((w.bufs[b]?).map fun x => (bufNeed x).2).getD 0
    | .oqContent q => ((w.oqs[q]?).map fun x => (oqNeed x).1).getD 0
    | .oqSpace q => ((w.oqs[q]?).map fun x => (oqNeed x).2).getD 0
    | .pqContent k => ((w.pqs[k]?).map fun x => (pqNeed x).1).getD 0
    | .pqSpace k => ((w.pqs[k]?).map fun x => (pqNeed x).2).getD 0
    | .cond _ _ _ => 0 := by
  cases d <;> rfl

structure ObjSame (w w' : World) : Prop where
  res : ∀ i : Nat, (w'.res[i]?).map (fun x => (resStat x, resNeed x)) = (w.res[i]?).map (fun x => (resStat x, resNeed x))
  pools : ∀ i : Nat, (w'.pools[i]?).map (fun x => (poolStat x, poolNeed x)) = (w.pools[i]?).map (fun x => (poolStat x, poolNeed x))
  bufs : ∀ i : Nat, (w'.bufs[i]?).map (fun x => (bufStat x, bufNeed x)) = (w.bufs[i]?).map (fun x => (bufStat x, bufNeed x))
  oqs : ∀ i : Nat, (w'.oqs[i]?).map (fun x => (oqStat x, oqNeed x)) = (w.oqs[i]?).map (fun x => (oqStat x, oqNeed x))
  pqs : ∀ i : Nat, (w'.pqs[i]?).map (fun x => (pqStat x, pqNeed x)) = (w.pqs[i]?).map (fun x => (pqStat x, pqNeed x))

theorem ObjSame.refl (w : World) : ObjSame w w := ⟨fun _ => rfl, fun _ => rfl, fun _ => rfl, fun _ => rfl, fun _ => rfl⟩

theorem ObjSame.gOf {w w' : World} (h : ObjSame w w') (d : Demand) : gOf w' d = gOf w d := by
  cases d <;> simp only [S3.gOf]
  · exact map_of_map _ (fun x => x.1) (h.res _)
  · exact map_of_map _ (fun x => x.1.1) (h.pools _)
  · exact map_of_map _ (fun x => x.1.1) (h.bufs _)
  · exact map_of_map _ (fun x => x.1.2.1) (h.bufs _)
  · exact map_of_map _ (fun x => x.1.1) (h.oqs _)
  · exact map_of_map _ (fun x => x.1.2.1) (h.oqs _)
  · exact map_of_map _ (fun x => x.1.1) (h.pqs _)
  · exact map_of_map _ (fun x => x.1.2.1) (h.pqs _)

theorem ObjSame.need {w w' : World} (h : ObjSame w w') (d : Demand) : need w' d = need w d := by
  rw [need_eq, need_eq]
  cases d <;> simp only
  · exact congrArg (·.getD 0) (map_of_map _ (fun x => x.2) (h.res _))
  · exact congrArg (·.getD 0) (map_of_map _ (fun x => x.2) (h.pools _))
  · exact congrArg (·.getD 0) (map_of_map _ (fun x => x.2.1) (h.bufs _))
  · exact congrArg (·.getD 0) (map_of_map _ (fun x => x.2.2) (h.bufs _))
  · exact congrArg (·.getD 0) (map_of_map _ (fun x => x.2.1) (h.oqs _))
  · exact congrArg (·.getD 0) (map_of_map _ (fun x => x.2.2) (h.oqs _))
  · exact congrArg (·.getD 0) (map_of_map _ (fun x => x.2.1) (h.pqs _))
  · exact congrArg (·.getD 0) (map_of_map _ (fun x => x.2.2) (h.pqs _))

theorem Inert.objSame {w0 w w' : World} (h : Inert w0 w) (hev : w'.ev = w.ev) (hg : w'.guards = w.guards)
    (hp : w'.procs = w.procs) (ho : ObjSame w w') : Inert w0 w' :=
  h.objs hev hg hp ho.gOf (fun d => Nat.le_of_eq (ho.need d))

theorem Inert.setResSet {w0 w : World} (h : Inert w0 w) (r : Nat) (y : Res)
    (hy : ∀ x, w.res[r]? = some x → (resStat y, resNeed y) = (resStat x, resNeed x)) : Inert w0 { w with res := w.res.set! r y } :=
  h.objSame rfl rfl rfl ⟨map_set!_same _ _ _ _ hy, fun _ => rfl, fun _ => rfl, fun _ => rfl, fun _ => rfl⟩
theorem Inert.setPoolsSet {w0 w : World} (h : Inert w0 w) (r : Nat) (y : Pool)
    (hy : ∀ x, w.pools[r]? = some x → (poolStat y, poolNeed y) = (poolStat x, poolNeed x)) :
    Inert w0 { w with pools := w.pools.set! r y } :=
  h.objSame rfl rfl rfl ⟨fun _ => rfl, map_set!_same _ _ _ _ hy, fun _ => rfl, fun _ => rfl, fun _ => rfl⟩
theorem Inert.setPoolsModify {w0 w : World} (h : Inert w0 w) (r : Nat) (g : Pool → Pool)
    (hg : ∀ x, (poolStat (g x), poolNeed (g x)) = (poolStat x, poolNeed x)) : Inert w0 { w with pools := w.pools.modify r g } :=
  h.objSame rfl rfl rfl ⟨fun _ => rfl, map_modify_same _ _ _ _ hg, fun _ => rfl, fun _ => rfl, fun _ => rfl⟩
theorem Inert.setBufsSet {w0 w : World} (h : Inert w0 w) (r : Nat) (y : Buf)
    (hy : ∀ x, w.bufs[r]? = some x → (bufStat y, bufNeed y) = (bufStat x, bufNeed x)) : Inert w0 { w with bufs := w.bufs.set! r y } :=
  h.objSame rfl rfl rfl ⟨fun _ => rfl, fun _ => rfl, map_set!_same _ _ _ _ hy, fun _ => rfl, fun _ => rfl⟩
theorem Inert.setOqsSet {w0 w : World} (h : Inert w0 w) (r : Nat) (y : OQ)
    (hy : ∀ x, w.oqs[r]? = some x → (oqStat y, oqNeed y) = (oqStat x, oqNeed x)) : Inert w0 { w with oqs := w.oqs.set! r y } :=
  h.objSame rfl rfl rfl ⟨fun _ => rfl, fun _ => rfl, fun _ => rfl, map_set!_same _ _ _ _ hy, fun _ => rfl⟩
theorem Inert.setPqsSet {w0 w : World} (h : Inert w0 w) (r : Nat) (y : PQ)
    (hy : ∀ x, w.pqs[r]? = some x → (pqStat y, pqNeed y) = (pqStat x, pqNeed x)) : Inert w0 { w with pqs := w.pqs.set! r y } :=
  h.objSame rfl rfl rfl ⟨fun _ => rfl, fun _ => rfl, fun _ => rfl, fun _ => rfl, map_set!_same _ _ _ _ hy⟩
theorem Inert.reprioEv {w0 w : World} (h : Inert w0 w) {k : Nat} {v : Int} {ev' : EvQ}
    (hr : reprioritize w.ev k v = .ok ev') : Inert w0 { w with ev := ev' } := by
  have hinv := fun hi => (reprioritize_inv (q := w.ev) hi hr).1
  refine h.trans ⟨hinv, rfl, fun _ => rfl, fun _ => Nat.le_refl _, fun _ => rfl, ?_⟩
  unfold reprioritize at hr
  split at hr
  · cases hr
  · simp only [Except.ok.injEq] at hr
    subst hr
    intro e he _
    refine ⟨_, List.mem_map.2 ⟨e, he, rfl⟩, ?_, ?_⟩ <;> split <;> rfl

theorem map_two {α β γ δ : Type} {o o' : Option α} (f : α → β) (g : α → γ) (F : β → γ → δ) (hf : o'.map f = o.map f)
    (hg : o'.map g = o.map g) : o'.map (fun x => F (f x) (g x)) = o.map (fun x => F (f x) (g x)) := by
  cases o <;> cases o' <;> simp_all

/-- `Inert` across whatever the library does without touching a waiting list, a RESOURCE awaitable or what a demand reads, and
    without cancelling an event: scheduling never hurts, and the grants are a matter of the event queue alone -/
theorem Inert.ofEff {p : Pid} {s : Scope} {w0 w : World} (hg : s.guards = false) (ha : s.avail = false) (haw : s.awaitsG = .no)
    (hc : s.cancel = false) (h : Eff p s w0 w) : Inert w0 w := by
  have off : ∀ {P : Prop}, s.guards = true → P := fun e => by rw [hg] at e; cases e
  induction h with
  | refl => exact Inert.refl w0
  | fail _ m ih => exact ih.fail m
  | emit _ l ih => exact ih.emit l
  | modProc _ q f hf ih =>
    refine ih.same rfl rfl rfl rfl rfl rfl rfl fun x => ?_
    unfold guardAw
    rw [modProc_proc]; split
    · rename_i hq
      obtain ⟨rfl, _⟩ := hq
      exact hf.awaitsG.resolve_left (by rw [haw]; exact id)
    · rfl
  | block _ q fr _ _ _ ih => exact ih.modProc q _ fun _ => rfl
  | unblock _ q _ ih => exact ih.modProc q _ fun _ => rfl
  | setVar _ q v x _ _ _ ih =>
    unfold Sim.setVar
    split
    · exact ih.setGvars _
    · exact ih.modProc q _ fun _ => rfl
  | ended _ q v _ _ _ ih => exact ih.modProc q _ fun _ => rfl
  | started _ q _ _ _ ih => exact ih.modProc q _ fun _ => rfl
  | evWaiters _ _ x ih => exact ih.setEvWaiters x
  | guards _ hs _ _ _ => exact off hs
  | res _ _ a hst hu ih =>
    exact ih.objSame rfl rfl rfl ⟨fun i => map_two resStat Res.holder (fun s h => (s, if h.isNone then 1 else 0)) (hst i) (hu ha i),
      fun _ => rfl, fun _ => rfl, fun _ => rfl, fun _ => rfl⟩
  | pools _ _ a hst _ hu ih =>
    exact ih.objSame rfl rfl rfl ⟨fun _ => rfl, fun i => map_two poolStat Pool.inUse (fun s u => (s, min (s.2 - u) 1)) (hst i) (hu ha i),
      fun _ => rfl, fun _ => rfl, fun _ => rfl⟩
  | bufs _ _ a hst hu ih =>
    exact ih.objSame rfl rfl rfl ⟨fun _ => rfl, fun _ => rfl,
      fun i => map_two bufStat Buf.level (fun s l => (s, (min l 1, min (s.2.2 - l) 1))) (hst i) (hu ha i), fun _ => rfl, fun _ => rfl⟩
  | oqs _ _ a hst hu ih =>
    exact ih.objSame rfl rfl rfl ⟨fun _ => rfl, fun _ => rfl, fun _ => rfl,
      fun i => map_two oqStat OQ.items (fun s l => (s, (l.length, s.2.2 - l.length))) (hst i) (hu ha i), fun _ => rfl⟩
  | pqs _ _ a hst hu _ ih =>
    exact ih.objSame rfl rfl rfl ⟨fun _ => rfl, fun _ => rfl, fun _ => rfl, fun _ => rfl,
      fun i => map_two pqStat PQ.queue (fun s q => (s, (q.count, s.2.2 - q.count))) (hst i) (hu ha i)⟩
  | flags _ _ x ih => exact ih.setFlags x
  | push _ _ he _ _ ih => rw [(schedule_ok he).2]; exact ih.pushEv _ _ _ _ _ (schedule_ok he).1
  | cancel _ hs _ _ => rw [hc] at hs; cases hs
  | reprio _ _ he ih => exact ih.reprioEv he

/-- the largest scope `Inert` tolerates -/
def Inert.scope : Scope := { Scope.top with guards := false, avail := false, awaitsG := .no, cancel := false }

theorem Inert.lib {w0 w w' : World} (h : Inert w0 w) (he : Eff 0 Inert.scope w w') : Inert w0 w' :=
  h.trans (Inert.ofEff rfl rfl rfl rfl he)

theorem Inert.wakeEventWaiters {w0 w : World} (h : Inert w0 w) (ps : List Pid) (sig : Int) :
    Inert w0 (wakeEventWaiters w ps sig) :=
  h.lib (Eff.wakeEventWaiters .refl ps sig)

theorem Inert.wakeWaiters {w0 w : World} (h : Inert w0 w) (p : Pid) (sig : Int) : Inert w0 (wakeWaiters w p sig) :=
  h.lib (Eff.wakeWaiters .refl p sig)

theorem Inert.recordRes {w0 w : World} (h : Inert w0 w) (r : Nat) : Inert w0 (recordRes w r) :=
  h.lib (Eff.recordRes .refl r)

theorem Inert.recordPool {w0 w : World} (h : Inert w0 w) (r : Nat) : Inert w0 (recordPool w r) :=
  h.lib (Eff.recordPool .refl r)

theorem Inert.recordBuf {w0 w : World} (h : Inert w0 w) (r : Nat) : Inert w0 (recordBuf w r) :=
  h.lib (Eff.recordBuf .refl r)

theorem Inert.recordOQ {w0 w : World} (h : Inert w0 w) (r : Nat) : Inert w0 (recordOQ w r) :=
  h.lib (Eff.recordOQ .refl r)

theorem Inert.recordPQ {w0 w : World} (h : Inert w0 w) (r : Nat) : Inert w0 (recordPQ w r) :=
  h.lib (Eff.recordPQ .refl r)

theorem Inert.addAwait {w0 w : World} (h : Inert w0 w) (p : Pid) (a : Await) (ha : isGuardA a = false) :
    Inert w0 (addAwait w p a) :=
  h.lib (Eff.addAwait .refl p a (by cases a with | guard _ => cases ha | _ => trivial))

theorem Inert.removeAwait_fst {w0 w : World} (h : Inert w0 w) (p : Pid) (a : Await) (ha : isGuardA a = false) :
    Inert w0 (removeAwait w p a).1 :=
  h.lib (Eff.removeAwait .refl p a (by cases a with | guard _ => cases ha | _ => trivial))

theorem Inert.removeAwaitKind_fst {w0 w : World} (h : Inert w0 w) (p : Pid) (k : Await → Bool)
    (hk : ∀ a, k a = true → isGuardA a = false) : Inert w0 (removeAwaitKind w p k).1 :=
  h.lib (Eff.removeAwaitKindOf .refl p k fun a ha => by cases a with | guard _ => cases hk _ ha | _ => trivial)

theorem Inert.removeHeld_fst {w0 w : World} (h : Inert w0 w) (p : Pid) (x : HoldRef) : Inert w0 (removeHeld w p x).1 :=
  h.lib (Eff.removeHeld .refl p x)

theorem Inert.timerAdd_fst {w0 w : World} (h : Inert w0 w) (p : Pid) (d sig : Int) : Inert w0 (timerAdd w p d sig).1 :=
  h.lib (Eff.timerAdd .refl p d sig)

theorem Inert.block_fst {w0 w : World} (h : Inert w0 w) (p : Pid) (f : Frame) : Inert w0 (block w p f).1 :=
  h.modProc p _ (fun _ => rfl)

theorem Inert.setVar {w0 w : World} (h : Inert w0 w) (p : Pid) (v x : Nat) : Inert w0 (setVar w p v x) := by
  unfold Sim.setVar
  split
  · exact h.setGvars _
  · exact h.modProc p _ (fun _ => rfl)

theorem Inert.setRecording {w0 w : World} (h : Inert w0 w) (kind idx : Nat) (on : Bool) : Inert w0 (setRecording w kind idx on) :=
  h.lib (Eff.setRecording .refl kind idx on (by unfold Scope.Records; split <;> rfl))

theorem Inert.timerCancel_fst {w0 w : World} (h : Inert w0 w) (p : Pid) (k : Nat) (hng : NG w k) : Inert w0 (timerCancel w p k).1 := by
  simp only [Sim.timerCancel]
  exact (h.removeAwait_fst p _ rfl).evCancel_fst k hng

theorem Inert.timersClear {w0 w : World} (h : Inert w0 w) (p : Pid) (hng : ∀ k, Await.time k ∈ (w.proc p).awaits → NG w k) :
    Inert w0 (timersClear w p) := by
  unfold Sim.timersClear
  refine Inert.cancelFold _ (h.modProc p _ (fun x => ?_)) ?_
  · rw [List.filter_filter]; apply List.filter_congr; intro a _; cases a <;> rfl
  · intro k hk
    simp only [List.mem_filterMap] at hk
    obtain ⟨a, ha, hak⟩ := hk
    cases a with
    | time k' =>
      simp only [Option.some.injEq] at hak
      subst hak
      intro e he
      exact hng _ ha e he
    | _ => cases hak

end CimbaModel.Sim.S3
