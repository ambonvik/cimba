/-
  S4 — the strong timer invariant (no "or was cancelled" escape): definitions, congruence lemmas, the atomic state
  transformers.

  `TX fr w` is what is carried through every primitive: kernel invariant, `TL` (every TIME awaitable has its pending
  timer), `VarInv` (what the handle variables can name) and — when `fr = true` — `FrInv` (what the handle recorded in a
  suspended `hold` / the variable recorded in a suspended `priority_queue_put` can name).  `S3.TInv` travels next to it
  (its own lemmas are reused); the bundles `TT` / `TTH` are assembled in S4TimerAll.
-/
import CimbaModel.Sim.S4Defs
import CimbaModel.Sim.S3Foot

namespace CimbaModel.Sim.S4
open CimbaModel CimbaModel.Sim CimbaModel.Sim.S3 CimbaModel.Event CimbaModel.Generated CimbaModel.KPQ
open CimbaModel.HashHeap (HTag Item Order HH WF abs liveTags)

def FrameOk (w : World) (p : Pid) : Frame → Prop
  | .hold k => k ≤ w.ev.counter ∧ ∀ e ∈ w.ev.pending, e.key = k → e.item.a = aTime ∧ e.item.b = p + 1
  | .pqPut _ _ _ v => 4 ≤ v ∧ v < 8
  | _ => True

def FrInv (w : World) : Prop := ∀ p f, (w.proc p).blocked = some f → FrameOk w p f

def Stb (w w' : World) : Prop :=
  w.ev.counter ≤ w'.ev.counter ∧
  ∀ e' ∈ w'.ev.pending, e'.key ≤ w.ev.counter → ∃ e ∈ w.ev.pending, e.key = e'.key ∧ e.item = e'.item

theorem Stb.refl (w : World) : Stb w w := ⟨Nat.le_refl _, fun e he _ => ⟨e, he, rfl, rfl⟩⟩

theorem Stb.ofEvo {w w' : World} (h : Evo w w') : Stb w w' :=
  ⟨h.counter, fun e' he' hk => by
    obtain ⟨e, he, h1, _, h3⟩ := h.stable e' he' hk
    exact ⟨e, he, h1, h3⟩⟩

theorem Stb.ofEv {w w' : World} (h : w'.ev = w.ev) : Stb w w' := by
  unfold Stb; rw [h]; exact Stb.refl w

theorem FrameOk.mono {w w' : World} {p : Pid} {f : Frame} (h : FrameOk w p f) (hs : Stb w w') : FrameOk w' p f := by
  cases f with
  | hold k =>
    obtain ⟨hk, he⟩ := h
    refine ⟨Nat.le_trans hk hs.1, ?_⟩
    intro e' he' hk'
    obtain ⟨e, hm, h1, h2⟩ := hs.2 e' he' (by rw [hk']; exact hk)
    rw [← h2]; exact he e hm (h1.trans hk')
  | pqPut k obj pri v => exact h
  | _ => trivial

theorem VarInv.mono {w w' : World} (hv : VarInv w) (hs : Stb w w')
    (hvars : ∀ p, (w'.proc p).vars = (w.proc p).vars) (hg : w'.gvars = w.gvars) : VarInv w' where
  tv := by
    intro p i hi
    rw [hvars]
    obtain ⟨h1, h2⟩ := hv.tv p i hi
    refine ⟨Nat.le_trans h1 hs.1, ?_⟩
    intro e' he' hk
    obtain ⟨e, hm, h3, h4⟩ := hs.2 e' he' (by rw [hk]; exact h1)
    rw [← h4]; exact h2 e hm (h3.trans hk)
  uv := by
    intro i hi
    rw [hg]
    obtain ⟨h1, h2⟩ := hv.uv i hi
    refine ⟨Nat.le_trans h1 hs.1, ?_⟩
    intro e' he' hk
    obtain ⟨e, hm, h3, h4⟩ := hs.2 e' he' (by rw [hk]; exact h1)
    rw [← h4]; exact h2 e hm (h3.trans hk)

theorem FrInv.mono {w w' : World} (hf : FrInv w) (hs : Stb w w')
    (hb : ∀ p, (w'.proc p).blocked = (w.proc p).blocked ∨ (w'.proc p).blocked = none) : FrInv w' := by
  intro p f hpf
  rcases hb p with h | h
  · rw [h] at hpf; exact (hf p f hpf).mono hs
  · rw [h] at hpf; cases hpf

theorem TL.congr {w w' : World} (h : TL w)
    (ha : ∀ q k, Await.time k ∈ (w'.proc q).awaits → Await.time k ∈ (w.proc q).awaits)
    (hs : ∀ q k, Await.time k ∈ (w'.proc q).awaits → ∀ e ∈ w.ev.pending, e.key = k → e.item.a = aTime →
      e.item.b = q + 1 → ∃ e' ∈ w'.ev.pending, e'.key = e.key ∧ e'.item = e.item) : TL w' := by
  intro q k hk
  obtain ⟨e, he, h1, h2, h3⟩ := h q k (ha q k hk)
  obtain ⟨e', he', h4, h5⟩ := hs q k hk e he h1 h2 h3
  exact ⟨e', he', h4.trans h1, by rw [h5]; exact h2, by rw [h5]; exact h3⟩

theorem TL.owner {w : World} (h : TL w) (hi : EvInv w.ev) {q : Pid} {k : Nat} (hk : Await.time k ∈ (w.proc q).awaits)
    {e : HTag} (he : e ∈ w.ev.pending) (hek : e.key = k) : e.item.a = aTime ∧ e.item.b = q + 1 := by
  obtain ⟨e0, he0, h1, h2, h3⟩ := h q k hk
  have : e = e0 := HashHeap.eq_of_key_eq hi.part.keysNodup he he0 (hek.trans h1.symm)
  subst this; exact ⟨h2, h3⟩

theorem TL.unique {w : World} (h : TL w) (hi : EvInv w.ev) {q q' : Pid} {k : Nat} (hk : Await.time k ∈ (w.proc q).awaits)
    (hk' : Await.time k ∈ (w.proc q').awaits) : q = q' := by
  obtain ⟨e, he, h1, _, h3⟩ := h q k hk
  have := (h.owner hi hk' he h1).2
  exact Nat.add_right_cancel (h3.symm.trans this)

theorem key_pos {q : EvQ} (h : EvInv q) {e : HTag} (he : e ∈ q.pending) : 1 ≤ e.key := (S3.EvInv.key_range h he).1

structure TX (fr : Bool) (w : World) : Prop where
  ei : EvInv w.ev
  tl : TL w
  vi : VarInv w
  fi : fr = true → FrInv w

variable {fr : Bool} {w w' : World}

theorem TX.of (h : TX fr w) (hei : EvInv w'.ev) (hs : Stb w w')
    (hp : ∀ q, (∀ k, Await.time k ∈ (w'.proc q).awaits → Await.time k ∈ (w.proc q).awaits) ∧
      (w'.proc q).vars = (w.proc q).vars ∧
      (fr = true → (w'.proc q).blocked = (w.proc q).blocked ∨ (w'.proc q).blocked = none))
    (hg : w'.gvars = w.gvars)
    (hsv : ∀ q k, Await.time k ∈ (w'.proc q).awaits → ∀ e ∈ w.ev.pending, e.key = k →
      ∃ e' ∈ w'.ev.pending, e'.key = e.key ∧ e'.item = e.item) : TX fr w' where
  ei := hei
  tl := h.tl.congr (fun q k hk => (hp q).1 k hk) (fun q k hk e he h1 _ _ => hsv q k hk e he h1)
  vi := h.vi.mono hs (fun q => (hp q).2.1) hg
  fi := fun hfr => (h.fi hfr).mono hs (fun q => (hp q).2.2 hfr)

theorem TX.ofEvo (h : TX fr w) (he : Evo w w')
    (hp : ∀ q, (∀ k, Await.time k ∈ (w'.proc q).awaits → Await.time k ∈ (w.proc q).awaits) ∧
      (w'.proc q).vars = (w.proc q).vars ∧
      (fr = true → (w'.proc q).blocked = (w.proc q).blocked ∨ (w'.proc q).blocked = none))
    (hg : w'.gvars = w.gvars)
    (hsv : ∀ q k, Await.time k ∈ (w'.proc q).awaits → ∀ e ∈ w.ev.pending, e.key = k →
      ∃ e' ∈ w'.ev.pending, e'.key = e.key ∧ e'.item = e.item) : TX fr w' :=
  h.of (he.evinv h.ei) (Stb.ofEvo he) hp hg hsv

theorem TX.same (h : TX fr w) (hev : w'.ev = w.ev)
    (hp : ∀ q, (∀ k, Await.time k ∈ (w'.proc q).awaits → Await.time k ∈ (w.proc q).awaits) ∧
      (w'.proc q).vars = (w.proc q).vars ∧
      (fr = true → (w'.proc q).blocked = (w.proc q).blocked ∨ (w'.proc q).blocked = none))
    (hg : w'.gvars = w.gvars) : TX fr w' :=
  h.of (by rw [hev]; exact h.ei) (Stb.ofEv hev) hp hg (fun _ _ _ e he _ => ⟨e, by rw [hev]; exact he, rfl, rfl⟩)

theorem procs_keep {w w' : World} (hp : w'.procs = w.procs) (fr : Bool) (q : Pid) :
    (∀ k, Await.time k ∈ (w'.proc q).awaits → Await.time k ∈ (w.proc q).awaits) ∧
      (w'.proc q).vars = (w.proc q).vars ∧
      (fr = true → (w'.proc q).blocked = (w.proc q).blocked ∨ (w'.proc q).blocked = none) := by
  rw [proc_congr hp]; exact ⟨fun _ h => h, rfl, fun _ => Or.inl rfl⟩

theorem TX.sameP (h : TX fr w) (hev : w'.ev = w.ev) (hp : w'.procs = w.procs) (hg : w'.gvars = w.gvars) : TX fr w' :=
  h.same hev (procs_keep hp fr) hg

theorem TX.fail (h : TX fr w) (m : String) : TX fr (w.fail m) := h.sameP (by simp) (by simp) (by simp)
theorem TX.emit (h : TX fr w) (l : String) : TX fr (w.emit l) := h.sameP rfl rfl rfl

theorem TX.modProc_ctl (h : TX fr w) (p : Pid) (f : Proc → Proc)
    (hf : ∀ x, (f x).awaits = x.awaits ∧ (f x).vars = x.vars ∧
      (fr = true → (f x).blocked = x.blocked ∨ (f x).blocked = none)) : TX fr (w.modProc p f) := by
  refine h.same rfl (fun q => ?_) rfl
  rw [modProc_proc]; split
  · rename_i hq; rw [hq.1]
    exact ⟨fun k hk => by rw [(hf _).1] at hk; exact hk, (hf _).2.1, (hf _).2.2⟩
  · exact ⟨fun _ hk => hk, rfl, fun _ => Or.inl rfl⟩

theorem TX.shrinkAwaits (h : TX fr w) (p : Pid) (g : List Await → List Await) (hg : ∀ l a, a ∈ g l → a ∈ l) :
    TX fr (w.modProc p fun x => { x with awaits := g x.awaits }) := by
  refine h.same rfl (fun q => ?_) rfl
  rw [modProc_proc]; split
  · rename_i hq; rw [hq.1]
    exact ⟨fun k hk => hg _ _ hk, rfl, fun _ => Or.inl rfl⟩
  · exact ⟨fun _ hk => hk, rfl, fun _ => Or.inl rfl⟩

theorem TX.addAwait_other (h : TX fr w) (p : Pid) (a : Await) (ha : isTimeA a = false) : TX fr (addAwait w p a) := by
  refine h.same rfl (fun q => ?_) rfl
  unfold addAwait
  rw [modProc_proc]; split
  · rename_i hq; rw [hq.1]
    refine ⟨fun k hk => ?_, rfl, fun _ => Or.inl rfl⟩
    rcases List.mem_cons.1 hk with heq | hk
    · rw [← heq] at ha; cases ha
    · exact hk
  · exact ⟨fun _ hk => hk, rfl, fun _ => Or.inl rfl⟩

theorem TX.setRes (h : TX fr w) (x : Array Res) : TX fr { w with res := x } := h.sameP rfl rfl rfl
theorem TX.setPools (h : TX fr w) (x : Array Pool) : TX fr { w with pools := x } := h.sameP rfl rfl rfl
theorem TX.setBufs (h : TX fr w) (x : Array Buf) : TX fr { w with bufs := x } := h.sameP rfl rfl rfl
theorem TX.setOqs (h : TX fr w) (x : Array OQ) : TX fr { w with oqs := x } := h.sameP rfl rfl rfl
theorem TX.setPqs (h : TX fr w) (x : Array PQ) : TX fr { w with pqs := x } := h.sameP rfl rfl rfl
theorem TX.setFlags (h : TX fr w) (x : Array Int) : TX fr { w with flags := x } := h.sameP rfl rfl rfl
theorem TX.setGuards (h : TX fr w) (x : Array Guard) : TX fr { w with guards := x } := h.sameP rfl rfl rfl
theorem TX.setEvWaiters (h : TX fr w) (x : List (Nat × List Pid)) : TX fr { w with evWaiters := x } := h.sameP rfl rfl rfl
theorem TX.setGuardQ (h : TX fr w) (g : Nat) (q : HH) : TX fr (setGuardQ w g q) := h.sameP rfl rfl rfl

/-- a new event never hurts (whatever its kind: `TX` goes from registrations to events only) -/
theorem TX.pushEv (h : TX fr w) (a s : Nat) (sig t pri : Int) (ht : w.now ≤ t) : TX fr (pushEv w a s sig t pri) :=
  h.ofEvo ((Evo.refl w).pushEv a s sig t pri ht) (procs_keep rfl fr) rfl
    (fun _ _ _ e he _ => ⟨e, by simp only [pushEv_pending]; exact List.mem_cons_of_mem _ he, rfl, rfl⟩)

theorem TX.sched_fst (h : TX fr w) (a s : Nat) (sig t pri : Int) : TX fr (sched w a s sig t pri).1 := by
  rcases sched_cases w a s sig t pri with ⟨ht, he⟩ | ⟨_, m, he⟩
  · rw [he]; exact h.pushEv a s sig t pri ht
  · rw [he]; exact h.fail m

theorem TX.reprioEv (h : TX fr w) {k : Nat} {v : Int} {ev' : EvQ} (hr : reprioritize w.ev k v = .ok ev') :
    TX fr { w with ev := ev' } := by
  refine h.ofEvo ((Evo.refl w).reprioEv hr) (procs_keep rfl fr) rfl ?_
  unfold reprioritize at hr
  split at hr
  · cases hr
  · simp only [Except.ok.injEq] at hr
    subst hr
    intro _ _ _ e he _
    refine ⟨_, List.mem_map.2 ⟨e, he, rfl⟩, ?_, ?_⟩ <;> split <;> rfl

theorem evCancel_stay {w : World} {k : Nat} {e : HTag} (he : e ∈ w.ev.pending) (hk : e.key ≠ k) :
    e ∈ (evCancel w k).1.ev.pending := by
  rw [evCancel_eq]
  split
  · simp only [pushAll_pending, cancelEv_pending, List.mem_append, mem_remove]
    exact Or.inr ⟨he, hk⟩
  · exact he

theorem TX.ofCanRel (h : TX fr w) (hr : CanRel w w')
    (hsv : ∀ q k, Await.time k ∈ (w.proc q).awaits → ∀ e ∈ w.ev.pending, e.key = k → e ∈ w'.ev.pending) : TX fr w' :=
  h.ofEvo (Evo.ofCanRel hr) (procs_keep hr.procs fr) hr.gvars
    (fun q k hk e he h1 => ⟨e, hsv q k (by rw [← hr.proc]; exact hk) e he h1, rfl, rfl⟩)

theorem TX.evCancel_fst (h : TX fr w) (k : Nat) (hk : ∀ q, Await.time k ∉ (w.proc q).awaits) : TX fr (evCancel w k).1 :=
  h.ofCanRel (evCancel_rel w k) (fun q k' hk' e he h1 => evCancel_stay he (fun h2 => hk q (by rw [← h2, h1]; exact hk')))

theorem TX.cancelKindFor_fst (h : TX fr w) (p : Pid) (act : Nat) (sig : Option Int) (ha : act ≠ aTime) :
    TX fr (cancelKindFor w p act sig).1 := by
  obtain ⟨hrel, _, hstay, _⟩ := cancelKindFor_spec w p act sig h.ei
  refine h.ofCanRel hrel (fun q k hk e he h1 => hstay e he ?_)
  have := (h.tl.owner h.ei hk he h1).1
  unfold kindMatch
  have hne : ¬ e.item.a = act := by rw [this]; exact fun h => ha h.symm
  simp [hne]

theorem TX.cancelUserAll_fst (h : TX fr w) : TX fr (cancelUserAll w).1 := by
  obtain ⟨hrel, _, hstay, _⟩ := cancelUserAll_spec w h.ei
  refine h.ofCanRel hrel (fun q k hk e he h1 => hstay e he ?_)
  have := (h.tl.owner h.ei hk he h1).1
  rw [this]; decide

theorem TX.cancelAllFor (h : TX fr w) (p : Pid) (hp : ∀ k, Await.time k ∉ (w.proc p).awaits) : TX fr (cancelAllFor w p) := by
  obtain ⟨hrel, _, hstay⟩ := cancelAllFor_spec w p h.ei
  refine h.ofCanRel hrel (fun q k hk e he h1 => hstay e he ?_)
  have := (h.tl.owner h.ei hk he h1).2
  intro hb
  have hqp : q = p := Nat.add_right_cancel (this.symm.trans hb)
  subst hqp
  exact hp k hk

theorem TX.cancelFold (h : TX fr w) (hs : List Nat) (hk : ∀ k ∈ hs, ∀ q, Await.time k ∉ (w.proc q).awaits) :
    TX fr (hs.foldl (fun w h => (evCancel w h).1) w) := by
  obtain ⟨hrel, _, hstay⟩ := cancelFold_spec hs w h.ei
  exact h.ofCanRel hrel (fun q k hk' e he h1 => hstay e he (fun hm => hk _ hm q (by rw [h1]; exact hk')))

end CimbaModel.Sim.S4
