/-
  S3 — the grant invariant: resource pools.
-/
import CimbaModel.Sim.S3GrantDrop

namespace CimbaModel.Sim.S3
open CimbaModel CimbaModel.Sim CimbaModel.Event CimbaModel.Generated CimbaModel.KPQ
open CimbaModel.HashHeap (HTag Item Order HH WF abs liveTags)

variable {fr : Pid → Option Frame} {df df' : Demand → Nat} {w : World} {p : Pid}

theorem need_setPoolInUse_le (w : World) (pl v : Nat) (d : Demand) :
    need (setPoolInUse w pl v) d ≤ need w d + (if d = .poolAvail pl then 1 else 0) := by
  unfold setPoolInUse
  cases hx : w.pools[pl]? with
  | none =>
    have : w.pools.modify pl (fun x => { x with inUse := v }) = w.pools := by
      apply Array.ext
      · simp
      · intro i h1 h2
        rw [Array.getElem_modify]
        split
        · rename_i hi; subst hi
          rw [Array.getElem?_eq_getElem h2] at hx; cases hx
        · rfl
    rw [this]; exact Nat.le_add_right (need w d) _
  | some x =>
    rw [need_pools_modify hx]
    split
    · have := poolNeed_le_one { x with inUse := v }; omega
    · omega

theorem need_setPoolInUse_ge {w : World} {pl : Nat} {x : Pool} (hx : w.pools[pl]? = some x) (v : Nat) (hv : x.inUse ≤ v) (d : Demand) :
    need (setPoolInUse w pl v) d ≤ need w d := by
  unfold setPoolInUse
  rw [need_pools_modify hx]
  split
  · rename_i hd; subst hd
    rw [need_pools_of hx]; unfold poolNeed; simp only; omega
  · exact Nat.le_refl _

theorem need_setPoolInUse_full {w : World} {pl : Nat} {x : Pool} (hx : w.pools[pl]? = some x) (v : Nat) (hv : x.cap ≤ v) :
    need (setPoolInUse w pl v) (.poolAvail pl) = 0 := by
  unfold setPoolInUse
  rw [need_pools_modify hx, if_pos rfl]; unfold poolNeed; simp only; omega

theorem setPoolInUse_frame (w : World) (pl v : Nat) :
    (setPoolInUse w pl v).ev = w.ev ∧ (setPoolInUse w pl v).guards = w.guards ∧ (setPoolInUse w pl v).procs = w.procs :=
  ⟨rfl, rfl, rfl⟩

theorem GS.setPoolInUse_take (h : GS fr df w) {pl : Nat} {x : Pool} (hx : w.pools[pl]? = some x) (v : Nat) (hv : x.inUse ≤ v) :
    GS fr df (setPoolInUse w pl v) :=
  h.objUpd (Stat.eff (Eff.setPoolInUse .refl pl v)) rfl rfl rfl (fun d => by have := need_setPoolInUse_ge hx v hv d; omega)

theorem gs_pool_putback (h : GS fr df w) {pl : Nat} {g : Nat} (hg : gOf w (.poolAvail pl) = some g) (v : Nat) :
    GS fr df (signal (recordPool (setPoolInUse w pl v) pl) g) := by
  refine ((h.objUpd (df' := fun d => df d + if d = .poolAvail pl then 1 else 0) (Stat.eff (Eff.setPoolInUse .refl pl v)) rfl rfl rfl
    (fun d => by have := need_setPoolInUse_le w pl v d; omega)).recordPool pl).signal_settle ?_
  rw [gOf_of_stat (Stat.eff (Eff.recordPool (Eff.setPoolInUse .refl pl v) pl))]; exact hg

theorem Inert.mugVictim {w0 : World} (h : Inert w0 w) {pl : Nat} {x : Pool} (hx : w.pools[pl]? = some x) (h' : HH) (t : HTag) :
    Inert w0 (mugVictim w pl x h' t) :=
  ((h.setHolders hx h').removeHeld_fst _ _).sched_fst _ _ _ _ _

theorem GS.mugVictim (h : GS fr df w) {pl : Nat} {x : Pool} (hx : w.pools[pl]? = some x) (h' : HH) (t : HTag) :
    GS fr df (mugVictim w pl x h' t) :=
  ((h.setHolders hx h').removeHeld_fst _ _).sched_harmless _ _ _ _ _ (by decide)

/-- the mugging loop of a preempting pool acquisition: victims lose their units and are interrupted; a surplus is put
    back and signalled; while the loop goes on nothing becomes available -/
theorem gs_poolMug (p : Pid) (pl : Nat) : ∀ (fuel : Nat) (w : World) (rem : Nat), GS fr df w →
    GS fr df (poolMug fuel w p pl rem).1 ∧
    ((poolMug fuel w p pl rem).2 ≠ none → need (poolMug fuel w p pl rem).1 (.poolAvail pl) ≤ need w (.poolAvail pl)) := by
  intro fuel w rem
  refine poolMug_induct p pl (fun w r => GS fr df w → GS fr df r.1 ∧ (r.2 ≠ none → need r.1 (.poolAvail pl) ≤ need w (.poolAvail pl)))
    (fun w _ h => ⟨h, fun _ => Nat.le_refl _⟩) (fun w _ _ m _ _ _ _ h => ⟨h.fail m, fun _ => ((Inert.refl w).fail m).need _⟩) ?_ ?_ fuel w rem
  · intro w x _ h' t _ r hx _ _ _ _ _ ih h
    obtain ⟨i1, i2⟩ := ih ((h.mugVictim hx h' t).poolUpdateRecord pl p t.item.b)
    exact ⟨i1, fun hne => Nat.le_trans (i2 hne) ((((Inert.refl w).mugVictim hx h' t).poolUpdateRecord pl p t.item.b).need _)⟩
  · intro w x _ h' t rem hx _ _ _ _ _ h
    dsimp only
    refine ⟨gs_pool_putback ((h.mugVictim hx h' t).poolUpdateRecord pl p rem) ?_ _, fun hne => absurd rfl hne⟩
    rw [(((Inert.refl w).mugVictim hx h' t).poolUpdateRecord pl p rem).gof]
    exact gOf_pools_of hx

theorem gs_poolTake (h : GS fr df w) {pl : Nat} {x : Pool} (hx : w.pools[pl]? = some x) (p : Pid) (rem : Nat)
    (hdf : ∀ d, d ≠ .poolAvail pl → df d ≤ df' d) :
    GS fr df' (poolTake w p pl x rem).1 ∧ need (poolTake w p pl x rem).1 (.poolAvail pl) = 0 ∧ Stat w (poolTake w p pl x rem).1 := by
  unfold poolTake
  split
  · dsimp only
    have h0 : need (poolUpdateRecord (recordPool (setPoolInUse w pl (x.inUse + (x.cap - x.inUse))) pl) pl p (x.cap - x.inUse))
        (.poolAvail pl) = 0 := by
      have := (((Inert.refl (setPoolInUse w pl (x.inUse + (x.cap - x.inUse)))).recordPool pl).poolUpdateRecord pl p
        (x.cap - x.inUse)).need (.poolAvail pl)
      rw [need_setPoolInUse_full hx _ (by omega)] at this
      exact Nat.le_zero.1 this
    exact ⟨(((h.setPoolInUse_take hx _ (Nat.le_add_right _ _)).recordPool pl).poolUpdateRecord pl p _).clear _ h0 hdf, h0,
      Stat.eff (Eff.poolUpdateRecord (Eff.recordPool (Eff.setPoolInUse .refl pl _) pl) pl p _)⟩
  · have h0 : need w (.poolAvail pl) = 0 := by rw [need_pools_of hx]; unfold poolNeed; omega
    exact ⟨h.clear _ h0 hdf, h0, Stat.refl w⟩

theorem gs_poolTakeMug (h : GS fr df w) {pl : Nat} {x : Pool} (hx : w.pools[pl]? = some x) (p : Pid) (rem : Nat) (pre : Bool)
    (hdf : ∀ d, d ≠ .poolAvail pl → df d ≤ df' d) :
    GS fr df' (poolTakeMug w p pl x rem pre).1 ∧
    (∀ r, (poolTakeMug w p pl x rem pre).2 = some r → need (poolTakeMug w p pl x rem pre).1 (.poolAvail pl) = 0) ∧
    Stat w (poolTakeMug w p pl x rem pre).1 := by
  obtain ⟨h1, n1, s1⟩ := gs_poolTake (df' := df') h hx p rem hdf
  unfold poolTakeMug
  split
  · obtain ⟨m1, m2⟩ := gs_poolMug p pl (x.holders.count + 1) _ (poolTake w p pl x rem).2 h1
    refine ⟨m1, fun r hr => ?_, s1.step (Eff.poolMug .refl _ _ _ _)⟩
    have := m2 (by rw [hr]; exact Option.some_ne_none r)
    rw [n1] at this
    exact Nat.le_zero.1 this
  · exact ⟨h1, fun _ _ => n1, s1⟩

theorem gs_poolLoop (h : GS fr df w) (hes : EndSep w) (hsep : CondSep w) (hfr : fr p = none) (hlt : p < w.procs.size)
    (pl rem ini : Nat) (pre : Bool) (hdf : ∀ d, d ≠ .poolAvail pl → df d ≤ df' d)
    (hdf1 : df (.poolAvail pl) ≤ df' (.poolAvail pl) + 1) : GH df' (poolLoop w p pl rem ini pre).1 := by
  rw [poolLoop_eq]
  split
  · rename_i hn
    exact (h.gh.clear (.poolAvail pl) (by rw [need_eq]; simp [hn]) hdf).inert h.ginv.ei ((Inert.refl w).fail _)
  · rename_i x hx
    have hgx := gOf_pools_of hx
    split
    · have hsV : Stat w (poolUpdateRecord (recordPool (setPoolInUse w pl (x.inUse + rem)) pl) pl p rem) :=
        Stat.eff (Eff.poolUpdateRecord (Eff.recordPool (Eff.setPoolInUse .refl pl _) pl) pl p rem)
      dsimp only
      exact ((((h.setPoolInUse_take hx (x.inUse + rem) (Nat.le_add_right _ _)).recordPool pl).poolUpdateRecord pl p rem).signal_own
        (hes.ofStat hsV) (by rw [gOf_of_stat hsV]; exact hgx) hdf hdf1).gh
    · obtain ⟨h2, n2, s2⟩ := gs_poolTakeMug (df' := df') h hx p rem pre hdf
      split
      · exact h2.gh
      · rename_i rem' hr
        exact h2.wait s2 hes hsep hfr hlt rfl hgx (n2 rem' hr)

theorem GS.setPoolsModifySame (h : GS fr df w) (r : Nat) (g : Pool → Pool)
    (hg : ∀ x, (poolStat (g x), poolNeed (g x)) = (poolStat x, poolNeed x)) : GS fr df { w with pools := w.pools.modify r g } :=
  h.same (Same.poolMod w r g (fun x => congrArg Prod.fst (hg x))) ((Inert.refl w).setPoolsModify r g hg)

/-- giving back what a failed acquisition had collected (unless the holder list is corrupt, which the model records as a
    fault) -/
theorem gs_poolRollback (h : GS fr df w) (pl ini : Nat) :
    (poolRollback w p pl ini).fault = none → GH df (poolRollback w p pl ini) := by
  simp only [Sim.poolRollback]
  split
  · exact fun _ => h.gh
  · rename_i x hx
    have hgx := gOf_pools_of hx
    split
    · split
      · intro _
        refine GS.gh (fr := fr) (gs_pool_putback (h.setHeldAmount pl p ini) ?_ _)
        rw [gOf_of_stat (Stat.eff (Eff.setHeldAmount .refl pl p ini))]; exact hgx
      · exact fun _ => h.gh
    · split
      · rename_i h' found hrm
        intro _
        refine (GS.signal_settle (fr := fr) (d1 := .poolAvail pl) ?_ ?_).gh
        · -- units are put back: one more may be available until the guard has been signalled
          have h1 : GS fr (fun d => df d + if d = .poolAvail pl then 1 else 0) (setPoolInUse w pl (x.inUse - heldAmount w pl p)) :=
            h.objUpd (Stat.eff (Eff.setPoolInUse .refl pl _)) rfl rfl rfl
              (fun d => by have := need_setPoolInUse_le w pl (x.inUse - heldAmount w pl p) d; omega)
          have h2 := (h1.recordPool pl).setPoolsModifySame pl (fun y => { y with holders := h' }) (fun _ => rfl)
          split
          · exact h2.removeHeld_fst p _
          · exact h2
        · have hsV : Eff 0 .top w _ := Eff.modPool (i := pl) (Eff.recordPool (Eff.setPoolInUse .refl pl (x.inUse - heldAmount w pl p)) pl)
            fun y => { y with holders := h' }
          split
          · rw [gOf_of_stat (Stat.eff (hsV.removeHeld p _))]; exact hgx
          · rw [gOf_of_stat (Stat.eff hsV)]; exact hgx
      · intro hf; exact (fail_fault_none hf).elim

theorem gs_cmd_poolAcquire (h : GS fr df w) (hes : EndSep w) (hsep : CondSep w) (hfr : fr p = none) (hlt : p < w.procs.size)
    (pl n : Nat) : GH df (execCmd w p (.poolAcquire pl n)).1 := by
  simp only [Sim.execCmd]
  split
  · exact h.gh
  · split
    · exact h.gh
    · exact gs_poolLoop h hes hsep hfr hlt pl n _ false (fun _ _ => Nat.le_refl _) (Nat.le_succ _)

theorem gs_cmd_poolPreempt (h : GS fr df w) (hes : EndSep w) (hsep : CondSep w) (hfr : fr p = none) (hlt : p < w.procs.size)
    (pl n : Nat) : GH df (execCmd w p (.poolPreempt pl n)).1 := by
  simp only [Sim.execCmd]
  split
  · exact h.gh
  · split
    · exact h.gh
    · exact gs_poolLoop h hes hsep hfr hlt pl n _ true (fun _ _ => Nat.le_refl _) (Nat.le_succ _)

theorem gs_cmd_poolRelease (h : GS fr df w) (pl n : Nat) : GH df (execCmd w p (.poolRelease pl n)).1 := by
  simp only [Sim.execCmd]
  split
  · exact h.gh
  · rename_i x hx
    split
    · exact h.gh
    · dsimp only
      refine GS.gh (fr := fr) (gs_pool_putback ?_ ?_ _)
      · split
        · split
          · exact (h.setHolders hx _).removeHeld_fst p _
          · exact h.fail _
        · exact h.setHeldAmount pl p _
      · rw [gOf_of_stat (w := w) (by
          split
          · split
            · exact Stat.eff (Eff.removeHeld (Eff.setPool .refl hx _) p _)
            · exact (Stat.refl w).fail _
          · exact Stat.eff (Eff.setHeldAmount .refl pl p _))]
        exact gOf_pools_of hx

end CimbaModel.Sim.S3
