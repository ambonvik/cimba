/-
  S3 — `TInv`: exempting a process; arming, cancelling and clearing timers, `cancel_awaiteds`, the end of a process,
  entering and leaving a guard wait, suspending.
-/
import CimbaModel.Sim.S3TInvFrame
import CimbaModel.Sim.S3Reg

namespace CimbaModel.Sim.S3
open CimbaModel CimbaModel.Sim CimbaModel.Event CimbaModel.Generated CimbaModel.KPQ
open CimbaModel.HashHeap (HTag Item Order HH WF abs liveTags)

variable {ex : Pid → Prop}

theorem TInv.exempt {w : World} (hp : TInv ex w) (p : Pid) : TInv (exAdd ex p) w :=
  { hp with t2 := fun e he ha x hb hx => hp.t2 e he ha x hb (fun h => hx (Or.inl h)) }

theorem TInv.unexempt {w : World} {p : Pid} (hp : TInv (exAdd ex p) w)
    (ht2 : ¬ ex p → ∀ e ∈ w.ev.pending, e.item.a = aTime → e.item.b = p + 1 → Await.time e.key ∈ (w.proc p).awaits) :
    TInv ex w := by
  refine { hp with t2 := ?_ }
  intro e he ha x hb hx
  by_cases hxp : x = p
  · subst hxp; exact ht2 hx e he ha hb
  · exact hp.t2 e he ha x hb (fun h => h.elim hx hxp)

theorem TInv.setAwaitsEx {w : World} {p : Pid} (hp : TInv (exAdd ex p) w) (g : List Await → List Await)
    (hg : ∀ l a, a ∈ (g l).filter isTimeA → a ∈ l.filter isTimeA)
    (hnd : ∀ l, ((l.filter isTimeA).filter (· ≠ .time 0)).Nodup → (((g l).filter isTimeA).filter (· ≠ .time 0)).Nodup) :
    TInv (exAdd ex p) (w.modProc p fun x => { x with awaits := g x.awaits }) := by
  have hpr : ∀ x, x ≠ p → (w.modProc p fun x => { x with awaits := g x.awaits }).proc x = w.proc x :=
    fun x hx => modProc_proc_ne w _ hx
  have hsub : ∀ x h, Await.time h ∈ ((w.modProc p fun x => { x with awaits := g x.awaits }).proc x).awaits →
      Await.time h ∈ (w.proc x).awaits := by
    intro x h hh
    rw [modProc_proc] at hh
    split at hh
    · rename_i hx; rw [hx.1]
      have : Await.time h ∈ (g (w.proc p).awaits).filter isTimeA := List.mem_filter.2 ⟨hh, rfl⟩
      exact (List.mem_filter.1 (hg _ _ this)).1
    · exact hh
  refine { ei := hp.ei, t1 := fun x h h0 hh => hp.t1 x h h0 (hsub x h hh), t2 := ?_,
           tle := fun x h hh => hp.tle x h (hsub x h hh), tnd := ?_, tb := hp.tb }
  · intro e he ha x hb hx
    have hxp : x ≠ p := fun h => hx (Or.inr h)
    rw [hpr x hxp]; exact hp.t2 e he ha x hb hx
  · intro x
    unfold timeAw
    rw [modProc_proc]; split
    · exact hnd _ (hp.tnd p)
    · exact hp.tnd x

/-- the dummy TIME(0) of a refused arming is harmless -/
theorem TInv.addAwait_time0 {w : World} (hp : TInv ex w) (p : Pid) : TInv ex (addAwait w p (.time 0)) := by
  have hpr : ∀ x, ((addAwait w p (.time 0)).proc x).awaits =
      if x = p ∧ p < w.procs.size then .time 0 :: (w.proc x).awaits else (w.proc x).awaits := by
    intro x; unfold addAwait; rw [modProc_proc]
    split
    · rename_i h; rw [h.1]
    · rfl
  have hmem : ∀ x h, h ≠ 0 → (Await.time h ∈ ((addAwait w p (.time 0)).proc x).awaits ↔ Await.time h ∈ (w.proc x).awaits) := by
    intro x h h0; rw [hpr]; split
    · constructor
      · intro hm; rcases List.mem_cons.1 hm with heq | hm
        · cases heq; exact absurd rfl h0
        · exact hm
      · exact List.mem_cons_of_mem _
    · exact Iff.rfl
  refine { ei := hp.ei, t1 := fun x h h0 hh => hp.t1 x h h0 ((hmem x h h0).1 hh), t2 := ?_, tle := ?_, tnd := ?_, tb := hp.tb }
  · intro e he ha x hb hx
    have := hp.t2 e he ha x hb hx
    rw [hpr]; split
    · exact List.mem_cons_of_mem _ this
    · exact this
  · intro x h hh
    by_cases h0 : h = 0
    · subst h0; exact Nat.zero_le _
    · exact hp.tle x h ((hmem x h h0).1 hh)
  · intro x
    unfold timeAw; rw [hpr]; split
    · simp only [List.filter_cons, isTimeA, if_true, ne_eq, not_true_eq_false, decide_false, Bool.false_eq_true, if_false]
      exact hp.tnd x
    · exact hp.tnd x



theorem TInv.timerAdd_fst {w : World} (hp : TInv ex w) (p : Pid) (d sig : Int) (hlt : p < w.procs.size) :
    TInv ex (timerAdd w p d sig).1 := by
  simp only [Sim.timerAdd]
  rcases sched_cases w aTime (p + 1) sig (w.now + d) (w.proc p).prio with ⟨ht, he⟩ | ⟨_, m, he⟩
  · rw [he]
    have hpr : ∀ x, ((addAwait (pushEv w aTime (p + 1) sig (w.now + d) (w.proc p).prio) p (.time (w.ev.counter + 1))).proc x).awaits =
        if x = p then .time (w.ev.counter + 1) :: (w.proc x).awaits else (w.proc x).awaits := by
      intro x; unfold addAwait; rw [modProc_proc]
      have : p < (pushEv w aTime (p + 1) sig (w.now + d) (w.proc p).prio).procs.size := hlt
      by_cases hx : x = p
      · subst hx; simp [hlt]
      · simp [hx]
    refine { ei := pushEv_evinv _ _ _ _ _ ht hp.ei, t1 := ?_, t2 := ?_, tle := ?_, tnd := ?_, tb := ?_ }
    · intro x h h0 hh
      rw [hpr] at hh
      split at hh
      · rename_i hx; subst hx
        rcases List.mem_cons.1 hh with heq | hh
        · cases heq
          exact Or.inl ⟨_, List.mem_cons_self, rfl, rfl, rfl⟩
        · rcases hp.t1 x h h0 hh with ⟨e, he', h1, h2, h3⟩ | hc
          · exact Or.inl ⟨e, List.mem_cons_of_mem _ he', h1, h2, h3⟩
          · exact Or.inr hc
      · rcases hp.t1 x h h0 hh with ⟨e, he', h1, h2, h3⟩ | hc
        · exact Or.inl ⟨e, List.mem_cons_of_mem _ he', h1, h2, h3⟩
        · exact Or.inr hc
    · intro e he' ha x hb hx
      have he'' : e ∈ mkEv (w.ev.counter + 1) aTime (p + 1) sig (w.now + d) (w.proc p).prio :: w.ev.pending := he'
      rw [hpr]
      rcases List.mem_cons.1 he'' with heq | he''
      · rw [heq] at hb ⊢
        simp only [mkEv] at hb ⊢
        have : x = p := (Nat.add_right_cancel hb).symm
        rw [if_pos this]; exact List.mem_cons_self
      · have := hp.t2 e he'' ha x hb hx
        split
        · exact List.mem_cons_of_mem _ this
        · exact this
    · intro x h hh
      rw [hpr] at hh
      show h ≤ w.ev.counter + 1
      split at hh
      · rcases List.mem_cons.1 hh with heq | hh
        · cases heq; exact Nat.le_refl _
        · exact Nat.le_succ_of_le (hp.tle x h hh)
      · exact Nat.le_succ_of_le (hp.tle x h hh)
    · intro x
      unfold timeAw
      rw [hpr]
      split
      · rename_i hx; subst hx
        simp only [List.filter_cons, isTimeA, if_true]
        have hne : (Await.time (w.ev.counter + 1) ≠ Await.time 0) := by simp
        simp only [hne, ne_eq, not_false_eq_true, decide_true, if_true]
        refine List.nodup_cons.2 ⟨?_, hp.tnd x⟩
        intro hm
        have := (List.mem_filter.1 (List.mem_filter.1 hm).1).1
        have := hp.tle x _ this
        omega
      · exact hp.tnd x
    · intro e he' ha
      have he'' : e ∈ mkEv (w.ev.counter + 1) aTime (p + 1) sig (w.now + d) (w.proc p).prio :: w.ev.pending := he'
      rcases List.mem_cons.1 he'' with heq | he''
      · rw [heq]; simp [mkEv]
      · exact hp.tb e he'' ha
  · rw [he]
    -- refused (duration < 0): a fault is recorded and the dummy TIME(0) is pushed
    exact (hp.fail m).addAwait_time0 p

theorem TInv.removeAwait_time_gone {w : World} (hp : TInv ex w) (p : Pid) (h : Nat)
    (hgone : ∀ e ∈ w.ev.pending, e.key = h → e.item.a = aTime → e.item.b ≠ p + 1) :
    TInv ex (removeAwait w p (.time h)).1 := by
  rw [removeAwait_fst_eq]
  have hpr : ∀ x, ((w.modProc p fun x => { x with awaits := (removeFirst x.awaits (.time h)).1 }).proc x).awaits =
      if x = p ∧ p < w.procs.size then (removeFirst (w.proc x).awaits (.time h)).1 else (w.proc x).awaits := by
    intro x; rw [modProc_proc]; split
    · rename_i hx; rw [hx.1]
    · rfl
  have hsub : ∀ x a, a ∈ ((w.modProc p fun x => { x with awaits := (removeFirst x.awaits (.time h)).1 }).proc x).awaits →
      a ∈ (w.proc x).awaits := by
    intro x a ha; rw [hpr] at ha; split at ha
    · exact removeFirst_subset _ _ _ ha
    · exact ha
  refine { ei := hp.ei, t1 := fun x k k0 hk => hp.t1 x k k0 (hsub x _ hk), t2 := ?_,
           tle := fun x k hk => hp.tle x k (hsub x _ hk), tnd := ?_, tb := hp.tb }
  · intro e he ha x hb hx
    have := hp.t2 e he ha x hb hx
    rw [hpr]; split
    · rename_i hxp
      refine removeFirst_mem_ne _ _ _ this ?_
      intro heq
      have hk : e.key = h := by injection heq
      exact hgone e he hk ha (by rw [hb, hxp.1])
    · exact this
  · intro x
    unfold timeAw; rw [hpr]; split
    · exact List.Nodup.sublist (((removeFirst_sublist _ _).filter _).filter _) (hp.tnd x)
    · exact hp.tnd x

theorem TInv.timerCancel_fst {w : World} (hp : TInv ex w) (p : Pid) (h : Nat) : TInv ex (timerCancel w p h).1 := by
  simp only [Sim.timerCancel]
  -- exempt p while the registration is gone but the event still there
  have h1 : TInv (exAdd ex p) (removeAwait w p (.time h)).1 := by
    rw [removeAwait_fst_eq]
    refine (hp.exempt p).setAwaitsEx (fun l => (removeFirst l (.time h)).1) ?_ ?_
    · intro l a ha
      exact List.mem_filter.2 ⟨removeFirst_subset _ _ _ (List.mem_filter.1 ha).1, (List.mem_filter.1 ha).2⟩
    · intro l hl
      exact List.Nodup.sublist (((removeFirst_sublist _ _).filter _).filter _) hl
  have h2 := h1.evCancel_fst h
  refine h2.unexempt ?_
  intro hxp e he ha hb
  -- e is an old timer event of p other than h
  have hrel := evCancel_rel (removeAwait w p (.time h)).1 h
  have hev : (removeAwait w p (.time h)).1.ev = w.ev := by simp only [removeAwait]; rfl
  rcases hrel.pend e he with hold | ⟨_, _, _, _, _, _, heq⟩
  · rw [hev] at hold
    have hne : e.key ≠ h := by
      intro hk
      rw [evCancel_eq] at he
      split at he
      · simp only [pushAll_pending, cancelEv_pending, List.mem_append, mem_remove] at he
        rcases he with he | he
        · obtain ⟨_, _, _, _, x, hx, heq⟩ := wakeEvs_props he
          simp only [evWakes, List.mem_map] at hx
          obtain ⟨q, _, rfl⟩ := hx
          rw [heq] at ha; simp [mkEv] at ha; exact absurd ha (by decide)
        · exact he.2 hk
      · rename_i hnk
        rw [hev] at hnk
        exact hnk (hk ▸ Event.mem_keys.2 ⟨e, hold, rfl⟩)
    have hm := hp.t2 e hold ha p hb hxp
    rw [hrel.proc, removeAwait_fst_eq, modProc_proc]
    split
    · exact removeFirst_mem_ne _ _ _ hm (fun heq => hne (by injection heq))
    · exact hm
  · rw [heq] at ha; simp [mkEv] at ha; exact absurd ha (by decide)


theorem TInv.timersClear {w : World} (hp : TInv ex w) (p : Pid) : TInv ex (timersClear w p) := by
  unfold Sim.timersClear
  have h1 : TInv (exAdd ex p) (w.modProc p fun x => { x with awaits := x.awaits.filter fun a => match a with | .time _ => false | _ => true }) := by
    refine (hp.exempt p).setAwaitsEx (fun l => l.filter fun a => match a with | .time _ => false | _ => true) ?_ ?_
    · intro l a ha
      have := List.mem_filter.1 ha
      have h2 := List.mem_filter.1 this.1
      cases a <;> simp_all [isTimeA]
    · intro l hl
      exact List.Nodup.sublist (((List.filter_sublist).filter _).filter _) hl
  have hev : (w.modProc p fun x => { x with awaits := x.awaits.filter fun a => match a with | .time _ => false | _ => true }).ev = w.ev := rfl
  obtain ⟨hrel, hgone, _⟩ := cancelFold_spec ((w.proc p).awaits.filterMap fun a => match a with | .time h => some h | _ => none)
    (w.modProc p fun x => { x with awaits := x.awaits.filter fun a => match a with | .time _ => false | _ => true }) hp.ei
  have h2 : TInv (exAdd ex p) (((w.proc p).awaits.filterMap fun a => match a with | .time h => some h | _ => none).foldl
      (fun w h => (evCancel w h).1)
      (w.modProc p fun x => { x with awaits := x.awaits.filter fun a => match a with | .time _ => false | _ => true })) :=
    h1.ofCanRel hrel
  refine h2.unexempt ?_
  intro hxp e he ha hb
  exfalso
  rcases hrel.pend e he with hold | ⟨_, _, _, _, _, _, heq⟩
  · have hold' : e ∈ w.ev.pending := hold
    have hm := hp.t2 e hold' ha p hb hxp
    refine hgone e he (EvInv.key_le hp.ei hold') ?_
    exact List.mem_filterMap.2 ⟨_, hm, rfl⟩
  · rw [heq] at ha; simp [mkEv] at ha; exact absurd ha (by decide)

theorem TInv.cancelStep {w : World} (hp : TInv ex w) (p : Pid) (a : Await) : TInv ex (Sim.cancelStep p w a) := by
  cases a with
  | time k => exact hp.evCancel_fst k
  | guard g => exact TInv.foot.guardWithdraw w g p hp
  | proc q => exact hp.modProc_ctl q _ (fun _ => rfl)
  | event k => exact hp.setEvWaiters _

theorem TInv.cancelAwaiteds {w : World} (hp : TInv ex w) (p : Pid) : TInv ex (Sim.cancelAwaiteds w p) := by
  rw [cancelAwaiteds_eq]
  have h1 : TInv (exAdd ex p) (w.modProc p fun x => { x with awaits := [] }) :=
    (hp.exempt p).setAwaitsEx (fun _ => []) (fun _ _ ha => by cases ha) (fun _ _ => List.nodup_nil)
  have h2 : TInv (exAdd ex p) ((w.proc p).awaits.foldl (Sim.cancelStep p) (w.modProc p fun x => { x with awaits := [] })) :=
    (Path.ofPred _).foldl (fun _ a h => h.cancelStep p a) _ _ h1
  generalize ((w.proc p).awaits.foldl (Sim.cancelStep p) (w.modProc p fun x => { x with awaits := [] })) = w1 at h2
  have h3 := TInv.foot.cancelAllFor w1 p h2
  obtain ⟨hrel, hgone, _⟩ := cancelAllFor_spec w1 p h2.ei
  refine h3.unexempt ?_
  intro _ e he ha hb
  exfalso
  rcases hrel.pend e he with hold | ⟨_, _, _, _, _, _, heq⟩
  · exact hgone e he (EvInv.key_le h2.ei hold) hb
  · rw [heq] at ha; simp [mkEv] at ha; exact absurd ha (by decide)

theorem TInv.wakeWaiters {w : World} (hp : TInv ex w) (p : Pid) (sig : Int) : TInv ex (Sim.wakeWaiters w p sig) :=
  (Path.ofPred _).foldl (fun _ q h => h.sched_other aProc (q + 1) sig _ _ (by decide)) _ _ (hp.modProc_ctl p _ (fun _ => rfl))

theorem TInv.finishProc {w : World} (hp : TInv ex w) (p : Pid) (val : Int) (stopped : Bool) :
    TInv ex (Sim.finishProc w p val stopped) := by
  unfold Sim.finishProc
  refine TInv.modProc_ctl ?_ p _ (fun _ => rfl)
  apply TInv.wakeWaiters
  split
  · exact TInv.foot.dropResources _ p (hp.cancelAwaiteds p)
  · exact (TInv.foot.dropResources w p hp).cancelAwaiteds p

theorem TInv.guardWaitEnter {w : World} (hp : TInv ex w) (g : Nat) (p : Pid) (d : Demand) : TInv ex (Sim.guardWaitEnter w g p d) := by
  unfold Sim.guardWaitEnter
  split
  · exact hp.fail _
  · split
    · exact (hp.setGuards _).addAwait_other p _ rfl
    · exact hp.fail _

theorem TInv.guardWaitLeave {w : World} (hp : TInv ex w) (g : Nat) (p : Pid) (sig : Int) : TInv ex (Sim.guardWaitLeave w g p sig) := by
  unfold Sim.guardWaitLeave
  apply TInv.removeAwait_other _ _ _ rfl
  split
  · exact TInv.foot.guardWithdraw w g p hp
  · exact hp

theorem TInv.block_fst {w : World} (hp : TInv ex w) (p : Pid) (f : Frame) : TInv ex (block w p f).1 :=
  hp.modProc_ctl p _ (fun _ => rfl)

end CimbaModel.Sim.S3
