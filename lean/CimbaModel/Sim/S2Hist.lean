/-
  S2 — recorded histories (C14), generic part: a recordable object has a recording flag, a history of
  (value, time) samples and a current state value; `record` appends (value, now) while recording is on.
  The invariant: sample times are nondecreasing and not after `now`; while recording the last sample carries
  the current value.  A composite operation on object `i` may break the second clause for `i` until it calls
  `record`, which restores it whatever happened in between.  At the end: the five kinds of recordable objects of the
  model, whose `record*` functions are instances of the generic `record`.
-/
import CimbaModel.Sim.Model

namespace CimbaModel.Sim
open CimbaModel CimbaModel.Event CimbaModel.Generated

def ArrAll {α : Type} (P : α → Prop) (a : Array α) : Prop := ∀ (i : Nat) (x : α), a[i]? = some x → P x

theorem ArrAll.set {α : Type} {P : α → Prop} {a : Array α} (h : ArrAll P a) (i : Nat) {y : α} (hy : P y) :
    ArrAll P (a.setIfInBounds i y) := by
  intro j x hj
  rw [Array.getElem?_setIfInBounds] at hj
  split at hj
  · split at hj
    · cases hj; exact hy
    · cases hj
  · exact h j x hj

theorem ArrAll.modify {α : Type} {P : α → Prop} {a : Array α} (h : ArrAll P a) (i : Nat) {f : α → α}
    (hf : ∀ x, a[i]? = some x → P x → P (f x)) : ArrAll P (a.modify i f) := by
  intro j x hj
  rw [Array.getElem?_modify] at hj
  split at hj
  · rename_i hij
    subst hij
    cases ha : a[i]? with
    | none => rw [ha] at hj; cases hj
    | some y => rw [ha] at hj; cases hj; exact hf y ha (h i y ha)
  · exact h j x hj

theorem ArrAll.get {α : Type} {P : α → Prop} {a : Array α} (h : ArrAll P a) {i : Nat} {x : α} (hx : a[i]? = some x) : P x :=
  h i x hx

theorem setIfInBounds_modify {α : Type} (a : Array α) (i : Nat) (f : α → α) (y : α) :
    (a.modify i f).setIfInBounds i y = a.setIfInBounds i y := by
  apply Array.ext_getElem?
  intro j
  rw [Array.getElem?_setIfInBounds, Array.getElem?_setIfInBounds, Array.size_modify]
  split
  · rfl
  · rename_i h; rw [Array.getElem?_modify, if_neg h]

structure RecOps (α : Type) where
  recording : α → Bool
  hist : α → Array (Int × Int)
  val : α → Int
  push : α → Int × Int → α
  push_rec : ∀ x s, recording (push x s) = recording x
  push_hist : ∀ x s, hist (push x s) = (hist x).push s
  push_val : ∀ x s, val (push x s) = val x

def TimesOK (h : Array (Int × Int)) (now : Int) : Prop :=
  (h.toList.map (·.2)).Pairwise (· ≤ ·) ∧ ∀ s ∈ h.toList, s.2 ≤ now

theorem TimesOK.push {h : Array (Int × Int)} {now : Int} (ok : TimesOK h now) (v : Int) : TimesOK (h.push (v, now)) now := by
  constructor
  · rw [Array.toList_push, List.map_append, List.pairwise_append]
    refine ⟨ok.1, by simp, ?_⟩
    intro a ha b hb
    simp at hb; subst hb
    obtain ⟨s, hs, rfl⟩ := List.mem_map.1 ha
    exact ok.2 s hs
  · intro s hs
    rw [Array.toList_push, List.mem_append] at hs
    rcases hs with hs | hs
    · exact ok.2 s hs
    · simp at hs; subst hs; exact Int.le_refl _

theorem TimesOK.mono {h : Array (Int × Int)} {now now' : Int} (ok : TimesOK h now) (hle : now ≤ now') : TimesOK h now' :=
  ⟨ok.1, fun s hs => Int.le_trans (ok.2 s hs) hle⟩

variable {α : Type} (R : RecOps α)

def RecOK (now : Int) (x : α) : Prop :=
  TimesOK (R.hist x) now ∧ (R.recording x = true → ∃ s, (R.hist x).back? = some s ∧ s.1 = R.val x)

/-- everything is fine, except that object `i` may not have recorded its latest change yet -/
def OKexc (now : Int) (i : Nat) (a : Array α) : Prop :=
  ∀ (j : Nat) (x : α), a[j]? = some x → TimesOK (R.hist x) now ∧ (j ≠ i → RecOK R now x)

def genRecord (a : Array α) (i : Nat) (now : Int) : Array α :=
  match a[i]? with
  | some x => if R.recording x then a.set! i (R.push x (R.val x, now)) else a
  | none => a

theorem RecOK.mono {now now' : Int} {x : α} (ok : RecOK R now x) (hle : now ≤ now') : RecOK R now' x :=
  ⟨ok.1.mono hle, ok.2⟩

theorem OKexc.of_all {now : Int} {a : Array α} (h : ArrAll (RecOK R now) a) (i : Nat) : OKexc R now i a :=
  fun j x hx => ⟨(h j x hx).1, fun _ => h j x hx⟩

theorem OKexc.set {now : Int} {i : Nat} {a : Array α} (h : OKexc R now i a) {x : α} (hx : a[i]? = some x) {y : α}
    (hh : R.hist y = R.hist x) : OKexc R now i (a.setIfInBounds i y) := by
  intro j z hz
  rw [Array.getElem?_setIfInBounds] at hz
  split at hz
  · rename_i e; subst e
    split at hz
    · cases hz
      exact ⟨by rw [hh]; exact (h i x hx).1, fun hne => absurd rfl hne⟩
    · cases hz
  · exact h j z hz

theorem OKexc.modify {now : Int} {i : Nat} {a : Array α} (h : OKexc R now i a) {f : α → α}
    (hh : ∀ x, R.hist (f x) = R.hist x) : OKexc R now i (a.modify i f) := by
  intro j z hz
  rw [Array.getElem?_modify] at hz
  split at hz
  · rename_i e; subst e
    cases ha : a[i]? with
    | none => rw [ha] at hz; cases hz
    | some x =>
      rw [ha] at hz; cases hz
      exact ⟨by rw [hh]; exact (h i x ha).1, fun hne => absurd rfl hne⟩
  · exact h j z hz

theorem genRecord_restores {now : Int} {i : Nat} {a : Array α} (h : OKexc R now i a) :
    ArrAll (RecOK R now) (genRecord R a i now) := by
  unfold genRecord
  cases hx : a[i]? with
  | none =>
    intro j x hj
    by_cases hji : j = i
    · subst hji; rw [hx] at hj; cases hj
    · exact (h j x hj).2 hji
  | some x =>
    dsimp only
    split
    · intro j z hz
      rw [Array.set!_eq_setIfInBounds, Array.getElem?_setIfInBounds] at hz
      split at hz
      · rename_i e; subst e
        split at hz
        · cases hz
          refine ⟨by rw [R.push_hist]; exact (h i x hx).1.push _, fun _ => ⟨(R.val x, now), ?_, ?_⟩⟩
          · rw [R.push_hist]; exact Array.back?_push
          · rw [R.push_val]
        · cases hz
      · rename_i hne
        exact (h j z hz).2 (fun e => hne e.symm)
    · rename_i hrec
      intro j z hz
      by_cases hji : j = i
      · subst hji; rw [hx] at hz; cases hz
        exact ⟨(h j x hx).1, fun hr => absurd hr hrec⟩
      · exact (h j z hz).2 hji

theorem genRecord_ok {now : Int} {a : Array α} (h : ArrAll (RecOK R now) a) (i : Nat) :
    ArrAll (RecOK R now) (genRecord R a i now) := genRecord_restores R (OKexc.of_all R h i)

theorem genRecord_all {P : α → Prop} (hP : ∀ x s, P x → P (R.push x s)) {a : Array α} (h : ArrAll P a) (i : Nat) (now : Int) :
    ArrAll P (genRecord R a i now) := by
  unfold genRecord
  split
  · rename_i x hx
    split
    · rw [Array.set!_eq_setIfInBounds]
      exact ArrAll.set h i (hP x _ (h i x hx))
    · exact h
  · exact h

theorem genRecord_get {a : Array α} {i : Nat} {x : α} (hx : a[i]? = some x) (now : Int) :
    (genRecord R a i now)[i]? = some (if R.recording x then R.push x (R.val x, now) else x) := by
  unfold genRecord
  rw [hx]
  dsimp only
  split
  · rw [Array.set!_eq_setIfInBounds, Array.getElem?_setIfInBounds, if_pos rfl, if_pos (Array.getElem?_eq_some_iff.1 hx).1]
  · exact hx

/-- object `i` is overwritten with `y` and a sample is taken: the shape of every change of a state value in the model -/
def setRecord (a : Array α) (i : Nat) (y : α) (now : Int) : Array α := genRecord R (a.setIfInBounds i y) i now

theorem setRecord_all {P : α → Prop} (hP : ∀ x s, P x → P (R.push x s)) {a : Array α} (h : ArrAll P a) (i : Nat) {y : α}
    (hy : P y) (now : Int) : ArrAll P (setRecord R a i y now) :=
  genRecord_all R hP (ArrAll.set h i hy) i now

theorem setRecord_get {a : Array α} {i : Nat} {x : α} (hx : a[i]? = some x) (y : α) (now : Int) :
    (setRecord R a i y now)[i]? = some (if R.recording y then R.push y (R.val y, now) else y) :=
  genRecord_get R (by rw [Array.getElem?_setIfInBounds, if_pos rfl, if_pos (Array.getElem?_eq_some_iff.1 hx).1]) now

theorem RecOK.set_same {now : Int} {i : Nat} {a : Array α} (h : ArrAll (RecOK R now) a) {x : α} (hx : a[i]? = some x) {y : α}
    (hr : R.recording y = R.recording x) (hh : R.hist y = R.hist x) (hv : R.val y = R.val x) :
    ArrAll (RecOK R now) (a.setIfInBounds i y) :=
  ArrAll.set h i ⟨by rw [hh]; exact (h i x hx).1, by rw [hr, hh, hv]; exact (h i x hx).2⟩

theorem RecOK.modify_same {now : Int} {i : Nat} {a : Array α} (h : ArrAll (RecOK R now) a) {f : α → α}
    (hr : ∀ x, R.recording (f x) = R.recording x) (hh : ∀ x, R.hist (f x) = R.hist x) (hv : ∀ x, R.val (f x) = R.val x) :
    ArrAll (RecOK R now) (a.modify i f) :=
  ArrAll.modify h i (fun x _ ok => ⟨by rw [hh]; exact ok.1, by rw [hr, hh, hv]; exact ok.2⟩)

theorem OKexc.modify_flag {now : Int} {i : Nat} {a : Array α} (h : ArrAll (RecOK R now) a) {f : α → α}
    (hh : ∀ x, R.hist (f x) = R.hist x) : OKexc R now i (a.modify i f) :=
  OKexc.modify R (OKexc.of_all R h i) hh

theorem RecOK.modify_off {now : Int} {i : Nat} {a : Array α} (h : ArrAll (RecOK R now) a) {f : α → α}
    (hr : ∀ x, R.recording (f x) = false) (hh : ∀ x, R.hist (f x) = R.hist x) :
    ArrAll (RecOK R now) (a.modify i f) :=
  ArrAll.modify h i (fun x _ ok => ⟨by rw [hh]; exact ok.1, fun e => by rw [hr] at e; cases e⟩)

theorem OKexc.set_same {now : Int} {i j : Nat} {a : Array α} (h : OKexc R now i a) {x : α} (hx : a[j]? = some x) {y : α}
    (hr : R.recording y = R.recording x) (hh : R.hist y = R.hist x) (hv : R.val y = R.val x) :
    OKexc R now i (a.setIfInBounds j y) := by
  intro k z hz
  rw [Array.getElem?_setIfInBounds] at hz
  split at hz
  · rename_i e; subst e
    split at hz
    · cases hz
      have := h j x hx
      exact ⟨by rw [hh]; exact this.1, fun hne => ⟨by rw [hh]; exact this.1, by rw [hr, hh, hv]; exact (this.2 hne).2⟩⟩
    · cases hz
  · exact h k z hz

theorem OKexc.modify_same {now : Int} {i j : Nat} {a : Array α} (h : OKexc R now i a) {f : α → α}
    (hr : ∀ x, R.recording (f x) = R.recording x) (hh : ∀ x, R.hist (f x) = R.hist x) (hv : ∀ x, R.val (f x) = R.val x) :
    OKexc R now i (a.modify j f) := by
  intro k z hz
  rw [Array.getElem?_modify] at hz
  split at hz
  · rename_i e; subst e
    cases ha : a[j]? with
    | none => rw [ha] at hz; cases hz
    | some x =>
      rw [ha] at hz; cases hz
      have := h j x ha
      exact ⟨by rw [hh]; exact this.1, fun hne => ⟨by rw [hh]; exact this.1, by rw [hr, hh, hv]; exact (this.2 hne).2⟩⟩
  · exact h k z hz

theorem OKexc.upgrade {now : Int} {i : Nat} {a : Array α} (h : OKexc R now i a)
    (hi : ∀ y, a[i]? = some y → RecOK R now y) : ArrAll (RecOK R now) a := by
  intro j x hx
  by_cases hji : j = i
  · subst hji; exact hi x hx
  · exact (h j x hx).2 hji

/-- a change of the state value cannot go unrecorded: two states of an object, both recording and both satisfying the
    invariant, with different values, have different histories -/
theorem RecOK.change_recorded {now now' : Int} {x x' : α} (ok : RecOK R now x) (ok' : RecOK R now' x')
    (hr : R.recording x = true) (hr' : R.recording x' = true) (hv : R.val x ≠ R.val x') : R.hist x ≠ R.hist x' := by
  intro he
  obtain ⟨s, hs, hsv⟩ := ok.2 hr
  obtain ⟨s', hs', hsv'⟩ := ok'.2 hr'
  rw [he, hs'] at hs
  injection hs with e
  rw [← hsv, ← hsv', e] at hv
  exact hv rfl

theorem ArrAll.mono {β : Type} {P Q : β → Prop} {a : Array β} (h : ArrAll P a) (hpq : ∀ x, P x → Q x) : ArrAll Q a :=
  fun i x hx => hpq x (h i x hx)

/-- `history_complete_step`, generic form: while recording, `record` appends exactly one sample, (current value, now) -/
theorem genRecord_appends {a : Array α} {i : Nat} {x : α} (hx : a[i]? = some x) (hrec : R.recording x = true) (now : Int) :
    ∃ y, (genRecord R a i now)[i]? = some y ∧ R.hist y = (R.hist x).push (R.val x, now) ∧ R.val y = R.val x :=
  ⟨_, by rw [genRecord_get R hx, if_pos hrec], R.push_hist _ _, R.push_val _ _⟩

/-- … and nothing while recording is off -/
theorem genRecord_off {a : Array α} {i : Nat} {x : α} (hx : a[i]? = some x) (hrec : R.recording x = false) (now : Int) :
    genRecord R a i now = a := by
  unfold genRecord
  rw [hx]
  simp [hrec]

def resOps : RecOps Res where
  recording x := x.recording
  hist x := x.hist
  val x := if x.holder.isSome then 1 else 0
  push x s := { x with hist := x.hist.push s }
  push_rec _ _ := rfl
  push_hist _ _ := rfl
  push_val _ _ := rfl

def poolOps : RecOps Pool where
  recording x := x.recording
  hist x := x.hist
  val x := (x.inUse : Int)
  push x s := { x with hist := x.hist.push s }
  push_rec _ _ := rfl
  push_hist _ _ := rfl
  push_val _ _ := rfl

def bufOps : RecOps Buf where
  recording x := x.recording
  hist x := x.hist
  val x := (x.level : Int)
  push x s := { x with hist := x.hist.push s }
  push_rec _ _ := rfl
  push_hist _ _ := rfl
  push_val _ _ := rfl

def oqOps : RecOps OQ where
  recording x := x.recording
  hist x := x.hist
  val x := (x.items.length : Int)
  push x s := { x with hist := x.hist.push s }
  push_rec _ _ := rfl
  push_hist _ _ := rfl
  push_val _ _ := rfl

def pqOps : RecOps PQ where
  recording x := x.recording
  hist x := x.hist
  val x := (x.queue.count : Int)
  push x s := { x with hist := x.hist.push s }
  push_rec _ _ := rfl
  push_hist _ _ := rfl
  push_val _ _ := rfl

theorem recordRes_eq (w : World) (i : Nat) : (recordRes w i).res = genRecord resOps w.res i w.now := by
  unfold recordRes genRecord
  cases h : w.res[i]? with
  | none => rfl
  | some x =>
    dsimp only
    by_cases hr : x.recording = true
    · rw [if_pos hr, if_pos (show resOps.recording x = true from hr)]; rfl
    · rw [if_neg hr, if_neg (show ¬ resOps.recording x = true from hr)]
theorem recordPool_eq (w : World) (i : Nat) : (recordPool w i).pools = genRecord poolOps w.pools i w.now := by
  unfold recordPool genRecord
  cases h : w.pools[i]? with
  | none => rfl
  | some x =>
    dsimp only
    by_cases hr : x.recording = true
    · rw [if_pos hr, if_pos (show poolOps.recording x = true from hr)]; rfl
    · rw [if_neg hr, if_neg (show ¬ poolOps.recording x = true from hr)]
theorem recordBuf_eq (w : World) (i : Nat) : (recordBuf w i).bufs = genRecord bufOps w.bufs i w.now := by
  unfold recordBuf genRecord
  cases h : w.bufs[i]? with
  | none => rfl
  | some x =>
    dsimp only
    by_cases hr : x.recording = true
    · rw [if_pos hr, if_pos (show bufOps.recording x = true from hr)]; rfl
    · rw [if_neg hr, if_neg (show ¬ bufOps.recording x = true from hr)]
theorem recordOQ_eq (w : World) (i : Nat) : (recordOQ w i).oqs = genRecord oqOps w.oqs i w.now := by
  unfold recordOQ genRecord
  cases h : w.oqs[i]? with
  | none => rfl
  | some x =>
    dsimp only
    by_cases hr : x.recording = true
    · rw [if_pos hr, if_pos (show oqOps.recording x = true from hr)]; rfl
    · rw [if_neg hr, if_neg (show ¬ oqOps.recording x = true from hr)]
theorem recordPQ_eq (w : World) (i : Nat) : (recordPQ w i).pqs = genRecord pqOps w.pqs i w.now := by
  unfold recordPQ genRecord
  cases h : w.pqs[i]? with
  | none => rfl
  | some x =>
    dsimp only
    by_cases hr : x.recording = true
    · rw [if_pos hr, if_pos (show pqOps.recording x = true from hr)]; rfl
    · rw [if_neg hr, if_neg (show ¬ pqOps.recording x = true from hr)]

end CimbaModel.Sim
