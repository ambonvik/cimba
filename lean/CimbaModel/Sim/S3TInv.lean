/-
  S3 — `TInv` (I_timers): a process's TIME awaitables and its pending timer events correspond.
  Definition, congruence, atomic transformers, changes of the awaits that are no timers.
-/
import CimbaModel.Sim.S3Lists
import CimbaModel.Sim.S3GuardOps

namespace CimbaModel.Sim.S3
open CimbaModel CimbaModel.Sim CimbaModel.Event CimbaModel.Generated CimbaModel.KPQ
open CimbaModel.HashHeap (HTag Item Order HH WF abs liveTags)


/-- the TIME(h) awaitables of `p` -/
def timeAw (w : World) (p : Pid) : List Await := (w.proc p).awaits.filter isTimeA

theorem mem_awaits_time {w : World} {x : Pid} {h : Nat} : Await.time h ∈ (w.proc x).awaits ↔ Await.time h ∈ timeAw w x := by
  unfold timeAw; simp [List.mem_filter, isTimeA]

structure TInv (ex : Pid → Prop) (w : World) : Prop where
  ei : EvInv w.ev
  /-- an armed timer stays armed until it fires (is dispatched) or is cancelled -/
  t1 : ∀ p h, h ≠ 0 → Await.time h ∈ (w.proc p).awaits →
    (∃ e ∈ w.ev.pending, e.key = h ∧ e.item.a = aTime ∧ e.item.b = p + 1) ∨ h ∈ w.ev.cancelled
  /-- every pending timer event is registered with its process -/
  t2 : ∀ e ∈ w.ev.pending, e.item.a = aTime → ∀ p, e.item.b = p + 1 → ¬ ex p → Await.time e.key ∈ (w.proc p).awaits
  tle : ∀ p h, Await.time h ∈ (w.proc p).awaits → h ≤ w.ev.counter
  /-- each handle at most once (TIME(0) is the dummy left by a refused arming, which records a fault) -/
  tnd : ∀ p, ((timeAw w p).filter (· ≠ .time 0)).Nodup
  /-- timer events are addressed to a process -/
  tb : ∀ e ∈ w.ev.pending, e.item.a = aTime → e.item.b ≠ 0

variable {ex : Pid → Prop}

theorem TInv.congr {w w' : World} (hp : TInv ex w) (hc : ∀ p, (w'.proc p).awaits = (w.proc p).awaits)
    (hei : EvInv w'.ev)
    (ha : ∀ e' ∈ w'.ev.pending, e'.item.a = aTime → ∃ e ∈ w.ev.pending, e.key = e'.key ∧ e.item = e'.item)
    (hb : ∀ e ∈ w.ev.pending, e.item.a = aTime → (∃ e' ∈ w'.ev.pending, e'.key = e.key ∧ e'.item = e.item) ∨ e.key ∈ w'.ev.cancelled)
    (hcan : ∀ h ∈ w.ev.cancelled, h ∈ w'.ev.cancelled) (hctr : w.ev.counter ≤ w'.ev.counter) : TInv ex w' where
  ei := hei
  t1 := by
    intro p h h0 hh
    rw [hc] at hh
    rcases hp.t1 p h h0 hh with ⟨e, he, hk, hea, heb⟩ | hcn
    · rcases hb e he hea with ⟨e', he', hk', hi'⟩ | hcn
      · exact Or.inl ⟨e', he', hk'.trans hk, by rw [hi']; exact hea, by rw [hi']; exact heb⟩
      · exact Or.inr (hk ▸ hcn)
    · exact Or.inr (hcan h hcn)
  t2 := by
    intro e' he' hea p hb' hx
    obtain ⟨e, he, hk, hi⟩ := ha e' he' hea
    rw [hc, ← hk]
    exact hp.t2 e he (by rw [hi]; exact hea) p (by rw [hi]; exact hb') hx
  tle := fun p h hh => Nat.le_trans (hp.tle p h (by rw [← hc]; exact hh)) hctr
  tnd := fun p => by unfold timeAw; rw [hc]; exact hp.tnd p
  tb := by
    intro e' he' hea
    obtain ⟨e, he, _, hi⟩ := ha e' he' hea
    rw [← hi]; exact hp.tb e he (by rw [hi]; exact hea)

theorem TInv.same {w w' : World} (hp : TInv ex w) (hc : ∀ p, (w'.proc p).awaits = (w.proc p).awaits) (he : w'.ev = w.ev) :
    TInv ex w' :=
  hp.congr hc (by rw [he]; exact hp.ei) (by rw [he]; exact fun e h _ => ⟨e, h, rfl, rfl⟩)
    (by rw [he]; exact fun e h _ => Or.inl ⟨e, h, rfl, rfl⟩) (by rw [he]; exact fun _ h => h) (by rw [he]; exact Nat.le_refl _)

theorem TInv.fail {w : World} (h : TInv ex w) (m : String) : TInv ex (w.fail m) := h.same (fun p => by simp) (by simp)
theorem TInv.emit {w : World} (h : TInv ex w) (l : String) : TInv ex (w.emit l) := h.same (fun _ => rfl) rfl
theorem TInv.modProc_ctl {w : World} (h : TInv ex w) (p : Pid) (f : Proc → Proc) (hf : ∀ x, (f x).awaits = x.awaits) :
    TInv ex (w.modProc p f) := by
  refine h.same (fun q => ?_) rfl
  rw [modProc_proc]; split
  · rename_i hq; rw [hq.1]; exact hf _
  · rfl
theorem TInv.setGuards {w : World} (h : TInv ex w) (x : Array Guard) : TInv ex { w with guards := x } := h.same (fun _ => rfl) rfl
theorem TInv.setEvWaiters {w : World} (h : TInv ex w) (x : List (Nat × List Pid)) : TInv ex { w with evWaiters := x } :=
  h.same (fun _ => rfl) rfl

theorem TInv.pushEv_other {w : World} (h : TInv ex w) (a s : Nat) (sig t pri : Int) (ht : w.now ≤ t) (ha : a ≠ aTime) :
    TInv ex (pushEv w a s sig t pri) := by
  refine h.congr (fun _ => rfl) (pushEv_evinv a s sig t pri ht h.ei) ?_ ?_ (fun _ h => h) (by simp)
  · intro e' he' hea
    simp only [pushEv_pending, List.mem_cons] at he'
    rcases he' with rfl | he'
    · exact absurd hea ha
    · exact ⟨e', he', rfl, rfl⟩
  · intro e he _
    exact Or.inl ⟨e, by simp only [pushEv_pending]; exact List.mem_cons_of_mem _ he, rfl, rfl⟩

theorem TInv.sched_other {w : World} (h : TInv ex w) (a s : Nat) (sig t pri : Int) (ha : a ≠ aTime) :
    TInv ex (sched w a s sig t pri).1 := by
  rcases sched_cases w a s sig t pri with ⟨ht, he⟩ | ⟨_, m, he⟩
  · rw [he]; exact h.pushEv_other a s sig t pri ht ha
  · rw [he]; exact h.fail m

theorem TInv.reprioEv {w : World} (h : TInv ex w) {k : Nat} {v : Int} {ev' : EvQ}
    (hr : reprioritize w.ev k v = .ok ev') : TInv ex { w with ev := ev' } := by
  obtain ⟨hctr, hcan, hto, hfrom⟩ := reprioritize_pending hr
  exact h.congr (fun _ => rfl) (reprioritize_inv h.ei hr).1 (fun e' he' _ => hto e' he') (fun e he _ => Or.inl (hfrom e he))
    (fun _ hc => by rw [hcan]; exact hc) (Nat.le_of_eq hctr.symm)

theorem TInv.ofCanRel {w w' : World} (h : TInv ex w) (hr : CanRel w w') : TInv ex w' := by
  refine h.congr (fun p => by rw [hr.proc]) (hr.evinv h.ei) ?_ ?_ hr.cancelled hr.counter
  · intro e' he' hea
    rcases hr.pend e' he' with hold | ⟨_, _, _, _, _, _, heq⟩
    · exact ⟨e', hold, rfl, rfl⟩
    · rw [heq] at hea; simp [mkEv] at hea; exact absurd hea (by decide)
  · intro e he _
    by_cases hm : e ∈ w'.ev.pending
    · exact Or.inl ⟨e, hm, rfl, rfl⟩
    · exact Or.inr (hr.removed e he hm)

theorem TInv.evCancel_fst {w : World} (h : TInv ex w) (k : Nat) : TInv ex (evCancel w k).1 := h.ofCanRel (evCancel_rel w k)

theorem TInv.mapAwaits {w : World} (hp : TInv ex w) (p : Pid) (g : List Await → List Await)
    (hg : ∀ l, (g l).filter isTimeA = l.filter isTimeA) :
    TInv ex (w.modProc p fun x => { x with awaits := g x.awaits }) := by
  have hta : ∀ x, timeAw (w.modProc p fun x => { x with awaits := g x.awaits }) x = timeAw w x := by
    intro x; unfold timeAw; rw [modProc_proc]; split
    · rename_i h; rw [h.1]; exact hg _
    · rfl
  have hm : ∀ x h, Await.time h ∈ ((w.modProc p fun x => { x with awaits := g x.awaits }).proc x).awaits ↔
      Await.time h ∈ (w.proc x).awaits := by
    intro x h; rw [mem_awaits_time, mem_awaits_time, hta]
  exact { ei := hp.ei, t1 := fun x h h0 hh => hp.t1 x h h0 ((hm x h).1 hh),
          t2 := fun e he hea x hb hx => (hm x _).2 (hp.t2 e he hea x hb hx),
          tle := fun x h hh => hp.tle x h ((hm x h).1 hh), tnd := fun x => by rw [hta]; exact hp.tnd x, tb := hp.tb }

theorem TInv.addAwait_other {w : World} (hp : TInv ex w) (p : Pid) (a : Await) (ha : isTimeA a = false) :
    TInv ex (addAwait w p a) :=
  hp.mapAwaits p (fun l => a :: l) (fun l => by simp [ha])

theorem TInv.removeAwait_other {w : World} (hp : TInv ex w) (p : Pid) (a : Await) (ha : isTimeA a = false) :
    TInv ex (removeAwait w p a).1 := by
  rw [removeAwait_fst_eq]
  exact hp.mapAwaits p (fun l => (removeFirst l a).1) (fun l => removeFirst_filter_ne l _ _ ha)

theorem TInv.removeAwaitKind_other {w : World} (hp : TInv ex w) (p : Pid) (k : Await → Bool)
    (hk : ∀ a, k a = true → isTimeA a = false) : TInv ex (removeAwaitKind w p k).1 := by
  rw [removeAwaitKind_fst_eq]
  exact hp.mapAwaits p (fun l => (removeAwaitKind.go k l).1) (fun l => rak_go_filter _ _ hk l)

end CimbaModel.Sim.S3
