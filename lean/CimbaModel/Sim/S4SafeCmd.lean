/-
  S4 — every command keeps `Safe` (or, when the caller suspends / ends, records no fault): `SafeR.execCmd`.
  `CmdSafe` is the static validity of a command that matters for faults (durations not negative, `acquire` names an
  existing resource); `CmdPre` the facts a few commands need at the moment they run (they follow from the invariants).
-/
import CimbaModel.Sim.S4SafeRun

namespace CimbaModel.Sim.S4
open CimbaModel CimbaModel.Sim CimbaModel.Sim.S3 CimbaModel.Event CimbaModel.Generated CimbaModel.KPQ
open CimbaModel.HashHeap (HTag Item Order HH WF abs liveTags KeysBelowCounter)

variable {ex : Nat → Prop} {w : World} {p : Pid}

/-- durations are not negative (`cmb_process_hold`, `timer_add/set`, `cmb_event_schedule` assert it) and `acquire` names
    an existing resource (the model's `acquire` has no self-guard for that, the harness skips it) -/
def CmdSafe (w : World) : Cmd → Prop
  | .hold d => 0 ≤ d
  | .timerAdd _ d _ => 0 ≤ d
  | .timerSet _ d _ => 0 ≤ d
  | .timerAddOf _ d _ => 0 ≤ d
  | .schedUser _ d _ => 0 ≤ d
  | .acquire r => r < w.res.size
  | _ => True

/-- what `priority_set` of `q` needs at the moment it runs: every timer `q` lists is scheduled, every pool it lists has its
    holder record (they follow from `TL` and `PL`) -/
structure PrioPre (w : World) (q : Pid) : Prop where
  timers : ∀ h, Await.time h ∈ (w.proc q).awaits → isScheduled w.ev h = true
  pools : ∀ pl x, HoldRef.pool pl ∈ (w.proc q).held → w.pools[pl]? = some x → q + 1 ∈ keys (abs x.holders)

/-- the facts a command needs at the moment it runs, beyond `Safe`: `PrioPre` for `priority_set`, the hashheap of its queue
    for the priority-queue commands (`Facts` supplies them: `cmdPre_of`) -/
def CmdPre (w : World) : Cmd → Prop
  | .prioSet q _ => PrioPre w q
  | .pqGet k => ∀ x, w.pqs[k]? = some x → WF compare_func x.queue
  | .pqPut k _ _ _ => ∀ x, w.pqs[k]? = some x → PQRoom x
  | .pqCancel k _ => ∀ x, w.pqs[k]? = some x → WF compare_func x.queue
  | .pqReprio k _ _ => ∀ x, w.pqs[k]? = some x → WF compare_func x.queue
  | _ => True

theorem lt_of_getElem? {α : Type} {a : Array α} {i : Nat} {x : α} (h : a[i]? = some x) : i < a.size := S3.lt_of_getElem? h

/-- what the two loops of `priority_set` keep of the world `w` they start in: which handles are scheduled, the keys of every
    holder list — so that `PrioPre w q` stays usable in every world `w'` on the way -/
structure PrioRel (w w' : World) : Prop where
  sched : ∀ h, isScheduled w'.ev h = isScheduled w.ev h
  pools : ∀ (pl : Nat) (x' : Pool), w'.pools[pl]? = some x' →
    ∃ x : Pool, w.pools[pl]? = some x ∧ ∀ k, k ∈ keys (abs x'.holders) ↔ k ∈ keys (abs x.holders)

theorem PrioRel.refl (w : World) : PrioRel w w := ⟨fun _ => rfl, fun _ x h => ⟨x, h, fun _ => Iff.rfl⟩⟩

theorem reprioritize_keys {q : EvQ} {h : Nat} {v : Int} {q' : EvQ} (hr : reprioritize q h v = .ok q') :
    keys q'.pending = keys q.pending := by
  unfold reprioritize at hr
  split at hr
  · cases hr
  · cases hr
    simp only [keys, List.map_map]
    apply List.map_congr_left
    intro e _
    simp only [Function.comp]
    split <;> rfl

theorem Safe.prioAwaitStep (h : Safe ex w) {w0 : World} (hr : PrioRel w0 w) (q : Pid) (v : Int) (a : Await)
    (ha : ∀ k, a = .time k → isScheduled w0.ev k = true) :
    Safe ex (S3.prioAwaitStep q v w a) ∧ PrioRel w0 (S3.prioAwaitStep q v w a) := by
  cases a with
  | time k =>
    simp only [S3.prioAwaitStep]
    have hs : isScheduled w.ev k = true := by rw [hr.sched]; exact ha k rfl
    have : ∃ ev', reprioritize w.ev k v = .ok ev' := by
      unfold reprioritize
      simp only [hs, not_true_eq_false, if_false]
      exact ⟨_, rfl⟩
    obtain ⟨ev', hev⟩ := this
    rw [hev]
    refine ⟨h.setEv ev', ⟨fun j => ?_, hr.pools⟩⟩
    show isScheduled ev' j = _
    rw [← hr.sched]
    unfold isScheduled
    rw [reprioritize_keys hev]
  | guard g =>
    simp only [S3.prioAwaitStep]
    cases hg : w.guards[g]? with
    | none =>
      have : reprioGuard w q v g = w := by unfold reprioGuard; rw [hg]
      rw [this]; exact ⟨h, hr⟩
    | some gd =>
      obtain ⟨hwf, hk⟩ := h.gq g gd hg
      obtain ⟨h1, h2⟩ := reprioGuard_spec hg hwf q v
      by_cases hm : q + 1 ∈ keys (abs gd.q)
      · obtain ⟨q', hwf', hperm, heq⟩ := h1 hm
        rw [heq]
        refine ⟨h.setQ hg hwf' fun k hk' => ?_, ⟨hr.sched, hr.pools⟩⟩
        have := (HashHeap.keys_perm hperm k).1 hk'
        simp only [keys, setPrio, List.map_map] at this ⊢
        obtain ⟨e, he, hke⟩ := List.mem_map.1 this
        refine List.mem_map.2 ⟨e, he, ?_⟩
        rw [← hke]
        simp only [Function.comp]
        split <;> rfl
      · rw [h2 hm]; exact ⟨h, hr⟩
  | proc _ => exact ⟨h, hr⟩
  | event _ => exact ⟨h, hr⟩

theorem Safe.prioHeldStep (h : Safe ex w) {w0 : World} (hr : PrioRel w0 w) (q : Pid) (v : Int) (a : HoldRef)
    (ha : ∀ pl x, a = .pool pl → w0.pools[pl]? = some x → q + 1 ∈ keys (abs x.holders)) :
    Safe ex (S3.prioHeldStep q v w a) ∧ PrioRel w0 (S3.prioHeldStep q v w a) := by
  cases a with
  | res _ => exact ⟨h, hr⟩
  | pool pl =>
    simp only [S3.prioHeldStep]
    split
    · rename_i x hx
      obtain ⟨hwf, hkb⟩ := h.hq pl x hx
      obtain ⟨x0, hx0, hkeys⟩ := hr.pools pl x hx
      have hm : q + 1 ∈ keys (abs x.holders) := (hkeys _).2 (ha pl x0 rfl hx0)
      obtain ⟨h', hrun, rp⟩ := HashHeap.reprio_abs hwf hm 0 v
      rw [hrun]
      have hsame := rp.keys
      refine ⟨h.setHolders pl x hx _ rfl rp.wf (fun k hk => hkb k ((hsame k).1 hk)), ⟨hr.sched, ?_⟩⟩
      intro pl' y hy
      simp only [Array.set!_eq_setIfInBounds, Array.getElem?_setIfInBounds] at hy
      split at hy
      · rename_i e; subst e
        split at hy
        · cases hy
          exact ⟨x0, hx0, fun k => (hsame k).trans (hkeys k)⟩
        · cases hy
      · exact hr.pools pl' y hy
    · exact ⟨h, hr⟩

theorem prioAwaitStep_held (q : Pid) (v : Int) (w : World) (a : Await) (z : Pid) :
    ((S3.prioAwaitStep q v w a).proc z).held = (w.proc z).held := by
  cases a with
  | time k => simp only [S3.prioAwaitStep]; split <;> first | rfl | simp
  | guard g =>
    simp only [S3.prioAwaitStep, S3.reprioGuard]
    repeat' split
    all_goals first | rfl | simp
  | proc _ => rfl
  | event _ => rfl

theorem SafeR.prioSet (h : Safe ex w) (q : Pid) (v : Int) (hpre : PrioPre w q) : SafeR ex (execCmd w p (.prioSet q v)) := by
  by_cases hq : q < w.procs.size
  · rw [prioSet_eq w p q v hq]
    dsimp only
    refine SafeR.ret ?_ _ _
    have h1 : Safe ex (w.modProc q fun y => { y with prio := v }) := h.modProc q _ fun _ => rfl
    have hr1 : PrioRel w (w.modProc q fun y => { y with prio := v }) := ⟨fun _ => rfl, fun _ x hx => ⟨x, hx, fun _ => Iff.rfl⟩⟩
    have haw : ((w.modProc q fun y => { y with prio := v }).proc q).awaits = (w.proc q).awaits := by
      rw [S3.modProc_proc_self w _ hq]
    have hheld1 : ((w.modProc q fun y => { y with prio := v }).proc q).held = (w.proc q).held := by
      rw [S3.modProc_proc_self w _ hq]
    -- the timers and holder records are those `w` lists: `PrioRel w` keeps `PrioPre w q` usable along both loops
    obtain ⟨h2, hr2⟩ := foldl_inv_mem (fun w' => Safe ex w' ∧ PrioRel w w') (S3.prioAwaitStep q v) _
      (fun w' a ha h' => h'.1.prioAwaitStep h'.2 q v a fun k hk => hpre.timers k (by rw [← haw, ← hk]; exact ha)) _ ⟨h1, hr1⟩
    have hheld2 : (((((w.modProc q fun y => { y with prio := v }).proc q).awaits.foldl (S3.prioAwaitStep q v)
        (w.modProc q fun y => { y with prio := v }))).proc q).held = (w.proc q).held := by
      rw [← hheld1]
      exact foldl_keeps_proc (fun x => x.held) q _ (fun w a => prioAwaitStep_held q v w a q) _ _
    exact (foldl_inv_mem (fun w' => Safe ex w' ∧ PrioRel w w') (S3.prioHeldStep q v) _
      (fun w' a ha h' => h'.1.prioHeldStep h'.2 q v a fun pl x hk hx => hpre.pools pl x (by rw [← hheld2, ← hk]; exact ha) hx)
      _ ⟨h2, hr2⟩).1
  · have : q ≥ w.procs.size := Nat.le_of_not_lt hq
    simp only [Sim.execCmd, this, if_true]
    exact SafeR.skip h


theorem modify_get_holder {w : World} {r : Nat} {y : Res}
    (hy : (w.res.modify r fun y => { y with holder := none })[r]? = some y) : y.holder = none := by
  simp only [Array.getElem?_modify, if_true] at hy
  cases hx : w.res[r]? with
  | none => rw [hx] at hy; cases hy
  | some x => rw [hx] at hy; simp only [Option.map_some, Option.some.injEq] at hy; rw [← hy]

theorem pqPosition_pos {x : PQ} {h : Nat} (hwf : WF compare_func x.queue) (hp : ¬ pqPosition x h = 0) : h ∈ keys (abs x.queue) := by
  unfold pqPosition at hp
  split at hp
  · exact absurd rfl hp
  · obtain ⟨i, hi⟩ := findIndex_total hwf h
    rw [hi] at hp
    have : i ≠ 0 := by intro e; subst e; exact hp rfl
    exact (hh_findIndex hwf h hi).1 this

theorem SafeR.poolRelease (h : Safe ex w) (pl n : Nat) : SafeR ex (execCmd w p (.poolRelease pl n)) := by
  simp only [Sim.execCmd]
  split
  · exact SafeR.skip h
  · rename_i x hx
    obtain ⟨hwf, hkb⟩ := h.hq pl x hx
    split
    · exact SafeR.skip h
    · rename_i hn
      refine SafeR.ret ?_ _ _
      apply Safe.signal
      apply Safe.recordPool
      apply Safe.setPoolInUse
      split
      · obtain ⟨h', hrun, a⟩ := HashHeap.remove_abs hwf _ (Nat.succ_ne_zero p)
        rw [hrun]
        dsimp only
        apply Safe.removeHeld_fst
        exact h.setHolders pl x hx _ rfl a.wf (fun k hk => hkb k ((a.keys k).1 hk).1)
      · apply h.setHeldAmount
        intro y hy
        rw [hx] at hy; cases hy
        exact heldAmount_pos hx hwf (by omega)

theorem SafeR.preempt (h : Safe (isKey p) w) (hp : p < w.procs.size) (r : Nat) : SafeR (isKey p) (execCmd w p (.preempt r)) := by
  simp only [Sim.execCmd]
  split
  · exact SafeR.skip h
  · rename_i x hx
    split
    · exact SafeR.skip h
    · split
      · rename_i hnone
        refine SafeR.ret (Safe.recordRes (h.grab r p (fun y hy => ?_)) r) _ _
        rw [hx] at hy; cases hy; exact hnone
      · rename_i victim hv
        split
        · refine SafeR.ret ?_ _ _
          apply Safe.grab
          · apply Safe.sched_now
            refine Safe.setResModify ?_ _ _ fun _ => rfl
            exact (h.removeHeld_fst victim _).cancelAwaiteds victim
          · intro y hy
            have : ((cancelAwaiteds (removeHeld w victim (HoldRef.res r)).1 victim).res.modify r fun y => { y with holder := none })[r]? = some y := by
              simpa using hy
            exact modify_get_holder (w := cancelAwaiteds (removeHeld w victim (HoldRef.res r)).1 victim) this
        · exact SafeR.acquireStep h hp r (lt_of_getElem? hx)

theorem setRecording_safe (h : Safe ex w) (kind idx : Nat) (on : Bool) : Safe ex (setRecording w kind idx on) :=
  setRecording_rel (Path.ofPred (Safe ex)) idx on (fun _ h => h.recordRes idx) (fun _ h => h.recordPool idx)
    (fun _ h => h.recordBuf idx) (fun _ h => h.recordOQ idx) (fun _ h => h.recordPQ idx)
    (fun _ h => h.setResModify idx _ fun _ => rfl) (fun _ h => h.setPoolsModify idx _ (fun _ => rfl) fun _ => rfl)
    (fun _ h => h.setBufsModify idx _ fun _ => rfl) (fun _ h => h.setOqsModify idx _ fun _ => rfl)
    (fun _ h => h.setPqsModify idx _ fun _ => rfl) w kind h

theorem SafeR.execCmd (h : Safe (isKey p) w) (hp : p < w.procs.size) (c : Cmd) (hs : CmdSafe w c) (hpre : CmdPre w c) :
    SafeR (isKey p) (execCmd w p c) := by
  cases c with
  | hold d =>
    simp only [Sim.execCmd]
    exact SafeR.block (h.timerAdd_fst p d sigSuccess hs).nf _
  | yield => simp only [Sim.execCmd]; exact SafeR.block h.nf _
  | timerAdd v d sig =>
    simp only [Sim.execCmd]
    exact SafeR.ret ((h.timerAdd_fst p d sig hs).setVar _ _ _) _ _
  | timerSet v d sig =>
    simp only [Sim.execCmd]
    exact SafeR.ret (((h.timersClear p).timerAdd_fst p d sig hs).setVar _ _ _) _ _
  | timerCancel v =>
    simp only [Sim.execCmd]
    split
    · exact SafeR.skip h
    · exact SafeR.ret (h.timerCancel_fst _ _) _ _
  | timersClear => simp only [Sim.execCmd]; exact SafeR.ret (h.timersClear p) _ _
  | timersClearOf q =>
    simp only [Sim.execCmd]
    split
    · exact SafeR.skip h
    · exact SafeR.ret (h.timersClear q) _ _
  | timerAddOf q d sig =>
    simp only [Sim.execCmd]
    split
    · exact SafeR.skip h
    · exact SafeR.ret (h.timerAdd_fst q d sig hs) _ _
  | resume q sig =>
    simp only [Sim.execCmd]
    split
    · exact SafeR.skip h
    · exact SafeR.ret (h.sched_now _ _ _ _) _ _
  | interrupt q sig pri =>
    simp only [Sim.execCmd]
    split
    · exact SafeR.skip h
    · exact SafeR.ret (h.sched_now _ _ _ _) _ _
  | stop q val =>
    simp only [Sim.execCmd]
    split
    · exact SafeR.ended (h.finishProc _ _ _)
    · split
      · exact SafeR.ret (h.finishProc _ _ _) _ _
      · exact SafeR.ret h _ _
  | start q =>
    simp only [Sim.execCmd]
    split
    · exact SafeR.skip h
    · exact SafeR.ret (h.sched_now _ _ _ _) _ _
  | exit val => simp only [Sim.execCmd]; exact SafeR.ended (h.finishProc _ _ _)
  | prioSet q v => exact SafeR.prioSet h q v hpre
  | waitProc q =>
    simp only [Sim.execCmd]
    split
    · exact SafeR.skip h
    · split
      · exact SafeR.ret h _ _
      · refine SafeR.block ?_ _
        exact (((h.addAwait p (.proc q)).modProc q _ (fun _ => rfl))).nf
  | schedUser v d pri =>
    simp only [Sim.execCmd]
    have hd : 0 ≤ d := hs
    exact SafeR.ret ((h.sched_ge _ _ _ _ _ (by simp only [World.now]; omega)).setVar _ _ _) _ _
  | cancelUser v =>
    simp only [Sim.execCmd]
    split
    · exact SafeR.skip h
    · exact SafeR.ret (h.evCancel_fst _) _ _
  | cancelUserAll =>
    simp only [Sim.execCmd]
    exact SafeR.ret h.cancelUserAll_fst _ _
  | waitEvent v =>
    simp only [Sim.execCmd]
    split
    · exact SafeR.skip h
    · refine SafeR.block ?_ _
      exact ((h.setEvWaiters _).addAwait p _).nf
  | acquire r => simp only [Sim.execCmd]; exact SafeR.acquireStep h hp r hs
  | preempt r => exact SafeR.preempt h hp r
  | release r =>
    simp only [Sim.execCmd]
    split
    · exact SafeR.skip h
    · rename_i x hx
      split
      · exact SafeR.skip h
      · refine SafeR.ret ((((h.removeHeld_fst p _).setResSet r _ fun y hy => ?_).recordRes r).signal _) _ _
        have : w.res[r]? = some y := by simpa using hy
        rw [hx] at this; cases this; rfl
  | poolAcquire pl n =>
    simp only [Sim.execCmd]
    split
    · exact SafeR.skip h
    · rename_i x hx
      split
      · exact SafeR.skip h
      · exact SafeR.poolLoop h hp pl n _ false (lt_of_getElem? hx)
  | poolPreempt pl n =>
    simp only [Sim.execCmd]
    split
    · exact SafeR.skip h
    · rename_i x hx
      split
      · exact SafeR.skip h
      · exact SafeR.poolLoop h hp pl n _ true (lt_of_getElem? hx)
  | poolRelease pl n => exact SafeR.poolRelease h pl n
  | bufGet b n =>
    simp only [Sim.execCmd]
    split
    · exact SafeR.skip h
    · exact SafeR.bufGetLoop h hp b n 0 (by omega)
  | bufPut b n =>
    simp only [Sim.execCmd]
    split
    · exact SafeR.skip h
    · exact SafeR.bufPutLoop h hp b n n (by omega)
  | oqGet q =>
    simp only [Sim.execCmd]
    split
    · exact SafeR.skip h
    · exact SafeR.oqGetLoop h hp q (by omega)
  | oqPut q obj =>
    simp only [Sim.execCmd]
    split
    · exact SafeR.skip h
    · exact SafeR.oqPutLoop h hp q obj (by omega)
  | pqGet k =>
    simp only [Sim.execCmd]
    split
    · exact SafeR.skip h
    · exact SafeR.pqGetLoop h hp k (by omega) hpre
  | pqPut k obj pri v =>
    simp only [Sim.execCmd]
    split
    · exact SafeR.skip h
    · exact SafeR.pqPutLoop h hp k obj pri v (by omega) hpre
  | pqCancel k v =>
    simp only [Sim.execCmd]
    split
    · exact SafeR.skip h
    · rename_i x hx
      split
      · exact SafeR.skip h
      · rename_i h0
        obtain ⟨q', hrun, _⟩ := HashHeap.remove_abs (hpre x hx) _ h0
        rw [hrun]
        refine SafeR.ret ?_ _ _
        have hset : ∀ y : PQ, pqStat y = pqStat x → Safe (isKey p) { w with pqs := w.pqs.set! k y } :=
          fun y hy => h.setPqsSet k y fun x' hx' => by rw [hx] at hx'; cases hx'; exact hy
        split
        · refine Safe.signal (Safe.recordPQ (hset _ ?_) k) _
          rfl
        · refine hset _ ?_
          rfl
  | pqReprio k v pri =>
    simp only [Sim.execCmd]
    split
    · exact SafeR.skip h
    · rename_i x hx
      split
      · exact SafeR.skip h
      · rename_i hn
        have hm : getVar w p v ∈ keys (abs x.queue) := pqPosition_pos (hpre x hx) (fun e => hn (Or.inr e))
        obtain ⟨q', hrun, _⟩ := HashHeap.reprio_abs (hpre x hx) hm 0 pri
        rw [hrun]
        exact SafeR.ret (h.setPqsSet k _ fun x' hx' => by rw [hx] at hx'; cases hx'; rfl) _ _
  | pqPos k v =>
    simp only [Sim.execCmd]
    repeat' split
    all_goals first | exact SafeR.skip h | exact SafeR.ret h _ _
  | condWait c kind a b =>
    simp only [Sim.execCmd]
    split
    · exact SafeR.skip h
    · rename_i g hg
      exact SafeR.block (guardWaitEnter_nf h g (h.st.gex.conds c g hg) hp _) _
  | condSignal c =>
    simp only [Sim.execCmd]
    split
    · exact SafeR.skip h
    · exact SafeR.ret (h.condSignal_fst _) _ _
  | condCancel c q =>
    simp only [Sim.execCmd]
    split
    · exact SafeR.skip h
    · split
      · exact SafeR.skip h
      · refine SafeR.ret ?_ _ _
        split
        · exact (h.guardRemove_fst _ q).sched_now _ _ _ _
        · exact h.guardRemove_fst _ q
  | condRemove c q =>
    simp only [Sim.execCmd]
    split
    · exact SafeR.skip h
    · split
      · exact SafeR.skip h
      · exact SafeR.ret (h.guardRemove_fst _ q) _ _
  | setFlag k v => simp only [Sim.execCmd]; exact SafeR.ret (h.setFlags _) _ _
  | recStart kind idx => simp only [Sim.execCmd]; exact SafeR.ret (setRecording_safe h _ _ _) _ _
  | recStop kind idx => simp only [Sim.execCmd]; exact SafeR.ret (setRecording_safe h _ _ _) _ _

end CimbaModel.Sim.S4
