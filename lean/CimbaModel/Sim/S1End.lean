/-
  S1 — the end of a process and the resources (C05 / C09): `finishProc` frees every resource the process listed and
  leaves the others with their holders.
-/
import CimbaModel.Sim.S1HolderStep

namespace CimbaModel.Sim
open CimbaModel CimbaModel.Event CimbaModel.Generated
open CimbaModel.HashHeap (HTag Item Order HH)

theorem holder_of_rv_eq {w w' : World} {r : Nat} (h : w'.rv r = w.rv r) : w'.holder r = w.holder r := by
  unfold World.holder; rw [h]

theorem holder_clear (v : Option (Option Pid × Nat)) : (clearHolder v).bind (·.1) = none := by
  cases v <;> simp [clearHolder]

theorem finishProc_held_other (w : World) (p q : Pid) (hq : q ≠ p) (val : Int) (stopped : Bool) :
    ((finishProc w p val stopped).proc q).held = (w.proc q).held := by
  rw [finishProc_eq, proc_modProc_ne _ _ _ _ hq, wakeWaiters_held]
  unfold finishMid; split
  · rw [dropResources_held]; simp [hq]
  · rw [cancelAwaiteds_held, dropResources_held]; simp [hq]

theorem finishProc_rv (w : World) (p : Pid) (val : Int) (stopped : Bool) (r : Nat) :
    (finishProc w p val stopped).rv r =
      if .res r ∈ (w.proc p).held then clearHolder (w.rv r) else w.rv r := by
  rw [finishProc_eq, rv_modProc, wakeWaiters_rv]
  unfold finishMid; split
  · rw [dropResources_rv]; simp
  · rw [cancelAwaiteds_rv, dropResources_rv]

/-- **ending the holder frees the resource**: everything the process listed has no holder afterwards -/
theorem finishProc_frees (w : World) (p : Pid) (val : Int) (stopped : Bool) (r : Nat)
    (hr : .res r ∈ (w.proc p).held) : (finishProc w p val stopped).holder r = none := by
  unfold World.holder
  rw [finishProc_rv, if_pos hr, holder_clear]

theorem finishProc_keeps (w : World) (p : Pid) (val : Int) (stopped : Bool) (r : Nat)
    (hr : .res r ∉ (w.proc p).held) : (finishProc w p val stopped).holder r = w.holder r := by
  unfold World.holder
  rw [finishProc_rv, if_neg hr]

end CimbaModel.Sim
