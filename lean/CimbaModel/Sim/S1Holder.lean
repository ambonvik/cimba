/-
  S1 — the holder invariant (C05): the resource's `holder` field and the processes' lists of holdings
  describe the same unique holder.  Definitions, the two abstract transitions (take / give up),
  `grab` as an instance of the first, and `dropResources`.
-/
import CimbaModel.Sim.S1Effects
import CimbaModel.Sim.S1Frame2

namespace CimbaModel.Sim
open CimbaModel CimbaModel.Event CimbaModel.Generated
open CimbaModel.HashHeap (HTag Item Order HH)

/-- the holder of resource `r` (`none`: free, or no such resource) -/
def World.holder (w : World) (r : Nat) : Option Pid := (w.rv r).bind (·.1)

def World.guardOf (w : World) (r : Nat) : Option Nat := (w.rv r).map (·.2)

theorem holder_eq (w : World) (r : Nat) (x : Res) (hx : w.res[r]? = some x) : w.holder r = x.holder := by
  simp [World.holder, World.rv, hx]

theorem holder_none_of_no_res (w : World) (r : Nat) (hx : w.res[r]? = none) : w.holder r = none := by
  simp [World.holder, World.rv, hx]

theorem rv_eq (w : World) (r : Nat) (x : Res) (hx : w.res[r]? = some x) : w.rv r = some (x.holder, x.guard) := by
  simp [World.rv, hx]

/-- **the holder invariant**: process `p` lists resource `r` exactly once if it is the holder, and not at all
    otherwise (in particular nobody lists a resource that does not exist) -/
def HInv (w : World) : Prop := ∀ r p, w.hcount p r = if w.holder r = some p then 1 else 0

theorem HInv.of_same {w w' : World} (h : HInv w) (hr : ∀ r, w'.rv r = w.rv r)
    (hh : ∀ q r, w'.hcount q r = w.hcount q r) : HInv w' := by
  intro r p
  have e : w'.holder r = w.holder r := by unfold World.holder; rw [hr]
  rw [hh, h r p, e]

/-- the invariant is kept by every step whose scope holds neither the holders nor anybody's resource holdings -/
theorem HInv.ofEff {p : Pid} {s : Scope} {w0 w : World} (e : Eff p s w0 w) (ha : s.res = false ∨ s.avail = false)
    (hr : s.heldR = .no) (h : HInv w0) : HInv w :=
  h.of_same (e.rv ha) fun q r => e.outside.hcount q r (.inl hr)

def clearHolder (v : Option (Option Pid × Nat)) : Option (Option Pid × Nat) := v.map fun x => (none, x.2)

theorem HInv.unhold {w w' : World} (h : HInv w) (r : Nat) (v : Pid) (hv : w.holder r = some v)
    (hc : ∀ q r', w'.hcount q r' = if q = v ∧ r = r' then 0 else w.hcount q r')
    (hr : ∀ r', w'.rv r' = if r' = r then clearHolder (w.rv r') else w.rv r') : HInv w' := by
  intro r' q
  rw [hc]
  have hh : w'.holder r' = if r' = r then none else w.holder r' := by
    unfold World.holder; rw [hr]; split
    · cases w.rv r' <;> simp [clearHolder]
    · rfl
  rw [hh]
  by_cases e : r' = r
  · subst e
    simp only [if_true, and_true]
    split
    · simp
    · rename_i hq; rw [h r' q, hv]; simp; intro e; exact hq e.symm
  · have e' : ¬ r = r' := fun x => e x.symm
    simp only [e, e', and_false, if_false]; exact h r' q

theorem HInv.hold {w w' : World} (h : HInv w) (r : Nat) (p : Pid) (g : Nat) (hv : w.rv r = some (none, g))
    (hc : ∀ q r', w'.hcount q r' = if q = p ∧ r' = r then w.hcount q r' + 1 else w.hcount q r')
    (hr : ∀ r', w'.rv r' = if r' = r then some (some p, g) else w.rv r') : HInv w' := by
  intro r' q
  rw [hc]
  have hfree : w.holder r = none := by simp [World.holder, hv]
  have hh : w'.holder r' = if r' = r then some p else w.holder r' := by
    unfold World.holder; rw [hr]; split <;> rfl
  rw [hh]
  by_cases e : r' = r
  · subst e
    simp only [if_true, and_true]
    rw [h r' q, hfree]
    by_cases hq : q = p
    · simp [hq]
    · have : ¬ p = q := fun e => hq e.symm
      simp [hq, this]
  · simp only [e, and_false, if_false]; exact h r' q

theorem HInv.mem_iff {w : World} (h : HInv w) (r : Nat) (p : Pid) :
    HoldRef.res r ∈ (w.proc p).held ↔ w.holder r = some p := by
  have hc := h r p
  unfold World.hcount at hc
  constructor
  · intro hm
    have hpos : 0 < (w.proc p).held.count (.res r) := List.count_pos_iff.2 hm
    by_cases e : w.holder r = some p
    · exact e
    · rw [if_neg e] at hc; omega
  · intro e
    rw [if_pos e] at hc
    exact List.count_pos_iff.1 (by omega)

theorem HInv.count_le_one {w : World} (h : HInv w) (r : Nat) (p : Pid) : (w.proc p).held.count (.res r) ≤ 1 := by
  have := h r p
  unfold World.hcount at this
  rw [this]; split <;> omega

theorem HInv.holder_lt {w : World} (h : HInv w) (r : Nat) (p : Pid) (hp : w.holder r = some p) : p < w.procs.size :=
  lt_np_of_held w p _ ((h.mem_iff r p).2 hp)

/-- at most one holder: two processes listing the same resource are the same process -/
theorem HInv.unique {w : World} (h : HInv w) (r : Nat) (p q : Pid)
    (hp : HoldRef.res r ∈ (w.proc p).held) (hq : HoldRef.res r ∈ (w.proc q).held) : p = q := by
  have a := (h.mem_iff r p).1 hp
  have b := (h.mem_iff r q).1 hq
  rw [a] at b; exact Option.some.inj b

theorem rv_set (w : World) (r : Nat) (y : Res) (r' : Nat) (hr : r < w.res.size) :
    World.rv { w with res := w.res.set! r y } r' = if r' = r then some (y.holder, y.guard) else w.rv r' := by
  unfold World.rv
  simp only [Array.set!_eq_setIfInBounds, Array.getElem?_setIfInBounds]
  by_cases e : r = r'
  · subst e; simp [hr]
  · have : ¬ r' = r := fun h => e h.symm
    simp [e, this]

theorem lt_size_of_getElem? {α : Type _} {a : Array α} {i : Nat} {x : α} (h : a[i]? = some x) : i < a.size := by
  apply Classical.byContradiction
  intro hn
  rw [Array.getElem?_eq_none (Nat.le_of_not_lt hn)] at h
  cases h

theorem rv_clear_set (w : World) (r : Nat) (x : Res) (hx : w.res[r]? = some x) (r' : Nat) :
    World.rv { w with res := w.res.set! r { x with holder := none } } r'
      = if r' = r then clearHolder (w.rv r') else w.rv r' := by
  rw [rv_set w r _ r' (lt_size_of_getElem? hx)]
  split
  · rename_i e; subst e; simp [clearHolder, rv_eq w r' x hx]
  · rfl

theorem rv_clear_modify (w : World) (r : Nat) (r' : Nat) :
    World.rv { w with res := w.res.modify r fun y => { y with holder := none } } r'
      = if r' = r then clearHolder (w.rv r') else w.rv r' := by
  unfold World.rv
  simp only [Array.getElem?_modify]
  by_cases e : r = r'
  · subst e; simp only [if_true]
    cases w.res[r]? <;> simp [clearHolder]
  · have : ¬ r' = r := fun h => e h.symm
    simp [e, this]

theorem grab_rv (w : World) (r : Nat) (p : Pid) (x : Res) (hx : w.res[r]? = some x) (r' : Nat) :
    (grab w r p).rv r' = if r' = r then some (some p, x.guard) else w.rv r' := by
  have hr := lt_size_of_getElem? hx
  unfold grab
  simp only [hx]
  zeta
  -- `w'` is `w` or `w` with a fault recorded: the two branches of `grab` at once
  have a : ∀ w' : World, w'.res = w.res →
      World.rv ({ w' with res := w'.res.set! r { x with holder := some p } }.modProc p
        fun y => { y with held := .res r :: y.held }) r' = if r' = r then some (some p, x.guard) else w.rv r' := by
    intro w' hw'
    have : ∀ v : World, World.rv (v.modProc p fun y => { y with held := .res r :: y.held }) r' = v.rv r' := fun v => rfl
    rw [this, rv_set w' r _ r' (by rw [hw']; exact hr)]
    simp [World.rv, hw']
  split
  · exact a _ (by simp)
  · exact a _ rfl

theorem grab_hcount (w : World) (r : Nat) (p : Pid) (x : Res) (hx : w.res[r]? = some x) (hp : p < w.procs.size)
    (q : Pid) (r' : Nat) :
    (grab w r p).hcount q r' = if q = p ∧ r' = r then w.hcount q r' + 1 else w.hcount q r' := by
  unfold grab
  simp only [hx]
  zeta
  -- `w'` as in `grab_rv`
  have a : ∀ w' : World, w'.procs = w.procs →
      World.hcount (w'.modProc p fun y => { y with held := .res r :: y.held }) q r'
        = if q = p ∧ r' = r then w.hcount q r' + 1 else w.hcount q r' := by
    intro w' hw'
    rw [hcount_modProc]
    have e1 : w'.proc p = w.proc p := proc_congr hw' p
    have e2 : w'.hcount q r' = w.hcount q r' := hcount_congr (fun q => by rw [proc_congr hw' q]) q r'
    rw [hw', e1, e2]
    by_cases hq : q = p
    · subst hq
      simp only [hp, and_self, if_true, true_and]
      by_cases hr : r' = r
      · subst hr; simp [World.hcount]
      · have : ¬ r = r' := fun h => hr h.symm
        simp [hr, World.hcount, this]
    · simp [hq]
  split
  · exact a _ (by simp)
  · exact a _ rfl

theorem hinv_grab {w : World} (h : HInv w) (r : Nat) (p : Pid) (x : Res) (hx : w.res[r]? = some x)
    (hfree : x.holder = none) (hp : p < w.procs.size) : HInv (grab w r p) :=
  h.hold r p x.guard (by rw [rv_eq w r x hx, hfree]) (grab_hcount w r p x hx hp) (grab_rv w r p x hx)

theorem grab_holder (w : World) (r : Nat) (p : Pid) (x : Res) (hx : w.res[r]? = some x) :
    (grab w r p).holder r = some p := by
  simp [World.holder, grab_rv w r p x hx]

theorem grab_no_res (w : World) (r : Nat) (p : Pid) (hx : w.res[r]? = none) : grab w r p = w := by
  unfold grab; simp [hx]

theorem dropStep_rv (p : Pid) (w : World) (h : HoldRef) (r' : Nat) :
    (dropStep p w h).rv r' = if h = .res r' then clearHolder (w.rv r') else w.rv r' := by
  unfold dropStep
  split
  · rename_i r
    split
    · rename_i x hx
      zeta
      rw [signal_rv, recordRes_rv, rv_clear_set w r x hx]
      by_cases e : r' = r
      · subst e; simp
      · have : ¬ r = r' := fun h => e h.symm
        simp [e, this]
    · rename_i hx
      split
      · rename_i e; injection e with e; subst e
        simp [World.rv, hx, clearHolder]
      · rfl
  · simp

@[simp] theorem dropStep_hcount (p : Pid) (w : World) (h : HoldRef) (q : Pid) (r' : Nat) :
    (dropStep p w h).hcount q r' = w.hcount q r' := by
  unfold dropStep
  split
  · split
    · zeta; simp
    · rfl
  · simp

theorem clearHolder_idem (v : Option (Option Pid × Nat)) : clearHolder (clearHolder v) = clearHolder v := by
  cases v <;> simp [clearHolder]

theorem foldl_dropStep_rv (p : Pid) (hs : List HoldRef) (w : World) (r' : Nat) :
    (hs.foldl (dropStep p) w).rv r' = if .res r' ∈ hs then clearHolder (w.rv r') else w.rv r' := by
  induction hs generalizing w with
  | nil => simp
  | cons h hs ih =>
    rw [List.foldl_cons, ih, dropStep_rv]
    by_cases e : h = .res r'
    · subst e; simp [clearHolder_idem]
    · have : ¬ HoldRef.res r' = h := fun x => e x.symm
      simp [e, this]

theorem foldl_dropStep_hcount (p : Pid) (hs : List HoldRef) (w : World) (q : Pid) (r' : Nat) :
    (hs.foldl (dropStep p) w).hcount q r' = w.hcount q r' := by
  induction hs generalizing w with
  | nil => rfl
  | cons h hs ih => rw [List.foldl_cons, ih, dropStep_hcount]

theorem dropResources_rv (w : World) (p : Pid) (r' : Nat) :
    (dropResources w p).rv r' = if .res r' ∈ (w.proc p).held then clearHolder (w.rv r') else w.rv r' := by
  rw [dropResources_eq, foldl_dropStep_rv]
  rfl

theorem dropResources_hcount (w : World) (p : Pid) (q : Pid) (r' : Nat) :
    (dropResources w p).hcount q r' = if q = p then 0 else w.hcount q r' := by
  rw [dropResources_eq, foldl_dropStep_hcount, hcount_modProc]
  by_cases hq : q = p
  · subst hq
    by_cases hp : q < w.procs.size
    · simp [hp]
    · simp [hp, World.hcount, proc_oob w q hp]
  · simp [hq]

theorem hinv_dropResources {w : World} (h : HInv w) (p : Pid) : HInv (dropResources w p) := by
  intro r q
  have hh : (dropResources w p).holder r = if w.holder r = some p then none else w.holder r := by
    unfold World.holder
    rw [dropResources_rv]
    have := h.mem_iff r p
    by_cases e : w.holder r = some p
    · rw [if_pos (this.2 e)]
      have e' : ((w.rv r).bind fun x => x.1) = some p := e
      rw [if_pos e']
      cases w.rv r <;> simp [clearHolder]
    · have e' : ¬ ((w.rv r).bind fun x => x.1) = some p := e
      rw [if_neg (fun m => e (this.1 m)), if_neg e']
  rw [dropResources_hcount, hh]
  by_cases hq : q = p
  · subst hq
    simp only [if_true]
    split <;> simp_all
  · simp only [hq, if_false]
    rw [h r q]
    by_cases e : w.holder r = some p
    · have : ¬ p = q := fun x => hq x.symm
      simp [e, this]
    · simp [e]

end CimbaModel.Sim
