/-
  S2 — buffers (C11): exact accounting of one pass of the get / put loops and of a whole call seen as the sequence of
  its passes.
-/
import CimbaModel.Sim.S2Buf

namespace CimbaModel.Sim
open CimbaModel CimbaModel.Event CimbaModel.Generated
open CimbaModel.HashHeap (HTag Item Order HH)

structure BView where
  cap : Nat
  level : Nat
  putTotal : Nat
  getTotal : Nat
  deriving DecidableEq, Repr

def Buf.view (x : Buf) : BView := ⟨x.cap, x.level, x.putTotal, x.getTotal⟩

def bufView (w : World) (b : Nat) : Option BView := w.bufs[b]?.map Buf.view

theorem bufView_of_eq {w w' : World} (h : w'.bufs = w.bufs) (b : Nat) : bufView w' b = bufView w b := by
  unfold bufView; rw [h]

theorem bufView_setRecord {a : Array Buf} {b : Nat} {x : Buf} (hx : a[b]? = some x) (y : Buf) (now : Int) :
    ((setRecord bufOps a b y now)[b]?).map Buf.view = some y.view := by
  rw [setRecord_get bufOps hx]
  split <;> rfl

def getTotalOf (w : World) (b : Nat) : Nat := match bufView w b with | some v => v.getTotal | none => 0
def putTotalOf (w : World) (b : Nat) : Nat := match bufView w b with | some v => v.putTotal | none => 0
def levelOf (w : World) (b : Nat) : Nat := match bufView w b with | some v => v.level | none => 0

theorem bufGetLoop_pass {w : World} (p : Pid) {b : Nat} {x : Buf} (hx : w.bufs[b]? = some x) (rem got : Nat) :
    (x.level ≥ rem ∧ (bufGetLoop w p b rem got).2 = .ret sigSuccess s!"amt={got + rem}" ∧
      bufView (bufGetLoop w p b rem got).1 b = some ⟨x.cap, x.level - rem, x.putTotal, x.getTotal + rem⟩) ∨
    (x.level < rem ∧ ∃ w1, bufGetLoop w p b rem got = block w1 p (.bufGet b (rem - x.level) (got + x.level)) ∧
      bufView w1 b = some ⟨x.cap, 0, x.putTotal, x.getTotal + x.level⟩) := by
  have hb := bufGetLoop_bufs p hx rem got
  by_cases hge : x.level ≥ rem
  · rw [if_pos hge] at hb
    refine Or.inl ⟨hge, ?_, ?_⟩
    · unfold bufGetLoop; simp only [hx, hge, if_true]
    · unfold bufView; rw [hb]; exact bufView_setRecord hx _ _
  · rw [if_neg hge] at hb
    refine Or.inr ⟨by omega, ?_⟩
    have hblk : ∃ w1, bufGetLoop w p b rem got = block w1 p (.bufGet b (rem - x.level) (got + x.level)) := by
      unfold bufGetLoop
      simp only [hx, hge, if_false]
      split
      · exact ⟨_, rfl⟩
      · rename_i h0
        have hz : x.level = 0 := by omega
        rw [hz]
        exact ⟨_, rfl⟩
    obtain ⟨w1, hw1⟩ := hblk
    refine ⟨w1, hw1, ?_⟩
    rw [hw1] at hb
    unfold bufView
    rw [show w1.bufs = (block w1 p (.bufGet b (rem - x.level) (got + x.level))).1.bufs from rfl, hb]
    split
    · exact bufView_setRecord hx _ _
    · rename_i h0
      have hz : x.level = 0 := by omega
      rw [hx]; simp [Buf.view, hz]

/-- `left` is what the caller will be told was *not* put -/
theorem bufPutLoop_pass {w : World} (p : Pid) {b : Nat} {x : Buf} (hx : w.bufs[b]? = some x) (rem left : Nat) :
    (x.cap - x.level ≥ rem ∧ (bufPutLoop w p b rem left).2 = .ret sigSuccess s!"amt={left - rem}" ∧
      bufView (bufPutLoop w p b rem left).1 b = some ⟨x.cap, x.level + rem, x.putTotal + rem, x.getTotal⟩) ∨
    (x.cap - x.level < rem ∧ ∃ w1, bufPutLoop w p b rem left =
        block w1 p (.bufPut b (rem - (x.cap - x.level)) (left - (x.cap - x.level))) ∧
      bufView w1 b = some ⟨x.cap, x.level + (x.cap - x.level), x.putTotal + (x.cap - x.level), x.getTotal⟩) := by
  have hb := bufPutLoop_bufs p hx rem left
  by_cases hge : x.cap - x.level ≥ rem
  · rw [if_pos hge] at hb
    refine Or.inl ⟨hge, ?_, ?_⟩
    · unfold bufPutLoop; simp only [hx, hge, if_true]
    · unfold bufView; rw [hb]; exact bufView_setRecord hx _ _
  · rw [if_neg hge] at hb
    refine Or.inr ⟨by omega, ?_⟩
    have hblk : ∃ w1, bufPutLoop w p b rem left =
        block w1 p (.bufPut b (rem - (x.cap - x.level)) (left - (x.cap - x.level))) := by
      unfold bufPutLoop
      simp only [hx, hge, if_false]
      split
      · exact ⟨_, rfl⟩
      · rename_i h0
        have hz : x.cap - x.level = 0 := by omega
        rw [hz]
        exact ⟨_, rfl⟩
    obtain ⟨w1, hw1⟩ := hblk
    refine ⟨w1, hw1, ?_⟩
    rw [hw1] at hb
    unfold bufView
    rw [show w1.bufs = (block w1 p (.bufPut b (rem - (x.cap - x.level)) (left - (x.cap - x.level)))).1.bufs from rfl, hb]
    split
    · rename_i h0
      rw [show x.level + (x.cap - x.level) = x.cap by omega]
      exact bufView_setRecord hx _ _
    · rename_i h0
      have hz : x.cap - x.level = 0 := by omega
      rw [hx]; simp [Buf.view, hz]

theorem execCmd_bufGet (w : World) (p : Pid) (b n : Nat) (hb : b < w.bufs.size) :
    execCmd w p (.bufGet b n) = bufGetLoop w p b n 0 := by
  simp only [execCmd]; rw [if_neg (by omega)]

theorem execCmd_bufPut (w : World) (p : Pid) (b n : Nat) (hb : b < w.bufs.size) (hn : n ≠ 0) :
    execCmd w p (.bufPut b n) = bufPutLoop w p b n n := by
  simp only [execCmd]; rw [if_neg (by rintro (h | h) <;> omega)]

theorem resumeFrame_bufGet (w : World) (p : Pid) (b rem got : Nat) (sig : Int) (x : Buf) (hx : w.bufs[b]? = some x) :
    resumeFrame w p (.bufGet b rem got) sig =
      if sig = sigSuccess then bufGetLoop (guardWaitLeave w x.front p sig) p b rem got
      else (guardWaitLeave w x.front p sig, .ret sig s!"amt={got}") := by
  simp only [resumeFrame, hx]

theorem resumeFrame_bufPut (w : World) (p : Pid) (b rem left : Nat) (sig : Int) (x : Buf) (hx : w.bufs[b]? = some x) :
    resumeFrame w p (.bufPut b rem left) sig =
      if sig = sigSuccess then bufPutLoop (guardWaitLeave w x.rear p sig) p b rem left
      else (guardWaitLeave w x.rear p sig, .ret sig s!"amt={left}") := by
  simp only [resumeFrame, hx]

theorem bufView_guardWaitLeave (w : World) (g : Nat) (p : Pid) (sig : Int) (b : Nat) :
    bufView (guardWaitLeave w g p sig) b = bufView w b := bufView_of_eq (guardWaitLeave_same w g p sig).bufs_eq b

theorem bufView_block (w : World) (p : Pid) (f : Frame) (b : Nat) : bufView (block w p f).1 b = bufView w b := rfl

/-- `GetRun p b rem got m sig extra`: a `cmb_buffer_get` by `p` on buffer `b`, suspended (or just starting) with remaining
    claim `rem` and `got` received so far, runs to its return `(sig, extra)` through some number of further passes which
    together move `m` units out of the buffer (measured on the ghost total).  Between two passes anything may happen to
    the world.  A pass that suspends stores the frame `(rem − level, got + level)` (`bufGetLoop_pass`), which is what
    the next pass is started with (`resumeFrame_bufGet`). -/
inductive GetRun (p : Pid) (b : Nat) : Nat → Nat → Nat → Int → String → Prop
  | last {w : World} {x : Buf} {rem got : Nat} {sig : Int} {extra : String} (hx : w.bufs[b]? = some x)
      (h : (bufGetLoop w p b rem got).2 = .ret sig extra) :
      GetRun p b rem got (getTotalOf (bufGetLoop w p b rem got).1 b - getTotalOf w b) sig extra
  | wait {w : World} {x : Buf} {rem got m : Nat} {sig : Int} {extra : String} (hx : w.bufs[b]? = some x)
      (h : x.level < rem)
      (rest : GetRun p b (rem - x.level) (got + x.level) m sig extra) :
      GetRun p b rem got (getTotalOf (bufGetLoop w p b rem got).1 b - getTotalOf w b + m) sig extra
  | intr {rem got : Nat} {sig : Int} (hs : sig ≠ sigSuccess) : GetRun p b rem got 0 sig s!"amt={got}"

theorem getTotalOf_of_view {w : World} {b : Nat} {v : BView} (h : bufView w b = some v) : getTotalOf w b = v.getTotal := by
  unfold getTotalOf; rw [h]

theorem putTotalOf_of_view {w : World} {b : Nat} {v : BView} (h : bufView w b = some v) : putTotalOf w b = v.putTotal := by
  unfold putTotalOf; rw [h]

theorem bufView_of_get {w : World} {b : Nat} {x : Buf} (hx : w.bufs[b]? = some x) : bufView w b = some x.view := by
  unfold bufView; rw [hx]; rfl

/-- **get_ok / get_intr**: however the call ends, it reports exactly `got` + what its passes moved; and if it ends with
    success, its passes moved exactly the remaining claim.  For a whole call (`rem = n`, `got = 0`): success reports and
    has transferred exactly `n`; an interrupted call reports exactly the part transferred before the interruption. -/
theorem GetRun.exact {p : Pid} {b rem got m : Nat} {sig : Int} {extra : String} (h : GetRun p b rem got m sig extra) :
    extra = s!"amt={got + m}" ∧ (sig = sigSuccess → m = rem) := by
  induction h with
  | @last w x rem got sig extra hx h =>
    rcases bufGetLoop_pass p hx rem got with ⟨hge, hret, hview⟩ | ⟨hlt, w1, hblk, _⟩
    · rw [hret] at h
      injection h with hs he
      have hm : getTotalOf (bufGetLoop w p b rem got).1 b - getTotalOf w b = rem := by
        rw [getTotalOf_of_view hview, getTotalOf_of_view (bufView_of_get hx)]
        simp [Buf.view]
      rw [hm]
      exact ⟨he.symm, fun _ => rfl⟩
    · rw [hblk] at h; cases h
  | @wait w x rem got m sig extra hx hlt rest ih =>
    rcases bufGetLoop_pass p hx rem got with ⟨hge, _, _⟩ | ⟨_, w1, hblk, hview⟩
    · omega
    · have hm : getTotalOf (bufGetLoop w p b rem got).1 b - getTotalOf w b = x.level := by
        rw [hblk, getTotalOf_of_view (by rw [bufView_block]; exact hview), getTotalOf_of_view (bufView_of_get hx)]
        simp [Buf.view]
      rw [hm]
      obtain ⟨e1, e2⟩ := ih
      refine ⟨by rw [e1, Nat.add_assoc], fun hs => ?_⟩
      have := e2 hs
      omega
  | intr hs => exact ⟨by simp, fun e => absurd e hs⟩

/-- the same for `cmb_buffer_put`; `left` is what the caller is told was *not* put -/
inductive PutRun (p : Pid) (b : Nat) : Nat → Nat → Nat → Int → String → Prop
  | last {w : World} {x : Buf} {rem left : Nat} {sig : Int} {extra : String} (hx : w.bufs[b]? = some x)
      (h : (bufPutLoop w p b rem left).2 = .ret sig extra) :
      PutRun p b rem left (putTotalOf (bufPutLoop w p b rem left).1 b - putTotalOf w b) sig extra
  | wait {w : World} {x : Buf} {rem left m : Nat} {sig : Int} {extra : String} (hx : w.bufs[b]? = some x)
      (h : x.cap - x.level < rem)
      (rest : PutRun p b (rem - (x.cap - x.level)) (left - (x.cap - x.level)) m sig extra) :
      PutRun p b rem left (putTotalOf (bufPutLoop w p b rem left).1 b - putTotalOf w b + m) sig extra
  | intr {rem left : Nat} {sig : Int} (hs : sig ≠ sigSuccess) : PutRun p b rem left 0 sig s!"amt={left}"

/-- **put_ok / put_intr**: the amount reported as not put is exactly `left` minus what the passes moved into the buffer;
    on success the passes moved exactly the remaining claim.  For a whole call (`rem = left = n`): success reports 0 left
    and has transferred exactly `n`; an interrupted call reports exactly `n` minus the part transferred. -/
theorem PutRun.exact {p : Pid} {b rem left m : Nat} {sig : Int} {extra : String} (h : PutRun p b rem left m sig extra)
    (hrl : rem ≤ left) : extra = s!"amt={left - m}" ∧ m ≤ rem ∧ (sig = sigSuccess → m = rem) := by
  induction h with
  | @last w x rem left sig extra hx h =>
    rcases bufPutLoop_pass p hx rem left with ⟨hge, hret, hview⟩ | ⟨hlt, w1, hblk, _⟩
    · rw [hret] at h
      injection h with hs he
      have hm : putTotalOf (bufPutLoop w p b rem left).1 b - putTotalOf w b = rem := by
        rw [putTotalOf_of_view hview, putTotalOf_of_view (bufView_of_get hx)]
        simp [Buf.view]
      rw [hm]
      exact ⟨he.symm, Nat.le_refl _, fun _ => rfl⟩
    · rw [hblk] at h; cases h
  | @wait w x rem left m sig extra hx hlt rest ih =>
    rcases bufPutLoop_pass p hx rem left with ⟨hge, _, _⟩ | ⟨_, w1, hblk, hview⟩
    · omega
    · have hm : putTotalOf (bufPutLoop w p b rem left).1 b - putTotalOf w b = x.cap - x.level := by
        rw [hblk, putTotalOf_of_view (by rw [bufView_block]; exact hview), putTotalOf_of_view (bufView_of_get hx)]
        simp [Buf.view]
      rw [hm]
      obtain ⟨e1, e2, e3⟩ := ih (by omega)
      refine ⟨by rw [e1]; congr 2; omega, by omega, fun hs => ?_⟩
      have := e3 hs
      omega
  | intr hs => exact ⟨by simp, Nat.zero_le _, fun e => absurd e hs⟩

end CimbaModel.Sim
