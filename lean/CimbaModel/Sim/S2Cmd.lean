/-
  S2 — the commands (`execCmd`) and the resumption of suspended calls (`resumeFrame`): `execCmd_ft`, `resumeFrame_ft`,
  one chain per command and frame; `cmdMask`, `frameMask` say which columns it may move.
-/
import CimbaModel.Sim.S2Ft
import CimbaModel.HashHeap.Count

namespace CimbaModel.Sim
open CimbaModel CimbaModel.Event CimbaModel.Generated
open CimbaModel.HashHeap (HTag Item Order HH)

def cmdMask : Cmd → Mask
  | .stop _ _ | .exit _ => mEnd
  | .prioSet _ _ => mPoolsPrio
  | .acquire _ | .preempt _ => mResHeldB
  | .release _ => mResHeld
  | .poolAcquire _ _ | .poolPreempt _ _ => mPoolsHeldB
  | .poolRelease _ _ => mPoolsHeld
  | .bufGet _ _ | .bufPut _ _ => mBufsB
  | .oqGet _ | .oqPut _ _ => mOqsB
  | .pqGet _ | .pqPut _ _ _ _ => mPqsB
  | .pqCancel _ _ | .pqReprio _ _ _ => mPqs
  | .recStart kind _ | .recStop kind _ => recMask kind
  | .hold _ | .yield | .waitProc _ | .waitEvent _ | .condWait _ _ _ _ => mBlocked
  | _ => {}

def frameMask : Frame → Mask
  | .acquire _ => mResHeldB
  | .pool _ _ _ _ => mPoolsHeldB
  | .bufGet _ _ _ | .bufPut _ _ _ => mBufsB
  | .oqGet _ | .oqPut _ _ => mOqsB
  | .pqGet _ | .pqPut _ _ _ _ => mPqsB
  | _ => {}

/-- `cmb_process_priority_set`: what it does for something the process waits for touches no object, holding or frame -/
theorem prioAwaitStep_same (q : Pid) (v : Int) (w : World) (a : Await) : Same w (S3.prioAwaitStep q v w a) := by
  unfold S3.prioAwaitStep
  split
  · split
    · rename_i ev' hr
      have := timeOk_reprioritize hr
      exact ⟨rfl, rfl, rfl, rfl, rfl, this.1, this.2, rfl, fun _ => rfl, fun _ => rfl, fun _ => rfl⟩
    · exact fail_same w _
  · unfold S3.reprioGuard
    split
    · split
      · split
        · split
          · exact setGuardQ_same w _ _
          · exact fail_same w _
        · exact fail_same w _
      · exact Same.refl w
    · exact Same.refl w
  · exact Same.refl w

theorem prioSet_ft (w : World) (p q : Pid) (v : Int) : Ft mPoolsPrio w (execCmd w p (.prioSet q v)).1 :=
  prioSet_rel (Ft.path _) q v
    (fun w => .pooled (Fp.mono rfl (modProc_fp_prio w q _ (fun _ => rfl) (fun _ => rfl))) rfl rfl rfl rfl rfl rfl)
    (fun w m => .same _ (fail_same w m))
    (fun w ev' h hr => .same _ ⟨rfl, rfl, rfl, rfl, rfl, (timeOk_reprioritize hr).1, (timeOk_reprioritize hr).2, rfl,
      fun _ => rfl, fun _ => rfl, fun _ => rfl⟩)
    (fun w g q' => .same _ (setGuardQ_same w g q')) (fun w pl x h' hx _ => .mono rfl (.setHolders hx h')) w p

/-- `cmb_resource_preempt`, the holder has to yield: it loses the resource, whatever it waits for is withdrawn and it is
    interrupted with PREEMPTED; the caller takes the resource (held before, held after: no sample) -/
def resTakeFrom (w : World) (p : Pid) (r : Nat) (victim : Pid) : World :=
  let w := (removeHeld w victim (.res r)).1
  let w := cancelAwaiteds w victim
  let w := { w with res := w.res.modify r fun y => { y with holder := none } }
  let w := (sched w aPreempt (victim + 1) sigPreempted w.now (w.proc victim).prio).1
  grab w r p

theorem execCmd_preempt (w : World) (p : Pid) (r : Nat) :
    execCmd w p (.preempt r) =
      match w.res[r]? with
      | none => (w, .skip)
      | some x =>
        if x.holder = some p then (w, .skip) else
        match x.holder with
        | none => (recordRes (grab w r p) r, .ret sigSuccess "")
        | some victim =>
          if (w.proc p).prio ≥ (w.proc victim).prio then (resTakeFrom w p r victim, .ret sigSuccess "")
          else acquireStep w p r := rfl

theorem resTakeFrom_fp (w : World) (p : Pid) (r : Nat) (victim : Pid) : Fp mResHeld w (resTakeFrom w p r victim) := by
  unfold resTakeFrom
  dsimp only
  refine Fp.trans ?_ (grab_fp _ r p)
  refine Fp.trans ?_ (Same.fp _ (sched_same _ _ _ _ _ _))
  refine Fp.trans ?_ (Fp.mono rfl (fp_res _ _))
  refine Fp.trans ?_ (Same.fp _ (cancelAwaiteds_same _ _))
  exact Fp.mono rfl (removeHeld_fp w _ _)

theorem resTakeFrom_quiet (w : World) (p : Pid) (r : Nat) (victim : Pid) : PoolQuiet w (resTakeFrom w p r victim) := by
  unfold resTakeFrom
  dsimp only
  refine PoolQuiet.path.trans ?_ ⟨fun q pl => grab_pool_mem _ r p q pl, NNP.of_fp (grab_fp _ r p) rfl⟩
  refine PoolQuiet.path.trans ?_ (.of_fp (Same.fp {} (sched_same _ _ _ _ _ _)) rfl rfl)
  refine PoolQuiet.path.trans ?_ (.of_fp (fp_res _ _) rfl rfl)
  refine PoolQuiet.path.trans ?_ (.of_fp (Same.fp {} (cancelAwaiteds_same _ _)) rfl rfl)
  exact (Ft.removeHeldRes w victim r).quiet rfl

/-- the holder changes from the victim to the caller: the recorded value (held) stays -/
theorem resTakeFrom_ft {w : World} {r : Nat} {x : Res} {victim : Pid} (hx : w.res[r]? = some x) (hv : x.holder = some victim)
    (p : Pid) : Ft mResHeld w (resTakeFrom w p r victim) := by
  refine .ofFp (resTakeFrom_fp w p r victim) (fun _ => ?_) nofun nofun nofun nofun fun _ => resTakeFrom_quiet w p r victim
  have h1 : Fp mHeld w (cancelAwaiteds (removeHeld w victim (.res r)).1 victim) :=
    Fp.trans (removeHeld_fp w victim _) (Same.fp _ (cancelAwaiteds_same _ victim))
  unfold resTakeFrom
  dsimp only
  rw [grab_res, (sched_same _ _ _ _ _ _).res_eq]
  dsimp only
  rw [h1.res_eq rfl, Array.getElem?_modify, if_pos rfl, hx]
  dsimp only [Option.map]
  rw [Array.set!_eq_setIfInBounds, setIfInBounds_modify]
  exact RecStep.same hx rfl rfl (by simp [resOps, hv])

/-- `cmb_resourcepool_release` of `n` units, the caller's record: it shrinks by `n`, or goes -/
def poolGive (w : World) (p : Pid) (pl : Nat) (x : Pool) (n : Nat) : World :=
  if heldAmount w pl p = n then
    match HashHeap.remove holder_queue_check x.holders (p + 1) with
    | .ok (h', _) => (removeHeld { w with pools := w.pools.set! pl { x with holders := h' } } p (.pool pl)).1
    | .error f => w.fail s!"pool release: {f}"
  else setHeldAmount w pl p (heldAmount w pl p - n)

theorem execCmd_poolRelease {w : World} {pl : Nat} {x : Pool} (hx : w.pools[pl]? = some x) (p : Pid) (n : Nat) :
    execCmd w p (.poolRelease pl n) =
      if n = 0 ∨ n > heldAmount w pl p then (w, .skip)
      else (signal (recordPool (setPoolInUse (poolGive w p pl x n) pl (x.inUse - n)) pl) x.guard, .ret 0 "") := by
  simp only [execCmd, hx]
  rfl

theorem poolGive_ft (w : World) (p : Pid) (pl : Nat) {x : Pool} (hx : w.pools[pl]? = some x) (n : Nat) :
    Ft mPoolsHeld w (poolGive w p pl x n) := by
  unfold poolGive
  split
  · split
    · exact Ft.trans (.mono rfl (.setHolders hx _)) (.pooled (Fp.mono rfl (removeHeld_fp _ p _)) rfl rfl rfl rfl rfl rfl)
    · exact .same _ (fail_same w _)
  · exact .mono rfl (setHeldAmount_ft w pl p _)

theorem execCmd_ft (w : World) (p : Pid) (c : Cmd) : Ft (cmdMask c) w (execCmd w p c).1 := by
  cases c
  case preempt r =>
    rw [execCmd_preempt]
    split
    · exact .refl _ w
    · rename_i x hx
      split
      · exact .refl _ w
      · split
        · exact .mono rfl (.grabRecord w r p)
        · rename_i victim hvic
          split
          · -- `dsimp only` reduces `(x, o).1`; left to the unifier, it unfolds `resTakeFrom` on the other side first
            dsimp only
            exact .mono rfl (resTakeFrom_ft hx hvic p)
          · exact acquireStep_ft w p r
  all_goals simp only [execCmd]
  case hold d => exact Ft.trans (.same _ (timerAdd_same w p d _)) (.suspend _ p rfl)
  case yield => exact .suspend w p rfl
  case timerAdd v d sig => exact .same _ (Same.trans (timerAdd_same w p d sig) (setVar_same _ p v _))
  case timerSet v d sig =>
    exact .same _ (Same.trans (Same.trans (timersClear_same w p) (timerAdd_same _ p d sig)) (setVar_same _ p v _))
  case timerCancel v =>
    split
    · exact .refl _ w
    · exact .same _ (timerCancel_same w p _)
  case timersClear => exact .same _ (timersClear_same w p)
  case timersClearOf q =>
    split
    · exact .refl _ w
    · exact .same _ (timersClear_same w q)
  case timerAddOf q d sig =>
    split
    · exact .refl _ w
    · exact .same _ (timerAdd_same w q d sig)
  case resume q sig =>
    split
    · exact .refl _ w
    · exact .same _ (sched_same w _ _ _ _ _)
  case interrupt q sig pri =>
    split
    · exact .refl _ w
    · exact .same _ (sched_same w _ _ _ _ _)
  case stop q val =>
    split
    · exact finishProc_ft w p val true
    · split
      · exact finishProc_ft w q val true
      · exact .refl _ w
  case start q =>
    split
    · exact .refl _ w
    · exact .same _ (sched_same w _ _ _ _ _)
  case exit val => exact finishProc_ft w p val false
  case prioSet q v => exact prioSet_ft w p q v
  case waitProc q =>
    split
    · exact .refl _ w
    · split
      · exact .refl _ w
      · refine Ft.trans ?_ (.suspend _ p rfl)
        exact .same _ (Same.trans (addAwait_same w p _) (modProc_same _ q _ (fun _ => rfl) (fun _ => rfl) (fun _ => rfl)))
  case schedUser v d pri => exact .same _ (Same.trans (sched_same w _ _ _ _ _) (setVar_same _ p v _))
  case cancelUser v =>
    split
    · exact .refl _ w
    · exact .same _ (evCancel_same w _)
  case cancelUserAll => exact .same _ (cancelUserAll_same w)
  case waitEvent v =>
    split
    · exact .refl _ w
    · refine Ft.trans ?_ (.suspend _ p rfl)
      exact .same _ (Same.trans (same_mk w _ _ _ _ _) (addAwait_same _ p _))
  case acquire r => exact acquireStep_ft w p r
  case release r =>
    split
    · exact .refl _ w
    · rename_i x hx
      split
      · exact .refl _ w
      · dsimp only
        refine Ft.trans ?_ (.same _ (signal_same _ _))
        refine Ft.trans (.mono rfl (.removeHeldRes w p r)) ?_
        exact .mono rfl (.updRes (w := (removeHeld w p (.res r)).1) hx rfl)
  case poolAcquire pl n =>
    split
    · exact .refl _ w
    · split
      · exact .refl _ w
      · exact poolLoop_ft w p pl n _ false
  case poolPreempt pl n =>
    split
    · exact .refl _ w
    · split
      · exact .refl _ w
      · exact poolLoop_ft w p pl n _ true
  case poolRelease pl n =>
    split
    · exact .refl _ w
    · rename_i x hx
      split
      · exact .refl _ w
      · dsimp only
        refine Ft.trans ?_ (.same _ (signal_same _ _))
        refine Ft.trans ?_ (.mono rfl (.charge _ pl _))
        exact poolGive_ft w p pl hx n
  case bufGet b n =>
    split
    · exact .refl _ w
    · exact bufGetLoop_ft w p b n 0
  case bufPut b n =>
    split
    · exact .refl _ w
    · exact bufPutLoop_ft w p b n n
  case oqGet q =>
    split
    · exact .refl _ w
    · exact oqGetLoop_ft w p q
  case oqPut q obj =>
    split
    · exact .refl _ w
    · exact oqPutLoop_ft w p q obj
  case pqGet k =>
    split
    · exact .refl _ w
    · exact pqGetLoop_ft w p k
  case pqPut k obj pri v =>
    split
    · exact .refl _ w
    · exact pqPutLoop_ft w p k obj pri v
  case pqCancel k v =>
    split
    · exact .refl _ w
    · rename_i x hx
      split
      · exact .refl _ w
      · rename_i h0
        split
        · rename_i q' r hr
          dsimp only
          cases r with
          | true => exact Ft.trans (.updPQ hx (.cancel x h0 hr) (Same.refl _)) (.same _ (signal_same _ _))
          | false =>
            -- nothing was removed: the queue is what it was
            exact .quietPQ hx (.cancel x h0 hr) (congrArg HH.count (HashHeap.remove_false_eq hr))
        · exact .same _ (fail_same w _)
  case pqReprio k v pri =>
    split
    · exact .refl _ w
    · rename_i x hx
      split
      · exact .refl _ w
      · rename_i h0
        split
        · rename_i q' hr
          exact .quietPQ hx (.reprio x (fun e => h0 (Or.inr e)) hr) (HashHeap.reprioritize_count hr)
        · exact .same _ (fail_same w _)
  case pqPos k v =>
    split
    · exact .refl _ w
    · split
      · exact .refl _ w
      · exact .refl _ w
  case condWait c kind a b =>
    split
    · exact .refl _ w
    · exact Ft.trans (.same _ (guardWaitEnter_same w _ p _)) (.suspend _ p rfl)
  case condSignal c =>
    split
    · exact .refl _ w
    · exact .same _ (condSignal_same w _)
  case condCancel c q =>
    split
    · exact .refl _ w
    · split
      · exact .refl _ w
      · rename_i g _ _
        refine Ft.trans (.same _ (guardRemove_same w g q)) ?_
        split
        · exact .same _ (sched_same _ _ _ _ _ _)
        · exact .refl _ _
  case condRemove c q =>
    split
    · exact .refl _ w
    · split
      · exact .refl _ w
      · exact .same _ (guardRemove_same w _ q)
  case setFlag k v => exact .same _ (same_mk w _ _ _ _ _)
  case recStart kind idx => exact setRecording_ft w kind idx true
  case recStop kind idx => exact setRecording_ft w kind idx false

theorem execCmd_fp (w : World) (p : Pid) (c : Cmd) : Fp (cmdMask c) w (execCmd w p c).1 := (execCmd_ft w p c).fp

/-- a suspended call of a guarded loop is resumed: it leaves the guard, and goes through its loop once more if it was
    granted -/
theorem resume_again {Q : World → World → Prop} (hQ : Path Q) {w : World} {g : Nat} {p : Pid} {sig : Int}
    {r : World × Outcome} {o : Outcome} (leave : Q w (guardWaitLeave w g p sig)) (again : Q (guardWaitLeave w g p sig) r.1) :
    Q w (if sig = sigSuccess then r else (guardWaitLeave w g p sig, o)).1 :=
  ite_of (P := fun r : World × Outcome => Q w r.1) (fun _ => hQ.trans leave again) (fun _ => leave)

theorem resumeFrame_ft (w : World) (p : Pid) (f : Frame) (sig : Int) : Ft (frameMask f) w (resumeFrame w p f sig).1 := by
  cases f <;> simp only [resumeFrame]
  case hold h =>
    split
    · dsimp only
      exact .same _ (Same.trans (timerCancel_same w p h) (removeAwait_same _ p _))
    · exact .refl _ w
  case yield => exact .refl _ w
  case waitProc q =>
    split
    · split
      · exact .same _ (Same.trans (removeAwait_same w p _) (modProc_same _ q _ (fun _ => rfl) (fun _ => rfl) (fun _ => rfl)))
      · dsimp only
        exact .same _ (Same.trans (removeAwait_same w p _) (cancelKindFor_same _ p _ _))
    · exact .same _ (removeAwait_same w p _)
  case waitEvent h =>
    split
    · split
      · exact .same _ (Same.trans (removeAwait_same w p _) (same_mk _ _ _ _ _ _))
      · dsimp only
        exact .same _ (Same.trans (removeAwait_same w p _) (cancelKindFor_same _ p _ _))
    · exact .same _ (removeAwait_same w p _)
  case acquire r =>
    split
    · exact .refl _ w
    · exact resume_again (Ft.path _) (.same _ (guardWaitLeave_same w _ p sig)) (acquireStep_ft _ p r)
  case pool pl rem ini pre =>
    split
    · exact .refl _ w
    · split
      · exact Ft.trans (.same _ (guardWaitLeave_same w _ p sig)) (.mono rfl (poolRollback_ft _ p pl ini))
      · exact Ft.trans (.same _ (guardWaitLeave_same w _ p sig)) (poolLoop_ft _ p pl rem ini pre)
  case bufGet b rem got =>
    split
    · exact .refl _ w
    · exact resume_again (Ft.path _) (.same _ (guardWaitLeave_same w _ p sig)) (bufGetLoop_ft _ p b rem got)
  case bufPut b rem left =>
    split
    · exact .refl _ w
    · exact resume_again (Ft.path _) (.same _ (guardWaitLeave_same w _ p sig)) (bufPutLoop_ft _ p b rem left)
  case oqGet q =>
    split
    · exact .refl _ w
    · exact resume_again (Ft.path _) (.same _ (guardWaitLeave_same w _ p sig)) (oqGetLoop_ft _ p q)
  case oqPut q obj =>
    split
    · exact .refl _ w
    · exact resume_again (Ft.path _) (.same _ (guardWaitLeave_same w _ p sig)) (oqPutLoop_ft _ p q obj)
  case pqGet k =>
    split
    · exact .refl _ w
    · exact resume_again (Ft.path _) (.same _ (guardWaitLeave_same w _ p sig)) (pqGetLoop_ft _ p k)
  case pqPut k obj pri v =>
    split
    · exact .refl _ w
    · exact resume_again (Ft.path _) (.same _ (guardWaitLeave_same w _ p sig)) (pqPutLoop_ft _ p k obj pri v)
  case condWait c =>
    split
    · exact .refl _ w
    · split
      · dsimp only
        exact .same _ (Same.trans (guardWaitLeave_same w _ p sig) (cancelKindFor_same _ p _ _))
      · exact .same _ (guardWaitLeave_same w _ p sig)

theorem resumeFrame_fp (w : World) (p : Pid) (f : Frame) (sig : Int) : Fp (frameMask f) w (resumeFrame w p f sig).1 :=
  (resumeFrame_ft w p f sig).fp

end CimbaModel.Sim
