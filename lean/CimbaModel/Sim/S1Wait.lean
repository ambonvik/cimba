/-
  S1 — waiting for the end of a process (C09): the registration invariant `WInv`.
  Views: `w.pa p` (which process ends `p` awaits), the waiter lists, the suspended frame, and the number `np w p` of
  pending process-end wake-ups addressed to `p`.
-/
import CimbaModel.Sim.S1Pend

namespace CimbaModel.Sim
open CimbaModel CimbaModel.Event CimbaModel.Generated
open CimbaModel.HashHeap (HTag Item Order HH)

def isAProc (z : Pid) (it : Item) : Bool := it.a = aProc && it.b = z + 1

def np (w : World) (z : Pid) : Nat := cnt (isAProc z) w

structure WInv (w : World) : Prop where
  reg : ∀ p q, p ∈ (w.proc q).waiters → q ∈ w.pa p
  nodup : ∀ q, (w.proc q).waiters.Nodup
  /-- a process awaits at most one process end, and only while suspended in `wait_process` on it -/
  frame : ∀ p, w.pa p = [] ∨ ∃ q, w.pa p = [q] ∧ (w.proc p).blocked = some (.waitProc q)
  one : ∀ p, np w p ≤ 1
  /-- a process with a pending process-end wake-up still awaits a process end and is registered nowhere -/
  woken : ∀ p, 0 < np w p → w.pa p ≠ [] ∧ ∀ q, p ∉ (w.proc q).waiters
  subj : ∀ e ∈ w.ev.pending, e.item.a = aProc → 1 ≤ e.item.b

theorem WInv.free {w : World} (h : WInv w) (p : Pid) (hp : w.pa p = []) :
    (∀ q, p ∉ (w.proc q).waiters) ∧ np w p = 0 := by
  constructor
  · intro q hm
    have := h.reg p q hm
    rw [hp] at this; cases this
  · apply Classical.byContradiction
    intro hn
    exact (h.woken p (by omega)).1 hp

def notProc (a : Nat) : Bool := a != aProc

theorem allButProc_notProc : AllButProc notProc := ⟨rfl, rfl, rfl, rfl, rfl, rfl, rfl, rfl, rfl⟩

theorem npLe_closed (w0 : World) : EvClosed notProc fun w => ∀ z, np w z ≤ np w0 z where
  ev_only := fun h e z => by unfold np; rw [cnt_of_ev e]; exact h z
  sub := fun w ev' hs h z => by
    have : np { w with ev := ev' } z ≤ np w z := hs.countP_le
    exact Nat.le_trans this (h z)
  sched := fun w a s sig t pri ha h z => by
    have hn : isAProc z ⟨a, s, encSig sig, 0⟩ = false := by
      unfold isAProc notProc at *
      simp at ha ⊢
      intro e; exact absurd e ha
    exact Nat.le_trans (cnt_sched_of_not _ w a s sig t pri hn) (h z)

/-- the event-queue part of the invariant relative to a starting world -/
def WEv (w0 w : World) : Prop :=
  (∀ z, np w z ≤ np w0 z) ∧ ∀ e ∈ w.ev.pending, e.item.a = aProc → 1 ≤ e.item.b

theorem wev_closed (w0 : World) : EvClosed notProc (WEv w0) where
  ev_only := fun h e => ⟨(npLe_closed w0).ev_only h.1 e, by rw [e]; exact h.2⟩
  sub := fun w ev' hs h => ⟨(npLe_closed w0).sub w ev' hs h.1, fun e he => h.2 e (hs.subset he)⟩
  sched := fun w a s sig t pri ha h => by
    refine ⟨(npLe_closed w0).sched w a s sig t pri ha h.1, ?_⟩
    intro e he hp
    rcases sched_pending_cases w a s sig t pri with e' | e' <;> rw [e'] at he
    · exact h.2 e he hp
    · rcases List.mem_cons.1 he with rfl | he
      · simp [notProc] at ha; exact absurd hp ha
      · exact h.2 e he hp

theorem WInv.wev {w : World} (h : WInv w) : WEv w w := ⟨fun _ => Nat.le_refl _, h.subj⟩

/-- the invariant looks at four views only; the wake-up count may shrink; the frame of a process that awaits no
    process end is irrelevant -/
theorem WInv.of_views' {w w' : World} (h : WInv w)
    (hpa : ∀ z, w'.pa z = w.pa z) (hwt : ∀ q, (w'.proc q).waiters = (w.proc q).waiters)
    (hbl : ∀ z, w.pa z ≠ [] → (w'.proc z).blocked = (w.proc z).blocked) (hev : WEv w w') : WInv w' := by
  refine ⟨?_, ?_, ?_, ?_, ?_, hev.2⟩
  · intro p q hm; rw [hwt] at hm; rw [hpa]; exact h.reg p q hm
  · intro q; rw [hwt]; exact h.nodup q
  · intro p
    rcases h.frame p with e | ⟨q, e, b⟩
    · left; rw [hpa]; exact e
    · right; refine ⟨q, by rw [hpa]; exact e, ?_⟩
      rw [hbl p (by rw [e]; simp)]; exact b
  · intro p; exact Nat.le_trans (hev.1 p) (h.one p)
  · intro p hp
    have := h.woken p (Nat.lt_of_lt_of_le hp (hev.1 p))
    refine ⟨by rw [hpa]; exact this.1, fun q => by rw [hwt]; exact this.2 q⟩

/-- the form for a step of a process `p` that awaits no process end: its own frame may change -/
theorem WInv.of_step {w w' : World} (h : WInv w) {p : Pid} (hp : w.pa p = [])
    (hpa : ∀ z, w'.pa z = w.pa z) (hwt : ∀ q, (w'.proc q).waiters = (w.proc q).waiters)
    (hbl : ∀ z, z ≠ p → (w'.proc z).blocked = (w.proc z).blocked) (hev : WEv w w') : WInv w' :=
  h.of_views' hpa hwt (fun z hz => hbl z fun e => hz (e ▸ hp)) hev

theorem WInv.of_same {w w' : World} (h : WInv w) (hp : w'.procs = w.procs) (he : w'.ev = w.ev) : WInv w' :=
  h.of_views' (pa_congr fun q => by rw [proc_congr hp]) (fun q => by rw [proc_congr hp])
    (fun z _ => by rw [proc_congr hp]) ((wev_closed w).ev_only h.wev he)

@[simp] theorem procOf_proc (q : Pid) : procOf (.proc q) = some q := rfl
@[simp] theorem procOf_time (h : Nat) : procOf (.time h) = none := rfl
@[simp] theorem procOf_guard (g : Nat) : procOf (.guard g) = none := rfl
@[simp] theorem procOf_event (h : Nat) : procOf (.event h) = none := rfl

@[simp] theorem pa_mk (w : World) (ev : EvQ) (evW : List (Nat × List Pid)) (guards : Array Guard)
    (res : Array Res) (pools : Array Pool) (bufs : Array Buf) (oqs : Array OQ) (pqs : Array PQ) (conds : Array Nat)
    (flags : Array Int) (gvars : Array Nat) (log : Array String) (fault : Option String) (d : Nat) (q : Pid) :
    World.pa ⟨ev, evW, w.procs, guards, res, pools, bufs, oqs, pqs, conds, flags, gvars, log, fault, d⟩ q
      = w.pa q := rfl

theorem pa_modProc (w : World) (p : Pid) (f : Proc → Proc) (z : Pid) :
    (w.modProc p f).pa z = if z = p ∧ p < w.procs.size then
      (f (w.proc p)).awaits.filterMap procOf else w.pa z := by
  unfold World.pa; rw [proc_modProc]; split <;> rfl

@[simp] theorem pa_modProc_keep (w : World) (p : Pid) (f : Proc → Proc) (hf : ∀ x, (f x).awaits = x.awaits) (z : Pid) :
    (w.modProc p f).pa z = w.pa z := by
  rw [pa_modProc]; split
  · rename_i h; obtain ⟨rfl, _⟩ := h; unfold World.pa; rw [hf]
  · rfl

@[simp] theorem addAwait_pa_other (w : World) (p : Pid) (a : Await) (ha : ∀ q, a ≠ .proc q) (z : Pid) :
    (addAwait w p a).pa z = w.pa z := by
  unfold addAwait
  rw [pa_modProc]; split
  · rename_i h; obtain ⟨rfl, _⟩ := h
    unfold World.pa
    cases a <;> simp_all [List.filterMap_cons]
  · rfl

theorem filterMap_removeFirst_other (l : List Await) (a : Await) (ha : ∀ q, a ≠ .proc q) :
    (removeFirst l a).1.filterMap procOf
      = l.filterMap procOf := by
  induction l with
  | nil => rfl
  | cons x xs ih =>
    unfold removeFirst
    split
    · rename_i e; subst e
      cases x <;> simp_all [List.filterMap_cons]
    · dsimp only
      rw [List.filterMap_cons, List.filterMap_cons, ih]

@[simp] theorem removeAwait_pa_other (w : World) (p : Pid) (a : Await) (ha : ∀ q, a ≠ .proc q) (z : Pid) :
    (removeAwait w p a).1.pa z = w.pa z := by
  unfold removeAwait; dsimp only
  rw [pa_modProc]; split
  · rename_i h; obtain ⟨rfl, _⟩ := h
    unfold World.pa; dsimp only
    exact filterMap_removeFirst_other _ a ha
  · rfl

theorem filterMap_go_other (k : Await → Bool) (hk : ∀ q, k (.proc q) = false) (l : List Await) :
    (removeAwaitKind.go k l).1.filterMap procOf
      = l.filterMap procOf := by
  induction l with
  | nil => rfl
  | cons x xs ih =>
    unfold removeAwaitKind.go
    split
    · rename_i e
      cases x <;> simp_all [List.filterMap_cons]
    · dsimp only
      rw [List.filterMap_cons, List.filterMap_cons, ih]

@[simp] theorem removeAwaitKind_pa_other (w : World) (p : Pid) (k : Await → Bool) (hk : ∀ q, k (.proc q) = false)
    (z : Pid) : (removeAwaitKind w p k).1.pa z = w.pa z := by
  unfold removeAwaitKind; dsimp only
  rw [pa_modProc]; split
  · rename_i h; obtain ⟨rfl, _⟩ := h
    unfold World.pa; dsimp only
    exact filterMap_go_other k hk _
  · rfl

theorem filterMap_procOf_filter (l : List Await) : (l.filter isProcA).filterMap procOf = l.filterMap procOf := by
  induction l with
  | nil => rfl
  | cons a l ih => cases a <;> simp [List.filter_cons, List.filterMap_cons, isProcA, procOf, ih]

/-- whose end a process awaits is read off the `.proc` part of its awaited things -/
theorem Outside.pa {p : Pid} {s : Scope} {w0 w : World} (o : Outside p s w0 w) (z : Pid) (h : s.awaitsP.Out p z) :
    w.pa z = w0.pa z := by
  unfold World.pa
  rw [← filterMap_procOf_filter, o.awaitsP z h, filterMap_procOf_filter]

@[simp] theorem timerAdd_pa (w : World) (p : Pid) (d sig : Int) (z : Pid) : (timerAdd w p d sig).1.pa z = w.pa z :=
  (timerAdd_eff w p d sig).outside.pa z (.inl rfl)

@[simp] theorem timerCancel_pa (w : World) (p : Pid) (x : Nat) (z : Pid) : (timerCancel w p x).1.pa z = w.pa z :=
  (timerCancel_eff w p x).outside.pa z (.inl rfl)

@[simp] theorem timersClear_pa (w : World) (p : Pid) (z : Pid) : (timersClear w p).pa z = w.pa z :=
  (timersClear_eff w p).outside.pa z (.inl rfl)

@[simp] theorem guardWaitEnter_pa (w : World) (g : Nat) (p : Pid) (d : Demand) (z : Pid) :
    (guardWaitEnter w g p d).pa z = w.pa z := (guardWaitEnter_eff w g p d).outside.pa z (.inl rfl)

@[simp] theorem guardWaitLeave_pa (w : World) (g : Nat) (p : Pid) (sig : Int) (z : Pid) :
    (guardWaitLeave w g p sig).pa z = w.pa z := (guardWaitLeave_eff w g p sig).outside.pa z (.inl rfl)

theorem removeFirst_flag {α : Type _} [DecidableEq α] (l : List α) (a : α) : (removeFirst l a).2 = true ↔ a ∈ l := by
  induction l with
  | nil => simp [removeFirst]
  | cons x xs ih =>
    unfold removeFirst
    by_cases e : x = a
    · simp [e]
    · simp only [e, if_false, List.mem_cons]
      rw [ih]
      constructor
      · intro h; exact Or.inr h
      · rintro (h | h)
        · exact absurd h.symm e
        · exact h

theorem removeFirst_sublist {α : Type _} [DecidableEq α] (l : List α) (a : α) : (removeFirst l a).1.Sublist l := by
  induction l with
  | nil => exact List.Sublist.refl _
  | cons x xs ih =>
    unfold removeFirst
    by_cases e : x = a
    · simp only [e, if_true]; exact List.sublist_cons_self _ _
    · simp only [e, if_false]; exact ih.cons_cons _

theorem removeFirst_mem {α : Type _} [DecidableEq α] {l : List α} {a x : α} (h : x ∈ (removeFirst l a).1) : x ∈ l :=
  (removeFirst_sublist l a).subset h

theorem removeFirst_mem_ne {α : Type _} [DecidableEq α] {l : List α} {a x : α} (h : x ∈ l) (hx : x ≠ a) :
    x ∈ (removeFirst l a).1 := by
  induction l with
  | nil => cases h
  | cons y ys ih =>
    unfold removeFirst
    by_cases e : y = a
    · simp only [e, if_true]
      rcases List.mem_cons.1 h with rfl | h
      · exact absurd e hx
      · exact h
    · simp only [e, if_false]
      rcases List.mem_cons.1 h with rfl | h
      · exact List.mem_cons_self
      · exact List.mem_cons_of_mem _ (ih h)

theorem removeFirst_nodup {α : Type _} [DecidableEq α] {l : List α} (a : α) (h : l.Nodup) : (removeFirst l a).1.Nodup :=
  h.sublist (removeFirst_sublist l a)

theorem removeFirst_not_mem {α : Type _} [DecidableEq α] {l : List α} (a : α) (h : l.Nodup) : a ∉ (removeFirst l a).1 := by
  induction l with
  | nil => simp [removeFirst]
  | cons y ys ih =>
    rw [List.nodup_cons] at h
    unfold removeFirst
    by_cases e : y = a
    · simp only [e, if_true]; rw [← e]; exact h.1
    · simp only [e, if_false, List.mem_cons, not_or]
      exact ⟨fun x => e x.symm, ih h.2⟩

theorem removeFirst_absent {α : Type _} [DecidableEq α] {l : List α} {a : α} (h : a ∉ l) : (removeFirst l a).1 = l := by
  induction l with
  | nil => rfl
  | cons y ys ih =>
    simp only [List.mem_cons, not_or] at h
    unfold removeFirst
    have : ¬ y = a := fun e => h.1 e.symm
    simp only [this, if_false]
    rw [ih h.2]

end CimbaModel.Sim
