/-
  First lemmas about the primitives of the process-layer model.
-/
import CimbaModel.Sim.Model

namespace CimbaModel.Sim
open CimbaModel CimbaModel.Event CimbaModel.Generated
open CimbaModel.HashHeap (HTag Item Order HH)

theorem sched_ok (w : World) (act subj : Nat) (sig t pri : Int) (ht : w.now ≤ t) :
    (sched w act subj sig t pri).2 = w.ev.counter + 1 ∧
    (sched w act subj sig t pri).1.ev.pending =
      { key := w.ev.counter + 1, item := ⟨act, subj, encSig sig, 0⟩, d := t, i := pri } :: w.ev.pending ∧
    (sched w act subj sig t pri).1.now = w.now ∧
    (sched w act subj sig t pri).1.procs = w.procs ∧
    (sched w act subj sig t pri).1.res = w.res := by
  unfold sched schedule World.now at *
  have : ¬ t < w.ev.now := by omega
  simp [this, KPQ.insert, KPQ.norm]

theorem sched_mem_now (w : World) (act subj : Nat) (sig pri : Int) :
    ({ key := w.ev.counter + 1, item := ⟨act, subj, encSig sig, 0⟩, d := w.now, i := pri } : HTag) ∈
      (sched w act subj sig w.now pri).1.ev.pending := by
  rw [(sched_ok w act subj sig w.now pri (Int.le_refl _)).2.1]; exact List.mem_cons_self

theorem timerAdd_due (w : World) (p : Pid) (d sig : Int) (hd : 0 ≤ d) :
    (∃ e ∈ (timerAdd w p d sig).1.ev.pending, e.key = (timerAdd w p d sig).2 ∧ e.d = w.now + d ∧ e.item.b = p + 1 ∧
        e.item.c = encSig sig ∧ e.item.a = aTime) ∧
    (timerAdd w p d sig).1.now = w.now := by
  have h := sched_ok w aTime (p + 1) sig (w.now + d) (w.proc p).prio (by omega)
  have hp : (timerAdd w p d sig).1.ev = (sched w aTime (p + 1) sig (w.now + d) (w.proc p).prio).1.ev := by
    simp [timerAdd, addAwait, World.modProc]
  have h2 : (timerAdd w p d sig).2 = (sched w aTime (p + 1) sig (w.now + d) (w.proc p).prio).2 := by
    simp [timerAdd]
  refine ⟨⟨{ key := w.ev.counter + 1, item := ⟨aTime, p + 1, encSig sig, 0⟩, d := w.now + d, i := (w.proc p).prio }, ?_, ?_⟩, ?_⟩
  · rw [hp, h.2.1]; exact List.mem_cons_self
  · rw [h2, h.1]; simp
  · have := h.2.2.1
    simp only [World.now] at this ⊢
    rw [hp]; exact this

theorem schedule_now {q q' : EvQ} {a s o : Nat} {t p : Int} {h : Nat} (hs : schedule q a s o t p = .ok (q', h)) :
    q'.now = q.now := by
  unfold schedule at hs
  split at hs
  · cases hs
  · cases hs; rfl

theorem sched_pending_cases (w : World) (a s : Nat) (sig t pri : Int) :
    (sched w a s sig t pri).1.ev.pending = w.ev.pending ∨
    (sched w a s sig t pri).1.ev.pending =
      { key := w.ev.counter + 1, item := ⟨a, s, encSig sig, 0⟩, d := t, i := pri } :: w.ev.pending := by
  unfold sched
  split
  · rename_i ev' h heq
    unfold schedule at heq
    split at heq
    · cases heq
    · injection heq with heq
      injection heq with h1 _
      subst h1
      right; simp [KPQ.insert, KPQ.norm]
  · left; unfold World.fail; split <;> rfl

theorem cancel_pending (q : EvQ) (h : Nat) :
    (cancel q h).1.pending = q.pending ∨ (cancel q h).1.pending = q.pending.filter (·.key ≠ h) := by
  unfold cancel; split
  · right; rfl
  · left; rfl

theorem countP_filter_le {α : Type _} (P Q : α → Bool) (l : List α) : (l.filter Q).countP P ≤ l.countP P :=
  (List.filter_sublist (p := Q) (l := l)).countP_le

theorem reprioritize_items {q q' : EvQ} {h : Nat} {v : Int} (hr : reprioritize q h v = .ok q') :
    q'.pending.map (·.item) = q.pending.map (·.item) := by
  unfold reprioritize at hr
  split at hr
  · cases hr
  · injection hr with hr; subst hr
    simp only [List.map_map]
    apply List.map_congr_left
    intro e _
    simp only [Function.comp]
    split <;> rfl

theorem minTag_mem {lt : Order} : ∀ {l : KPQ.KPQ} {m : HTag}, minTag lt l = some m → m ∈ l := by
  intro l
  induction l with
  | nil => intro m h; simp [minTag] at h
  | cons x xs ih =>
    intro m h
    simp only [minTag] at h
    cases hx : minTag lt xs with
    | none => rw [hx] at h; injection h with h; subst h; exact List.mem_cons_self
    | some m' =>
      rw [hx] at h
      dsimp only at h
      split at h
      · injection h with h; subst h; exact List.mem_cons_of_mem _ (ih hx)
      · injection h with h; subst h; exact List.mem_cons_self

theorem executeNext_spec {q q' : EvQ} {t : HTag} (h : executeNext q = some (t, q')) :
    t ∈ q.pending ∧ q'.pending = q.pending.filter (·.key ≠ t.key) := by
  unfold executeNext at h
  split at h
  · cases h
  · rename_i e he
    injection h with h
    injection h with h1 h2
    subst h1; subst h2
    exact ⟨minTag_mem he, rfl⟩

theorem countP_filter_drop {α : Type _} (P f : α → Bool) {l : List α} {t : α} (ht : t ∈ l) (hP : P t = true)
    (hf : f t = false) : (l.filter f).countP P + 1 ≤ l.countP P := by
  induction l with
  | nil => cases ht
  | cons x xs ih =>
    have hle : (xs.filter f).countP P ≤ xs.countP P := countP_filter_le P f xs
    rw [List.filter_cons, List.countP_cons]
    rcases List.mem_cons.1 ht with e | e
    · subst e; rw [hf, hP]; simp; omega
    · have := ih e
      split
      · rw [List.countP_cons]; omega
      · omega

end CimbaModel.Sim
