/-
  S3 — the grant invariant: grants are due now (`GT`).  `AtNow w w'`: the clock does not move and every pending
  grant is an old one (same handle, time, item) or is due at the current time; it holds across every atomic update of
  the library (`AtNow.ofEff`), hence across `dispatch` once the dispatched event has been taken off the queue.
  With `Cover` (every guard that is not a condition's belongs to an object end) `GrantInv` follows.
-/
import CimbaModel.Sim.S3Built
import CimbaModel.Sim.S3GrantDispatch

namespace CimbaModel.Sim.S3
open CimbaModel CimbaModel.Sim CimbaModel.Event CimbaModel.Generated CimbaModel.KPQ
open CimbaModel.HashHeap (HTag Item Order HH WF abs liveTags)

def GT (w : World) : Prop := ∀ e ∈ w.ev.pending, isG01 e → e.d = w.now

structure AtNow (w w' : World) : Prop where
  now : w'.now = w.now
  newg : ∀ e' ∈ w'.ev.pending, isG01 e' → (∃ e ∈ w.ev.pending, e.key = e'.key ∧ e.d = e'.d ∧ e.item = e'.item) ∨ e'.d = w.now

theorem AtNow.refl (w : World) : AtNow w w := ⟨rfl, fun e he _ => Or.inl ⟨e, he, rfl, rfl, rfl⟩⟩

theorem AtNow.trans {w w1 w2 : World} (h1 : AtNow w w1) (h2 : AtNow w1 w2) : AtNow w w2 := by
  refine ⟨h2.now.trans h1.now, ?_⟩
  intro e2 he2 hg
  rcases h2.newg e2 he2 hg with ⟨e1, he1, hk, hd, hi⟩ | hd
  · rcases h1.newg e1 he1 (by unfold isG01 at *; rw [hi]; exact hg) with ⟨e0, he0, hk0, hd0, hi0⟩ | hd0
    · exact Or.inl ⟨e0, he0, hk0.trans hk, hd0.trans hd, hi0.trans hi⟩
    · exact Or.inr (hd.symm.trans hd0)
  · exact Or.inr (hd.trans h1.now)

theorem GT.ofAtNow {w w' : World} (h : GT w) (ha : AtNow w w') : GT w' := by
  intro e' he' hg
  rcases ha.newg e' he' hg with ⟨e, he, _, hd, hi⟩ | hd
  · rw [← hd, ha.now]; exact h e he (by unfold isG01 at *; rw [hi]; exact hg)
  · rw [hd, ha.now]

theorem AtNow.same {w0 w w' : World} (h : AtNow w0 w) (hev : w'.ev = w.ev) : AtNow w0 w' :=
  h.trans ⟨by unfold World.now; rw [hev], by rw [hev]; exact fun e he _ => Or.inl ⟨e, he, rfl, rfl, rfl⟩⟩

theorem AtNow.pushEv {w0 w : World} (h : AtNow w0 w) (a s : Nat) (sig t pri : Int)
    (hs : a = aRes → encSig sig = 0 → t = w.now) : AtNow w0 (pushEv w a s sig t pri) := by
  refine h.trans ⟨rfl, ?_⟩
  intro e he hg
  simp only [pushEv_pending, List.mem_cons] at he
  rcases he with rfl | he
  · right; exact hs hg.1 hg.2
  · exact Or.inl ⟨e, he, rfl, rfl, rfl⟩

theorem AtNow.ofCanRel {w w' : World} (h : CanRel w w') : AtNow w w' := by
  refine ⟨h.now, ?_⟩
  intro e he hg
  rcases h.pend e he with hold | ⟨_, _, _, _, _, _, heq⟩
  · exact Or.inl ⟨e, hold, rfl, rfl, rfl⟩
  · rw [heq] at hg; exact absurd hg.1 (by show aEvent ≠ aRes; decide)

theorem AtNow.reprioEv {w0 w : World} (h : AtNow w0 w) {k : Nat} {v : Int} {ev' : EvQ}
    (hr : reprioritize w.ev k v = .ok ev') : AtNow w0 { w with ev := ev' } := by
  refine h.trans ?_
  unfold reprioritize at hr
  split at hr
  · cases hr
  · simp only [Except.ok.injEq] at hr
    subst hr
    refine ⟨rfl, ?_⟩
    intro e' he' _
    simp only [List.mem_map] at he'
    obtain ⟨e, he, rfl⟩ := he'
    refine Or.inl ⟨e, he, ?_, ?_, ?_⟩ <;> split <;> rfl

/-- only the event queue matters, and the library schedules every `aRes` event at the current time -/
theorem AtNow.ofEff {p : Pid} {s : Scope} {w0 w : World} (h : Eff p s w0 w) : AtNow w0 w := by
  induction h with
  | refl => exact AtNow.refl w0
  | fail _ m ih => exact ih.same (fail_ev _ m)
  | emit _ l ih => exact ih.same rfl
  | modProc _ q f _ ih => exact ih.same rfl
  | block _ q fr _ _ _ ih => exact ih.same rfl
  | unblock _ q _ ih => exact ih.same rfl
  | setVar _ q v x _ _ _ ih => exact ih.same (by unfold Sim.setVar; split <;> rfl)
  | ended _ q v _ _ _ ih => exact ih.same rfl
  | started _ q _ _ _ ih => exact ih.same rfl
  | evWaiters _ _ x ih => exact ih.same rfl
  | guards _ _ a _ ih => exact ih.same rfl
  | res _ _ a _ _ ih => exact ih.same rfl
  | pools _ _ a _ _ _ ih => exact ih.same rfl
  | bufs _ _ a _ _ ih => exact ih.same rfl
  | oqs _ _ a _ _ ih => exact ih.same rfl
  | pqs _ _ a _ _ _ ih => exact ih.same rfl
  | flags _ _ x ih => exact ih.same rfl
  | push _ _ he hr _ ih => rw [(schedule_ok he).2]; exact ih.pushEv _ _ _ _ _ (fun ha _ => hr ha)
  | cancel _ _ k ih => exact ih.trans (AtNow.ofCanRel (CanRel.ofCancel _ k))
  | reprio _ _ he ih => exact ih.reprioEv he

theorem AtNow.lib {w0 w w' : World} (h : AtNow w0 w) (hl : Eff 0 .top w w') : AtNow w0 w' := h.trans (AtNow.ofEff hl)

theorem AtNow.cancelAwaiteds {w0 w : World} (h : AtNow w0 w) (p : Pid) : AtNow w0 (cancelAwaiteds w p) :=
  h.lib (Eff.cancelAwaiteds .refl p)

theorem AtNow.wakeWaiters {w0 w : World} (h : AtNow w0 w) (p : Pid) (sig : Int) : AtNow w0 (wakeWaiters w p sig) :=
  h.lib (Eff.wakeWaiters .refl p sig)

theorem AtNow.finishProc {w0 w : World} (h : AtNow w0 w) (p : Pid) (v : Int) (s : Bool) : AtNow w0 (finishProc w p v s) :=
  h.lib (Eff.finishProc .refl p v s)

theorem AtNow.guardSignal {w0 w : World} (h : AtNow w0 w) (fuel : Nat) (g : Nat) : AtNow w0 (guardSignal fuel w g) :=
  h.lib (Eff.guardSignal .refl fuel g)

theorem AtNow.signal {w0 w : World} (h : AtNow w0 w) (g : Nat) : AtNow w0 (signal w g) := h.guardSignal 8 g

theorem AtNow.guardWaitEnter {w0 w : World} (h : AtNow w0 w) (g : Nat) (p : Pid) (d : Demand) :
    AtNow w0 (guardWaitEnter w g p d) :=
  h.lib (Eff.guardWaitEnter .refl g p d)

theorem AtNow.resumeProc {w0 w : World} (h : AtNow w0 w) (p : Pid) (sig : Int) : AtNow w0 (resumeProc w p sig) :=
  h.lib (Eff.resumeProc .refl p sig)

theorem heap_order_le {x t : HTag} (h : heap_order_check x t = false) : t.d ≤ x.d := by
  unfold heap_order_check at h
  split at h
  · cases h
  · rename_i hlt
    have : ¬ x.d < t.d := by simpa using hlt
    omega

/-- while a grant is pending the clock does not move; new grants are due at once -/
theorem GT.dispatch {w w' : World} (h : GT w) (hi : EvInv w.ev) (hd : dispatch w = some w') : GT w' := by
  rw [dispatch_eq] at hd
  split at hd
  · cases hd
  · rename_i t ev' hn
    simp only [Option.some.injEq] at hd
    subst hd
    obtain ⟨_, htm, hmin, hnow, _, _, _, hpend⟩ := executeNext_inv hi hn
    have hA : GT (afterNext w ev') := by
      intro e he hg
      have hm : e ∈ remove w.ev.pending t.key := by rw [← hpend]; exact he
      have hew := (mem_remove.1 hm).1
      have h1 := h e hew hg
      have h2 := heap_order_le (hmin e hew)
      have h3 := hi.timeOk t htm
      show e.d = ev'.now
      rw [hnow]
      unfold World.now at h1
      omega
    exact hA.ofAtNow (AtNow.ofEff (Eff.dispatchBody (Eff.wakeEventWaiters (Eff.evWaiters (p := 0) (s := .top) .refl rfl _) _ _) t))

theorem GT.reach {w w' : World} (hr : Reach w w') (h : GT w) (hi : EvInv w.ev) : GT w' ∧ EvInv w'.ev :=
  hr.keeps (I := fun w => GT w ∧ EvInv w.ev) (fun h hd => ⟨h.1.dispatch h.2 hd, (dispatch_clock h.2 hd).evinv⟩) ⟨h, hi⟩

def Cover (w : World) : Prop := ∀ (g : Nat) (gd : Guard), w.guards[g]? = some gd → gd.isCond = false → ∃ d, gOf w d = some g

theorem Cover.ofStat {w w' : World} (h : Cover w) (hs : Stat w w') : Cover w' := by
  intro g gd' hg hc
  have := hs.guards g
  rw [hg] at this
  cases hg0 : w.guards[g]? with
  | none => rw [hg0] at this; cases this
  | some gd =>
    rw [hg0] at this
    simp only [Option.map_some, Option.some.injEq, guardStat, Prod.mk.injEq] at this
    obtain ⟨d, hd⟩ := h g gd hg0 (by rw [← this.1]; exact hc)
    exact ⟨d, by rw [gOf_of_stat hs]; exact hd⟩

/-- `GrantInv` is the weaker statement: front demand satisfiable ⇒ some grant, of whatever guard, is pending at the
    current time -/
theorem grantInv_of_all {S : Nat → Prop} {w : World} (h : GrantAll S w) (ht : GT w) (hc : Cover w) (hf : w.fault = none) :
    GrantInv w := by
  intro g gd hg hcond hpos hev
  obtain ⟨d, hd⟩ := hc g gd hg hcond
  obtain ⟨hHG, hGI⟩ := h.gh hf
  have hwf := h.all.g.gw g gd hg
  have hfront : (gd.q.tag 1).key ∈ keys (abs gd.q) :=
    Event.mem_keys.2 ⟨_, ((frontStep_spec w g gd hwf).2 hpos).1.1, rfl⟩
  rw [hHG d g hd gd hg _ hfront] at hev
  have h2 := (evalDemand_need w d (gOf_not_cond hd)).1 hev
  have h1 : need w d ≤ G w g + 0 := hGI d g hd ⟨_, gd, hg, hfront⟩
  have hpos' : 0 < (grantKeys w g).length := by unfold G at h1; omega
  obtain ⟨k, hk⟩ := List.exists_mem_of_length_pos hpos'
  obtain ⟨e, he, _, hg01, _⟩ := mem_grantKeys.1 hk
  exact ⟨e, he, hg01.1, by rw [hg01.2]; rfl, ht e he hg01⟩

theorem map_push_old {α β : Type} (a : Array α) (x : α) (st : α → β) (i : Nat) (g : β) (h : (a[i]?).map st = some g) :
    ((a.push x)[i]?).map st = some g := by
  obtain ⟨y, hy, _⟩ := Option.map_eq_some_iff.1 h
  rw [Array.getElem?_push, if_neg (Nat.ne_of_lt (lt_of_getElem? hy))]; exact h

theorem map_push_new {α β : Type} (a : Array α) (x : α) (st : α → β) : ((a.push x)[a.size]?).map st = some (st x) := by
  rw [Array.getElem?_push, if_pos rfl]; rfl

theorem cover_grow {w w' : World} (h : Cover w) (hmono : ∀ d g, gOf w d = some g → gOf w' d = some g)
    (hg : ∀ (g : Nat) (gd : Guard), w'.guards[g]? = some gd → gd.isCond = false →
      (∃ gd0, w.guards[g]? = some gd0 ∧ gd0.isCond = false) ∨ ∃ d, gOf w' d = some g) : Cover w' := by
  intro g gd hgd hc
  rcases hg g gd hgd hc with ⟨gd0, h0, hc0⟩ | hd
  · obtain ⟨d, hd⟩ := h g gd0 h0 hc0
    exact ⟨d, hmono d g hd⟩
  · exact hd

theorem cover_push1 {w w' : World} {x : Guard} (hg' : w'.guards = w.guards.push x) (d : Demand)
    (hd : gOf w' d = some w.guards.size) (g : Nat) (gd : Guard) (hg : w'.guards[g]? = some gd) (hc : gd.isCond = false) :
    (∃ gd0, w.guards[g]? = some gd0 ∧ gd0.isCond = false) ∨ ∃ d, gOf w' d = some g := by
  rw [hg'] at hg
  rcases push_get _ _ _ _ hg with h1 | ⟨h1, _⟩
  · exact Or.inl ⟨gd, h1, hc⟩
  · exact Or.inr ⟨d, by rw [h1]; exact hd⟩

theorem cover_push2 {w w' : World} {x y : Guard} (hg' : w'.guards = (w.guards.push x).push y) (d1 d2 : Demand)
    (hd1 : gOf w' d1 = some w.guards.size) (hd2 : gOf w' d2 = some (w.guards.size + 1)) (g : Nat) (gd : Guard)
    (hg : w'.guards[g]? = some gd) (hc : gd.isCond = false) :
    (∃ gd0, w.guards[g]? = some gd0 ∧ gd0.isCond = false) ∨ ∃ d, gOf w' d = some g := by
  rw [hg'] at hg
  rcases push_get _ _ _ _ hg with h1 | ⟨h1, _⟩
  · rcases push_get _ _ _ _ h1 with h2 | ⟨h2, _⟩
    · exact Or.inl ⟨gd, h2, hc⟩
    · exact Or.inr ⟨d1, by rw [h2]; exact hd1⟩
  · exact Or.inr ⟨d2, by rw [h1, Array.size_push]; exact hd2⟩

theorem Built.cover {w : World} (h : Built w) : Cover w := by
  induction h with
  | empty => intro g gd hg; cases hg
  | @res w _ ih =>
    refine cover_grow ih (fun d g hd => ?_) (cover_push1 rfl (.resAvail w.res.size) (map_push_new _ _ _))
    cases d <;> first | exact hd | exact map_push_old _ _ _ _ _ hd
  | @pool w cap _ ih =>
    refine cover_grow ih (fun d g hd => ?_) (cover_push1 rfl (.poolAvail w.pools.size) (map_push_new _ _ _))
    cases d <;> first | exact hd | exact map_push_old _ _ _ _ _ hd
  | @buf w cap _ ih =>
    refine cover_grow ih (fun d g hd => ?_)
      (cover_push2 rfl (.bufContent w.bufs.size) (.bufSpace w.bufs.size) (map_push_new _ _ _) (map_push_new _ _ _))
    cases d <;> first | exact hd | exact map_push_old _ _ _ _ _ hd
  | @oq w cap _ ih =>
    refine cover_grow ih (fun d g hd => ?_)
      (cover_push2 rfl (.oqContent w.oqs.size) (.oqSpace w.oqs.size) (map_push_new _ _ _) (map_push_new _ _ _))
    cases d <;> first | exact hd | exact map_push_old _ _ _ _ _ hd
  | @pq w cap _ ih =>
    refine cover_grow ih (fun d g hd => ?_)
      (cover_push2 rfl (.pqContent w.pqs.size) (.pqSpace w.pqs.size) (map_push_new _ _ _) (map_push_new _ _ _))
    cases d <;> first | exact hd | exact map_push_old _ _ _ _ _ hd
  | @cond w _ ih =>
    refine cover_grow ih (fun d g hd => by cases d <;> exact hd) ?_
    intro g gd hg hc
    rcases push_get _ _ _ _ hg with h1 | ⟨_, h2⟩
    · exact Or.inl ⟨gd, h1, hc⟩
    · rw [h2] at hc; cases hc
  | @proc w pr cmds _ _ ih =>
    exact cover_grow ih (fun d g hd => by cases d <;> exact hd) (fun g gd hg hc => Or.inl ⟨gd, hg, hc⟩)
  | @sub w g0 cg _ ih =>
    refine cover_grow ih (fun d g hd => by cases d <;> exact hd) ?_
    intro g gd hg hc
    simp only [S3.subscribe, Array.getElem?_modify] at hg
    split at hg
    · cases hx : w.guards[g]? with
      | none => rw [hx] at hg; cases hg
      | some gd0 =>
        rw [hx] at hg
        simp only [Option.map_some, Option.some.injEq] at hg
        exact Or.inl ⟨gd0, rfl, by rw [← hg] at hc; exact hc⟩
    · exact Or.inl ⟨gd, hg, hc⟩
  | @start w p _ ih =>
    have hst : Stat w (autostart w p) := by unfold S3.autostart; exact Stat.eff (Eff.sched .refl _ _ _ _)
    exact ih.ofStat hst

theorem Built.gt {w : World} (h : Built w) : GT w := by
  intro e he hg
  have := (h.binv.pend e he).1
  rw [hg.1] at this; exact absurd this (by decide)

end CimbaModel.Sim.S3
