/-
  S3 — the grant invariant: the remaining commands (priority change, the commands that do not touch objects or
  waiting lists) and the frames that do not wait on a guard.
-/
import CimbaModel.Sim.S3GrantObj

namespace CimbaModel.Sim.S3
open CimbaModel CimbaModel.Sim CimbaModel.Event CimbaModel.Generated CimbaModel.KPQ
open CimbaModel.HashHeap (HTag Item Order HH WF abs liveTags)

variable {fr : Pid → Option Frame} {df df' : Demand → Nat} {w : World} {p : Pid}

theorem gs_reprioGuard (h : GS fr df w) (q : Pid) (v : Int) (g : Nat) : GS fr df (reprioGuard w q v g) := by
  cases hg : w.guards[g]? with
  | none => unfold S3.reprioGuard; rw [hg]; exact h
  | some gd =>
    obtain ⟨hin, hout⟩ := reprioGuard_spec hg (h.ginv.gw g gd hg) q v
    by_cases hk : q + 1 ∈ keys (abs gd.q)
    · obtain ⟨q', hwf', hperm, heq⟩ := hin hk
      have hsub : ∀ k, k ∈ keys (abs q') → k ∈ keys (abs gd.q) := by
        intro k hk'
        have : (keys (abs q')).Perm (keys (setPrio (abs gd.q) (q + 1) v)) := hperm.map _
        rw [keys_setPrio] at this
        exact this.mem_iff.1 hk'
      have hG := h.ginv.reprioGuard q v g
      rw [heq] at hG ⊢
      exact ⟨hG, (h.qi.shrinkQueue hg hwf' hsub).hg, h.gi.shrinkQueue hg hsub⟩
    · rw [hout hk]; exact h

theorem gs_prioAwaitStep (h : GS fr df w) (q : Pid) (v : Int) (a : Await) : GS fr df (prioAwaitStep q v w a) := by
  unfold S3.prioAwaitStep
  split
  · split
    · rename_i hr; exact h.inert (h.ginv.reprioEv hr) ((Inert.refl w).reprioEv hr)
    · exact h.fail _
  · exact gs_reprioGuard h q v _
  · exact h

theorem gs_prioHeldStep (h : GS fr df w) (q : Pid) (v : Int) (x : HoldRef) : GS fr df (prioHeldStep q v w x) := by
  unfold S3.prioHeldStep
  split
  · split
    · rename_i y hy
      split
      · exact h.setHolders hy _
      · exact h.fail _
    · exact h
  · exact h

theorem gs_cmd_prioSet (h : GS fr df w) (q : Pid) (v : Int) : GH df (execCmd w p (.prioSet q v)).1 := by
  by_cases hq : q < w.procs.size
  · rw [prioSet_eq w p q v hq]
    dsimp only
    refine GS.gh (fr := fr) ?_
    refine Path.foldl (Path.ofPred (GS fr df)) (fun w x h => gs_prioHeldStep h q v x) _ _ ?_
    refine Path.foldl (Path.ofPred (GS fr df)) (fun w x h => gs_prioAwaitStep h q v x) _ _ ?_
    exact h.inert (h.ginv.modProc_ctl q _ (fun _ => ⟨rfl, rfl⟩)) ((Inert.refl w).modProc q _ (fun _ => rfl))
  · have : q ≥ w.procs.size := Nat.le_of_not_lt hq
    simp only [execCmd, this, if_true]
    exact h.gh

/-- the commands that touch neither an object nor a waiting list -/
def InertCmd : Cmd → Prop
  | .hold _ | .yield | .timerAdd _ _ _ | .timerSet _ _ _ | .timerCancel _ | .timersClear | .resume _ _ | .interrupt _ _ _
  | .start _ | .waitProc _ | .schedUser _ _ _ | .cancelUser _ | .waitEvent _ | .setFlag _ _ | .recStart _ _ | .recStop _ _
  | .pqPos _ _ | .cancelUserAll | .timersClearOf _ | .timerAddOf _ _ _ => True
  | _ => False

theorem inert_execCmd (c : Cmd) (hc : InertCmd c) (hi : EvInv w.ev)
    (hcv : ∀ v, (c = .cancelUser v ∨ c = .timerCancel v) → NG w (getVar w p v))
    (hat : ∀ q k, Await.time k ∈ (w.proc q).awaits → NG w k) : Inert w (execCmd w p c).1 := by
  have h0 := Inert.refl w
  cases c <;> try exact hc.elim
  -- the commands that cancel events by handle: the handles are those of timers, or come from a variable in `S`
  case timerSet v d sig =>
    simp only [Sim.execCmd]
    exact ((h0.timersClear p (hat p)).timerAdd_fst p d sig).setVar p v _
  case timerCancel v =>
    simp only [Sim.execCmd]
    split
    · exact h0
    · exact h0.timerCancel_fst p _ (hcv v (Or.inr rfl))
  case timersClear => exact h0.timersClear p (hat p)
  case timersClearOf q =>
    simp only [Sim.execCmd]
    split
    · exact h0
    · exact h0.timersClear q (hat q)
  case cancelUser v =>
    simp only [Sim.execCmd]
    split
    · exact h0
    · exact h0.evCancel_fst _ (hcv v (Or.inl rfl))
  case cancelUserAll => exact h0.cancelUserAll_fst hi
  -- the others stay within `Inert.scope`
  case recStart kind idx => match kind with | 0 | 1 | 2 | 3 | _ + 4 => exact Inert.ofEff rfl rfl rfl rfl (Eff.execCmd w p _)
  case recStop kind idx => match kind with | 0 | 1 | 2 | 3 | _ + 4 => exact Inert.ofEff rfl rfl rfl rfl (Eff.execCmd w p _)
  all_goals exact Inert.ofEff rfl rfl rfl rfl (Eff.execCmd w p _)

theorem inert_resumeFrame (f : Frame) (sig : Int) (hi : EvInv w.ev)
    (hf : f = .yield ∨ (∃ q, f = .waitProc q) ∨ (∃ k, f = .waitEvent k) ∨ (∃ k, f = .hold k ∧ NG w k)) :
    Inert w (resumeFrame (w.modProc p fun y => { y with blocked := none }) p f sig).1 := by
  have h0 : Inert w (w.modProc p fun y => { y with blocked := none }) := (Inert.refl w).modProc p _ (fun _ => rfl)
  have hiA : EvInv (w.modProc p fun y => { y with blocked := none }).ev := hi
  rcases hf with rfl | ⟨q, rfl⟩ | ⟨k, rfl⟩ | ⟨k, rfl, hng⟩ <;> simp only [Sim.resumeFrame]
  · exact h0
  · -- woken by something other than the end of `q`: the registration, or the pending wake-up, is withdrawn
    split
    · split
      · exact (h0.removeAwait_fst p _ rfl).modProc q _ (fun _ => rfl)
      · dsimp only
        exact (h0.removeAwait_fst p _ rfl).cancelKindFor_fst hiA p aProc none (by decide)
    · exact h0.removeAwait_fst p _ rfl
  · split
    · split
      · exact (h0.removeAwait_fst p _ rfl).setEvWaiters _
      · dsimp only
        exact (h0.removeAwait_fst p _ rfl).cancelKindFor_fst hiA p aEvent none (by decide)
    · exact h0.removeAwait_fst p _ rfl
  · split
    · dsimp only
      exact (h0.timerCancel_fst p k hng).removeAwait_fst p _ rfl
    · exact h0

end CimbaModel.Sim.S3
