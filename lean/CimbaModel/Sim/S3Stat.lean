/-
  S3 — static data: no function of the process layer changes a script, the guard / capacity assigned to a resource,
  pool, buffer or queue, the conditions table, nor whether a guard is a condition and who observes it
  (`Stat w w'`; the static part of each kind of object is defined in Sim/Eff.lean).
-/
import CimbaModel.Sim.S3Clock

namespace CimbaModel.Sim.S3
open CimbaModel CimbaModel.Sim CimbaModel.Event CimbaModel.Generated CimbaModel.KPQ
open CimbaModel.HashHeap (HTag Item Order HH WF abs liveTags)

structure Stat (w w' : World) : Prop where
  conds : w'.conds = w.conds
  psize : w'.procs.size = w.procs.size
  script : ∀ p, (w'.proc p).script = (w.proc p).script
  res : ∀ i : Nat, (w'.res[i]?).map resStat = (w.res[i]?).map resStat
  pools : ∀ i : Nat, (w'.pools[i]?).map poolStat = (w.pools[i]?).map poolStat
  bufs : ∀ i : Nat, (w'.bufs[i]?).map bufStat = (w.bufs[i]?).map bufStat
  oqs : ∀ i : Nat, (w'.oqs[i]?).map oqStat = (w.oqs[i]?).map oqStat
  pqs : ∀ i : Nat, (w'.pqs[i]?).map pqStat = (w.pqs[i]?).map pqStat
  guards : ∀ i : Nat, (w'.guards[i]?).map guardStat = (w.guards[i]?).map guardStat

theorem Stat.refl (w : World) : Stat w w :=
  ⟨rfl, rfl, fun _ => rfl, fun _ => rfl, fun _ => rfl, fun _ => rfl, fun _ => rfl, fun _ => rfl, fun _ => rfl⟩

theorem Stat.trans {w w1 w2 : World} (h1 : Stat w w1) (h2 : Stat w1 w2) : Stat w w2 :=
  ⟨h2.conds.trans h1.conds, h2.psize.trans h1.psize, fun p => (h2.script p).trans (h1.script p),
   fun i => (h2.res i).trans (h1.res i), fun i => (h2.pools i).trans (h1.pools i), fun i => (h2.bufs i).trans (h1.bufs i),
   fun i => (h2.oqs i).trans (h1.oqs i), fun i => (h2.pqs i).trans (h1.pqs i), fun i => (h2.guards i).trans (h1.guards i)⟩

theorem Stat.same {w0 w w' : World} (h : Stat w0 w) (hp : w'.procs = w.procs) (hr : w'.res = w.res) (hpl : w'.pools = w.pools)
    (hb : w'.bufs = w.bufs) (ho : w'.oqs = w.oqs) (hq : w'.pqs = w.pqs) (hg : w'.guards = w.guards) (hc : w'.conds = w.conds) :
    Stat w0 w' :=
  h.trans ⟨hc, by rw [hp], fun p => by unfold World.proc; rw [hp], fun i => by rw [hr], fun i => by rw [hpl], fun i => by rw [hb],
    fun i => by rw [ho], fun i => by rw [hq], fun i => by rw [hg]⟩

theorem Stat.fail {w0 w : World} (h : Stat w0 w) (m : String) : Stat w0 (w.fail m) :=
  h.same (fail_procs w m) (fail_res w m) (fail_pools w m) (fail_bufs w m) (fail_oqs w m) (fail_pqs w m) (fail_guards w m)
    (fail_conds w m)

theorem Stat.emit {w0 w : World} (h : Stat w0 w) (l : String) : Stat w0 (w.emit l) := h.same rfl rfl rfl rfl rfl rfl rfl rfl

theorem Stat.modProc {w0 w : World} (h : Stat w0 w) (p : Pid) (f : Proc → Proc) (hf : ∀ x, (f x).script = x.script) :
    Stat w0 (w.modProc p f) := by
  refine h.trans ⟨rfl, modProc_procs_size w p f, fun q => ?_, fun _ => rfl, fun _ => rfl, fun _ => rfl, fun _ => rfl,
    fun _ => rfl, fun _ => rfl⟩
  rw [modProc_proc]; split
  · rename_i hq; rw [hq.1]; exact hf _
  · rfl

theorem Stat.sched_fst {w0 w : World} (h : Stat w0 w) (a s : Nat) (sig t pri : Int) : Stat w0 (sched w a s sig t pri).1 :=
  h.same (sched_procs w a s sig t pri) (sched_res w a s sig t pri) (sched_pools w a s sig t pri) (sched_bufs w a s sig t pri)
    (sched_oqs w a s sig t pri) (sched_pqs w a s sig t pri) (sched_guards w a s sig t pri) (sched_conds w a s sig t pri)

theorem Stat.ofEff {p : Pid} {s : Scope} {w0 w : World} (h : Eff p s w0 w) : Stat w0 w := by
  induction h with
  | refl => exact Stat.refl w0
  | fail _ m ih => exact ih.fail m
  | emit _ l ih => exact ih.emit l
  | modProc _ q f hf ih => exact ih.modProc q f fun x => (hf.keeps x).1
  | block _ q fr _ _ _ ih => exact ih.modProc q _ fun _ => rfl
  | unblock _ q _ ih => exact ih.modProc q _ fun _ => rfl
  | setVar _ q v x _ _ _ ih =>
    unfold Sim.setVar
    split
    · exact ih.same rfl rfl rfl rfl rfl rfl rfl rfl
    · exact ih.modProc q _ fun _ => rfl
  | ended _ q v _ _ _ ih => exact ih.modProc q _ fun _ => rfl
  | started _ q _ _ _ ih => exact ih.modProc q _ fun _ => rfl
  | evWaiters _ _ x ih => exact ih.same rfl rfl rfl rfl rfl rfl rfl rfl
  | guards _ _ a ha ih => exact ih.trans ⟨rfl, rfl, fun _ => rfl, fun _ => rfl, fun _ => rfl, fun _ => rfl, fun _ => rfl, fun _ => rfl, ha⟩
  | res _ _ a ha _ ih => exact ih.trans ⟨rfl, rfl, fun _ => rfl, ha, fun _ => rfl, fun _ => rfl, fun _ => rfl, fun _ => rfl, fun _ => rfl⟩
  | pools _ _ a ha _ _ ih => exact ih.trans ⟨rfl, rfl, fun _ => rfl, fun _ => rfl, ha, fun _ => rfl, fun _ => rfl, fun _ => rfl, fun _ => rfl⟩
  | bufs _ _ a ha _ ih => exact ih.trans ⟨rfl, rfl, fun _ => rfl, fun _ => rfl, fun _ => rfl, ha, fun _ => rfl, fun _ => rfl, fun _ => rfl⟩
  | oqs _ _ a ha _ ih => exact ih.trans ⟨rfl, rfl, fun _ => rfl, fun _ => rfl, fun _ => rfl, fun _ => rfl, ha, fun _ => rfl, fun _ => rfl⟩
  | pqs _ _ a ha _ _ ih => exact ih.trans ⟨rfl, rfl, fun _ => rfl, fun _ => rfl, fun _ => rfl, fun _ => rfl, fun _ => rfl, ha, fun _ => rfl⟩
  | flags _ _ x ih => exact ih.same rfl rfl rfl rfl rfl rfl rfl rfl
  | push _ _ _ _ _ ih => exact ih.same rfl rfl rfl rfl rfl rfl rfl rfl
  | cancel _ _ k ih => exact ih.same rfl rfl rfl rfl rfl rfl rfl rfl
  | reprio _ _ _ ih => exact ih.same rfl rfl rfl rfl rfl rfl rfl rfl

/-- across anything the library does (`Scope.top`; the caller does not matter) -/
theorem Stat.eff {w0 w : World} (h : Eff 0 .top w0 w) : Stat w0 w := Stat.ofEff h

theorem Stat.step {w0 w w' : World} (h : Stat w0 w) (he : Eff 0 .top w w') : Stat w0 w' := h.trans (Stat.ofEff he)

theorem Stat.cancelAwaiteds {w0 w : World} (h : Stat w0 w) (p : Pid) : Stat w0 (cancelAwaiteds w p) :=
  h.step (.cancelAwaiteds .refl p)

theorem Stat.wakeWaiters {w0 w : World} (h : Stat w0 w) (p : Pid) (sig : Int) : Stat w0 (wakeWaiters w p sig) :=
  h.step (.wakeWaiters .refl p sig)

theorem Stat.finishProc {w0 w : World} (h : Stat w0 w) (p : Pid) (v : Int) (s : Bool) : Stat w0 (finishProc w p v s) :=
  h.step (.finishProc .refl p v s)

theorem Stat.guardSignal {w0 w : World} (h : Stat w0 w) (fuel : Nat) (g : Nat) : Stat w0 (guardSignal fuel w g) :=
  h.step (.guardSignal .refl fuel g)

theorem Stat.signal {w0 w : World} (h : Stat w0 w) (g : Nat) : Stat w0 (signal w g) := h.guardSignal 8 g

theorem Stat.guardWaitEnter {w0 w : World} (h : Stat w0 w) (g : Nat) (p : Pid) (d : Demand) :
    Stat w0 (guardWaitEnter w g p d) :=
  h.step (.guardWaitEnter .refl g p d)

theorem Stat.resumeProc {w0 w : World} (h : Stat w0 w) (p : Pid) (sig : Int) : Stat w0 (resumeProc w p sig) :=
  h.step (.resumeProc .refl p sig)

theorem Stat.takeNext (w : World) (t : HTag) (ev' : EvQ) : Stat w (S3.takeNext w t ev') :=
  ((Stat.refl w).same (w' := afterNext w ev') rfl rfl rfl rfl rfl rfl rfl rfl).step (eff_takeNext w t ev')

theorem Stat.dispatch {w w' : World} (hd : dispatch w = some w') : Stat w w' := by
  rw [dispatch_eq] at hd
  split at hd
  · cases hd
  · simp only [Option.some.injEq] at hd
    rw [← hd]
    exact (Stat.takeNext w _ _).step (Eff.dispatchBody .refl _)

end CimbaModel.Sim.S3
