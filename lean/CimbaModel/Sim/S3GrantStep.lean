/-
  S3 — the grant invariant: the bundle carried through a command (`GS`) and its step lemmas:
  signal, object update, inert step, entering a wait, leaving a wait.
-/
import CimbaModel.Sim.S3GrantWait
import CimbaModel.Sim.S3GInvFinish
import CimbaModel.Sim.S3GrantInert

namespace CimbaModel.Sim.S3
open CimbaModel CimbaModel.Sim CimbaModel.Event CimbaModel.Generated CimbaModel.KPQ
open CimbaModel.HashHeap (HTag Item Order HH WF abs liveTags)

/-- what is carried through a command: the guard invariant for the frames `fr`, homogeneity, the grant invariant with
    deficit `df` -/
structure GS (fr : Pid → Option Frame) (df : Demand → Nat) (w : World) : Prop where
  ginv : GInv noEx fr w
  hg : HG w
  gi : GI df w

variable {fr : Pid → Option Frame} {df df' : Demand → Nat} {w : World}

theorem G_congr {w W : World} (hev : W.ev = w.ev) (hp : ∀ x, (W.proc x).awaits = (w.proc x).awaits) (g : Nat) : G W g = G w g := by
  unfold G grantKeys
  rw [hev]
  congr 2
  apply List.filter_congr
  intro e _
  simp only [decide_eq_decide]
  exact grantOf_congr hp g e

theorem GS.qi (h : GS fr df w) : QI noEx w := h.ginv.toQI h.hg

theorem GS.mono (h : GS fr df w) (hle : ∀ d, df d ≤ df' d) : GS fr df' w := ⟨h.ginv, h.hg, h.gi.mono hle⟩

theorem GS.signal (h : GS fr df w) (g : Nat) (h1 : ∀ d, gOf w d = some g → df d ≤ df' d + 1)
    (h2 : ∀ d, gOf w d ≠ some g → df d ≤ df' d) : GS fr df' (Sim.signal w g) :=
  ⟨h.ginv.signal g, (h.qi.signal g).hg, GI.signal h.qi h.gi g (fun _ _ => noEx_not _) h1 h2⟩

theorem GS.signal_mono (h : GS fr df w) (g : Nat) : GS fr df (Sim.signal w g) :=
  h.signal g (fun _ _ => Nat.le_succ _) (fun _ _ => Nat.le_refl _)

/-- a deficit of one booked, on top of `df`, at the object end `d1` is settled by the signal of the guard of `d1` -/
theorem GS.signal_settle {d1 : Demand} {g1 : Nat} (h : GS fr (fun d => df d + if d = d1 then 1 else 0) w)
    (hg1 : gOf w d1 = some g1) : GS fr df (Sim.signal w g1) := by
  refine h.signal g1 (fun d _ => ?_) (fun d hd => ?_)
  · show df d + _ ≤ df d + 1
    split <;> omega
  · show df d + _ ≤ df d
    rw [if_neg (fun e : d = d1 => hd (e ▸ hg1))]
    exact Nat.le_refl _

/-- the signal of the guard of `d0`, in general: afterwards any deficits `df'` do that cover `df` away from `d0`, and
    `df d0 - 1` at `d0` -/
theorem GS.signal_own (h : GS fr df w) (hes : EndSep w) {d0 : Demand} {g : Nat} (hg : gOf w d0 = some g)
    (hdf : ∀ d, d ≠ d0 → df d ≤ df' d) (hdf1 : df d0 ≤ df' d0 + 1) : GS fr df' (Sim.signal w g) :=
  h.signal g (fun d hd => by cases hes d d0 g hd hg; exact hdf1) (fun d hd => hdf d (fun e => hd (e ▸ hg)))

theorem GS.inert {W : World} (h : GS fr df w) (hW : GInv noEx fr W) (hi : Inert w W) : GS fr df W :=
  ⟨hW, h.hg.inert hi, h.gi.inert h.ginv.ei hi⟩

/-- an update of the objects: `need` may go up by the amount the deficit goes up -/
theorem GS.bump {W : World} (h : GS fr df w) (hW : GInv noEx fr W) (hev : W.ev = w.ev) (hgd : W.guards = w.guards)
    (hp : ∀ x, (W.proc x).awaits = (w.proc x).awaits) (hgo : ∀ d, gOf W d = gOf w d)
    (hn : ∀ d, need W d + df d ≤ need w d + df' d) : GS fr df' W := by
  refine ⟨hW, ?_, ?_⟩
  · intro d g hd gd hgg k hk
    rw [hgo] at hd; rw [hgd] at hgg
    exact h.hg d g hd gd hgg k hk
  · intro d g hd hq
    rw [hgo] at hd
    obtain ⟨k, hk⟩ := hq
    have h1 := h.gi d g hd ⟨k, (queued_congr hgd g k).1 hk⟩
    have h2 : G W g = G w g := G_congr hev hp g
    have := hn d
    omega

/-- nothing available at `d0`: whatever deficit was booked there is void -/
theorem GI.clear (hgi : GI df w) (d0 : Demand) (h0 : need w d0 = 0) (hdf : ∀ d, d ≠ d0 → df d ≤ df' d) : GI df' w := by
  intro d g hd hq
  by_cases hdd : d = d0
  · subst hdd; omega
  · have := hgi d g hd hq
    have := hdf d hdd
    omega

theorem GS.clear (h : GS fr df w) (d0 : Demand) (h0 : need w d0 = 0) (hdf : ∀ d, d ≠ d0 → df d ≤ df' d) : GS fr df' w :=
  ⟨h.ginv, h.hg, h.gi.clear d0 h0 hdf⟩

/-- homogeneity and the grant invariant (what a command has to re-establish besides `GInv`) -/
def GH (df : Demand → Nat) (w : World) : Prop := HG w ∧ GI df w

theorem GS.gh (h : GS fr df w) : GH df w := ⟨h.hg, h.gi⟩

theorem GH.inert {W : World} (h : GH df w) (hi : EvInv w.ev) (hin : Inert w W) : GH df W := ⟨h.1.inert hin, h.2.inert hi hin⟩

theorem GH.mono (h : GH df w) (hle : ∀ d, df d ≤ df' d) : GH df' w := ⟨h.1, h.2.mono hle⟩

theorem GH.clear (h : GH df w) (d0 : Demand) (h0 : need w d0 = 0) (hdf : ∀ d, d ≠ d0 → df d ≤ df' d) : GH df' w :=
  ⟨h.1, h.2.clear d0 h0 hdf⟩

/-- joining the waiting list of `g`: `GI` speaks of an end only while somebody waits there, so the caller supplies the
    inequality for the end `d` it enters (`hdg`; it found nothing available: `need = 0`); every other end keeps its
    waiters, its grants and what is available -/
theorem GS.enterBlock (h : GS fr df w) {p : Pid} (g : Nat) (d : Demand) (f : Frame) (hfr : fr p = none)
    (hlt : p < w.procs.size) (hgf : FrameOn w f g) (hcond : ∀ c : Nat, w.conds[c]? = some g → ∃ c', f = .condWait c')
    (hdg : ∀ d', gOf w d' = some g → d' = d ∧ need w d ≤ G w g + df d) :
    GS (setFrame fr p (some f)) df (block (guardWaitEnter w g p d) p f).1 := by
  have hp := h.ginv
  suffices hs : HG (block (guardWaitEnter w g p d) p f).1 ∧ GI df (block (guardWaitEnter w g p d) p f).1 from
    ⟨hp.enterBlock g d f (noEx_not p) hfr hlt hgf hcond, hs.1, hs.2⟩
  have hc := hp.clean_of_none (noEx_not p) hfr
  cases hg : w.guards[g]? with
  | none =>
    have : guardWaitEnter w g p d = w.fail "no such guard" := by unfold guardWaitEnter; rw [hg]
    rw [this]
    have hi : Inert w (block (w.fail "no such guard") p f).1 := ((Inert.refl w).fail _).block_fst p f
    exact ⟨h.hg.inert hi, h.gi.inert hp.ei hi⟩
  | some gd =>
    have hwf := hp.gw g gd hg
    have h64 : p + 1 < 2 ^ 64 :=
      Nat.lt_of_le_of_lt (show p + 1 ≤ w.procs.size from hlt) (Nat.lt_trans hp.gsz (by decide))
    have hfresh : p + 1 ∉ keys (abs gd.q) := fun hk => hc.nq g ⟨gd, hg, hk⟩
    have hroom : gd.q.count < 2 ^ gd.q.exp ∨ gd.q.exp < 31 := by
      by_cases he : gd.q.exp < 31
      · exact Or.inr he
      · left
        have h31 : gd.q.exp = 31 := by have := hwf.expLe; omega
        rw [h31]
        exact Nat.lt_of_le_of_lt (hp.count_le hg) hp.gsz
    obtain ⟨q', _, hwf', hperm, heq⟩ := guardWaitEnter_spec hg hwf p d h64 hfresh hroom
    rw [heq]
    unfold enterWorld
    have hkeys : ∀ k, k ∈ keys (abs q') ↔ k = p + 1 ∨ k ∈ keys (abs gd.q) := by
      intro k
      have : (keys (abs q')).Perm ((p + 1) :: keys (abs gd.q)) := by
        have := hperm.map (·.key); simpa [keys] using this
      rw [this.mem_iff]; simp
    have hpr := block_addAwait_proc { w with guards := w.guards.set! g (enterGuard gd q' p d) } p (.guard g) f hlt
    show HG (block (addAwait { w with guards := w.guards.set! g (enterGuard gd q' p d) } p (.guard g)) p f).1 ∧
      GI df (block (addAwait { w with guards := w.guards.set! g (enterGuard gd q' p d) } p (.guard g)) p f).1
    generalize hWdef : (block (addAwait { w with guards := w.guards.set! g (enterGuard gd q' p d) } p (.guard g)) p f).1 = W
    have hpr' : ∀ x, (W.proc x).awaits = if x = p then .guard g :: (w.proc x).awaits else (w.proc x).awaits := by
      intro x; rw [← hWdef]; exact (hpr x).1
    have hev : W.ev = w.ev := by rw [← hWdef]; rfl
    have hgds : W.guards = w.guards.set! g (enterGuard gd q' p d) := by rw [← hWdef]; rfl
    have hqF : ∀ g' k, queued W g' k ↔ if g' = g then (k = p + 1 ∨ k ∈ keys (abs gd.q)) else queued w g' k := by
      intro g' k
      have := queued_set! hg (enterGuard gd q' p d) g' k
      rw [← hkeys k]
      unfold queued at this ⊢
      rw [hgds]; exact this
    have hgo : ∀ d', gOf W d' = gOf w d' := by
      intro d'; rw [← hWdef]; exact gOf_congr rfl rfl rfl rfl rfl d'
    have hnd : ∀ d', need W d' = need w d' := by
      intro d'; rw [← hWdef]; exact need_congr rfl rfl rfl rfl rfl d'
    have hGle : ∀ g', G w g' ≤ G W g' := by
      intro g'
      refine G_le_of_keep hp.ei g' ?_
      intro e he hgr
      refine ⟨e, by rw [hev]; exact he, rfl, hgr.1, ?_⟩
      have hgr2 := hgr.2
      rw [hpr']; split
      · exact List.mem_cons_of_mem _ hgr2
      · exact hgr2
    constructor
    · intro d' g' hd' gd'' hgd'' k hk
      rw [hgo] at hd'
      rw [hgds] at hgd''
      by_cases hgg : g' = g
      · subst hgg
        have hsz := lt_of_getElem? hg
        simp only [Array.set!_eq_setIfInBounds, Array.getElem?_setIfInBounds, hsz, if_true] at hgd''
        cases hgd''
        unfold enterGuard
        rw [enter_demandOf]
        split
        · exact ((hdg d' hd').1).symm
        · rename_i hkp
          have hk' : k ∈ keys (abs gd.q) := by
            have := (hkeys k).1 hk
            rcases this with h' | h'
            · exact absurd h' hkp
            · exact h'
          exact h.hg d' g' hd' gd hg k hk'
      · have : (w.guards.set! g (enterGuard gd q' p d))[g']? = w.guards[g']? := by
          simp [Array.set!_eq_setIfInBounds, Array.getElem?_setIfInBounds, Ne.symm hgg]
        rw [this] at hgd''
        exact h.hg d' g' hd' gd'' hgd'' k hk
    · intro d' g' hd' hqn
      rw [hgo] at hd'
      rw [hnd]
      have := hGle g'
      by_cases hgg : g' = g
      · subst hgg
        obtain ⟨hdd, hb⟩ := hdg d' hd'
        subst hdd
        omega
      · obtain ⟨k, hk⟩ := hqn
        rw [hqF, if_neg hgg] at hk
        have := h.gi d' g' hd' ⟨k, hk⟩
        omega

theorem GS.wait {w0 W : World} (h : GS fr df W) (hst : Stat w0 W) (hes : EndSep w0) (hsep : CondSep w0) {p : Pid}
    (hfr : fr p = none) (hlt : p < w0.procs.size) {f : Frame} {d : Demand} {g : Nat} (hfd : frameDemand f = some d)
    (hg : gOf w0 d = some g) (h0 : need W d = 0) : GH df (block (guardWaitEnter W g p d) p f).1 := by
  have hgW : gOf W d = some g := by rw [gOf_of_stat hst]; exact hg
  have hon : FrameOn W f g := (frameOn_gOf hfd g).2 hgW
  refine (h.enterBlock g d f hfr (by rw [hst.psize]; exact hlt) hon (fun c hc => (hsep.ofStat hst) c g f hc hon) ?_).gh
  intro d' hd'
  cases (hes.ofStat hst) d' d g hd' hgW
  exact ⟨rfl, by rw [h0]; exact Nat.zero_le _⟩

theorem HG.ofGuards {w W : World} (h : HG w) (hgd : W.guards = w.guards) (hgo : ∀ d, gOf W d = gOf w d) : HG W := by
  intro d g hd gd hgg k hk
  rw [hgo] at hd; rw [hgd] at hgg
  exact h d g hd gd hgg k hk

/-- the epilogue of a guard wait (`guardWaitLeave` after the recorded frame has been cleared) keeps homogeneity and the
    grant invariant: a queued entry is withdrawn, a pending grant is passed on -/
theorem GS.leave (h : GS fr df w) {p : Pid} {f : Frame} {g : Nat} (hfr : fr p = some f) (hon : FrameOn w f g) (sig : Int)
    (hq : sig = sigSuccess → (∀ e ∈ w.ev.pending, isGrant e → e.item.b ≠ p + 1) ∧ ¬ queued w g (p + 1)) :
    HG (guardWaitLeave (w.modProc p fun y => { y with blocked := none }) g p sig) ∧
    GI df (guardWaitLeave (w.modProc p fun y => { y with blocked := none }) g p sig) := by
  have hp := h.ginv
  obtain ⟨hL, hleft⟩ := hp.leaveGuard (noEx_not p) hfr hon sig hq
  obtain ⟨hga, _, _, _, _⟩ := hp.guardFrame_facts (noEx_not p) hfr hon
  have hiA : Inert w (w.modProc p fun y => { y with blocked := none }) := (Inert.refl w).modProc p _ (fun _ => rfl)
  have hqA : QI noEx (w.modProc p fun y => { y with blocked := none }) := h.qi.inert hiA
  have hgiA : GI df (w.modProc p fun y => { y with blocked := none }) := h.gi.inert hp.ei hiA
  have hawA : ((w.modProc p fun y => { y with blocked := none }).proc p).awaits = (w.proc p).awaits := by
    rw [modProc_proc]; split <;> rfl
  have hevA : (w.modProc p fun y => { y with blocked := none }).ev = w.ev := rfl
  generalize (w.modProc p fun y => { y with blocked := none }) = wA at hL hleft hqA hgiA hawA hevA
  have hb0 : ∀ e ∈ (guardWaitLeave wA g p sig).ev.pending, isG01 e → e.item.b ≠ 0 :=
    fun e he hg => (hL.gr e he (Or.inl hg)).1
  have hng : ∀ e ∈ (guardWaitLeave wA g p sig).ev.pending, isG01 e → e.item.b ≠ p + 1 :=
    fun e he hg => hleft.nr e he hg.1 hg.2
  unfold Sim.guardWaitLeave at hb0 hng ⊢
  by_cases hs : sig ≠ sigSuccess
  · rw [if_pos hs] at hb0 hng ⊢
    have hown : ∀ g', Await.guard g' ∈ (wA.proc p).awaits → g' = g := by
      intro g' hm
      rw [hawA, mem_awaits_guard] at hm
      rcases hga with h' | h'
      · rw [h'] at hm; cases hm
      · rw [h'] at hm; simpa using hm
    have hu : ∀ e1 ∈ wA.ev.pending, ∀ e2 ∈ wA.ev.pending, isG01 e1 → isG01 e2 → e1.item.b = p + 1 → e2.item.b = p + 1 → e1 = e2 := by
      intro e1 h1 e2 h2 g1 g2 b1 b2
      rw [hevA] at h1 h2
      exact hp.gu e1 h1 e2 h2 (Or.inl g1) (Or.inl g2) (b1.trans b2.symm) (noEx_not _)
    obtain ⟨hgi1, hq1⟩ := GI.guardWithdraw (df' := df) hqA hgiA g p hown hu (fun _ _ _ => noEx_not _)
      (fun _ _ => Nat.le_refl _) (fun _ _ => ⟨fun _ => Nat.le_succ _, fun _ => Nat.le_refl _⟩)
    rw [removeAwait_fst_eq]
    refine ⟨hq1.hg.ofGuards rfl (fun d => gOf_congr rfl rfl rfl rfl rfl d), ?_⟩
    exact hgi1.modAwaits hq1.ei p _ hng hb0
  · rw [if_neg hs] at hb0 hng ⊢
    rw [removeAwait_fst_eq]
    refine ⟨hqA.hg.ofGuards rfl (fun d => gOf_congr rfl rfl rfl rfl rfl d), ?_⟩
    exact hgiA.modAwaits hqA.ei p _ hng hb0

end CimbaModel.Sim.S3
