/-
  S4 — the strong timer invariant through commands and resumptions.
-/
import CimbaModel.Sim.S4TimerReg

namespace CimbaModel.Sim.S4
open CimbaModel CimbaModel.Sim CimbaModel.Sim.S3 CimbaModel.Event CimbaModel.Generated CimbaModel.KPQ
open CimbaModel.HashHeap (HTag Item Order HH WF abs liveTags)

variable {fr : Bool} {w : World} {p : Pid}

theorem TX.acquireStep_fst (h : TX fr w) (r : Nat) : TX fr (acquireStep w p r).1 :=
  h.lib (Eff.acquireStep .refl p r)

theorem TX.poolLoop_fst (h : TX fr w) (pl rem ini : Nat) (pre : Bool) : TX fr (poolLoop w p pl rem ini pre).1 :=
  h.lib (Eff.poolLoop .refl p pl rem ini pre)

theorem TX.bufGetLoop_fst (h : TX fr w) (b rem got : Nat) : TX fr (bufGetLoop w p b rem got).1 :=
  h.lib (Eff.bufGetLoop .refl p b rem got)

theorem TX.bufPutLoop_fst (h : TX fr w) (b rem left : Nat) : TX fr (bufPutLoop w p b rem left).1 :=
  h.lib (Eff.bufPutLoop .refl p b rem left)

theorem TX.oqGetLoop_fst (h : TX fr w) (q : Nat) : TX fr (oqGetLoop w p q).1 :=
  h.lib (Eff.oqGetLoop .refl p q)

theorem TX.oqPutLoop_fst (h : TX fr w) (q obj : Nat) : TX fr (oqPutLoop w p q obj).1 :=
  h.lib (Eff.oqPutLoop .refl p q obj)

theorem TX.pqGetLoop_fst (h : TX fr w) (k : Nat) : TX fr (pqGetLoop w p k).1 :=
  h.lib (Eff.pqGetLoop .refl p k)

theorem TX.pqPutLoop_fst (h : TX fr w) (k obj : Nat) (pri : Int) (v : Nat) (hv : 4 ≤ v ∧ v < 8) :
    TX fr (pqPutLoop w p k obj pri v).1 :=
  TX.ofEff rfl rfl rfl (fun _ hv' => by cases hv' with | head => exact hv | tail _ h' => cases h')
    (Eff.pqPutLoop (p := 0) (s := { TX.scope with pqVars := some [v] }) .refl p k obj pri v) h

theorem TX.timerAddVar (h : TX fr w) (p : Pid) (v : Nat) (d sig : Int) (hd : 0 ≤ d) (hv : v < 4) :
    TX fr (Sim.setVar (timerAdd w p d sig).1 p v (timerAdd w p d sig).2) :=
  (h.timerAdd_fst p d sig hd).setVar p v _ (fun _ => timerAdd_handle h.ei p d sig hd) (fun h8 => absurd h8 (by omega))

theorem TX.execCmd_fst (h : TX fr w) (hnd : ((timeAw w p).filter (· ≠ .time 0)).Nodup) (c : Cmd)
    (hd : DurOk c) (hv : VarsOk c) : TX fr (execCmd w p c).1 := by
  cases c with
  | hold d =>
    have hd' : 0 ≤ d := hd
    simp only [Sim.execCmd]
    exact (h.timerAdd_fst p d _ hd').block_fst p _ (fun _ => timerAdd_handle h.ei p d _ hd')
  | timerAdd v d sig =>
    simp only [Sim.execCmd]
    exact h.timerAddVar p v d sig hd hv
  | timerSet v d sig =>
    simp only [Sim.execCmd]
    exact (h.timersClear p).timerAddVar p v d sig hd hv
  | timerAddOf q d sig =>
    simp only [Sim.execCmd]
    split
    · exact h
    · exact h.timerAdd_fst q d sig hd
  | timerCancel v =>
    have hv' : v < 4 := hv
    simp only [Sim.execCmd]
    split
    · exact h
    · refine h.timerCancel_fst p _ hnd ?_
      intro e he hk _
      have hg : getVar w p v = (w.proc p).vars.getD v 0 := by
        unfold getVar; rw [if_neg (by omega)]
      exact ((h.vi.tv p v hv').2 e he (hk.trans hg)).2
  | cancelUser v =>
    have hv' : 8 ≤ v := hv
    simp only [Sim.execCmd]
    split
    · exact h
    · refine h.evCancel_fst _ ?_
      intro q hq
      obtain ⟨e, he, h1, h2, _⟩ := h.tl q _ hq
      have hg : getVar w p v = w.gvars.getD v 0 := by
        unfold getVar; rw [if_pos hv']
      have := (h.vi.uv v hv').2 e he (h1.trans hg)
      rw [h2] at this; exact absurd this (by decide)
  | schedUser v d pri =>
    have hd' : 0 ≤ d := hd
    have hv' : 8 ≤ v := hv
    simp only [Sim.execCmd]
    rw [sched_ge w aUser 0 0 (w.now + d) pri (by omega)]
    refine (h.pushEv aUser 0 0 (w.now + d) pri (by omega)).setVar p v _ (fun h4 => absurd h4 (by omega)) (fun _ => ⟨Nat.le_refl _, ?_⟩)
    intro e he hk
    have he' : e ∈ mkEv (w.ev.counter + 1) aUser 0 0 (w.now + d) pri :: w.ev.pending := he
    rcases List.mem_cons.1 he' with h1 | h1
    · rw [h1]; rfl
    · have := EvInv.key_le h.ei h1
      omega
  | pqPut k obj pri v =>
    exact TX.ofEff rfl rfl rfl (fun _ hv' => by cases hv' with | head => exact hv | tail _ h' => cases h') (Eff.execCmd w p _) h
  | timersClear => exact h.timersClear p
  | timersClearOf q =>
    simp only [Sim.execCmd]
    split
    · exact h
    · exact h.timersClear q
  | stop q val =>
    simp only [Sim.execCmd]
    split
    · exact h.finishProc p val true
    · split
      · exact h.finishProc q val true
      · exact h
  | exit val => exact h.finishProc p val false
  | cancelUserAll => exact h.cancelUserAll_fst
  | preempt r =>
    simp only [Sim.execCmd]
    split
    · exact h
    · split
      · exact h
      · split
        · exact (h.grab r p).recordRes r
        · split
          · dsimp only
            refine TX.grab ?_ r p
            refine TX.sched_fst ?_ _ _ _ _ _
            refine TX.setRes ?_ _
            exact (h.removeHeld_fst _ _).cancelAwaiteds _
          · exact h.acquireStep_fst r
  | recStart kind idx => exact h.setRecording kind idx true
  | recStop kind idx => exact h.setRecording kind idx false
  | _ => exact TX.ofEff rfl rfl rfl (fun _ hv => by cases hv) (Eff.execCmd w p _) h

theorem TX.retry_fst (h : TX fr w) (f : Frame) (hq : ∀ k obj pri v, f = .pqPut k obj pri v → 4 ≤ v ∧ v < 8) :
    TX fr (retry f w p).1 := by
  cases f with
  | acquire r => exact h.acquireStep_fst r
  | pool pl rem ini pre => exact h.poolLoop_fst pl rem ini pre
  | bufGet b rem got => exact h.bufGetLoop_fst b rem got
  | bufPut b rem left => exact h.bufPutLoop_fst b rem left
  | oqGet q => exact h.oqGetLoop_fst q
  | oqPut q obj => exact h.oqPutLoop_fst q obj
  | pqGet k => exact h.pqGetLoop_fst k
  | pqPut k obj pri v => exact h.pqPutLoop_fst k obj pri v (hq k obj pri v rfl)
  | _ => exact h

theorem TX.giveUp (h : TX fr w) (f : Frame) : TX fr (giveUp f w p) := by
  cases f with
  | pool pl rem ini pre => exact h.poolRollback p pl ini
  | condWait c => exact h.cancelKindFor_fst p aCond none (by decide)
  | _ => exact h

theorem TX.resumeFrame_fst (h : TX fr w) (hnd : ((timeAw w p).filter (· ≠ .time 0)).Nodup) (f : Frame) (sig : Int)
    (hh : ∀ k, f = .hold k → ∀ e ∈ w.ev.pending, e.key = k → e.item.a = aTime → e.item.b = p + 1)
    (hq : ∀ k obj pri v, f = .pqPut k obj pri v → 4 ≤ v ∧ v < 8) : TX fr (resumeFrame w p f sig).1 := by
  by_cases hf : isGuardFrame f = true
  · exact resumeFrame_wait (TX fr) hf p sig (fun _ => h) (fun g _ _ => (h.guardWaitLeave g p sig).retry_fst f hq)
      (fun g _ _ => (h.guardWaitLeave g p sig).giveUp f)
  · cases f with
    | hold k =>
      simp only [Sim.resumeFrame]
      split
      · exact TX.removeAwait_fst (w := (timerCancel w p k).1) (h.timerCancel_fst p k hnd (hh k rfl)) p (.time k)
      · exact h
    | yield => exact h
    | waitProc q =>
      simp only [Sim.resumeFrame]
      split
      · split
        · exact (h.removeAwait_fst p _).modProc_ctl q _ fun _ => ⟨rfl, rfl, fun _ => Or.inl rfl⟩
        · exact (h.removeAwait_fst p _).cancelKindFor_fst p aProc none (by decide)
      · exact h.removeAwait_fst p _
    | waitEvent v =>
      simp only [Sim.resumeFrame]
      split
      · split
        · exact (h.removeAwait_fst p _).setEvWaiters _
        · exact (h.removeAwait_fst p _).cancelKindFor_fst p aEvent none (by decide)
      · exact h.removeAwait_fst p _
    | _ => exact absurd rfl hf

end CimbaModel.Sim.S4
