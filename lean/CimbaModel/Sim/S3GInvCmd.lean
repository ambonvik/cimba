/-
  S3 — `GInv`: the precondition on signal values (`CmdOk`, `ScriptsOk`), its `Cmds` and `Call` instances, all commands;
  `Quiet` and all resumptions.
-/
import CimbaModel.Sim.S3GInvFinish

namespace CimbaModel.Sim.S3
open CimbaModel CimbaModel.Sim CimbaModel.Event CimbaModel.Generated CimbaModel.KPQ
open CimbaModel.HashHeap (HTag Item Order HH WF abs liveTags)

/-- the documented precondition on signal values: a timer, resume or interrupt signal is not (congruent to) SUCCESS -/
def CmdOk : Cmd → Prop
  | .timerAdd _ _ sig => encSig sig ≠ 0
  | .timerSet _ _ sig => encSig sig ≠ 0
  | .timerAddOf _ _ sig => encSig sig ≠ 0
  | .resume _ sig => sig = 0 ∨ encSig sig ≠ 0
  | .interrupt _ sig _ => sig = 0 ∨ encSig sig ≠ 0
  | _ => True

def ScriptsOk (w : World) : Prop := ∀ (p : Pid) (i : Nat) (c : Cmd) (t : String), (w.proc p).script[i]? = some (c, t) → CmdOk c

theorem ScriptsOk.ofStat {w w' : World} (h : ScriptsOk w) (hs : Stat w w') : ScriptsOk w' := by
  intro p i c t hc; rw [hs.script] at hc; exact h p i c t hc

variable {fr : Pid → Option Frame} {w : World} {p : Pid}

theorem GInv.cmds : Cmds fun w w' => Stat w w' ∧ (GInv noEx fr w → GInv noEx fr w') :=
  { Stat.foot.and GInv.foot with
    cancelAwaiteds := fun w q => ⟨(Stat.refl w).cancelAwaiteds q, fun h => (h.cancelAwaiteds q (noEx_not q)).1⟩
    timersClear := fun _ q => ⟨Stat.eff (.timersClear .refl q), fun h => h.timersClear q⟩
    timerCancel := fun _ q k => ⟨Stat.eff (.timerCancel .refl q k), fun h => h.timerCancel_fst q k⟩
    prioAwait := fun w q v a => ⟨Stat.eff (eff_prioAwaitStep .refl q v a), prioAwaitStep_rel
      (R := fun w w' => GInv noEx fr w → GInv noEx fr w') (Path.ofPred _) q v (fun _ m h => h.fail m) (fun _ _ _ hr h => h.reprioEv hr)
      (fun _ g h => h.reprioGuard q v g) w a⟩
    condSignal := fun _ c g hc => ⟨Stat.eff (.condSignal .refl g), fun h => h.condSignal_fst g ⟨c, hc⟩⟩ }

/-- a call of an existing process that is suspended nowhere: a wait on the guard of a condition is a `cond_wait` -/
theorem GInv.call (hp : GInv noEx fr w) (hfr : fr p = none) (hlt : p < w.procs.size) (hsep : CondSep w) :
    Call (fun w w' => Stat w w' ∧ (GInv noEx fr w → GInv noEx fr w')) (fun r => ∃ fr', GInv noEx fr' r.1) w p where
  cmds := GInv.cmds
  stay := fun _ _ _ h => ⟨fr, h.2 hp⟩
  enter := fun _ _ _ _ h hon => ⟨_, (h.2 hp).enterBlock_of h.1 (noEx_not p) hfr hlt hon hsep⟩
  blk := fun _ f h _ => ⟨_, (h.2 hp).block_fst p f (noEx_not p) hfr⟩

theorem CmdOk.okSig {c : Cmd} (h : CmdOk c) : Cmd.okSig (fun s => encSig s ≠ 0) c := by
  cases c <;> exact h

theorem GInv.calls (hp : GInv noEx fr w) (hfr : fr p = none) (hlt : p < w.procs.size) (hsep : CondSep w) :
    Calls (fun w w' => Stat w w' ∧ (GInv noEx fr w → GInv noEx fr w')) (fun r => ∃ fr', GInv noEx fr' r.1)
      (fun s => encSig s ≠ 0) w p where
  toCall := hp.call hfr hlt hsep
  hold d := ⟨_, hp.cmd_hold d (noEx_not p) hfr hlt⟩
  arm q d sig _ hs := ⟨Stat.eff (.timerAdd .refl q d sig), fun h => h.timerAdd_fst q d sig hs⟩
  rearm d sig hs := ⟨Stat.eff (.timerAdd (.timersClear .refl p) p d sig), fun h => (h.timersClear p).timerAdd_fst p d sig hs⟩
  poke a _ _ _ ha _ hs :=
    ⟨(Stat.refl w).sched_fst _ _ _ _ _, fun h => h.sched_harmless a _ _ _ _
      ⟨by rcases ha with rfl | rfl <;> decide, by rcases ha with rfl | rfl <;> exact fun e => absurd e (by decide),
        fun e => absurd e hs⟩⟩
  finish q v _ _ := ⟨(Stat.refl w).finishProc q v true, fun h => h.finishProc q v true (noEx_not q)⟩
  ended v s := ⟨fr, hp.finishProc p v s (noEx_not p)⟩
  waitProc q _ _ :=
    ⟨_, ((hp.addAwait_other p (.proc q) rfl).modProc_ctl q _ (by intro; exact ⟨rfl, rfl⟩)).block_fst p _ (noEx_not p) hfr⟩
  waitEvent k _ _ := ⟨_, ((hp.setEvWaiters _).addAwait_other p (.event k) rfl).block_fst p _ (noEx_not p) hfr⟩

theorem GInv.execCmd_ex (hp : GInv noEx fr w) (hfr : fr p = none) (hlt : p < w.procs.size) (hsep : CondSep w) (c : Cmd)
    (hok : CmdOk c) : ∃ fr', GInv noEx fr' (execCmd w p c).1 := (hp.calls hfr hlt hsep).execCmd c hok.okSig


/-- nothing that could be mistaken for the SUCCESS wake-up of a guard wait or hold of `p` is pending, and `p` is not
    queued on the guard it awaits: the situation in which a SUCCESS resumption is legitimate -/
structure Quiet (w : World) (p : Pid) : Prop where
  ng : ∀ e ∈ w.ev.pending, isGrant e → e.item.b ≠ p + 1
  nt : ∀ e ∈ w.ev.pending, e.item.a = aTime → e.item.c = 0 → e.item.b ≠ p + 1
  nq : ∀ g, Await.guard g ∈ (w.proc p).awaits → ¬ queued w g (p + 1)

theorem GInv.quiet_guard (hp : GInv noEx fr w) {g : Nat} {sig : Int}
    (hq : sig = sigSuccess → Quiet w p) :
    sig = sigSuccess → (∀ e ∈ w.ev.pending, isGrant e → e.item.b ≠ p + 1) ∧ ¬ queued w g (p + 1) := by
  intro hs
  obtain ⟨h1, _, h3⟩ := hq hs
  refine ⟨h1, fun hqq => ?_⟩
  have := (hp.gk g _ hqq).2.2 (noEx_not _)
  simp only [Nat.add_sub_cancel] at this
  exact h3 g this hqq

theorem GInv.clearBlocked_clean (hp : GInv noEx fr w) (haw : guardAw w p = []) (hnh : ∀ h, fr p ≠ some (.hold h)) :
    GInv noEx fr (w.modProc p fun y => { y with blocked := none }) :=
  hp.modBlocked p none (Or.inr (Or.inr (hp.clean_of_aw (noEx_not p) haw hnh)))

theorem GInv.aw_nil_of_noFrame (hp : GInv noEx fr w) {f : Frame} (hfr : fr p = some f) (hno : ∀ g, ¬ FrameOn w f g) :
    guardAw w p = [] := by
  rcases hp.ga p with h | ⟨g, f', h1, h2, _⟩
  · exact h
  · rw [hfr] at h1; cases h1; exact absurd h2 (hno g)

theorem stat_leave (w : World) (p : Pid) (g : Nat) (sig : Int) :
    Stat w (guardWaitLeave (w.modProc p fun y => { y with blocked := none }) g p sig) :=
  ((Stat.refl w).modProc p (fun y => { y with blocked := none }) fun _ => rfl).step (.guardWaitLeave .refl g p sig)

theorem GInv.resume_ex (hp : GInv noEx fr w) {f : Frame} (hfr : fr p = some f) (hlt : p < w.procs.size) (hsep : CondSep w)
    (sig : Int) (hq : sig = sigSuccess → Quiet w p) :
    ∃ fr', GInv noEx fr' (resumeFrame (w.modProc p fun y => { y with blocked := none }) p f sig).1 := by
  have hx := noEx_not p
  have hnh : isGuardFrame f = true ∨ f = .yield ∨ (∃ q, f = .waitProc q) ∨ (∃ k, f = .waitEvent k) → ∀ h, fr p ≠ some (.hold h) := by
    intro hf h hh
    rw [hfr] at hh
    cases hh
    rcases hf with hf | hf | ⟨_, hf⟩ | ⟨_, hf⟩ <;> cases hf
  cases hg : isGuardFrame f with
  | true =>
    -- the recorded frame has been cleared: the objects are those of `w`
    have hon' : ∀ g, FrameOn (w.modProc p fun y => { y with blocked := none }) f g ↔ FrameOn w f g :=
      frameOn_congr rfl rfl rfl rfl rfl rfl f
    refine resumeFrame_wait (fun w' => ∃ fr', GInv noEx fr' w') hg p sig ?_ ?_ ?_
    · intro hno
      exact ⟨fr, hp.clearBlocked_clean (hp.aw_nil_of_noFrame hfr (fun g h => hno g ((hon' g).2 h))) (hnh (Or.inl hg))⟩
    · intro g hon hs
      have hon := (hon' g).1 hon
      have hst := stat_leave w p g sig
      by_cases hc : ∃ c, f = .condWait c
      · obtain ⟨c, rfl⟩ := hc
        have := hp.left_cond hx hfr hon sig (hp.quiet_guard hq)
        rw [if_neg (fun h => h hs)] at this
        exact ⟨_, this⟩
      · have h1 := hp.left_plain hx hfr hon (fun c h => hc ⟨c, h⟩) sig (hp.quiet_guard hq)
        exact (h1.call (setFrame_self _ _ _) (by rw [hst.psize]; exact hlt) (hsep.ofStat hst)).retry f
    · intro g hon hs
      have hon := (hon' g).1 hon
      by_cases hc : ∃ c, f = .condWait c
      · obtain ⟨c, rfl⟩ := hc
        have := hp.left_cond hx hfr hon sig (hp.quiet_guard hq)
        rw [if_pos hs] at this
        exact ⟨_, this⟩
      · have h1 := hp.left_plain hx hfr hon (fun c h => hc ⟨c, h⟩) sig (hp.quiet_guard hq)
        exact ⟨_, GInv.foot.giveUp f _ p h1⟩
  | false =>
    cases f with
    | hold h => exact ⟨_, hp.resume_hold hx hfr sig (fun hs => (hq hs).nt)⟩
    | yield => exact ⟨fr, hp.clearBlocked_clean (hp.aw_nil_of_noFrame hfr (fun g h => h.elim)) (hnh (Or.inr (Or.inl rfl)))⟩
    | waitProc q =>
      have hA := hp.clearBlocked_clean (hp.aw_nil_of_noFrame hfr (fun g h => h.elim)) (hnh (Or.inr (Or.inr (Or.inl ⟨q, rfl⟩))))
      have h1 := hA.removeAwait_other p (.proc q) rfl
      simp only [Sim.resumeFrame]
      split
      · split
        · exact ⟨fr, h1.modProc_ctl q _ (by intro; exact ⟨rfl, rfl⟩)⟩
        · exact ⟨fr, GInv.foot.cancelKindFor _ p aProc none h1⟩
      · exact ⟨fr, h1⟩
    | waitEvent k =>
      have hA := hp.clearBlocked_clean (hp.aw_nil_of_noFrame hfr (fun g h => h.elim)) (hnh (Or.inr (Or.inr (Or.inr ⟨k, rfl⟩))))
      have h1 := hA.removeAwait_other p (.event k) rfl
      simp only [Sim.resumeFrame]
      split
      · split
        · exact ⟨fr, h1.setEvWaiters _⟩
        · exact ⟨fr, GInv.foot.cancelKindFor _ p aEvent none h1⟩
      · exact ⟨fr, h1⟩
    | _ => cases hg

end CimbaModel.Sim.S3
