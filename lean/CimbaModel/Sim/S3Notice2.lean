/-
  S3 — cancellation notices: the run loop, resumption, `dispatch`, reachable states.
-/
import CimbaModel.Sim.S3Notice
import CimbaModel.Sim.S3Built

namespace CimbaModel.Sim.S3
open CimbaModel CimbaModel.Sim CimbaModel.Event CimbaModel.Generated CimbaModel.KPQ
open CimbaModel.HashHeap (HTag Item Order HH WF abs liveTags)

theorem NI.advance {w : World} (h : NI w) (p : Pid) (l : String) (pc' : Nat) :
    NI ((w.emit l).modProc p fun y => { y with pc := pc' }) :=
  (h.emit l).modProc p _ (fun _ => Or.inl rfl)

theorem NI.takeNext {w : World} (h : NI w) (hi : EvInv w.ev) {t : HTag} {ev' : EvQ} (hn : executeNext w.ev = some (t, ev')) :
    NI (takeNext w t ev') := by
  obtain ⟨_, _, hpend, _⟩ := executeNext_facts hi hn
  refine h.step (fun x => by rw [takeNext_proc]) ?_
  intro e he hno
  rw [takeNext_eq] at he
  simp only [pushAll_pending, List.mem_append] at he
  rcases he with he | he
  · obtain ⟨_, _, _, _, x, hx, heq⟩ := wakeEvs_props he
    simp only [evWakes, List.mem_map] at hx
    obtain ⟨q, _, rfl⟩ := hx
    rw [heq] at hno; exact absurd hno.1 (by show aEvent ≠ aRes; decide)
  · have : e ∈ remove w.ev.pending t.key := by rw [← hpend]; exact he
    exact ⟨e, (mem_remove.1 this).1, rfl⟩

/-- one activation keeps `NI`, given the guard invariant and the inertness of processes that are not running where a
    command is executed (`condCancel`) or a process ends -/
theorem NI.act : Act (fun w => NI w ∧ GInvB w ∧ NRInv w) NI Caller fun _ _ _ => True where
  emit h l := h.1.emit l
  fail h m := h.1.fail m
  pc h p _ := h.1.modProc p _ fun _ => Or.inl rfl
  finish h p := h.1.finishEnd h.2.1.ei p 0 false
  exec h p _ c _ _ l := NI.execCmd_fst (h.1.emit l) (GInv.emit h.2.1 l) (NRInv.kept.emit h.2.2 l) p c
  next _ _ hc _ _ hs _ _ _ l n heq ho := hc.next hs heq ho l n
  resume h p f sig _ hrun _ :=
    ⟨NI.resumeFrame_fst (h.1.modProc p (fun y => { y with blocked := none }) fun _ => Or.inl rfl) p f sig,
     fun _ _ _ l n heq => Caller.resumed hrun heq l n⟩

theorem NI.act4 : Act (fun w => NI w ∧ GInvB w ∧ NRInv w ∧ SideOk w) (fun w => NI w ∧ GInvB w ∧ NRInv w ∧ SideOk w) Caller Due :=
  ((NI.act.mono (fun h => ⟨h.1, h.2.1, h.2.2.1⟩) id id).and ((GInvB.act.mono (fun h => ⟨h.2.1, h.2.2.2⟩) id id).and
    ((NRInv.kept.run.toAct.mono (fun h => h.2.2.1) id id).and ((run_ofStat SideOk.ofStat).toAct.mono (fun h => h.2.2.2) id id)))).mono
    id id fun h => ⟨trivial, h, trivial, trivial⟩

theorem NI.resumeProc {w : World} (h : NI w) (hg : GInvB w) (hside : SideOk w) (hnr : NRInv w) (p : Pid) (sig : Int)
    (hq : ∀ f, (w.proc p).blocked = some f → sig = sigSuccess → Quiet w p) : NI (resumeProc w p sig) :=
  (NI.act4.resumeProc ⟨h, hg, hnr, hside⟩ p sig hq).1

/-- `NI` rides on `AllInv` through a dispatch -/
theorem NI.run : Run (fun w => NI w ∧ AllInv w) NI Caller fun _ _ _ => True where
  toAct := NI.act.mono (fun h => ⟨h.1, h.2.g, h.2.nr⟩) id id
  start h _ _ hex _ :=
    have hT := h.1.takeNext h.2.g.ei hex
    ⟨hT, fun _ => ⟨hT.modProc _ _ fun _ => Or.inr rfl, Caller.started _ _⟩⟩
  time h _ _ hex _ := ⟨(h.1.takeNext h.2.g.ei hex).removeAwait_fst _ _, trivial⟩
  wake h _ _ hex k _ := ⟨(h.1.takeNext h.2.g.ei hex).removeAwaitKind_fst _ k, trivial⟩
  grant h _ _ hex _ := ⟨h.1.takeNext h.2.g.ei hex, trivial⟩
  intr h _ _ hex _ := ⟨(h.1.takeNext h.2.g.ei hex).cancelAwaiteds _, trivial⟩
  other h _ _ hex _ := h.1.takeNext h.2.g.ei hex

theorem NI.dispatch {w w' : World} (h : NI w) (hA : AllInv w) (hd : dispatch w = some w') : NI w' :=
  ((NI.run.and (AllInv.run.mono (J' := fun w => NI w ∧ AllInv w) (fun h => h.2) id Iff.rfl)).dispatch ⟨h, hA⟩ hd).1

theorem NI.reach {w w' : World} (hr : Reach w w') (h : NI w) (hA : AllInv w) : NI w' ∧ AllInv w' :=
  hr.keeps (I := fun w => NI w ∧ AllInv w) (fun h hd => ⟨h.1.dispatch h.2 hd, h.2.dispatch hd⟩) ⟨h, hA⟩

theorem Built.ni {w : World} (h : Built w) : NI w := by
  intro e he hn
  have := (h.binv.pend e he).1
  rw [hn.1] at this; exact absurd this (by decide)

/-- in every state reachable from an initial state (`InitOkG ∧ SideOk`, no notice pending for a process that is not
    running) every pending cancellation notice of `cmb_condition_cancel` (an aRes event with a non-SUCCESS code) is
    addressed to a process that is running: it is created only for a process on the condition's waiting list (which is
    suspended, hence running), and the end of a process cancels all its pending events before its status changes -/
theorem cancelled_notice_owner_reachable {w0 w : World} (hr : Reach w0 w) (hi : InitOkG w0) (hs : SideOk w0) (hn : NI w0) :
    ∀ e ∈ w.ev.pending, e.item.a = aRes → e.item.c ≠ 0 → 1 ≤ e.item.b ∧ (w.proc (e.item.b - 1)).status = .running :=
  fun e he ha hc => (NI.reach hr hn (hi.all hs)).1 e he ⟨ha, hc⟩

theorem cancelled_notice_owner_built {w0 w : World} (hb : Built w0) (hsz : w0.procs.size < 2 ^ 31) (hr : Reach w0 w) :
    ∀ e ∈ w.ev.pending, e.item.a = aRes → e.item.c ≠ 0 → 1 ≤ e.item.b ∧ (w.proc (e.item.b - 1)).status = .running :=
  cancelled_notice_owner_reachable hr (hb.binv.initOk hsz).1 (hb.binv.initOk hsz).2 hb.ni

end CimbaModel.Sim.S3
