/-
  How a call ends.  A command, or the continuation of a suspended call, of process `q` makes steps of the library
  (`Eff`) and then does one of five things: it returns, it is skipped, `q` joins the waiting list of a guard and is
  suspended, `q` is suspended without joining one, `q` ends.  `Called k p q s w0 r` says so of the result `r` (world and
  outcome) with the steps within the scope `s` as seen from `p`; `k = false`: neither skipped nor ended (a continuation).
  `execCmd` and `resumeFrame` call themselves (`p = q`); the loops are also read on behalf of the caller `0` at a scope
  with `Who.any` (`TX.lib`, `KRel.lib`, `Stat.eff`), which is why there are two process parameters.
  The footprint of the blocking loops, of `execCmd` and of `resumeFrame` is walked through here and nowhere else
  (`Called.eff`, then `Eff.execCmd` … and with them the footprint of the run); what a family knows of the steps (an
  induction over `Eff`) and of the five ends gives what it knows of every call.  A family whose invariant is no footprint
  fact (the grant, the registrations, no fault, S2's `Ft`) walks `execCmd` itself.
  The continuation of a wait on a guard is stated once (`S3.FrameOn`, `S3.retry`, `S3.giveUp`, `S3.resumeFrame_wait_out`):
  the process leaves the guard of the object its frame names, then goes back to the call or gives up.
-/
import CimbaModel.Sim.Eff

namespace CimbaModel.Sim
open CimbaModel CimbaModel.Event CimbaModel.Generated
open CimbaModel.HashHeap (HTag Item Order HH)

namespace S3

def isGuardFrame : Frame → Bool
  | .acquire _ => true | .pool _ _ _ _ => true | .bufGet _ _ _ => true | .bufPut _ _ _ => true
  | .oqGet _ => true | .oqPut _ _ => true | .pqGet _ => true | .pqPut _ _ _ _ => true | .condWait _ => true
  | _ => false

/-- frame `f` is a wait on guard `g` (the guard assigned to the object the frame names) -/
def FrameOn (w : World) (f : Frame) (g : Nat) : Prop :=
  match f with
  | .acquire r => (w.res[r]?).map resStat = some g
  | .pool pl _ _ _ => (w.pools[pl]?).map (fun x => (poolStat x).1) = some g
  | .bufGet b _ _ => (w.bufs[b]?).map (fun x => (bufStat x).1) = some g
  | .bufPut b _ _ => (w.bufs[b]?).map (fun x => (bufStat x).2.1) = some g
  | .oqGet q => (w.oqs[q]?).map (fun x => (oqStat x).1) = some g
  | .oqPut q _ => (w.oqs[q]?).map (fun x => (oqStat x).2.1) = some g
  | .pqGet k => (w.pqs[k]?).map (fun x => (pqStat x).1) = some g
  | .pqPut k _ _ _ => (w.pqs[k]?).map (fun x => (pqStat x).2.1) = some g
  | .condWait c => w.conds[c]? = some g
  | _ => False

theorem frameOn_guardFrame {w : World} {f : Frame} {g : Nat} (h : FrameOn w f g) : isGuardFrame f = true := by
  cases f <;> first | rfl | exact h.elim

/-- the call a wait on a guard goes back to when it is woken with SUCCESS (`cmb_condition_wait` just returns) -/
def retry (f : Frame) (w : World) (p : Pid) : World × Outcome :=
  match f with
  | .acquire r => acquireStep w p r
  | .pool pl rem ini pre => poolLoop w p pl rem ini pre
  | .bufGet b rem got => bufGetLoop w p b rem got
  | .bufPut b rem left => bufPutLoop w p b rem left
  | .oqGet q => oqGetLoop w p q
  | .oqPut q obj => oqPutLoop w p q obj
  | .pqGet k => pqGetLoop w p k
  | .pqPut k obj pri v => pqPutLoop w p k obj pri v
  | _ => (w, .ret sigSuccess "")

/-- what a wait on a guard undoes when it is woken with anything else: a pool acquisition gives back what it has taken,
    `cmb_condition_wait` withdraws a wake-up that a signal in this same instant has left pending -/
def giveUp (f : Frame) (w : World) (p : Pid) : World :=
  match f with
  | .pool pl _ ini _ => poolRollback w p pl ini
  | .condWait _ => (cancelKindFor w p aCond none).1
  | _ => w

/-- what a guard wait that is woken with anything but SUCCESS reports -/
def giveUpText : Frame → String
  | .bufGet _ _ got => s!"amt={got}"
  | .bufPut _ _ left => s!"amt={left}"
  | .oqGet _ => "obj=0"
  | .pqGet _ => "obj=0"
  | _ => ""

theorem resumeFrame_on_out {w : World} {f : Frame} {g : Nat} (h : FrameOn w f g) (p : Pid) (sig : Int) :
    resumeFrame w p f sig =
      if sig = sigSuccess then retry f (guardWaitLeave w g p sig) p
      else (giveUp f (guardWaitLeave w g p sig) p, .ret sig (giveUpText f)) := by
  cases f with
  | acquire r =>
    obtain ⟨x, hx, rfl⟩ := Option.map_eq_some_iff.1 h
    simp only [resumeFrame, hx, retry, giveUp, resStat, giveUpText]
  | pool pl rem ini pre =>
    obtain ⟨x, hx, rfl⟩ := Option.map_eq_some_iff.1 h
    simp only [resumeFrame, hx, retry, giveUp, poolStat, giveUpText]
    by_cases hs : sig = sigSuccess
    · simp only [hs, ne_eq, not_true_eq_false, if_false, if_true]
    · simp only [hs, ne_eq, not_false_eq_true, if_true, if_false]
  | bufGet b rem got =>
    obtain ⟨x, hx, rfl⟩ := Option.map_eq_some_iff.1 h
    simp only [resumeFrame, hx, retry, giveUp, bufStat, giveUpText]
  | bufPut b rem left =>
    obtain ⟨x, hx, rfl⟩ := Option.map_eq_some_iff.1 h
    simp only [resumeFrame, hx, retry, giveUp, bufStat, giveUpText]
  | oqGet q =>
    obtain ⟨x, hx, rfl⟩ := Option.map_eq_some_iff.1 h
    simp only [resumeFrame, hx, retry, giveUp, oqStat, giveUpText]
  | oqPut q obj =>
    obtain ⟨x, hx, rfl⟩ := Option.map_eq_some_iff.1 h
    simp only [resumeFrame, hx, retry, giveUp, oqStat, giveUpText]
  | pqGet k =>
    obtain ⟨x, hx, rfl⟩ := Option.map_eq_some_iff.1 h
    simp only [resumeFrame, hx, retry, giveUp, pqStat, giveUpText]
  | pqPut k obj pri v =>
    obtain ⟨x, hx, rfl⟩ := Option.map_eq_some_iff.1 h
    simp only [resumeFrame, hx, retry, giveUp, pqStat, giveUpText]
  | condWait c =>
    have hc : w.conds[c]? = some g := h
    simp only [resumeFrame, hc, retry, giveUp, giveUpText]
    by_cases hs : sig = sigSuccess
    · simp only [hs, ne_eq, not_true_eq_false, if_false, if_true]
    · simp only [hs, ne_eq, not_false_eq_true, if_true, if_false]
  | _ => exact h.elim

theorem resumeFrame_off_out {w : World} {f : Frame} (hf : isGuardFrame f = true) (h : ∀ g, ¬ FrameOn w f g) (p : Pid) (sig : Int) :
    resumeFrame w p f sig = (w, .ret sig "") := by
  have hnone : ∀ {α β : Type} {o : Option α} {st : α → β}, (∀ g, ¬ o.map st = some g) → o = none := by
    intro α β o st hn
    cases o with
    | none => rfl
    | some x => exact absurd rfl (hn (st x))
  cases f with
  | acquire r => simp only [resumeFrame, hnone h]
  | pool pl rem ini pre => simp only [resumeFrame, hnone h]
  | bufGet b rem got => simp only [resumeFrame, hnone h]
  | bufPut b rem left => simp only [resumeFrame, hnone h]
  | oqGet q => simp only [resumeFrame, hnone h]
  | oqPut q obj => simp only [resumeFrame, hnone h]
  | pqGet k => simp only [resumeFrame, hnone h]
  | pqPut k obj pri v => simp only [resumeFrame, hnone h]
  | condWait c =>
    have : w.conds[c]? = none := by
      cases hc : w.conds[c]? with
      | none => rfl
      | some g => exact absurd hc (h g)
    simp only [resumeFrame, this]
  | _ => cases hf

theorem resumeFrame_wait_out (Q : World × Outcome → Prop) {w : World} {f : Frame} (hf : isGuardFrame f = true) (p : Pid) (sig : Int)
    (off : (∀ g, ¬ FrameOn w f g) → Q (w, .ret sig ""))
    (again : ∀ g, FrameOn w f g → sig = sigSuccess → Q (retry f (guardWaitLeave w g p sig) p))
    (stop : ∀ g, FrameOn w f g → sig ≠ sigSuccess → Q (giveUp f (guardWaitLeave w g p sig) p, .ret sig (giveUpText f))) :
    Q (resumeFrame w p f sig) := by
  by_cases hon : ∃ g, FrameOn w f g
  · obtain ⟨g, hon⟩ := hon
    rw [resumeFrame_on_out hon]
    split
    · rename_i hs; exact again g hon hs
    · rename_i hs; exact stop g hon hs
  · rw [resumeFrame_off_out hf (fun g h => hon ⟨g, h⟩)]
    exact off (fun g h => hon ⟨g, h⟩)

theorem resumeFrame_wait (Q : World → Prop) {w : World} {f : Frame} (hf : isGuardFrame f = true) (p : Pid) (sig : Int)
    (off : (∀ g, ¬ FrameOn w f g) → Q w)
    (again : ∀ g, FrameOn w f g → sig = sigSuccess → Q (retry f (guardWaitLeave w g p sig) p).1)
    (stop : ∀ g, FrameOn w f g → sig ≠ sigSuccess → Q (giveUp f (guardWaitLeave w g p sig) p)) :
    Q (resumeFrame w p f sig).1 :=
  resumeFrame_wait_out (fun r => Q r.1) hf p sig off again stop

end S3

/-- `r` is the result of a call of process `q` started in `w0`: steps of the library within `s` as seen from `p`, then one
    of five ends; `k = false`: a continuation, which is neither skipped nor ends the process -/
inductive Called (k : Bool) (p q : Pid) (s : Scope) (w0 : World) : World × Outcome → Prop
  | ret {W : World} (h : Eff p s w0 W) (v : Int) (e : String) : Called k p q s w0 (W, .ret v e)
  | skip {W : World} (h : Eff p s w0 W) (hk : k = true) : Called k p q s w0 (W, .skip)
  /-- `q` waits for the guard `g` with the demand `d`; the frame is that of a wait on a guard (`S3.isGuardFrame`) -/
  | wait {W : World} (h : Eff p s w0 W) (g : Nat) (d : Demand) (f : Frame) (hf : S3.isGuardFrame f = true)
      (hw : s.Enters (q = p)) (hv : ∀ k o pri v, f = .pqPut k o pri v → s.PqVar v) :
      Called k p q s w0 (block (guardWaitEnter W g q d) q f)
  /-- a `hold` frame holds the handle of the timer just armed -/
  | blk {W : World} (h : Eff p s w0 W) (f : Frame) (hf : S3.isGuardFrame f = false) (hs : s.blocked.ok (q = p))
      (hh : ∀ k, f = .hold k → s.handles = true ∧ JustScheduled W aTime (q + 1) k) : Called k p q s w0 (block W q f)
  | ended {W : World} (h : Eff p s w0 W) (v : Int) (st : Bool) (hk : k = true) (hs : s.Ends (q = p)) :
      Called k p q s w0 (finishProc W q v st, .ended)

variable {k : Bool} {p q : Pid} {s : Scope} {w0 w : World}

/-- the footprint of the whole call -/
theorem Called.eff {r : World × Outcome} (c : Called k p q s w0 r) : Eff p s w0 r.1 := by
  cases c with
  | ret h v e => exact h
  | skip h _ => exact h
  | wait h g d f hf hw hv =>
    exact (h.guardWaitEnter g q d hw.guards hw.awaits).block q f hw.blocked hv fun _ e => by subst e; cases hf
  | blk h f hf hs hh => exact h.block q f hs (fun _ _ _ _ e => by subst e; cases hf) hh
  | ended h v st _ hs => exact h.finishProc q v st hs

section
variable (h : Eff p s w0 w)
include h

/-- the wait on a guard with a frame that names no variable -/
theorem Eff.waits (g : Nat) (d : Demand) (f : Frame) (hf : S3.isGuardFrame f = true := by rfl)
    (hp : plainFrame f = true := by rfl) (hw : s.Enters (q = p) := by scope) :
    Called k p q s w0 (Sim.block (Sim.guardWaitEnter w g q d) q f) :=
  .wait h g d f hf hw fun _ _ _ _ e => by subst e; cases hp

theorem Eff.blocks (f : Frame) (hf : S3.isGuardFrame f = false := by rfl) (hp : plainFrame f = true := by rfl)
    (hs : s.blocked.ok (q = p) := by scope) : Called k p q s w0 (Sim.block w q f) :=
  .blk h f hf hs fun _ e => by subst e; cases hp

theorem Eff.ends (v : Int) (st : Bool) (hs : s.Ends (q = p) := by scope) : Called true p q s w0 (Sim.finishProc w q v st, .ended) :=
  .ended h v st rfl hs

theorem Called.acquireStep (r : Nat) (hs : s.res = true := by scope) (hav : s.avail = true := by scope)
    (hh : s.heldR.ok (q = p) := by scope) (hw : s.Enters (q = p) := by scope) :
    Called k p q s w0 (acquireStep w q r) := by
  unfold Sim.acquireStep
  split
  · exact .ret (h.fail _) _ _
  · split
    · exact .ret ((h.grab r q).recordRes r) _ _
    · exact h.waits _ _ _

theorem Called.poolLoop (pl rem ini : Nat) (pre : Bool) (hs : s.pools = true := by scope)
    (hph : s.ph = true := by scope) (hav : s.avail = true := by scope) (hh : s.heldP.ok (q = p) := by scope)
    (hg : s.Signals := by scope) (hw : s.Enters (q = p) := by scope)
    (hm : pre = true → s.Mugs := by scope) :
    Called k p q s w0 (poolLoop w q pl rem ini pre) := by
  rw [poolLoop_eq]
  split
  · exact .ret (h.fail _) _ _
  · rename_i x _
    have take : Eff p s w0 (poolTake w q pl x rem).1 := by
      unfold poolTake
      split
      · exact ((h.setPoolInUse pl _).recordPool pl).poolUpdateRecord pl q _
      · exact h
    have mug : Eff p s w0 (poolTakeMug w q pl x rem pre).1 := by
      unfold poolTakeMug
      split
      · rename_i hp; exact take.poolMug _ q pl _ (hm hp)
      · exact take
    split
    · exact .ret ((((h.setPoolInUse pl _).recordPool pl).poolUpdateRecord pl q rem).signal _) _ _
    · split
      · exact .ret mug _ _
      · exact mug.waits _ _ _

theorem Called.bufGetLoop (b rem got : Nat) (hs : s.bufs = true := by scope) (hav : s.avail = true := by scope) (hg : s.Signals := by scope)
    (hw : s.Enters (q = p) := by scope) :
    Called k p q s w0 (bufGetLoop w q b rem got) := by
  unfold Sim.bufGetLoop
  split
  · exact .ret (h.fail _) _ _
  · rename_i x hx
    split
    · dsimp only
      refine .ret ?_ _ _
      split
      · exact Eff.signal (Eff.signal (Eff.recordBuf (Eff.setBuf h hx _) b) _) _
      · exact Eff.signal (Eff.recordBuf (Eff.setBuf h hx _) b) _
    · dsimp only
      refine Eff.waits (Eff.signal ?_ _) _ _ _
      split
      · exact Eff.signal (Eff.recordBuf (Eff.setBuf h hx _) b) _
      · exact h

theorem Called.bufPutLoop (b rem left : Nat) (hs : s.bufs = true := by scope) (hav : s.avail = true := by scope) (hg : s.Signals := by scope)
    (hw : s.Enters (q = p) := by scope) :
    Called k p q s w0 (bufPutLoop w q b rem left) := by
  unfold Sim.bufPutLoop
  split
  · exact .ret (h.fail _) _ _
  · rename_i x hx
    split
    · dsimp only
      refine .ret ?_ _ _
      split
      · exact Eff.signal (Eff.signal (Eff.recordBuf (Eff.setBuf h hx _) b) _) _
      · exact Eff.signal (Eff.recordBuf (Eff.setBuf h hx _) b) _
    · dsimp only
      refine Eff.waits (Eff.signal ?_ _) _ _ _
      split
      · exact Eff.signal (Eff.recordBuf (Eff.setBuf h hx _) b) _
      · exact h

theorem Called.oqGetLoop (i : Nat) (hs : s.oqs = true := by scope) (hav : s.avail = true := by scope) (hg : s.Signals := by scope)
    (hw : s.Enters (q = p) := by scope) :
    Called k p q s w0 (oqGetLoop w q i) := by
  unfold Sim.oqGetLoop
  split
  · exact .ret (h.fail _) _ _
  · rename_i x hx
    split
    · exact .ret (Eff.signal (Eff.recordOQ (Eff.setOQ h hx _) i) _) _ _
    · exact h.waits _ _ _

theorem Called.oqPutLoop (i obj : Nat) (hs : s.oqs = true := by scope) (hav : s.avail = true := by scope) (hg : s.Signals := by scope)
    (hw : s.Enters (q = p) := by scope) :
    Called k p q s w0 (oqPutLoop w q i obj) := by
  unfold Sim.oqPutLoop
  split
  · exact .ret (h.fail _) _ _
  · rename_i x hx
    split
    · exact .ret (Eff.signal (Eff.recordOQ (Eff.setOQ h hx _) i) _) _ _
    · exact h.waits _ _ _

theorem Called.pqGetLoop (i : Nat) (hs : s.pqs = true := by scope) (hav : s.avail = true := by scope) (hg : s.Signals := by scope)
    (hw : s.Enters (q = p) := by scope) :
    Called k p q s w0 (pqGetLoop w q i) := by
  unfold Sim.pqGetLoop
  split
  · exact .ret (h.fail _) _ _
  · rename_i x hx
    split
    · rename_i hpos
      split
      · rename_i heq
        exact .ret (Eff.signal (Eff.recordPQ (Eff.setPQ h hx _ (hq := by exact .get hpos heq rfl)) i) _) _ _
      · exact .ret (h.fail _) _ _
      · exact .ret (h.fail _) _ _
    · exact h.waits _ _ _

theorem Called.pqPutLoop (i obj : Nat) (pri : Int) (v : Nat) (hs : s.pqs = true := by scope) (hav : s.avail = true := by scope)
    (hg : s.Signals := by scope) (hw : s.Enters (q = p) := by scope) (hv : s.vars.ok (q = p) := by scope)
    (hgv : s.gvars = true := by scope) (hpq : s.PqVar v := by scope) :
    Called k p q s w0 (pqPutLoop w q i obj pri v) := by
  unfold Sim.pqPutLoop
  split
  · exact .ret (h.fail _) _ _
  · rename_i x hx
    split
    · split
      · rename_i heq
        exact .ret (Eff.signal (Eff.recordPQ (Eff.setVar (Eff.setPQ h hx _ (hq := by exact .put heq rfl)) q v _ hv hgv (.inl hpq)) i) _) _ _
      · exact .ret (h.fail _) _ _
    · exact .wait h _ _ _ rfl hw fun _ _ _ _ e => by cases e; exact hpq

end

theorem Called.execCmd (w : World) (p : Pid) (c : Cmd) : Called true p p (cmdScope c) w (execCmd w p c) := by
  have h : Eff p (cmdScope c) w w := .refl
  cases c
  case prioSet z v =>
    have := Eff.prioSet (s := cmdScope (.prioSet z v)) h p z v
    by_cases hz : z < w.procs.size
    · rw [S3.prioSet_eq w p z v hz] at this ⊢; dsimp only at this ⊢; exact .ret this _ _
    · simp only [Sim.execCmd, Nat.le_of_not_lt hz, if_true] at this ⊢; exact .skip this rfl
  all_goals simp only [Sim.execCmd]
  case hold d =>
    exact .blk (h.timerAdd p d _) _ rfl rfl fun _ e => by cases e; exact ⟨rfl, justScheduled_timerAdd w p d _⟩
  case yield => exact h.blocks _
  case timerAdd v d sig => exact .ret (h.timerAddVar v d sig) _ _
  case timerSet v d sig => exact .ret ((h.timersClear p).timerAddVar v d sig) _ _
  case timerCancel v =>
    split
    · exact .skip h rfl
    · exact .ret (h.timerCancel p _) _ _
  case timersClear => exact .ret (h.timersClear p) _ _
  case timersClearOf z =>
    split
    · exact .skip h rfl
    · exact .ret (h.timersClear z) _ _
  case timerAddOf z d sig =>
    split
    · exact .skip h rfl
    · exact .ret (h.timerAdd z d sig) _ _
  case resume z sig =>
    split
    · exact .skip h rfl
    · exact .ret (h.sched _ _ _ _) _ _
  case interrupt z sig pri =>
    split
    · exact .skip h rfl
    · exact .ret (h.sched _ _ _ _) _ _
  case stop z val =>
    split
    · exact h.ends val true
    · split
      · exact .ret (h.finishProc z val true) _ _
      · exact .ret h _ _
  case start z =>
    split
    · exact .skip h rfl
    · exact .ret (h.sched _ _ _ _) _ _
  case exit val => exact h.ends val false
  case waitProc z =>
    split
    · exact .skip h rfl
    · split
      · exact .ret h _ _
      · exact ((h.addAwait p _).setWaiters z _).blocks _
  case schedUser v d pri =>
    exact .ret ((h.sched 0 0 _ pri).setVar p v _ rfl rfl
      (.inr ⟨rfl, aUser, 0, .inr rfl, justScheduled_sched w aUser 0 0 _ pri⟩)) _ _
  case cancelUser v =>
    split
    · exact .skip h rfl
    · exact .ret (h.evCancel _) _ _
  case cancelUserAll => exact .ret h.cancelUserAll _ _
  case waitEvent v =>
    split
    · exact .skip h rfl
    · exact ((h.evWaiters rfl _).addAwait p _).blocks _
  case acquire r => exact Called.acquireStep h r
  case preempt r =>
    split
    · exact .skip h rfl
    · split
      · exact .skip h rfl
      · split
        · exact .ret ((h.grab r p).recordRes r) _ _
        · rename_i victim _
          split
          · refine .ret (Eff.grab (s := cmdScope (.preempt r)) ?_ r p) _ _
            refine Eff.sched (s := cmdScope (.preempt r)) ?_ _ _ _ _
            refine Eff.modRes (s := cmdScope (.preempt r)) ?_ _
            exact (h.removeHeld victim _).cancelAwaiteds victim
          · exact Called.acquireStep h r
  case release r =>
    split
    · exact .skip h rfl
    · rename_i x hx
      split
      · exact .skip h rfl
      · exact .ret (Eff.signal (Eff.recordRes (Eff.setRes (h.removeHeld p _) hx _) r) _) _ _
  case poolAcquire pl n =>
    split
    · exact .skip h rfl
    · split
      · exact .skip h rfl
      · exact Called.poolLoop h pl n _ false
  case poolPreempt pl n =>
    split
    · exact .skip h rfl
    · split
      · exact .skip h rfl
      · exact Called.poolLoop h pl n _ true
  case poolRelease pl n =>
    split
    · exact .skip h rfl
    · rename_i x hx
      split
      · exact .skip h rfl
      · refine .ret (((Eff.setPoolInUse ?_ pl _).recordPool pl).signal _) _ _
        split
        · split
          · exact Eff.removeHeld (Eff.setPool h hx _) p _
          · exact h.fail _
        · exact h.setHeldAmount pl p _
  case bufGet b n =>
    split
    · exact .skip h rfl
    · exact Called.bufGetLoop h b n 0
  case bufPut b n =>
    split
    · exact .skip h rfl
    · exact Called.bufPutLoop h b n n
  case oqGet i =>
    split
    · exact .skip h rfl
    · exact Called.oqGetLoop h i
  case oqPut i obj =>
    split
    · exact .skip h rfl
    · exact Called.oqPutLoop h i obj
  case pqGet i =>
    split
    · exact .skip h rfl
    · exact Called.pqGetLoop h i
  case pqPut i obj pri v =>
    split
    · exact .skip h rfl
    · exact Called.pqPutLoop h i obj pri v
  case pqCancel i v =>
    split
    · exact .skip h rfl
    · rename_i x hx
      split
      · exact .skip h rfl
      · rename_i h0
        split
        · rename_i heq
          refine .ret ?_ _ _
          split
          · exact Eff.signal (Eff.recordPQ (Eff.setPQ h hx _ (hq := by exact .cancel h0 heq rfl)) i) _
          · exact h.setPQ hx _ (hq := by exact .cancel h0 heq rfl)
        · exact .ret (h.fail _) _ _
  case pqReprio i v pri =>
    split
    · exact .skip h rfl
    · rename_i x hx
      split
      · exact .skip h rfl
      · split
        · rename_i heq
          exact .ret (h.setPQ hx _ (hq := by exact .reprio heq rfl)) _ _
        · exact .ret (h.fail _) _ _
  case pqPos i v =>
    split
    · exact .skip h rfl
    · split
      · exact .skip h rfl
      · exact .ret h _ _
  case condWait cv kind a b =>
    split
    · exact .skip h rfl
    · exact h.waits _ _ _
  case condSignal cv =>
    split
    · exact .skip h rfl
    · exact .ret (h.condSignal _) _ _
  case condCancel cv z =>
    split
    · exact .skip h rfl
    · split
      · exact .skip h rfl
      · refine .ret ?_ _ _
        split
        · exact (h.guardRemove _ z).sched _ _ _ _
        · exact h.guardRemove _ z
  case condRemove cv z =>
    split
    · exact .skip h rfl
    · split
      · exact .skip h rfl
      · exact .ret (h.guardRemove _ z) _ _
  case setFlag i v => exact .ret (h.flags rfl _) _ _
  case recStart kind idx => exact .ret (h.setRecording kind idx true (records_recScope kind)) _ _
  case recStop kind idx => exact .ret (h.setRecording kind idx false (records_recScope kind)) _ _

section
variable {f : Frame} (h : Eff p (frameScope f) w0 w)
include h

/-- a process leaves the wait its frame records -/
theorem Eff.leaveFrame (hf : S3.isGuardFrame f = true) (g : Nat) (sig : Int) :
    Eff p (frameScope f) w0 (Sim.guardWaitLeave w g p sig) := by
  cases f with
  | acquire r => exact h.guardWaitLeave g p sig
  | pool pl rem ini pre => exact h.guardWaitLeave g p sig
  | bufGet b rem got => exact h.guardWaitLeave g p sig
  | bufPut b rem left => exact h.guardWaitLeave g p sig
  | oqGet i => exact h.guardWaitLeave g p sig
  | oqPut i obj => exact h.guardWaitLeave g p sig
  | pqGet i => exact h.guardWaitLeave g p sig
  | pqPut i obj pri v => exact h.guardWaitLeave g p sig
  | condWait cv => exact h.guardWaitLeave g p sig
  | _ => cases hf

/-- … and goes back to the call: the loop for the object its frame names -/
theorem Called.retry : Called false p p (frameScope f) w0 (S3.retry f w p) := by
  cases f with
  | acquire r => exact Called.acquireStep h r
  | pool pl rem ini pre =>
    have hh : (frameScope (.pool pl rem ini pre)).heldP.ok (p = p) := by cases pre <;> first | exact rfl | exact trivial
    exact Called.poolLoop h pl rem ini pre rfl rfl rfl hh (by scope) (by scope) (fun hp => by subst hp; scope)
  | bufGet b rem got => exact Called.bufGetLoop h b rem got
  | bufPut b rem left => exact Called.bufPutLoop h b rem left
  | oqGet i => exact Called.oqGetLoop h i
  | oqPut i obj => exact Called.oqPutLoop h i obj
  | pqGet i => exact Called.pqGetLoop h i
  | pqPut i obj pri v => exact Called.pqPutLoop h i obj pri v
  | _ => exact .ret h _ _

/-- … or gives up -/
theorem Eff.giveUp : Eff p (frameScope f) w0 (S3.giveUp f w p) := by
  cases f with
  | pool pl rem ini pre =>
    have hh : (frameScope (.pool pl rem ini pre)).heldP.ok (p = p) := by cases pre <;> first | exact rfl | exact trivial
    exact h.poolRollback p pl ini rfl rfl rfl hh
  | condWait cv => exact h.cancelKindFor p aCond none
  | _ => exact h

end

/-- a continuation returns or suspends the process again: it is neither skipped nor does it end the process -/
theorem Called.resumeFrame (w : World) (p : Pid) (f : Frame) (sig : Int) :
    Called false p p (frameScope f) w (resumeFrame w p f sig) := by
  have h : Eff p (frameScope f) w w := .refl
  by_cases hf : S3.isGuardFrame f = true
  · exact S3.resumeFrame_wait_out _ hf p sig (fun _ => .ret h _ _) (fun g _ _ => Called.retry (h.leaveFrame hf g sig))
      (fun g _ _ => .ret (h.leaveFrame hf g sig).giveUp _ _)
  · cases f with
    | hold i =>
      simp only [Sim.resumeFrame]
      split
      · exact .ret ((h.timerCancel p i).removeAwait p _) _ _
      · exact .ret h _ _
    | yield => exact .ret h _ _
    | waitProc z =>
      simp only [Sim.resumeFrame]
      split
      · split
        · exact .ret ((h.removeAwait p _).setWaiters z _) _ _
        · exact .ret ((h.removeAwait p _).cancelKindFor p aProc none) _ _
      · exact .ret (h.removeAwait p _) _ _
    | waitEvent i =>
      simp only [Sim.resumeFrame]
      split
      · split
        · exact .ret ((h.removeAwait p _).evWaiters rfl _) _ _
        · exact .ret ((h.removeAwait p _).cancelKindFor p aEvent none) _ _
      · exact .ret (h.removeAwait p _) _ _
    | _ => exact absurd rfl hf

section
variable (h : Eff p s w0 w)
include h

theorem Eff.acquireStep (q : Pid) (r : Nat) (hs : s.res = true := by scope) (hav : s.avail = true := by scope)
    (hh : s.heldR.ok (q = p) := by scope) (hw : s.Enters (q = p) := by scope) : Eff p s w0 (acquireStep w q r).1 :=
  (Called.acquireStep (k := true) h r).eff

theorem Eff.poolLoop (q : Pid) (pl rem ini : Nat) (pre : Bool) (hs : s.pools = true := by scope)
    (hph : s.ph = true := by scope) (hav : s.avail = true := by scope) (hh : s.heldP.ok (q = p) := by scope)
    (hg : s.Signals := by scope) (hw : s.Enters (q = p) := by scope)
    (hm : pre = true → s.Mugs := by scope) : Eff p s w0 (poolLoop w q pl rem ini pre).1 :=
  (Called.poolLoop (k := true) h pl rem ini pre hs hph hav hh hg hw hm).eff

theorem Eff.bufGetLoop (q : Pid) (b rem got : Nat) (hs : s.bufs = true := by scope) (hav : s.avail = true := by scope) (hg : s.Signals := by scope)
    (hw : s.Enters (q = p) := by scope) : Eff p s w0 (bufGetLoop w q b rem got).1 :=
  (Called.bufGetLoop (k := true) h b rem got).eff

theorem Eff.bufPutLoop (q : Pid) (b rem left : Nat) (hs : s.bufs = true := by scope) (hav : s.avail = true := by scope) (hg : s.Signals := by scope)
    (hw : s.Enters (q = p) := by scope) : Eff p s w0 (bufPutLoop w q b rem left).1 :=
  (Called.bufPutLoop (k := true) h b rem left).eff

theorem Eff.oqGetLoop (q : Pid) (k : Nat) (hs : s.oqs = true := by scope) (hav : s.avail = true := by scope) (hg : s.Signals := by scope)
    (hw : s.Enters (q = p) := by scope) : Eff p s w0 (oqGetLoop w q k).1 :=
  (Called.oqGetLoop (k := true) h k).eff

theorem Eff.oqPutLoop (q : Pid) (k obj : Nat) (hs : s.oqs = true := by scope) (hav : s.avail = true := by scope) (hg : s.Signals := by scope)
    (hw : s.Enters (q = p) := by scope) : Eff p s w0 (oqPutLoop w q k obj).1 :=
  (Called.oqPutLoop (k := true) h k obj).eff

theorem Eff.pqGetLoop (q : Pid) (k : Nat) (hs : s.pqs = true := by scope) (hav : s.avail = true := by scope) (hg : s.Signals := by scope)
    (hw : s.Enters (q = p) := by scope) : Eff p s w0 (pqGetLoop w q k).1 :=
  (Called.pqGetLoop (k := true) h k).eff

theorem Eff.pqPutLoop (q : Pid) (k obj : Nat) (pri : Int) (v : Nat) (hs : s.pqs = true := by scope) (hav : s.avail = true := by scope)
    (hg : s.Signals := by scope) (hw : s.Enters (q = p) := by scope) (hv : s.vars.ok (q = p) := by scope)
    (hgv : s.gvars = true := by scope) (hpq : s.PqVar v := by scope) : Eff p s w0 (pqPutLoop w q k obj pri v).1 :=
  (Called.pqPutLoop (k := true) h k obj pri v).eff

end

theorem Eff.execCmd (w : World) (p : Pid) (c : Cmd) : Eff p (cmdScope c) w (execCmd w p c).1 := (Called.execCmd w p c).eff

theorem Eff.resumeFrame (w : World) (p : Pid) (f : Frame) (sig : Int) : Eff p (frameScope f) w (resumeFrame w p f sig).1 :=
  (Called.resumeFrame w p f sig).eff

section
variable (h : Eff p .top w0 w)
include h

theorem Eff.runScript (fuel : Nat) (q : Pid) : Eff p .top w0 (runScript fuel w q) :=
  h.trans (runScript_rel (Eff.path p .top) q (fun _ msg => Eff.refl.fail msg) (fun _ l => Eff.refl.emit l)
    (fun _ => (Eff.refl (p := p) (s := .top)).finishProc q 0 false)
    (fun w c => ((Eff.execCmd w q c).mono (cmdScope_le_top c)).anyone)
    (fun _ _ => (Eff.refl (p := p) (s := .top)).setPc q _) fuel w)

theorem Eff.resumeProc (q : Pid) (sig : Int) : Eff p .top w0 (resumeProc w q sig) :=
  h.trans (resumeProc_rel (Eff.path p .top) q sig (fun _ msg => Eff.refl.fail msg) (fun _ l => Eff.refl.emit l)
    (fun _ => (Eff.refl (p := p) (s := .top)).unblock q trivial)
    (fun w f => ((Eff.resumeFrame w q f sig).mono (frameScope_le_top f)).anyone)
    (fun _ _ => (Eff.refl (p := p) (s := .top)).setPc q _) (fun fuel _ => Eff.refl.runScript fuel q) w)

theorem Eff.dispatchBody (t : HTag) : Eff p .top w0 (S3.dispatchBody w t) :=
  h.trans (dispatchBody_rel (Eff.path p .top) t (fun _ msg => Eff.refl.fail msg)
    (fun _ q => (Eff.refl (p := p) (s := .top)).started q trivial trivial trivial)
    (fun fuel _ q => Eff.refl.runScript fuel q) (fun _ q sig => Eff.refl.resumeProc q sig)
    (fun _ q a => (Eff.refl (p := p) (s := .top)).removeAwait q a (by cases a <;> exact trivial)) (fun _ q k => (Eff.refl (p := p) (s := .top)).removeAwaitKind q k)
    (fun _ q => (Eff.refl (p := p) (s := .top)).cancelAwaiteds q) w)

end

end CimbaModel.Sim
