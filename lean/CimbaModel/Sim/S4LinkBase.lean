/-
  S4 — the converse of the pool-holder invariant `PInv` (S1Pool): a process that lists pool `pl` among its holdings
  is on the holder list of `pl`.  It is what makes the holder re-sorting loop of `cmb_process_priority_set` safe
  (`HashHeap.reprioritize` fails on an absent key).  It is only an invariant together with well-formedness of the
  holder lists and the bound on the number of processes (the enqueue of a new holder record must not fail): the
  bundle `PL`.

  This file: definitions, congruence lemmas, the functions that leave holder lists and `.pool` holdings alone.
-/
import CimbaModel.Sim.S1Pool

namespace CimbaModel.Sim.S4
open CimbaModel CimbaModel.Sim CimbaModel.Event CimbaModel.Generated CimbaModel.KPQ
open CimbaModel.HashHeap (HTag Item Order HH WF abs)

/-- the converse of `PInv`: who lists a pool among its holdings is on its holder list -/
def LC (w : World) : Prop :=
  ∀ q pl, HoldRef.pool pl ∈ (w.proc q).held → ∀ x, w.pools[pl]? = some x → q + 1 ∈ keys (abs x.holders)

/-- `LC` with what makes it inductive: the holder lists well formed (`PInv`), fewer than 2³¹ processes -/
structure PL (w : World) : Prop where
  pinv : Sim.PInv w
  psz : w.procs.size < 2 ^ 31
  lc : LC w

variable {w w' : World}

theorem lc_iff : LC w ↔ ∀ q pl, HoldRef.pool pl ∈ (w.proc q).held → ∀ h, w.ph pl = some h → q + 1 ∈ hkeys h := by
  constructor
  · intro h q pl hm hh hhh
    unfold World.ph at hhh
    cases hx : w.pools[pl]? with
    | none => rw [hx] at hhh; cases hhh
    | some x =>
      rw [hx] at hhh
      injection hhh with hhh
      subst hhh
      exact h q pl hm x hx
  · intro h q pl hm x hx
    exact h q pl hm x.holders (ph_eq w pl x hx)

theorem LC.ph (h : LC w) {q : Pid} {pl : Nat} (hm : HoldRef.pool pl ∈ (w.proc q).held) {hh : HH}
    (hph : w.ph pl = some hh) : q + 1 ∈ hkeys hh := lc_iff.1 h q pl hm hh hph

theorem LC.of_same (h : LC w) (hph : ∀ pl, w'.ph pl = w.ph pl)
    (hheld : ∀ p pl, HoldRef.pool pl ∈ (w'.proc p).held → HoldRef.pool pl ∈ (w.proc p).held) : LC w' := by
  rw [lc_iff] at h ⊢
  intro q pl hm hh hhh
  exact h q pl (hheld q pl hm) hh (by rw [← hph]; exact hhh)

theorem LC.set_holders (h : LC w) (pl : Nat) (h' : HH)
    (hph : ∀ pl', w'.ph pl' = if pl' = pl then some h' else w.ph pl')
    (hheld : ∀ p pl', pl' ≠ pl → HoldRef.pool pl' ∈ (w'.proc p).held → HoldRef.pool pl' ∈ (w.proc p).held)
    (hl : ∀ p, HoldRef.pool pl ∈ (w'.proc p).held → p + 1 ∈ hkeys h') : LC w' := by
  rw [lc_iff] at h ⊢
  intro q pl' hm hh hhh
  rw [hph] at hhh
  by_cases e : pl' = pl
  · subst e
    simp only [if_true] at hhh
    injection hhh with hhh
    subst hhh
    exact hl q hm
  · simp only [e, if_false] at hhh
    exact h q pl' (hheld q pl' e hm) hh hhh

theorem PL.same (h : PL w) (r : PoolSame w w') : PL w' :=
  ⟨h.pinv.same r, r.size ▸ h.psz, h.lc.of_same r.ph (fun p pl => (r.held p pl).1)⟩

theorem PL.key_le (h : PL w) {pl : Nat} {hh : HH} (hph : w.ph pl = some hh) {k : Nat} (hk : k ∈ hkeys hh) :
    k ≤ w.procs.size := by
  have hwf := h.pinv.wf pl hh hph
  have hpos := hkeys_pos hwf hk
  have hk' : (k - 1) + 1 ∈ w.hk pl := by
    unfold World.hk; rw [hph]
    have : k - 1 + 1 = k := by omega
    rw [this]; exact hk
  have hlt : k - 1 < w.procs.size := lt_np_of_held w (k - 1) _ (h.pinv.listed pl (k - 1) hk')
  omega

theorem PL.prio_key (h : PL w) {q : Pid} {pl : Nat} {x : Pool} (hm : HoldRef.pool pl ∈ (w.proc q).held)
    (hx : w.pools[pl]? = some x) : q + 1 ∈ keys (abs x.holders) := h.lc q pl hm x hx

theorem PL.frame (h : PL w) (hp : w'.pools = w.pools) (hprocs : w'.procs = w.procs) : PL w' := h.same (.frame hp hprocs)

theorem PL.modProc_keep (h : PL w) (z : Pid) (f : Proc → Proc) (hf : ∀ x, (f x).held = x.held) :
    PL (w.modProc z f) := h.same (poolSame_modProc w z f hf)

theorem PL.emit (h : PL w) (l : String) : PL (w.emit l) := h.same (poolSame_emit w l)
theorem PL.wakeEventWaiters (h : PL w) (ps : List Pid) (sig : Int) : PL (wakeEventWaiters w ps sig) :=
  h.same (poolSame_wakeEventWaiters w ps sig)
theorem PL.removeAwait_fst (h : PL w) (p : Pid) (a : Await) : PL (removeAwait w p a).1 := h.same (poolSame_removeAwait w p a)
theorem PL.removeAwaitKind_fst (h : PL w) (p : Pid) (k : Await → Bool) : PL (removeAwaitKind w p k).1 :=
  h.same (poolSame_removeAwaitKind w p k)
theorem PL.cancelAwaiteds (h : PL w) (p : Pid) : PL (cancelAwaiteds w p) := h.same (poolSame_cancelAwaiteds w p)
theorem PL.wakeWaiters (h : PL w) (z : Pid) (sig : Int) : PL (wakeWaiters w z sig) := h.same .of_eq
theorem PL.signal (h : PL w) (g : Nat) : PL (signal w g) := h.same (poolSame_signal w g)
theorem PL.guardWaitEnter (h : PL w) (g : Nat) (p : Pid) (d : Demand) : PL (guardWaitEnter w g p d) :=
  h.same (poolSame_guardWaitEnter w g p d)
theorem PL.condSignal (h : PL w) (g : Nat) : PL (condSignal w g).1 := h.same .of_eq
theorem PL.timerCancel (h : PL w) (z : Pid) (x : Nat) : PL (timerCancel w z x).1 := h.same (poolSame_timerCancel w z x)
theorem PL.setGuardQ (h : PL w) (g : Nat) (q' : HH) : PL (setGuardQ w g q') := h.same .of_eq
theorem PL.cancelAllFor (h : PL w) (z : Pid) : PL (cancelAllFor w z) := h.same .of_eq
theorem PL.recordBuf (h : PL w) (r : Nat) : PL (recordBuf w r) := h.same .of_eq
theorem PL.recordOQ (h : PL w) (r : Nat) : PL (recordOQ w r) := h.same .of_eq
theorem PL.guardSignal (h : PL w) (fuel g : Nat) : PL (guardSignal fuel w g) := h.same .of_eq
theorem PL.guardWithdraw (h : PL w) (g : Nat) (z : Pid) : PL (guardWithdraw w g z) := h.same .of_eq
theorem PL.recordPQ (h : PL w) (r : Nat) : PL (recordPQ w r) := h.same .of_eq
theorem PL.evCancel (h : PL w) (x : Nat) : PL (evCancel w x).1 := h.same .of_eq
theorem PL.cancelUserAll (h : PL w) : PL (cancelUserAll w).1 := h.same .of_eq
theorem PL.bufGetLoop (h : PL w) (z : Pid) (b rem got : Nat) : PL (bufGetLoop w z b rem got).1 := h.same .of_eq
theorem PL.bufPutLoop (h : PL w) (z : Pid) (b rem left : Nat) : PL (bufPutLoop w z b rem left).1 := h.same .of_eq
theorem PL.oqGetLoop (h : PL w) (z : Pid) (k : Nat) : PL (oqGetLoop w z k).1 := h.same .of_eq
theorem PL.oqPutLoop (h : PL w) (z : Pid) (k obj : Nat) : PL (oqPutLoop w z k obj).1 := h.same .of_eq
theorem PL.pqGetLoop (h : PL w) (z : Pid) (k : Nat) : PL (pqGetLoop w z k).1 := h.same .of_eq
theorem PL.pqPutLoop (h : PL w) (z : Pid) (k obj : Nat) (pri : Int) (v : Nat) : PL (pqPutLoop w z k obj pri v).1 :=
  h.same .of_eq

end CimbaModel.Sim.S4
