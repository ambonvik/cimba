/-
  S3 — facts about lists that the registration invariants use: `removeFirst`, `removeAwaitKind.go` (the awaitables of a
  process with one removed), the kinds of awaitables, association lists, lists without duplicates; arrays of the
  same shape have the same size.
-/
import CimbaModel.Sim.Eff

namespace CimbaModel.Sim.S3

theorem removeFirst_sublist {α : Type} [DecidableEq α] (l : List α) (a : α) : (removeFirst l a).1.Sublist l := by
  induction l with
  | nil => exact List.Sublist.refl _
  | cons y ys ih =>
    unfold removeFirst
    by_cases hy : y = a
    · simp only [hy, if_true]; exact List.sublist_cons_self _ _
    · simp only [hy, if_false]; exact ih.cons_cons _

theorem removeFirst_subset {α : Type} [DecidableEq α] (l : List α) (a x : α) (h : x ∈ (removeFirst l a).1) : x ∈ l :=
  (removeFirst_sublist l a).subset h

theorem removeFirst_mem_ne {α : Type} [DecidableEq α] (l : List α) (a x : α) (hx : x ∈ l) (hne : x ≠ a) : x ∈ (removeFirst l a).1 := by
  induction l with
  | nil => cases hx
  | cons y ys ih =>
    unfold removeFirst
    by_cases hy : y = a
    · simp only [hy, if_true]
      rcases List.mem_cons.1 hx with h | h
      · exact absurd (h.trans hy) hne
      · exact h
    · simp only [hy, if_false]
      rcases List.mem_cons.1 hx with h | h
      · rw [h]; exact List.mem_cons_self
      · exact List.mem_cons_of_mem _ (ih h)

theorem removeFirst_nil {α : Type} [DecidableEq α] (a : α) : (removeFirst ([] : List α) a).1 = [] := rfl

theorem removeFirst_nodup {α : Type} [DecidableEq α] (l : List α) (a : α) (h : l.Nodup) :
    (removeFirst l a).1.Nodup ∧ a ∉ (removeFirst l a).1 := by
  induction l with
  | nil => simp [removeFirst]
  | cons y ys ih =>
    unfold removeFirst
    have hn := List.nodup_cons.1 h
    by_cases hy : y = a
    · subst hy; simp only [if_true]; exact ⟨hn.2, hn.1⟩
    · simp only [hy, if_false]
      obtain ⟨i1, i2⟩ := ih hn.2
      refine ⟨List.nodup_cons.2 ⟨fun hm => hn.1 (removeFirst_subset ys a y hm), i1⟩, ?_⟩
      intro hm
      rcases List.mem_cons.1 hm with h | h
      · exact hy h.symm
      · exact i2 h

theorem removeFirst_snd {α : Type} [DecidableEq α] (l : List α) (a : α) : (removeFirst l a).2 = decide (a ∈ l) := by
  induction l with
  | nil => simp [removeFirst]
  | cons y ys ih =>
    unfold removeFirst
    by_cases hy : y = a
    · subst hy; simp
    · simp only [hy, if_false, ih]
      have : ¬ a = y := fun h => hy h.symm
      simp [this]

theorem removeFirst_filter_ne {α : Type} [DecidableEq α] (l : List α) (a : α) (f : α → Bool) (hf : f a = false) :
    (removeFirst l a).1.filter f = l.filter f := filter_removeFirst hf l

theorem removeFirst_filter_self {α : Type} [DecidableEq α] (l : List α) (a : α) (f : α → Bool) (hf : f a = true) :
    (removeFirst l a).1.filter f = (removeFirst (l.filter f) a).1 := by
  induction l with
  | nil => rfl
  | cons x xs ih =>
    by_cases hx : x = a
    · subst hx
      simp [removeFirst, hf]
    · by_cases hfx : f x = true
      · simp only [removeFirst, hx, if_false, List.filter_cons, hfx, if_true, ih]
      · simp only [removeFirst, hx, if_false, List.filter_cons, hfx, Bool.false_eq_true, ih]

theorem rak_go_sublist (k : Await → Bool) (l : List Await) : (removeAwaitKind.go k l).1.Sublist l := by
  induction l with
  | nil => exact List.Sublist.refl _
  | cons x xs ih =>
    unfold removeAwaitKind.go
    by_cases hx : k x = true
    · simp only [hx, if_true]; exact List.sublist_cons_self x xs
    · simp only [hx, Bool.false_eq_true, if_false]; exact ih.cons_cons x

theorem rak_go_filter (k f : Await → Bool) (hd : ∀ a, k a = true → f a = false) (l : List Await) :
    (removeAwaitKind.go k l).1.filter f = l.filter f := filter_removeAwaitKind hd l

theorem rak_go_filter_self (k : Await → Bool) (l : List Await) :
    (removeAwaitKind.go k l).1.filter k = (l.filter k).tail := by
  induction l with
  | nil => rfl
  | cons x xs ih =>
    unfold removeAwaitKind.go
    by_cases hx : k x = true
    · simp [hx]
    · simp only [hx, Bool.false_eq_true, if_false, List.filter_cons, ih]

theorem isProcA_not_event : ∀ a, isProcA a = true → isEventA a = false := by
  intro a h; cases a <;> first | rfl | cases h
theorem isEventA_not_proc : ∀ a, isEventA a = true → isProcA a = false := by
  intro a h; cases a <;> first | rfl | cases h
theorem isGuardA_not_proc : ∀ a, isGuardA a = true → isProcA a = false := by
  intro a h; cases a <;> first | rfl | cases h
theorem isGuardA_not_event : ∀ a, isGuardA a = true → isEventA a = false := by
  intro a h; cases a <;> first | rfl | cases h

theorem isProcA_not_guard : ∀ a, isProcA a = true → isGuardA a = false := by
  intro a h; cases a <;> first | rfl | cases h
theorem isEventA_not_guard : ∀ a, isEventA a = true → isGuardA a = false := by
  intro a h; cases a <;> first | rfl | cases h

theorem lookup_filter_self {β : Type} (l : List (Nat × β)) (a : Nat) : (l.filter (·.1 ≠ a)).lookup a = none := by
  induction l with
  | nil => rfl
  | cons x xs ih =>
    rcases x with ⟨x1, x2⟩
    by_cases hx : x1 = a
    · subst hx; rw [List.filter_cons_of_neg (by simp)]; exact ih
    · rw [List.filter_cons_of_pos (by simpa using hx), List.lookup_cons]
      have : (a == x1) = false := by simpa using fun h => hx h.symm
      rw [this]; exact ih

theorem lookup_of_mem_nodup {β : Type} : ∀ {l : List (Nat × β)} {k : Nat} {v : β}, (l.map (·.1)).Nodup → (k, v) ∈ l →
    l.lookup k = some v := by
  intro l
  induction l with
  | nil => intro k v _ hm; cases hm
  | cons x xs ih =>
    intro k v hnd hm
    rcases x with ⟨k0, l0⟩
    simp only [List.map_cons, List.nodup_cons] at hnd
    rcases List.mem_cons.1 hm with heq | hm'
    · cases heq; simp
    · have hne : k ≠ k0 := by
        intro he; subst he
        exact hnd.1 (List.mem_map.2 ⟨(k, v), hm', rfl⟩)
      have : (k == k0) = false := by simpa using hne
      rw [List.lookup_cons, this]; exact ih hnd.2 hm'

theorem nodup_map_succ {l : List Nat} (h : l.Nodup) : (l.map (· + 1)).Nodup :=
  List.Pairwise.map _ (fun _ _ hab e => hab (Nat.succ.inj e)) h

theorem nodup_bounded_length (n : Nat) (l : List Nat) (hnd : l.Nodup) (hb : ∀ k ∈ l, 1 ≤ k ∧ k ≤ n) : l.length ≤ n := by
  simpa using hnd.length_le_of_subset (l₂ := List.range' 1 n) fun k hk => by
    have := hb k hk; simp only [List.mem_range'_1]; omega

theorem map_of_map {α β γ : Type} {o o' : Option α} (st : α → β) (pr : β → γ) (h : o'.map st = o.map st) :
    o'.map (fun x => pr (st x)) = o.map (fun x => pr (st x)) := by
  have := congrArg (Option.map pr) h
  simpa [Option.map_map, Function.comp_def] using this

theorem size_eq_of_map_eq {α β : Type} {a b : Array α} {f : α → β} (h : ∀ i : Nat, (a[i]?).map f = (b[i]?).map f) :
    a.size = b.size := by
  have key : ∀ {a b : Array α}, (∀ i : Nat, (a[i]?).map f = (b[i]?).map f) → a.size ≤ b.size := by
    intro a b h
    apply Nat.le_of_not_lt
    intro hlt
    have := h b.size
    rw [Array.getElem?_eq_getElem hlt, Array.getElem?_eq_none (Nat.le_refl _)] at this
    cases this
  exact Nat.le_antisymm (key h) (key fun i => (h i).symm)

end CimbaModel.Sim.S3
