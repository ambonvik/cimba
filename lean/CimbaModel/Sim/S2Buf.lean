/-
  S2 — buffers (C11): `level + getTotal = putTotal`, `level ≤ cap` in every reachable state; exact accounting of
  one pass of the get / put loops.
-/
import CimbaModel.Sim.S2Cmd

namespace CimbaModel.Sim
open CimbaModel CimbaModel.Event CimbaModel.Generated
open CimbaModel.HashHeap (HTag Item Order HH)

structure BufOK (x : Buf) : Prop where
  conserve : x.level + x.getTotal = x.putTotal
  inCap : x.level ≤ x.cap

def BufInv (w : World) : Prop := ArrAll BufOK w.bufs

theorem BufOK.stable : bufK.Stable BufOK where
  T t ok := by
    have := ok.conserve
    have := ok.inCap
    cases t
    · exact ⟨by dsimp only; omega, by dsimp only; omega⟩
    · exact ⟨by dsimp only; omega, by dsimp only; omega⟩
  push _ _ ok := ⟨ok.conserve, ok.inCap⟩
  flag _ _ ok := ⟨ok.conserve, ok.inCap⟩

theorem bufs_setRecord (w : World) (b : Nat) (y : Buf) :
    (recordBuf { w with bufs := w.bufs.set! b y } b).bufs = setRecord bufOps w.bufs b y w.now :=
  recordBuf_eq _ b

theorem bufGetLoop_bufs {w : World} (p : Pid) {b : Nat} {x : Buf} (hx : w.bufs[b]? = some x) (rem got : Nat) :
    (bufGetLoop w p b rem got).1.bufs =
      if x.level ≥ rem then setRecord bufOps w.bufs b { x with level := x.level - rem, getTotal := x.getTotal + rem } w.now
      else if x.level > 0 then setRecord bufOps w.bufs b { x with level := 0, getTotal := x.getTotal + x.level } w.now
      else w.bufs := by
  unfold bufGetLoop
  simp only [hx]
  split
  · split
    · exact (signal_same _ _).bufs_eq.trans ((signal_same _ _).bufs_eq.trans (bufs_setRecord w b _))
    · exact (signal_same _ _).bufs_eq.trans (bufs_setRecord w b _)
  · refine ((block_fp _ p _).bufs_eq rfl).trans ((guardWaitEnter_same _ _ p _).bufs_eq.trans ((signal_same _ _).bufs_eq.trans ?_))
    split
    · exact (signal_same _ _).bufs_eq.trans (bufs_setRecord w b _)
    · rfl

theorem bufPutLoop_bufs {w : World} (p : Pid) {b : Nat} {x : Buf} (hx : w.bufs[b]? = some x) (rem left : Nat) :
    (bufPutLoop w p b rem left).1.bufs =
      if x.cap - x.level ≥ rem then setRecord bufOps w.bufs b { x with level := x.level + rem, putTotal := x.putTotal + rem } w.now
      else if x.level < x.cap then
        setRecord bufOps w.bufs b { x with level := x.cap, putTotal := x.putTotal + (x.cap - x.level) } w.now
      else w.bufs := by
  unfold bufPutLoop
  simp only [hx]
  split
  · split
    · exact (signal_same _ _).bufs_eq.trans ((signal_same _ _).bufs_eq.trans (bufs_setRecord w b _))
    · exact (signal_same _ _).bufs_eq.trans (bufs_setRecord w b _)
  · refine ((block_fp _ p _).bufs_eq rfl).trans ((guardWaitEnter_same _ _ p _).bufs_eq.trans ((signal_same _ _).bufs_eq.trans ?_))
    split
    · exact (signal_same _ _).bufs_eq.trans (bufs_setRecord w b _)
    · rfl

theorem objBuf : ObjKind bufK World.bufs where
  same hs := hs.bufs_eq
  tick _ _ _ := rfl
  clear _ _ _ := rfl
  exec w p c := (execCmd_ft w p c).toObjBuf
  resume w p f sig := (resumeFrame_ft w p f sig).toObjBuf
  finish w p v st := (finishProc_ft w p v st).toObjBuf

theorem BufInv.preserved : Preserved BufInv := objBuf.preserved BufOK.stable

end CimbaModel.Sim
