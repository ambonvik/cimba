/-
  S3 — the clock: no function of the process layer moves the clock, every event it schedules is at or after the
  current time (the kernel invariant `EvInv` is preserved), a recorded fault is never cleared, handles only grow.
  `Evo w w'` is the (reflexive, transitive) footprint; every function of Sim/Model.lean and Sim/Run.lean below
  `dispatch` satisfies it, because every atomic update of the library does (`Evo.ofEff`).
-/
import CimbaModel.Sim.S3GuardOps
import CimbaModel.Sim.EffCall
import CimbaModel.Sim.S3Lists

namespace CimbaModel.Sim.S3
open CimbaModel CimbaModel.Sim CimbaModel.Event CimbaModel.Generated CimbaModel.KPQ
open CimbaModel.HashHeap (HTag Item Order HH WF abs liveTags)

structure Evo (w w' : World) : Prop where
  now : w'.ev.now = w.ev.now
  evinv : EvInv w.ev → EvInv w'.ev
  fault : w'.fault = none → w.fault = none
  counter : w.ev.counter ≤ w'.ev.counter
  executed : w'.ev.executed = w.ev.executed
  current : w'.ev.current = w.ev.current
  psize : w'.procs.size = w.procs.size
  gsize : w'.guards.size = w.guards.size
  conds : w'.conds = w.conds
  dispatched : w'.dispatched = w.dispatched
  /-- an event that keeps its handle keeps its time, action, subject and signal (only its priority can change) -/
  stable : ∀ e' ∈ w'.ev.pending, e'.key ≤ w.ev.counter → ∃ e ∈ w.ev.pending, e.key = e'.key ∧ e.d = e'.d ∧ e.item = e'.item

theorem Evo.refl (w : World) : Evo w w :=
  ⟨rfl, id, id, Nat.le_refl _, rfl, rfl, rfl, rfl, rfl, rfl, fun e he _ => ⟨e, he, rfl, rfl, rfl⟩⟩

theorem Evo.trans {w w1 w2 : World} (h1 : Evo w w1) (h2 : Evo w1 w2) : Evo w w2 :=
  ⟨h2.now.trans h1.now, fun h => h2.evinv (h1.evinv h), fun h => h1.fault (h2.fault h),
   Nat.le_trans h1.counter h2.counter, h2.executed.trans h1.executed, h2.current.trans h1.current,
   h2.psize.trans h1.psize, h2.gsize.trans h1.gsize, h2.conds.trans h1.conds, h2.dispatched.trans h1.dispatched,
   by
    intro e2 he2 hk
    obtain ⟨e1, he1, hk1, hd1, hi1⟩ := h2.stable e2 he2 (Nat.le_trans hk h1.counter)
    obtain ⟨e0, he0, hk0, hd0, hi0⟩ := h1.stable e1 he1 (by rw [hk1]; exact hk)
    exact ⟨e0, he0, hk0.trans hk1, hd0.trans hd1, hi0.trans hi1⟩⟩

theorem Evo.wnow {w w' : World} (h : Evo w w') : w'.now = w.now := h.now

theorem Evo.same {w0 w w' : World} (h : Evo w0 w) (hev : w'.ev = w.ev) (hf : w'.fault = w.fault)
    (hp : w'.procs.size = w.procs.size) (hg : w'.guards.size = w.guards.size) (hc : w'.conds = w.conds)
    (hd : w'.dispatched = w.dispatched) : Evo w0 w' :=
  h.trans ⟨by rw [hev], by rw [hev]; exact id, by rw [hf]; exact id, by rw [hev]; exact Nat.le_refl _, by rw [hev],
    by rw [hev], hp, hg, hc, hd, by rw [hev]; exact fun e he _ => ⟨e, he, rfl, rfl, rfl⟩⟩

theorem Evo.fail {w0 w : World} (h : Evo w0 w) (m : String) : Evo w0 (w.fail m) :=
  h.trans ⟨by simp, by simp, fun hf => (fail_fault_none hf).elim, by simp, by simp, by simp, by simp, by simp, by simp, by simp,
    by simp only [fail_ev]; exact fun e he _ => ⟨e, he, rfl, rfl, rfl⟩⟩

theorem Evo.emit {w0 w : World} (h : Evo w0 w) (l : String) : Evo w0 (w.emit l) :=
  h.same rfl rfl rfl rfl rfl rfl

theorem Evo.modProc {w0 w : World} (h : Evo w0 w) (p : Pid) (f : Proc → Proc) : Evo w0 (w.modProc p f) :=
  h.same rfl rfl (modProc_procs_size w p f) rfl rfl rfl

theorem Evo.pushEv {w0 w : World} (h : Evo w0 w) (a s : Nat) (sig t pri : Int) (ht : w.now ≤ t) :
    Evo w0 (pushEv w a s sig t pri) :=
  h.trans ⟨rfl, pushEv_evinv a s sig t pri ht, id, by simp, rfl, rfl, rfl, rfl, rfl, rfl, by
    intro e he hk
    simp only [pushEv_pending, List.mem_cons] at he
    rcases he with rfl | he
    · simp only [mkEv] at hk; omega
    · exact ⟨e, he, rfl, rfl, rfl⟩⟩

theorem Evo.sched_fst {w0 w : World} (h : Evo w0 w) (a s : Nat) (sig t pri : Int) : Evo w0 (sched w a s sig t pri).1 := by
  rcases sched_cases w a s sig t pri with ⟨ht, he⟩ | ⟨_, m, he⟩
  · rw [he]; exact h.pushEv a s sig t pri ht
  · rw [he]; exact h.fail m

theorem Evo.ofCanRel {w w' : World} (h : CanRel w w') : Evo w w' :=
  ⟨h.evnow, h.evinv, by rw [h.fault]; exact id, h.counter, h.executed, h.current, by rw [h.procs], by rw [h.guards],
   h.conds, h.dispatched, by
    intro e he hk
    rcases h.pend e he with hold | ⟨hc, _⟩
    · exact ⟨e, hold, rfl, rfl, rfl⟩
    · omega⟩

theorem Evo.evCancel_fst {w0 w : World} (h : Evo w0 w) (k : Nat) : Evo w0 (evCancel w k).1 :=
  h.trans (Evo.ofCanRel (evCancel_rel w k))

theorem Evo.reprioEv {w0 w : World} (h : Evo w0 w) {k : Nat} {v : Int} {ev' : EvQ}
    (hr : reprioritize w.ev k v = .ok ev') : Evo w0 { w with ev := ev' } := by
  refine h.trans ?_
  have hinv := fun hi => (reprioritize_inv (q := w.ev) hi hr)
  unfold reprioritize at hr
  split at hr
  · cases hr
  · simp only [Except.ok.injEq] at hr
    subst hr
    refine ⟨rfl, fun hi => (hinv hi).1, id, Nat.le_refl _, rfl, rfl, rfl, rfl, rfl, rfl, ?_⟩
    intro e' he' _
    simp only [List.mem_map] at he'
    obtain ⟨e, he, rfl⟩ := he'
    refine ⟨e, he, ?_, ?_, ?_⟩ <;> split <;> rfl

theorem Evo.ofEff {p : Pid} {s : Scope} {w0 w : World} (h : Eff p s w0 w) : Evo w0 w := by
  induction h with
  | refl => exact Evo.refl w0
  | fail _ m ih => exact ih.fail m
  | emit _ l ih => exact ih.emit l
  | modProc _ q f _ ih => exact ih.modProc q f
  | block _ q fr _ _ _ ih => exact ih.modProc q _
  | unblock _ q _ ih => exact ih.modProc q _
  | setVar _ q v x _ _ _ ih =>
    unfold Sim.setVar
    split
    · exact ih.same rfl rfl rfl rfl rfl rfl
    · exact ih.modProc q _
  | ended _ q v _ _ _ ih => exact ih.modProc q _
  | started _ q _ _ _ ih => exact ih.modProc q _
  | evWaiters _ _ x ih => exact ih.same rfl rfl rfl rfl rfl rfl
  | guards _ _ a ha ih => exact ih.same rfl rfl rfl (size_eq_of_map_eq ha) rfl rfl
  | res _ _ a _ _ ih => exact ih.same rfl rfl rfl rfl rfl rfl
  | pools _ _ a _ _ _ ih => exact ih.same rfl rfl rfl rfl rfl rfl
  | bufs _ _ a _ _ ih => exact ih.same rfl rfl rfl rfl rfl rfl
  | oqs _ _ a _ _ ih => exact ih.same rfl rfl rfl rfl rfl rfl
  | pqs _ _ a _ _ _ ih => exact ih.same rfl rfl rfl rfl rfl rfl
  | flags _ _ x ih => exact ih.same rfl rfl rfl rfl rfl rfl
  | push _ _ he _ _ ih =>
    obtain ⟨ht, e⟩ := schedule_ok he
    rw [e]; exact ih.pushEv _ _ _ _ _ ht
  | cancel _ _ k ih => exact ih.trans (Evo.ofCanRel (CanRel.ofCancel _ k))
  | reprio _ _ he ih => exact ih.reprioEv he

/-- across anything the library does: `Scope.top` lets anybody's record change, so the caller does not matter and is `0`
    by convention (`Eff.anyone` changes it) -/
theorem Evo.eff {w0 w : World} (h : Eff 0 .top w0 w) : Evo w0 w := Evo.ofEff h

theorem Evo.step {w0 w w' : World} (h : Evo w0 w) (he : Eff 0 .top w w') : Evo w0 w' := h.trans (Evo.ofEff he)

theorem Evo.cancelAwaiteds {w0 w : World} (h : Evo w0 w) (p : Pid) : Evo w0 (cancelAwaiteds w p) :=
  h.step (.cancelAwaiteds .refl p)

theorem Evo.wakeWaiters {w0 w : World} (h : Evo w0 w) (p : Pid) (sig : Int) : Evo w0 (wakeWaiters w p sig) :=
  h.step (.wakeWaiters .refl p sig)

theorem Evo.finishProc {w0 w : World} (h : Evo w0 w) (p : Pid) (v : Int) (s : Bool) : Evo w0 (finishProc w p v s) :=
  h.step (.finishProc .refl p v s)

theorem Evo.guardSignal {w0 w : World} (h : Evo w0 w) (fuel : Nat) (g : Nat) : Evo w0 (guardSignal fuel w g) :=
  h.step (.guardSignal .refl fuel g)

theorem Evo.signal {w0 w : World} (h : Evo w0 w) (g : Nat) : Evo w0 (signal w g) := h.guardSignal 8 g

theorem Evo.guardWaitEnter {w0 w : World} (h : Evo w0 w) (g : Nat) (p : Pid) (d : Demand) :
    Evo w0 (guardWaitEnter w g p d) :=
  h.step (.guardWaitEnter .refl g p d)

theorem Evo.resumeProc {w0 w : World} (h : Evo w0 w) (p : Pid) (sig : Int) : Evo w0 (resumeProc w p sig) :=
  h.step (.resumeProc .refl p sig)

end CimbaModel.Sim.S3
