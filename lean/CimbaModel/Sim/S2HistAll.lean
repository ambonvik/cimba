/-
  S2 — recorded histories (C14): the five kinds together; what `record*` appends.
-/
import CimbaModel.Sim.S2HistPool
import CimbaModel.Sim.S2OQ
import CimbaModel.Sim.S2PQ

namespace CimbaModel.Sim
open CimbaModel CimbaModel.Event CimbaModel.Generated

theorem recRes : RecKind resOps World.res where
  same hs := hs.res_eq
  tick _ _ _ := rfl
  clear _ _ _ := rfl
  exec w p c := (execCmd_ft w p c).toRecRes
  resume w p f sig := (resumeFrame_ft w p f sig).toRecRes
  finish w p v st := (finishProc_ft w p v st).toRecRes

theorem HistRes.release {w : World} (p : Pid) (r : Nat) (h : HistRes w) : HistRes (execCmd w p (.release r)).1 :=
  (recRes.exec w p (.release r)).hist h

theorem HistRes.preempt {w : World} (p : Pid) (r : Nat) (h : HistRes w) : HistRes (execCmd w p (.preempt r)).1 :=
  (recRes.exec w p (.preempt r)).hist h

theorem HistRes.finishProc {w : World} (p : Pid) (v : Int) (st : Bool) (h : HistRes w) : HistRes (finishProc w p v st) :=
  (recRes.finish w p v st).hist h

theorem HistRes.preserved : Preserved (fun w => TimeOk w.ev ∧ HistRes w) := recRes.preserved

theorem recOQ : RecKind oqOps World.oqs := objOQ.recKind

theorem HistOQ.preserved : Preserved (fun w => TimeOk w.ev ∧ HistOQ w) := recOQ.preserved

theorem recPQ : RecKind pqOps World.pqs := objPQ.recKind

theorem HistPQ.preserved : Preserved (fun w => TimeOk w.ev ∧ HistPQ w) := recPQ.preserved

/-- nothing is pending in the past, and every recordable object — resource, pool, buffer, object queue, priority
    queue — has a history with nondecreasing sample times not after `now` whose last sample, while recording is on,
    carries the current state value -/
def HistInv (w : World) : Prop :=
  TimeOk w.ev ∧ HistRes w ∧ HistPool w ∧ HistBuf w ∧ HistOQ w ∧ HistPQ w

theorem Preserved.of_iff {I J : World → Prop} (h : ∀ w, I w ↔ J w) (hI : Preserved I) : Preserved J where
  same hs hj := (h _).1 (hI.same hs ((h _).2 hj))
  tick he hj := (h _).1 (hI.tick he ((h _).2 hj))
  exec w p c hv hj := (h _).1 (hI.exec w p c hv ((h _).2 hj))
  resume w p f sig hv hfr hj := by
    obtain ⟨w0, h0, hb, e⟩ := hfr
    exact (h _).1 (hI.resume w p f sig hv ⟨w0, (h _).2 h0, hb, e⟩ ((h _).2 hj))
  finish w p v st hj := (h _).1 (hI.finish w p v st ((h _).2 hj))
  clear w p f hf hb hp hj := (h _).1 (hI.clear w p f hf hb hp ((h _).2 hj))

theorem HistInv.preserved : Preserved HistInv := by
  refine Preserved.of_iff ?_
    (HistRes.preserved.and (HistPool.preserved.and (HistBuf.preserved.and (HistOQ.preserved.and HistPQ.preserved))))
  intro w
  unfold HistInv
  constructor
  · rintro ⟨⟨t, a⟩, ⟨_, b⟩, ⟨_, c⟩, ⟨_, d⟩, ⟨_, e⟩⟩
    exact ⟨t, a, b, c, d, e⟩
  · rintro ⟨t, a, b, c, d, e⟩
    exact ⟨⟨t, a⟩, ⟨t, b⟩, ⟨t, c⟩, ⟨t, d⟩, ⟨t, e⟩⟩

/-! ### `history_complete_step`: while recording, each `record*` appends exactly one sample (current value, now);
    while not recording it appends nothing -/

theorem recordRes_appends {w : World} {i : Nat} {x : Res} (hx : w.res[i]? = some x) (hrec : x.recording = true) :
    ∃ y, (recordRes w i).res[i]? = some y ∧ y.hist = x.hist.push ((if x.holder.isSome then 1 else 0), w.now) ∧
      y.holder = x.holder ∧ y.recording = true :=
  ⟨resOps.push x (resOps.val x, w.now), by rw [recordRes_eq, genRecord_get resOps hx, if_pos (show resOps.recording x = true from hrec)],
    rfl, rfl, hrec⟩

theorem recordPool_appends {w : World} {i : Nat} {x : Pool} (hx : w.pools[i]? = some x) (hrec : x.recording = true) :
    ∃ y, (recordPool w i).pools[i]? = some y ∧ y.hist = x.hist.push ((x.inUse : Int), w.now) ∧
      y.inUse = x.inUse ∧ y.recording = true :=
  ⟨poolOps.push x (poolOps.val x, w.now), by rw [recordPool_eq, genRecord_get poolOps hx, if_pos (show poolOps.recording x = true from hrec)],
    rfl, rfl, hrec⟩

theorem recordBuf_appends {w : World} {i : Nat} {x : Buf} (hx : w.bufs[i]? = some x) (hrec : x.recording = true) :
    ∃ y, (recordBuf w i).bufs[i]? = some y ∧ y.hist = x.hist.push ((x.level : Int), w.now) ∧
      y.level = x.level ∧ y.recording = true :=
  ⟨bufOps.push x (bufOps.val x, w.now), by rw [recordBuf_eq, genRecord_get bufOps hx, if_pos (show bufOps.recording x = true from hrec)],
    rfl, rfl, hrec⟩

theorem recordOQ_appends {w : World} {i : Nat} {x : OQ} (hx : w.oqs[i]? = some x) (hrec : x.recording = true) :
    ∃ y, (recordOQ w i).oqs[i]? = some y ∧ y.hist = x.hist.push ((x.items.length : Int), w.now) ∧
      y.items = x.items ∧ y.recording = true :=
  ⟨oqOps.push x (oqOps.val x, w.now), by rw [recordOQ_eq, genRecord_get oqOps hx, if_pos (show oqOps.recording x = true from hrec)],
    rfl, rfl, hrec⟩

theorem recordPQ_appends {w : World} {i : Nat} {x : PQ} (hx : w.pqs[i]? = some x) (hrec : x.recording = true) :
    ∃ y, (recordPQ w i).pqs[i]? = some y ∧ y.hist = x.hist.push ((x.queue.count : Int), w.now) ∧
      y.queue = x.queue ∧ y.recording = true :=
  ⟨pqOps.push x (pqOps.val x, w.now), by rw [recordPQ_eq, genRecord_get pqOps hx, if_pos (show pqOps.recording x = true from hrec)],
    rfl, rfl, hrec⟩

/-- a state change of a buffer while recording: the pass of `get` that takes `rem` appends exactly one sample, the new
    level at the current time (the successful branch; the other branches and the other operations have the same shape:
    one raw update of the state value followed by one `record*`) -/
theorem bufGet_records {w : World} (p : Pid) {b : Nat} {x : Buf} (hx : w.bufs[b]? = some x) (rem got : Nat)
    (hge : x.level ≥ rem) (hrec : x.recording = true) :
    ∃ y, (bufGetLoop w p b rem got).1.bufs[b]? = some y ∧
      y.hist = x.hist.push (((x.level - rem : Nat) : Int), w.now) ∧ y.level = x.level - rem := by
  have hx' : ({ w with bufs := w.bufs.set! b { x with level := x.level - rem, getTotal := x.getTotal + rem } } : World).bufs[b]? =
      some { x with level := x.level - rem, getTotal := x.getTotal + rem } := by
    show (w.bufs.set! b _)[b]? = _
    rw [Array.set!_eq_setIfInBounds, Array.getElem?_setIfInBounds, if_pos rfl, if_pos (Array.getElem?_eq_some_iff.1 hx).1]
  obtain ⟨y, hy, hh, hl, _⟩ := recordBuf_appends hx' hrec
  refine ⟨y, ?_, hh, hl⟩
  unfold bufGetLoop
  simp only [hx, hge, if_true]
  split <;> simpa using hy

end CimbaModel.Sim
