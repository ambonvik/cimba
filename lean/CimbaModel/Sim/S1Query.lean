/-
  S1 — the queries of a resource (holder, in use, available) are functions of the unique holder (C05), and signalling
  a guard whose front waiter's demand is satisfied schedules that waiter's resumption.
-/
import CimbaModel.Sim.S1Holder

namespace CimbaModel.Sim
open CimbaModel CimbaModel.Event CimbaModel.Generated
open CimbaModel.HashHeap (HTag Item Order HH)

theorem sum_indicator (a : Option Nat) (n : Nat) :
    ((List.range n).map fun i => if a = some i then 1 else 0).sum = if ∃ i, i < n ∧ a = some i then 1 else 0 := by
  induction n with
  | zero => simp
  | succ n ih =>
    rw [List.range_succ, List.map_append, List.sum_append, ih]
    simp only [List.map_cons, List.map_nil, List.sum_cons, List.sum_nil, Nat.add_zero]
    by_cases h1 : ∃ i, i < n ∧ a = some i
    · obtain ⟨i, hi, e⟩ := h1
      have h2 : ∃ i, i < n + 1 ∧ a = some i := ⟨i, by omega, e⟩
      have h3 : ¬ a = some n := by rw [e]; intro x; injection x with x; omega
      rw [if_pos ⟨i, hi, e⟩, if_pos h2, if_neg h3]
    · rw [if_neg h1]
      by_cases h3 : a = some n
      · rw [if_pos h3, if_pos ⟨n, by omega, h3⟩]
      · rw [if_neg h3, if_neg]
        rintro ⟨i, hi, e⟩
        by_cases hin : i = n
        · subst hin; exact h3 e
        · exact h1 ⟨i, by omega, e⟩

/-- the "in use" count reported for a resource (`1` if the holder field is set, else `0`) is the number of
    entries for it in all the processes' lists of holdings -/
theorem inUse_eq_listed {w : World} (h : HInv w) (r : Nat) (x : Res) (hx : w.res[r]? = some x) :
    (if x.holder.isSome then 1 else 0) =
      ((List.range w.procs.size).map fun p => (w.proc p).held.count (.res r)).sum := by
  have e : ((List.range w.procs.size).map fun p => (w.proc p).held.count (.res r)) =
      ((List.range w.procs.size).map fun p => if x.holder = some p then 1 else 0) := by
    apply List.map_congr_left
    intro p _
    have := h r p
    rw [holder_eq w r x hx] at this
    exact this
  rw [e, sum_indicator]
  cases hh : x.holder with
  | none => simp
  | some q =>
    have hq := h.holder_lt r q (by rw [holder_eq w r x hx, hh])
    simp only [Option.isSome_some, if_true]
    rw [if_pos ⟨q, hq, rfl⟩]

/-- "available" (what a waiter's demand evaluates, and what the guard's signal tests) means: nobody lists it -/
theorem available_iff_unlisted {w : World} (h : HInv w) (r : Nat) (x : Res) (hx : w.res[r]? = some x) :
    evalDemand w (.resAvail r) = true ↔ ∀ p, HoldRef.res r ∉ (w.proc p).held := by
  have e : evalDemand w (.resAvail r) = true ↔ x.holder = none := by
    simp [evalDemand, hx, Option.isNone_iff_eq_none]
  rw [e]
  constructor
  · intro hn p hm
    have := (h.mem_iff r p).1 hm
    rw [holder_eq w r x hx, hn] at this
    cases this
  · intro hall
    cases hh : x.holder with
    | none => rfl
    | some q =>
      exact absurd ((h.mem_iff r q).2 (by rw [holder_eq w r x hx, hh])) (hall q)

/-- the holder query names the process that lists the resource -/
theorem holder_iff_listed {w : World} (h : HInv w) (r : Nat) (x : Res) (hx : w.res[r]? = some x) (p : Pid) :
    x.holder = some p ↔ HoldRef.res r ∈ (w.proc p).held := by
  rw [h.mem_iff r p, holder_eq w r x hx]

/-- the value recorded in the history is that same in-use count -/
theorem recordRes_value (w : World) (r : Nat) (x : Res) (hx : w.res[r]? = some x) (hrec : x.recording = true) :
    ∃ y, (recordRes w r).res[r]? = some y ∧ y.hist = x.hist.push (if x.holder.isSome then 1 else 0, w.now) ∧
      y.holder = x.holder := by
  unfold recordRes
  simp only [hx, hrec, if_true]
  refine ⟨{ x with hist := x.hist.push (if x.holder.isSome then 1 else 0, w.now) }, ?_, rfl, rfl⟩
  simp [lt_size_of_getElem? hx, hrec]

theorem condSignal_inv (P : World → Prop)
    (hfail : ∀ w m, P w → P (World.fail w m))
    (hq : ∀ w g q, P w → P (setGuardQ w g q))
    (hc : ∀ w s t pri, P w → P (sched w aCond s sigSuccess t pri).1) :
    ∀ w g, P w → P (condSignal w g).1 :=
  condSignal_rel (Path.ofPred P) (fun w s pri => hc w s w.now pri) fun w g p => guardRemove_rel (Path.ofPred P) hfail hq w g p

theorem guardSignalF_inv (P : World → Prop)
    (hfail : ∀ w m, P w → P (World.fail w m))
    (hq : ∀ w g q, P w → P (setGuardQ w g q))
    (hs : ∀ w s t pri, P w → P (sched w aRes s sigSuccess t pri).1)
    (hc : ∀ w s t pri, P w → P (sched w aCond s sigSuccess t pri).1) :
    ∀ fuel fwd w g, P w → P (guardSignalF fwd fuel w g) :=
  guardSignalF_rel (Path.ofPred P) hfail (fun w g gd _ => frontStep_rel (Path.ofPred P) hfail hq (fun w s pri => hs w s w.now pri) w g gd)
    (fun w g _ => condSignal_inv P hfail hq hc w g)

theorem guardSignal_inv (P : World → Prop)
    (hfail : ∀ w m, P w → P (World.fail w m))
    (hq : ∀ w g q, P w → P (setGuardQ w g q))
    (hs : ∀ w s t pri, P w → P (sched w aRes s sigSuccess t pri).1)
    (hc : ∀ w s t pri, P w → P (sched w aCond s sigSuccess t pri).1) :
    ∀ fuel w g, P w → P (guardSignal fuel w g) :=
  fun fuel w g h => guardSignalF_inv P hfail hq hs hc fuel false w g h

theorem signal_pending_mono (w : World) (g : Nat) (e : HTag) (he : e ∈ w.ev.pending) :
    e ∈ (signal w g).ev.pending :=
  guardSignal_inv (fun w => e ∈ w.ev.pending) (fun w m h => by simpa using h) (fun w g q h => h)
    (fun w s t pri h => sched_pending_mono w aRes s sigSuccess t pri e h)
    (fun w s t pri h => sched_pending_mono w aCond s sigSuccess t pri e h) 8 w g he

/-- **signalling a guard whose front waiter's demand is satisfied schedules that waiter's resumption** with the
    success code at the current time (and takes it off the waiting list) -/
theorem signal_grants_front (w : World) (g : Nat) (gd : Guard) (hg : w.guards[g]? = some gd)
    (hne : gd.q.count ≠ 0) (t : HTag) (hpeek : HashHeap.peek gd.q = .ok (some t))
    (hdem : evalDemand w ((gd.demands.lookup t.key).getD (.cond 99 0 0)) = true)
    (q' : HH) (x : Option HTag) (hdeq : HashHeap.dequeue guard_queue_check gd.q = .ok (q', x)) :
    ∃ e ∈ (signal w g).ev.pending, e.item.a = aRes ∧ e.item.b = t.key - 1 + 1 ∧ e.item.c = encSig sigSuccess ∧
      e.d = w.now ∧ e.i = (w.proc (t.key - 1)).prio := by
  unfold signal guardSignal guardSignalF
  simp only [hg, hne, if_false, hpeek, hdem, if_true, hdeq, Bool.false_and, Bool.false_eq_true]
  refine ⟨{ key := (setGuardQ w g q').ev.counter + 1, item := ⟨aRes, t.key - 1 + 1, encSig sigSuccess, 0⟩,
            d := (setGuardQ w g q').now, i := ((setGuardQ w g q').proc (t.key - 1)).prio }, ?_, rfl, rfl, rfl, rfl, ?_⟩
  · apply foldl_inv (fun w' => _ ∈ w'.ev.pending) _
      (fun w' o hw' => guardSignalF_inv (fun w => _ ∈ w.ev.pending) (fun w m h => by simpa using h) (fun w g q h => h)
        (fun w s t pri h => sched_pending_mono w aRes s sigSuccess t pri _ h)
        (fun w s t pri h => sched_pending_mono w aCond s sigSuccess t pri _ h) 7 true w' o hw')
    exact sched_mem_now _ _ _ _ _
  · simp

end CimbaModel.Sim
