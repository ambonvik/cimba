/-
  S3 — the grant invariant: conditions, process end, and all commands / all frames together.
-/
import CimbaModel.Sim.S3GrantCmd
import CimbaModel.Sim.S3GrantBuf
import CimbaModel.Sim.S3GrantOQ
import CimbaModel.Sim.S3GrantPQ
import CimbaModel.Sim.S3GrantPool

namespace CimbaModel.Sim.S3
open CimbaModel CimbaModel.Sim CimbaModel.Event CimbaModel.Generated CimbaModel.KPQ
open CimbaModel.HashHeap (HTag Item Order HH WF abs liveTags)

variable {fr : Pid → Option Frame} {df df' : Demand → Nat} {w : World} {p : Pid}

theorem condGuard_not_obj (hsep : CondSep w) {c g : Nat} (hc : w.conds[c]? = some g) (d : Demand) : gOf w d ≠ some g := by
  intro hd
  cases d with
  | cond k a b => cases hd
  | resAvail r => obtain ⟨c', h'⟩ := hsep c g (.acquire r) hc hd; cases h'
  | poolAvail r => obtain ⟨c', h'⟩ := hsep c g (.pool r 0 0 false) hc hd; cases h'
  | bufContent r => obtain ⟨c', h'⟩ := hsep c g (.bufGet r 0 0) hc hd; cases h'
  | bufSpace r => obtain ⟨c', h'⟩ := hsep c g (.bufPut r 0 0) hc hd; cases h'
  | oqContent r => obtain ⟨c', h'⟩ := hsep c g (.oqGet r) hc hd; cases h'
  | oqSpace r => obtain ⟨c', h'⟩ := hsep c g (.oqPut r 0) hc hd; cases h'
  | pqContent r => obtain ⟨c', h'⟩ := hsep c g (.pqGet r) hc hd; cases h'
  | pqSpace r => obtain ⟨c', h'⟩ := hsep c g (.pqPut r 0 0 0) hc hd; cases h'

theorem gs_shrinkQueue (h : GS fr df w) {g : Nat} {gd : Guard} (hg : w.guards[g]? = some gd) {q' : HH} (hwf : GWF q')
    (hsub : ∀ k, k ∈ keys (abs q') → k ∈ keys (abs gd.q)) : GS fr df (setGuardQ w g q') :=
  ⟨h.ginv.shrinkQueue hg hwf hsub, (h.qi.shrinkQueue hg hwf hsub).hg, h.gi.shrinkQueue hg hsub⟩

theorem gs_guardRemove (h : GS fr df w) (g : Nat) (q : Pid) : GS fr df (guardRemove w g q).1 := by
  cases hg : w.guards[g]? with
  | none => rw [guardRemove_none hg]; exact h
  | some gd =>
    obtain ⟨q', _, hwf', hperm, heq⟩ := guardRemove_spec hg (h.ginv.gw g gd hg) q
    rw [heq]
    refine gs_shrinkQueue h hg hwf' ?_
    intro k hk
    obtain ⟨e, he, rfl⟩ := Event.mem_keys.1 hk
    exact Event.mem_keys.2 ⟨e, (mem_remove.1 (hperm.mem_iff.1 he)).1, rfl⟩

theorem gs_cmd_condWait (h : GS fr df w) (hsep : CondSep w) (hfr : fr p = none) (hlt : p < w.procs.size) (c kind a b : Nat) :
    GH df (execCmd w p (.condWait c kind a b)).1 := by
  simp only [Sim.execCmd]
  split
  · exact h.gh
  · rename_i g hc
    have hon : FrameOn w (.condWait c) g := hc
    exact (h.enterBlock g (.cond kind a b) (.condWait c) hfr hlt hon (fun _ _ => ⟨c, rfl⟩)
      (fun d' hd' => absurd hd' (condGuard_not_obj hsep hc d'))).gh

theorem gs_cmd_condSignal (h : GS fr df w) (c : Nat) : GH df (execCmd w p (.condSignal c)).1 := by
  simp only [Sim.execCmd]
  split
  · exact h.gh
  · rename_i g hc
    show GH df (condSignal w g).1
    have hG := h.ginv.condSignal_fst g ⟨c, hc⟩
    cases hg : w.guards[g]? with
    | none => rw [condSignal_none hg]; exact h.gh
    | some gd =>
      by_cases hcnt : gd.q.count = 0
      · rw [condSignal_empty hg hcnt]; exact h.gh
      · have hwf := h.ginv.gw g gd hg
        obtain ⟨q', hwf', hperm, heq⟩ := condSignal_spec hg hwf hcnt
        rw [heq, setGuardQ_pushAll] at hG ⊢
        have hsub : ∀ k, k ∈ keys (abs q') → k ∈ keys (abs gd.q) := by
          intro k hk
          obtain ⟨e, he, rfl⟩ := Event.mem_keys.1 hk
          exact Event.mem_keys.2 ⟨e, (List.mem_filter.1 (hperm.mem_iff.1 he)).1, rfl⟩
        have h1 := gs_shrinkQueue h hg hwf' hsub
        exact h1.gh.inert h1.ginv.ei ((Inert.refl _).pushAll _ (fun _ => hG.ei))

theorem gs_cmd_condCancel (h : GS fr df w) (c : Nat) (q : Pid) : GH df (execCmd w p (.condCancel c q)).1 := by
  simp only [Sim.execCmd]
  split
  · exact h.gh
  · rename_i g _
    split
    · exact h.gh
    · have h1 := gs_guardRemove h g q
      split
      · exact (h1.sched_harmless _ _ _ _ _ (by decide)).gh
      · exact h1.gh

theorem gs_cmd_condRemove (h : GS fr df w) (c : Nat) (q : Pid) : GH df (execCmd w p (.condRemove c q)).1 := by
  simp only [Sim.execCmd]
  split
  · exact h.gh
  · rename_i g _
    split
    · exact h.gh
    · exact (gs_guardRemove h g q).gh

theorem gs_resume_condWait (h : GS fr df w) {c : Nat} (hfr : fr p = some (.condWait c)) (sig : Int)
    (hq : sig = sigSuccess → Quiet w p) :
    GH df (resumeFrame (w.modProc p fun y => { y with blocked := none }) p (.condWait c) sig).1 := by
  simp only [Sim.resumeFrame]
  split
  · exact h.gh.inert h.ginv.ei ((Inert.refl w).modProc p _ (fun _ => rfl))
  · rename_i g hc
    have hon : FrameOn w (.condWait c) g := hc
    have hq' := h.ginv.quiet_guard (g := g) hq
    obtain ⟨h1, h2⟩ := h.leave hfr hon sig hq'
    obtain ⟨hL, _⟩ := h.ginv.leaveGuard (noEx_not p) hfr hon sig hq'
    split
    · exact GH.inert ⟨h1, h2⟩ hL.ei ((Inert.refl _).cancelKindFor_fst hL.ei p aCond none (by decide))
    · exact ⟨h1, h2⟩

theorem gs_cmd_stop (h : GS fr df w) (ht : TimersOk w) (q : Pid) (v : Int) : GH df (execCmd w p (.stop q v)).1 := by
  simp only [Sim.execCmd]
  split
  · exact (h.finishProc p v true (ht p)).gh
  · split
    · exact (h.finishProc q v true (ht q)).gh
    · exact h.gh

theorem gs_cmd_exit (h : GS fr df w) (ht : TimersOk w) (v : Int) : GH df (execCmd w p (.exit v)).1 := by
  simp only [Sim.execCmd]
  exact (h.finishProc p v false (ht p)).gh

/-- every command of a process that is not suspended keeps homogeneity and the grant invariant (unless a hashheap fault
    is recorded) -/
theorem gs_execCmd (h : GS fr df w) (hes : EndSep w) (hsep : CondSep w) (ht : TimersOk w) (hfr : fr p = none)
    (hlt : p < w.procs.size) (c : Cmd)
    (hcv : ∀ v, (c = .cancelUser v ∨ c = .timerCancel v) → NG w (getVar w p v)) :
    (execCmd w p c).1.fault = none → GH df (execCmd w p c).1 := by
  have hat : ∀ q k, Await.time k ∈ (w.proc q).awaits → NG w k := fun q k hk => (ht q k hk).2
  have hin : InertCmd c → GH df (execCmd w p c).1 := fun hc =>
    h.gh.inert h.ginv.ei (inert_execCmd c hc h.ginv.ei hcv hat)
  cases c with
  | stop q v => exact fun _ => gs_cmd_stop h ht q v
  | exit v => exact fun _ => gs_cmd_exit h ht v
  | prioSet q v => exact fun _ => gs_cmd_prioSet h q v
  | acquire r => exact fun _ => by simp only [Sim.execCmd]; exact h.acquireStep hes hsep hfr hlt r (fun _ _ => Nat.le_refl _)
  | preempt r => exact fun _ => gs_cmd_preempt h ht hes hsep hfr hlt r
  | release r => exact fun _ => h.release r
  | poolAcquire pl n => exact fun _ => gs_cmd_poolAcquire h hes hsep hfr hlt pl n
  | poolPreempt pl n => exact fun _ => gs_cmd_poolPreempt h hes hsep hfr hlt pl n
  | poolRelease pl n => exact fun _ => gs_cmd_poolRelease h pl n
  | bufGet b n => exact fun _ => gs_cmd_bufGet h hes hsep hfr hlt b n
  | bufPut b n => exact fun _ => gs_cmd_bufPut h hes hsep hfr hlt b n
  | oqGet q => exact fun _ => gs_cmd_oqGet h hes hsep hfr hlt q
  | oqPut q obj => exact fun _ => gs_cmd_oqPut h hes hsep hfr hlt q obj
  | pqGet k => exact gs_cmd_pqGet h hes hsep hfr hlt k
  | pqPut k obj pri v => exact gs_cmd_pqPut h hes hsep hfr hlt k obj pri v
  | pqCancel k v => exact fun _ => gs_cmd_pqCancel h k v
  | pqReprio k v pri => exact fun _ => gs_cmd_pqReprio h k v pri
  | condWait c kind a b => exact fun _ => gs_cmd_condWait h hsep hfr hlt c kind a b
  | condSignal c => exact fun _ => gs_cmd_condSignal h c
  | condCancel c q => exact fun _ => gs_cmd_condCancel h c q
  | condRemove c q => exact fun _ => gs_cmd_condRemove h c q
  | _ => exact fun _ => hin trivial

/-- the retried call settles a deficit of one booked at the object end it waits on -/
theorem gs_retry (h : GS fr df w) (hes : EndSep w) (hsep : CondSep w) (hfr : fr p = none) (hlt : p < w.procs.size)
    {f : Frame} {d : Demand} (hfd : frameDemand f = some d) (hdf : ∀ d', d' ≠ d → df d' ≤ df' d') (hdf1 : df d ≤ df' d + 1) :
    (retry f w p).1.fault = none → GH df' (retry f w p).1 := by
  cases f <;> simp only [frameDemand, Option.some.injEq, reduceCtorEq] at hfd <;> subst hfd <;> simp only [retry]
  · exact fun _ => h.acquireStep hes hsep hfr hlt _ hdf
  · exact fun _ => gs_poolLoop h hes hsep hfr hlt _ _ _ _ hdf hdf1
  · exact fun _ => gs_bufGetLoop h hes hsep hfr hlt _ _ _ hdf hdf1
  · exact fun _ => gs_bufPutLoop h hes hsep hfr hlt _ _ _ hdf hdf1
  · exact fun _ => gs_oqGetLoop h hes hsep hfr hlt _ hdf hdf1
  · exact fun _ => gs_oqPutLoop h hes hsep hfr hlt _ _ hdf hdf1
  · exact gs_pqGetLoop h hes hsep hfr hlt _ hdf hdf1
  · exact gs_pqPutLoop h hes hsep hfr hlt _ _ _ _ hdf hdf1

theorem gs_resume_guard {f : Frame} {d : Demand} (hfd : frameDemand f = some d) (h : GS fr df w) (hes : EndSep w)
    (hsep : CondSep w) (hfr : fr p = some f) (hlt : p < w.procs.size) (sig : Int) (hq : sig = sigSuccess → Quiet w p)
    (hdf : ∀ d', d' ≠ d → df d' ≤ df' d') (hdf1 : df d ≤ df' d + 1) (hdf0 : sig ≠ sigSuccess → ∀ d, df d ≤ df' d) :
    (resumeFrame (w.modProc p fun y => { y with blocked := none }) p f sig).1.fault = none →
    GH df' (resumeFrame (w.modProc p fun y => { y with blocked := none }) p f sig).1 := by
  have hgo : ∀ g, FrameOn (w.modProc p fun y => { y with blocked := none }) f g ↔ gOf w d = some g := fun g =>
    (frameOn_gOf hfd g).trans (Eq.to_iff (congrArg (· = some g) (gOf_congr (w := w) rfl rfl rfl rfl rfl d)))
  refine resumeFrame_wait (fun W => W.fault = none → GH df' W) (by cases f <;> first | rfl | cases hfd) p sig ?_ ?_ ?_
  · intro hoff _
    have hg : gOf w d = none := by
      cases hg : gOf w d with
      | none => rfl
      | some g => exact absurd ((hgo g).2 hg) (hoff g)
    exact (h.gh.clear d (need_of_gOf_none hg) hdf).inert h.ginv.ei ((Inert.refl w).modProc p _ (fun _ => rfl))
  · intro g hon _
    have hst := stat_leave w p g sig
    exact gs_retry (gs_left h hfd ((hgo g).1 hon) hfr sig hq) (hes.ofStat hst) (hsep.ofStat hst) (setFrame_self _ _ _)
      (by rw [hst.psize]; exact hlt) hfd hdf hdf1
  · intro g hon hs hf
    have hL := gs_left h hfd ((hgo g).1 hon) hfr sig hq
    have hab : GH df (giveUp f (guardWaitLeave (w.modProc p fun y => { y with blocked := none }) g p sig) p) := by
      cases f with
      | pool pl _ ini _ => exact gs_poolRollback hL pl ini hf
      | condWait c => cases hfd
      | _ => exact hL.gh
    exact hab.mono (hdf0 hs)

/-- the resumption of any suspended call keeps homogeneity and the grant invariant; a deficit of one at the object end
    the call was waiting on (its own grant has just been taken off the event queue) is settled -/
theorem gs_resumeFrame (h : GS fr df w) (hes : EndSep w) (hsep : CondSep w) (f : Frame) (hfr : fr p = some f)
    (hlt : p < w.procs.size) (sig : Int) (hq : sig = sigSuccess → Quiet w p) (hfo : ∀ k, f = .hold k → NG w k)
    (hdf : ∀ d, frameDemand f ≠ some d → df d ≤ df' d) (hdf1 : ∀ d, frameDemand f = some d → df d ≤ df' d + 1)
    (hdf0 : sig ≠ sigSuccess → ∀ d, df d ≤ df' d) :
    (resumeFrame (w.modProc p fun y => { y with blocked := none }) p f sig).1.fault = none →
    GH df' (resumeFrame (w.modProc p fun y => { y with blocked := none }) p f sig).1 := by
  cases hfd : frameDemand f with
  | some d =>
    exact gs_resume_guard hfd h hes hsep hfr hlt sig hq
      (fun d' hd' => hdf d' (by rw [hfd]; exact fun e => hd' (Option.some.inj e).symm)) (hdf1 d hfd) hdf0
  | none =>
    intro _
    have hall : ∀ d, df d ≤ df' d := fun d => hdf d (by rw [hfd]; exact fun e => nomatch e)
    have hin : (f = .yield ∨ (∃ q, f = .waitProc q) ∨ (∃ k, f = .waitEvent k) ∨ (∃ k, f = .hold k ∧ NG w k)) →
        GH df' (resumeFrame (w.modProc p fun y => { y with blocked := none }) p f sig).1 := fun hf =>
      (h.gh.inert h.ginv.ei (inert_resumeFrame (p := p) f sig h.ginv.ei hf)).mono hall
    cases f <;> simp only [frameDemand, reduceCtorEq] at hfd
    · exact hin (Or.inr (Or.inr (Or.inr ⟨_, rfl, hfo _ rfl⟩)))
    · exact hin (Or.inl rfl)
    · exact hin (Or.inr (Or.inl ⟨_, rfl⟩))
    · exact hin (Or.inr (Or.inr (Or.inl ⟨_, rfl⟩)))
    · exact (gs_resume_condWait h hfr sig hq).mono hall

end CimbaModel.Sim.S3
