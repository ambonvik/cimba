/-
  S4 — the priority queues' hashheaps stay well-formed with handles issued by the counter (`PQS`), as long as the handle
  counter is below 2⁶⁴ − 1 (S2's `PQInv` says more, but the S2 files cannot be imported next to the S1 files: `Sim.proc_mk`, `Sim.block_blocked`,
  `Sim.removeHeld_mem` are declared in both trees with different statements): every
  `PqStep` keeps it.
-/
import CimbaModel.Sim.S4Pq
import CimbaModel.HashHeap.Use
import CimbaModel.HashHeap.Orders

namespace CimbaModel.Sim.S4
open CimbaModel CimbaModel.Sim CimbaModel.Event CimbaModel.Generated CimbaModel.KPQ
open CimbaModel.HashHeap (HTag Item Order HH WF abs KeysBelowCounter)

/-- the hashheap of a priority queue is well formed, its handles were issued by its counter, and the counter has counted
    the puts -/
structure PQOk (x : PQ) : Prop where
  wf : WF compare_func x.queue
  below : KeysBelowCounter x.queue
  ctr : x.queue.counter = x.putLog.length

def PQGood (x : PQ) : Prop := x.putLog.length + 1 < 2 ^ 64 → PQOk x

def PQS (w : World) : Prop := ∀ (k : Nat) (x : PQ), w.pqs[k]? = some x → PQGood x

theorem _root_.CimbaModel.Sim.PqStep.good {x y : PQ} (hs : PqStep x y) (h : PQGood x) : PQGood y := by
  induction hs with
  | keep hq hp =>
    intro hb
    rw [hp] at hb
    obtain ⟨a, b, c⟩ := h hb
    exact ⟨by rw [hq]; exact a, by rw [hq]; exact b, by rw [hq, hp]; exact c⟩
  | @get x y t hpos heq hp =>
    intro hb
    rw [hp] at hb
    obtain ⟨hwf, hbelow, hctr⟩ := h hb
    obtain ⟨_, -, a⟩ := HashHeap.dequeue_inv hwf (Nat.ne_of_gt hpos) heq
    exact ⟨a.wf, hbelow.of_subset (Nat.le_of_eq a.counter.symm) fun j hj => ((a.keys hwf j).1 hj).1,
      by rw [a.counter, hp]; exact hctr⟩
  | @put x y obj pri hh heq hp =>
    intro hb
    have hb' : x.putLog.length + 1 < 2 ^ 64 := by
      simp only [hp, List.length_append, List.length_cons, List.length_nil] at hb; omega
    obtain ⟨hwf, hbelow, hctr⟩ := h hb'
    obtain ⟨-, a, kb⟩ := HashHeap.enqueue_auto_inv hwf hbelow (by omega) heq
    exact ⟨a.wf, kb, by simp only [hp, List.length_append, List.length_cons, List.length_nil]; rw [a.counter, hctr]⟩
  | @cancel x y k r h0 heq hp =>
    intro hb
    rw [hp] at hb
    obtain ⟨hwf, hbelow, hctr⟩ := h hb
    have a := HashHeap.remove_inv hwf h0 heq
    exact ⟨a.wf, hbelow.of_subset (Nat.le_of_eq a.counter.symm) fun j hj => ((a.keys j).1 hj).1,
      by rw [a.counter, hp]; exact hctr⟩
  | @reprio x y k pri heq hp =>
    intro hb
    rw [hp] at hb
    obtain ⟨hwf, hbelow, hctr⟩ := h hb
    have a := HashHeap.reprio_inv hwf heq
    exact ⟨a.wf, hbelow.of_subset (Nat.le_of_eq a.counter.symm) fun j hj => (a.keys j).1 hj,
      by rw [a.counter, hp]; exact hctr⟩
  | trans _ _ ih1 ih2 => exact ih2 (ih1 h)

theorem PqEvo.pqs {w w' : World} (he : PqEvo w w') (h : PQS w) : PQS w' := by
  intro k y hy
  have hk : k < w.pqs.size := he.1 ▸ (Array.getElem?_eq_some_iff.1 hy).1
  obtain ⟨y', hy', hs⟩ := he.2 k _ (Array.getElem?_eq_getElem hk)
  rw [hy] at hy'; cases hy'
  exact hs.good (h k _ (Array.getElem?_eq_getElem hk))

theorem PQS.room {w : World} (h : PQS w) {k : Nat} {x : PQ} (hx : w.pqs[k]? = some x) (hb : x.putLog.length + 1 < 2 ^ 31) :
    WF compare_func x.queue ∧ KeysBelowCounter x.queue ∧ x.queue.counter + 1 < 2 ^ 31 := by
  obtain ⟨a, b, c⟩ := h k x hx (Nat.lt_trans hb (by decide))
  exact ⟨a, b, by rw [c]; exact hb⟩

end CimbaModel.Sim.S4
