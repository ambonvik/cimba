/-
  S3 — the grant invariant: `cancel_awaiteds`.
-/
import CimbaModel.Sim.S3GrantStep

namespace CimbaModel.Sim.S3
open CimbaModel CimbaModel.Sim CimbaModel.Event CimbaModel.Generated CimbaModel.KPQ
open CimbaModel.HashHeap (HTag Item Order HH WF abs liveTags)

theorem filter_eq_singleton {α : Type} (f : α → Bool) : ∀ (l : List α) (a : α), l.filter f = [a] →
    ∃ l1 l2, l = l1 ++ a :: l2 ∧ l1.filter f = [] ∧ l2.filter f = []
  | [], _, h => by cases h
  | x :: xs, a, h => by
    by_cases hx : f x = true
    · rw [List.filter_cons_of_pos hx] at h
      simp only [List.cons.injEq] at h
      obtain ⟨rfl, h2⟩ := h
      exact ⟨[], xs, rfl, rfl, h2⟩
    · rw [List.filter_cons_of_neg hx] at h
      obtain ⟨l1, l2, h1, h2, h3⟩ := filter_eq_singleton f xs a h
      exact ⟨x :: l1, l2, by rw [h1]; rfl, by rw [List.filter_cons_of_neg hx]; exact h2, h3⟩

theorem Evo.cancelStep {w0 w : World} (h : Evo w0 w) (p : Pid) (a : Await) : Evo w0 (Sim.cancelStep p w a) := by
  cases a with
  | time k => exact h.evCancel_fst k
  | guard g => exact h.step (Eff.guardWithdraw .refl g p)
  | proc r => exact h.modProc r _
  | event k => exact h.same rfl rfl rfl rfl rfl rfl

theorem Evo.caFold {w0 : World} (p : Pid) : ∀ (l : List Await) {w : World}, Evo w0 w → Evo w0 (l.foldl (Sim.cancelStep p) w) := by
  intro l
  induction l with
  | nil => intro w h; exact h
  | cons a l ih => intro w h; exact ih (h.cancelStep p a)

/-- the steps of `cancel_awaiteds` for awaitables other than guards: nothing the grant invariant cares about changes -/
theorem caFree (p : Pid) : ∀ (l : List Await) {w : World}, l.filter isGuardA = [] → (∀ k, Await.time k ∈ l → NG w k) →
    Inert w (l.foldl (Sim.cancelStep p) w) ∧
    (∀ e ∈ (l.foldl (Sim.cancelStep p) w).ev.pending, e ∈ w.ev.pending ∨ e.item.a = aEvent) ∧
    (∀ x, ((l.foldl (Sim.cancelStep p) w).proc x).awaits = (w.proc x).awaits) := by
  intro l
  induction l with
  | nil => intro w _ _; exact ⟨Inert.refl w, fun e he => Or.inl he, fun _ => rfl⟩
  | cons a l ih =>
    intro w hf hng
    have hfa : isGuardA a = false ∧ l.filter isGuardA = [] := by
      by_cases ha : isGuardA a = true
      · rw [List.filter_cons_of_pos ha] at hf; cases hf
      · rw [List.filter_cons_of_neg ha] at hf
        exact ⟨by simpa using ha, hf⟩
    simp only [List.foldl_cons]
    have hstep : Inert w (Sim.cancelStep p w a) ∧ (∀ e ∈ (Sim.cancelStep p w a).ev.pending, e ∈ w.ev.pending ∨ e.item.a = aEvent) ∧
        (∀ x, ((Sim.cancelStep p w a).proc x).awaits = (w.proc x).awaits) ∧ (∀ k, Await.time k ∈ l → NG (Sim.cancelStep p w a) k) := by
      cases a with
      | time k =>
        have hrel := evCancel_rel w k
        refine ⟨(Inert.refl w).evCancel_fst k (hng k List.mem_cons_self), ?_, fun x => by show ((evCancel w k).1.proc x).awaits = _; rw [hrel.proc],
          fun k' hk' => (hng k' (List.mem_cons_of_mem _ hk')).ofCanRel hrel⟩
        intro e he
        rcases hrel.pend e he with h | ⟨_, _, _, _, _, _, heq⟩
        · exact Or.inl h
        · right; rw [heq]; rfl
      | guard g => exact absurd hfa.1 (by simp [isGuardA])
      | proc r =>
        refine ⟨(Inert.refl w).modProc r _ (fun _ => rfl), fun e he => Or.inl he, fun x => ?_,
          fun k' hk' => hng k' (List.mem_cons_of_mem _ hk')⟩
        show ((w.modProc r fun x => { x with waiters := (removeFirst x.waiters p).1 }).proc x).awaits = _
        rw [modProc_proc]; split
        · rename_i hq; rw [hq.1]
        · rfl
      | event k =>
        exact ⟨(Inert.refl w).setEvWaiters _, fun e he => Or.inl he, fun _ => rfl,
          fun k' hk' => hng k' (List.mem_cons_of_mem _ hk')⟩
    obtain ⟨s1, s2, s3, s4⟩ := hstep
    obtain ⟨i1, i2, i3⟩ := ih hfa.2 s4
    refine ⟨s1.trans i1, ?_, fun x => (i3 x).trans (s3 x)⟩
    intro e he
    rcases i2 e he with h | h
    · exact s2 e h
    · exact Or.inr h

theorem Inert.cancelAllFor {w : World} (hi : EvInv w.ev) (p : Pid) (hng : ∀ e ∈ w.ev.pending, isG01 e → e.item.b ≠ p + 1) :
    Inert w (cancelAllFor w p) := by
  unfold Sim.cancelAllFor
  rw [pendingOf_eq]
  refine Inert.cancelFold _ (Inert.refl w) ?_
  intro k hk e he hke hg
  simp only [List.mem_map, List.mem_filter, decide_eq_true_eq] at hk
  obtain ⟨e', ⟨he', hb⟩, rfl⟩ := hk
  have : e = e' := HashHeap.eq_of_key_eq hi.part.keysNodup he he' hke
  subst this
  exact hng e he hg hb

theorem CaG.foldl' {ex : Pid → Prop} {fr : Pid → Option Frame} {p : Pid} : ∀ (l : List Await) {rest : List Await} {w : World},
    CaG ex fr p (l ++ rest) w → CaG ex fr p rest (l.foldl (Sim.cancelStep p) w) := by
  intro l
  induction l with
  | nil => intro rest w h; exact h
  | cons a l ih => intro rest w h; exact ih (CaG.step h)

variable {fr : Pid → Option Frame} {df : Demand → Nat} {w : World}

theorem not_isG01_of_aEvent {e : HTag} (h : e.item.a = aEvent) : ¬ isG01 e := by
  intro hg; have := hg.1; rw [h] at this; exact absurd this (by decide)

/-- `cancel_awaiteds`: a queued entry is withdrawn, a pending grant is passed on, timers are cancelled; the grant invariant
    survives (the TIME awaitables are not handles of grants) -/
theorem GS.cancelAwaiteds (h : GS fr df w) (q : Pid) (ht : ∀ k, Await.time k ∈ (w.proc q).awaits → NGc w k) :
    GS fr df (cancelAwaiteds w q) := by
  have hp := h.ginv
  suffices hs : HG (Sim.cancelAwaiteds w q) ∧ GI df (Sim.cancelAwaiteds w q) from
    ⟨(hp.cancelAwaiteds q (noEx_not q)).1, hs.1, hs.2⟩
  rw [cancelAwaiteds_eq]
  have hawq0 : ((w.modProc q fun x => { x with awaits := [] }).proc q).awaits = [] := by
    rw [modProc_proc]; split
    · rfl
    · rename_i hn
      by_cases hsz : q < w.procs.size
      · exact absurd ⟨rfl, hsz⟩ hn
      · rw [proc_oob _ (Nat.le_of_not_lt hsz)]
  have hpr0 : ∀ x, x ≠ q → (w.modProc q fun x => { x with awaits := [] }).proc x = w.proc x :=
    fun x hx => modProc_proc_ne w _ hx
  have h0 : CaG noEx fr q (w.proc q).awaits (w.modProc q fun x => { x with awaits := [] }) := by
    refine ⟨(hp.exempt q).clearAwaitsEx, ?_, ?_⟩
    · unfold guardAw; rw [hawq0]; rfl
    · intro g' hq'
      have hq'' : queued w g' (q + 1) := hq'
      have := (hp.gk g' _ hq'').2.2 (noEx_not _)
      simpa using this
  have hb0 : ∀ e ∈ w.ev.pending, isG01 e → e.item.b ≠ 0 := fun e he hg => (hp.gr e he (Or.inl hg)).1
  have hkeepO : ∀ g' e, e ∈ w.ev.pending → e.item.b ≠ q + 1 → grantOf w g' e →
      ∃ e' ∈ (w.modProc q fun x => { x with awaits := [] }).ev.pending, e'.key = e.key ∧
        grantOf (w.modProc q fun x => { x with awaits := [] }) g' e' := by
    intro g' e he hb hgr
    refine ⟨e, he, rfl, hgr.1, ?_⟩
    have hne : e.item.b - 1 ≠ q := by have := hb0 e he hgr.1; omega
    rw [hpr0 _ hne]; exact hgr.2
  rcases hp.ga q with haw | ⟨g0, f, hfr, hon, haw⟩
  · -- no RESOURCE awaitable: nothing of the guards is touched
    have hnog : ∀ e ∈ w.ev.pending, isG01 e → e.item.b ≠ q + 1 := by
      intro e he hg hb
      obtain ⟨_, h2⟩ := hp.gr e he (Or.inl hg)
      obtain ⟨g, h3, _⟩ := h2 (noEx_not _)
      rw [hb, Nat.add_sub_cancel, mem_awaits_guard, haw] at h3; cases h3
    have hi0 : Inert w (w.modProc q fun x => { x with awaits := [] }) := by
      refine (Inert.refl w).same rfl rfl rfl rfl rfl rfl rfl (fun x => ?_)
      by_cases hx : x = q
      · subst hx; unfold guardAw at haw ⊢; rw [hawq0, haw]; rfl
      · unfold guardAw; rw [hpr0 x hx]
    obtain ⟨i1, p1, _⟩ := caFree q (w.proc q).awaits (w := w.modProc q fun x => { x with awaits := [] }) haw
      (fun k hk => (ht k hk).2)
    have hi3 : EvInv ((w.proc q).awaits.foldl (Sim.cancelStep q) (w.modProc q fun x => { x with awaits := [] })).ev :=
      i1.ei (hi0.ei hp.ei)
    have hng3 : ∀ e ∈ ((w.proc q).awaits.foldl (Sim.cancelStep q) (w.modProc q fun x => { x with awaits := [] })).ev.pending,
        isG01 e → e.item.b ≠ q + 1 := by
      intro e he hg
      rcases p1 e he with h' | h'
      · exact hnog e h' hg
      · exact absurd hg (not_isG01_of_aEvent h')
    have hI := hi0.trans (i1.trans (Inert.cancelAllFor hi3 q hng3))
    exact ⟨h.hg.inert hI, h.gi.inert hp.ei hI⟩
  · obtain ⟨l1, l2, hl, hf1, hf2⟩ := filter_eq_singleton isGuardA (w.proc q).awaits (.guard g0) haw
    have hown0 : ∀ g', Await.guard g' ∈ (w.proc q).awaits → g' = g0 := by
      intro g' hm
      rw [mem_awaits_guard, haw] at hm; simpa using hm
    rw [hl] at h0
    rw [hl, List.foldl_append, List.foldl_cons]
    have hcs : ∀ W, Sim.cancelStep q W (.guard g0) = Sim.guardWithdraw W g0 q := fun _ => rfl
    rw [hcs]
    have hmem1 : ∀ a, a ∈ l1 → a ∈ (w.proc q).awaits := fun a ha => by rw [hl]; exact List.mem_append_left _ ha
    have hmem2 : ∀ a, a ∈ l2 → a ∈ (w.proc q).awaits := fun a ha => by
      rw [hl]; exact List.mem_append_right _ (List.mem_cons_of_mem _ ha)
    have hq0 : QI (exAdd noEx q) (w.modProc q fun x => { x with awaits := [] }) :=
      h0.1.toQI (h.hg.ofGuards rfl (fun d => gOf_congr rfl rfl rfl rfl rfl d))
    -- the deficit that clearing the awaits books at `g0`
    have hdrop : ∃ df0 : Demand → Nat, GI df0 (w.modProc q fun x => { x with awaits := [] }) ∧
        (∀ d, gOf w d ≠ some g0 → df0 d ≤ df d) ∧ (∀ d, df0 d ≤ df d + 1) ∧
        ((¬ ∃ e ∈ w.ev.pending, isG01 e ∧ e.item.b = q + 1) → ∀ d, df0 d ≤ df d) := by
      by_cases hG : ∃ e ∈ w.ev.pending, isG01 e ∧ e.item.b = q + 1
      · obtain ⟨e0, he0, hg0, hbq0⟩ := hG
        refine ⟨fun d => if gOf w d = some g0 then df d + 1 else df d, ?_, fun d hd => by simp [hd],
          fun d => by dsimp only; split <;> omega, fun hn => absurd ⟨e0, he0, hg0, hbq0⟩ hn⟩
        intro d g' hd hqn
        have hold := h.gi d g' hd hqn
        have hnd : need (w.modProc q fun x => { x with awaits := [] }) d = need w d := rfl
        by_cases hgg : g' = g0
        · subst hgg
          have : G w g' ≤ G (w.modProc q fun x => { x with awaits := [] }) g' + 1 := by
            refine G_le_succ_of_keep_except hp.ei g' e0.key ?_
            intro e he hk hgr
            refine hkeepO g' e he ?_ hgr
            intro hb
            exact hk (by rw [hp.gu e he e0 he0 (Or.inl hgr.1) (Or.inl hg0) (hb.trans hbq0.symm) (noEx_not _)])
          have hd' : gOf w d = some g' := hd
          simp only [hd', if_true]
          omega
        · have : G w g' ≤ G (w.modProc q fun x => { x with awaits := [] }) g' := by
            refine G_le_of_keep hp.ei g' ?_
            intro e he hgr
            refine hkeepO g' e he ?_ hgr
            intro hb
            have := hgr.2; rw [hb, Nat.add_sub_cancel] at this
            exact hgg (hown0 g' this)
          have hd' : gOf w d = some g' := hd
          have hne : ¬ (some g' = some g0) := fun hh => hgg (Option.some.inj hh)
          simp only [hd', hne, if_false]
          omega
      · refine ⟨df, ?_, fun _ _ => Nat.le_refl _, fun _ => Nat.le_succ _, fun _ _ => Nat.le_refl _⟩
        intro d g' hd hqn
        have hold := h.gi d g' hd hqn
        have hnd : need (w.modProc q fun x => { x with awaits := [] }) d = need w d := rfl
        have : G w g' ≤ G (w.modProc q fun x => { x with awaits := [] }) g' := by
          refine G_le_of_keep hp.ei g' ?_
          intro e he hgr
          exact hkeepO g' e he (fun hb => hG ⟨e, he, hgr.1, hb⟩) hgr
        omega
    obtain ⟨df0, hgi0, hdfA, hdf1, hdfN⟩ := hdrop
    obtain ⟨i1, p1, a1⟩ := caFree q l1 (w := w.modProc q fun x => { x with awaits := [] }) hf1
      (fun k hk => (ht k (hmem1 _ hk)).2)
    obtain ⟨hE1, _, hq1⟩ := h0.foldl' l1
    have hev0 : (w.modProc q fun x => { x with awaits := [] }).ev = w.ev := rfl
    have hgd0 : (w.modProc q fun x => { x with awaits := [] }).guards = w.guards := rfl
    have hgo0 : ∀ d, gOf (w.modProc q fun x => { x with awaits := [] }) d = gOf w d := fun d => gOf_congr rfl rfl rfl rfl rfl d
    have hEvo0 : Evo w (w.modProc q fun x => { x with awaits := [] }) := (Evo.refl w).modProc q _
    generalize (w.modProc q fun x => { x with awaits := [] }) = W0 at hawq0 hq0 hgi0 i1 p1 a1 hE1 hq1 hev0 hgd0 hgo0 hEvo0
    have hQ1 := hq0.inert i1
    have hG1 := hgi0.inert hq0.ei i1
    have hgo1 : ∀ d, gOf (l1.foldl (Sim.cancelStep q) W0) d = gOf w d := fun d => (i1.gof d).trans (hgo0 d)
    have hqd1 : ∀ g' k, queued (l1.foldl (Sim.cancelStep q) W0) g' k ↔ queued w g' k := fun g' k =>
      (queued_congr i1.guards g' k).trans (queued_congr hgd0 g' k)
    have hold1 : ∀ e ∈ (l1.foldl (Sim.cancelStep q) W0).ev.pending, isG01 e → e ∈ w.ev.pending := by
      intro e he hg
      rcases p1 e he with h' | h'
      · rw [hev0] at h'; exact h'
      · exact absurd hg (not_isG01_of_aEvent h')
    have hawq1 : ((l1.foldl (Sim.cancelStep q) W0).proc q).awaits = [] := (a1 q).trans hawq0
    have hEvo1 : Evo w (l1.foldl (Sim.cancelStep q) W0) := hEvo0.caFold q l1
    generalize (l1.foldl (Sim.cancelStep q) W0) = W1 at hQ1 hG1 hgo1 hqd1 hold1 hawq1 hE1 hq1 i1 hEvo1
    have hnq1 : ∀ g', g' ≠ g0 → ¬ queued W1 g' (q + 1) := by
      intro g' hne hqq
      rcases List.mem_cons.1 (hq1 g' hqq) with h' | h'
      · cases h'; exact hne rfl
      · have : Await.guard g' ∈ l2.filter isGuardA := List.mem_filter.2 ⟨h', rfl⟩
        rw [hf2] at this; cases this
    obtain ⟨hG2, hQ2⟩ := GI.guardWithdraw (df' := df) hQ1 hG1 g0 q
      (fun g' hm => by rw [hawq1] at hm; cases hm)
      (fun e1 h1 e2 h2 g1 g2 b1 b2 =>
        hp.gu e1 (hold1 e1 h1 g1) e2 (hold1 e2 h2 g2) (Or.inl g1) (Or.inl g2) (b1.trans b2.symm) (noEx_not _))
      (fun k hk hne hx => by
        rcases hx with hx | hx
        · exact noEx_not _ hx
        · have h0 := (hQ1.gk g0 k hk).1
          have h1 : k - 1 + 1 = k := Nat.sub_add_cancel (Nat.pos_of_ne_zero h0)
          exact hne (by rw [← hx, h1]))
      (fun d hd => hdfA d (by rw [← hgo1]; exact hd))
      (fun d hd => ⟨fun _ => hdf1 d, fun hc => by
        apply hdfN
        rintro ⟨e0, he0, hg0, hbq0⟩
        apply hc
        refine ⟨?_, ?_, by rw [hawq1]; simp⟩
        · intro hqq
          have := hp.no_grant_of_queued ((hqd1 g0 _).1 hqq) (noEx_not _)
          exact this e0 he0 (Or.inl hg0) hbq0
        · obtain ⟨e', he', hk', hit'⟩ := i1.keep e0 (by rw [hev0]; exact he0) hg0
          obtain ⟨_, _, _, hn⟩ := cancelKindFor_spec W1 q aRes (some sigSuccess) hQ1.ei
          rw [hn]
          refine List.length_pos_of_mem (List.mem_filter.2 ⟨he', ?_⟩)
          unfold kindMatch
          rw [hit']
          simp [hbq0, hg0.1, hg0.2]
          decide⟩)
    obtain ⟨_, _, _, f4, f5⟩ := guardWithdraw_foot hE1.gw hE1.ei hE1.cl g0 q hnq1
    have hng2 : ∀ e ∈ (Sim.guardWithdraw W1 g0 q).ev.pending, isG01 e → e.item.b ≠ q + 1 := by
      intro e he hg
      by_cases hqq : queued W1 g0 (q + 1)
      · rcases f4 e he with h' | h' | h'
        · have := hp.no_grant_of_queued ((hqd1 g0 _).1 hqq) (noEx_not _)
          exact this e (hold1 e h' hg) (Or.inl hg)
        · exact absurd hg (not_isG01_of_aEvent h')
        · exact h'.2.2
      · exact f5 hqq e he hg.1 hg.2
    have hEvo2 : Evo w (Sim.guardWithdraw W1 g0 q) := hEvo1.step (Eff.guardWithdraw .refl g0 q)
    obtain ⟨i2, p2, _⟩ := caFree q l2 (w := Sim.guardWithdraw W1 g0 q) hf2
      (fun k hk => ((ht k (hmem2 _ hk)).ofEvo hEvo2).2)
    have hQ3 := hQ2.inert i2
    have hG3 := hG2.inert hQ2.ei i2
    have hng3 : ∀ e ∈ (l2.foldl (Sim.cancelStep q) (Sim.guardWithdraw W1 g0 q)).ev.pending, isG01 e → e.item.b ≠ q + 1 := by
      intro e he hg
      rcases p2 e he with h' | h'
      · exact hng2 e h' hg
      · exact absurd hg (not_isG01_of_aEvent h')
    have i4 := Inert.cancelAllFor hQ3.ei q hng3
    exact ⟨(hQ3.inert i4).hg, hG3.inert hQ3.ei i4⟩

end CimbaModel.Sim.S3
