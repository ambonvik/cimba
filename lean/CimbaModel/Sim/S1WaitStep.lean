/-
  S1 — `WInv` through the steps that touch the registrations (`cancelAwaiteds`, `wakeWaiters`, the end of a process,
  entering and leaving `wait_process`), and through every command.
-/
import CimbaModel.Sim.S1Wait
import CimbaModel.Sim.S1Effects

namespace CimbaModel.Sim
open CimbaModel CimbaModel.Event CimbaModel.Generated
open CimbaModel.HashHeap (HTag Item Order HH)

theorem block_blocked (w : World) (p : Pid) (f : Frame) (z : Pid) :
    ((block w p f).1.proc z).blocked = if z = p ∧ p < w.procs.size then some f else (w.proc z).blocked := by
  unfold block; dsimp only; rw [proc_modProc]; split <;> rfl

/-- also for a preempting caller: its victims lose holdings, not the frames they are suspended in -/
@[simp] theorem poolLoop_blocked_ne (w : World) (p : Pid) (z : Pid) (hz : z ≠ p) (pl rem initially : Nat)
    (preempt : Bool) : ((poolLoop w p pl rem initially preempt).1.proc z).blocked = (w.proc z).blocked :=
  (poolLoop_eff w p pl rem initially preempt).outside.blocked z (.inr ⟨rfl, hz⟩)

section
variable (w : World) (p : Pid) (z : Pid)
@[simp] theorem poolLoop_pa (pl rem initially : Nat) (preempt : Bool) :
    (poolLoop w p pl rem initially preempt).1.pa z = w.pa z :=
  (poolLoop_eff w p pl rem initially preempt).outside.pa z (.inl rfl)
@[simp] theorem bufGetLoop_pa (b rem got : Nat) : (bufGetLoop w p b rem got).1.pa z = w.pa z :=
  (bufGetLoop_eff w p b rem got).outside.pa z (.inl rfl)
@[simp] theorem bufPutLoop_pa (b rem left : Nat) : (bufPutLoop w p b rem left).1.pa z = w.pa z :=
  (bufPutLoop_eff w p b rem left).outside.pa z (.inl rfl)
@[simp] theorem oqGetLoop_pa (k : Nat) : (oqGetLoop w p k).1.pa z = w.pa z := (oqGetLoop_eff w p k).outside.pa z (.inl rfl)
@[simp] theorem oqPutLoop_pa (k obj : Nat) : (oqPutLoop w p k obj).1.pa z = w.pa z :=
  (oqPutLoop_eff w p k obj).outside.pa z (.inl rfl)
@[simp] theorem pqGetLoop_pa (k : Nat) : (pqGetLoop w p k).1.pa z = w.pa z := (pqGetLoop_eff w p k).outside.pa z (.inl rfl)
@[simp] theorem pqPutLoop_pa (k obj : Nat) (pri : Int) (v : Nat) : (pqPutLoop w p k obj pri v).1.pa z = w.pa z :=
  (pqPutLoop_eff w p k obj pri v).outside.pa z (.inl rfl)
@[simp] theorem acquireStep_pa (r : Nat) : (acquireStep w p r).1.pa z = w.pa z :=
  (acquireStep_eff w p r).outside.pa z (.inl rfl)
end

theorem cancelStep_waiters (z : Pid) (w : World) (a : Await) (q : Pid) :
    ((cancelStep z w a).proc q).waiters =
      match procOf a with
      | some q' => if q' = q then (removeFirst (w.proc q).waiters z).1 else (w.proc q).waiters
      | none => (w.proc q).waiters := by
  cases a with
  | time h => simp [cancelStep]
  | guard g => simp [cancelStep]
  | event h => simp [cancelStep]
  | proc q' =>
    simp only [cancelStep, procOf_proc]
    rw [proc_modProc]
    by_cases e : q' = q
    · subst e
      by_cases hlt : q' < w.procs.size
      · simp [hlt]
      · simp [hlt, proc_oob w q' hlt, removeFirst]
    · have : ¬ q = q' := fun x => e x.symm
      simp [e, this]

theorem foldl_cancelStep_waiters (z : Pid) (aws : List Await) (w : World) (q : Pid) :
    ((aws.foldl (cancelStep z) w).proc q).waiters =
      (aws.filterMap procOf).foldl (fun l q' => if q' = q then (removeFirst l z).1 else l) (w.proc q).waiters := by
  induction aws generalizing w with
  | nil => rfl
  | cons a l ih =>
    rw [List.foldl_cons, ih, cancelStep_waiters]
    cases h : procOf a with
    | none => simp [h]
    | some q' => simp [h]

theorem cancelAwaiteds_waiters (w : World) (z q : Pid) :
    ((cancelAwaiteds w z).proc q).waiters =
      (w.pa z).foldl (fun l q' => if q' = q then (removeFirst l z).1 else l) (w.proc q).waiters := by
  rw [cancelAwaiteds_eq, cancelAllFor_proc, foldl_cancelStep_waiters]
  have : ((w.modProc z fun x => { x with awaits := [] }).proc q).waiters = (w.proc q).waiters := by
    apply modProc_field; intro; rfl
  rw [this]; rfl

theorem cancelAwaiteds_pa (w : World) (z p : Pid) : (cancelAwaiteds w z).pa p = if p = z then [] else w.pa p := by
  unfold World.pa
  rw [cancelAwaiteds_awaits]
  split <;> rfl

theorem cancelAwaiteds_np_self (w : World) (z : Pid) : np (cancelAwaiteds w z) z = 0 := by
  rw [cancelAwaiteds_eq]
  apply cancelAllFor_none
  · intro s c; rfl
  · intro it h
    unfold isAProc at h
    simp at h; exact h.2

theorem winv_cancelAwaiteds {w : World} (h : WInv w) (z : Pid) : WInv (cancelAwaiteds w z) := by
  have hev : WEv w (cancelAwaiteds w z) :=
    ec_cancelAwaiteds (wev_closed w) rfl ⟨rfl, rfl⟩ w z h.wev
  have hwt : ∀ q, ((cancelAwaiteds w z).proc q).waiters =
      if q ∈ w.pa z then (removeFirst (w.proc q).waiters z).1 else (w.proc q).waiters := by
    intro q
    rw [cancelAwaiteds_waiters]
    rcases h.frame z with e | ⟨q0, e, _⟩
    · rw [e]; simp
    · rw [e]; simp only [List.foldl_cons, List.foldl_nil, List.mem_singleton]
      by_cases x : q0 = q
      · simp [x]
      · have : ¬ q = q0 := fun y => x y.symm
        simp [x, this]
  have hsub : ∀ q, ((cancelAwaiteds w z).proc q).waiters.Sublist (w.proc q).waiters := by
    intro q; rw [hwt]; split
    · exact removeFirst_sublist _ _
    · exact List.Sublist.refl _
  refine ⟨?_, ?_, ?_, ?_, ?_, hev.2⟩
  · intro p q hm
    rw [cancelAwaiteds_pa]
    by_cases hp : p = z
    · subst hp
      exfalso
      have hm0 := (hsub q).subset hm
      have hq := h.reg p q hm0
      rw [hwt, if_pos hq] at hm
      exact removeFirst_not_mem p (h.nodup q) hm
    · rw [if_neg hp]; exact h.reg p q ((hsub q).subset hm)
  · intro q; exact (h.nodup q).sublist (hsub q)
  · intro p
    rw [cancelAwaiteds_pa]
    by_cases hp : p = z
    · left; simp [hp]
    · rw [if_neg hp]
      rcases h.frame p with e | ⟨q, e, b⟩
      · exact Or.inl e
      · exact Or.inr ⟨q, e, by rw [cancelAwaiteds_blocked]; exact b⟩
  · intro p; exact Nat.le_trans (hev.1 p) (h.one p)
  · intro p hp
    have hpz : p ≠ z := by
      intro e; subst e; rw [cancelAwaiteds_np_self] at hp; omega
    have := h.woken p (Nat.lt_of_lt_of_le hp (hev.1 p))
    rw [cancelAwaiteds_pa, if_neg hpz]
    exact ⟨this.1, fun q hm => this.2 q ((hsub q).subset hm)⟩

theorem countP_wakeTags (sig : Int) (now : Int) (prio : Pid → Int) (c : Nat) (ws : List Pid) (p : Pid) :
    (wakeTags aProc sig now prio c ws).countP (fun e => isAProc p e.item) = ws.count p := by
  induction ws generalizing c with
  | nil => rfl
  | cons q qs ih =>
    simp only [wakeTags, List.countP_cons, List.count_cons, ih]
    by_cases e : q = p
    · simp [isAProc, e]
    · simp [isAProc, e]

theorem wakeWaiters_npcount (w : World) (z : Pid) (sig : Int) (p : Pid) :
    np (wakeWaiters w z sig) p = np w p + (w.proc z).waiters.count p := by
  unfold np cnt
  rw [wakeWaiters_pending, List.countP_append, List.countP_reverse, countP_wakeTags]
  omega

theorem winv_wakeWaiters {w : World} (h : WInv w) (z : Pid) (sig : Int) : WInv (wakeWaiters w z sig) := by
  have hwt : ∀ q, ((wakeWaiters w z sig).proc q).waiters = if q = z then [] else (w.proc q).waiters :=
    wakeWaiters_waiters w z sig
  have hcount : ∀ p, (w.proc z).waiters.count p = if p ∈ (w.proc z).waiters then 1 else 0 := by
    intro p; split
    · rename_i hm; exact count_eq_one_of_nodup_mem _ _ (h.nodup z) hm
    · rename_i hm; exact List.count_eq_zero.2 hm
  refine ⟨?_, ?_, ?_, ?_, ?_, ?_⟩
  · intro p q hm
    rw [hwt] at hm
    split at hm
    · cases hm
    · simpa using h.reg p q hm
  · intro q; rw [hwt]; split
    · exact List.nodup_nil
    · exact h.nodup q
  · intro p
    rcases h.frame p with e | ⟨q, e, b⟩
    · left; simpa using e
    · right; exact ⟨q, by simpa using e, by simpa using b⟩
  · intro p
    rw [wakeWaiters_npcount, hcount]
    split
    · rename_i hm
      have : np w p = 0 := by
        apply Classical.byContradiction
        intro hn
        exact (h.woken p (by omega)).2 z hm
      omega
    · have := h.one p; omega
  · intro p hp
    rw [wakeWaiters_npcount, hcount] at hp
    by_cases hm : p ∈ (w.proc z).waiters
    · have hz := h.reg p z hm
      have hne : (wakeWaiters w z sig).pa p ≠ [] := by
        rw [wakeWaiters_pa]; intro e; rw [e] at hz; cases hz
      refine ⟨hne, ?_⟩
      intro q hq
      rw [hwt] at hq
      split at hq
      · cases hq
      · rename_i hqz
        have hq' := h.reg p q hq
        rcases h.frame p with e | ⟨q0, e, _⟩
        · rw [e] at hz; cases hz
        · rw [e] at hz hq'
          simp at hz hq'
          exact hqz (hq'.trans hz.symm)
    · rw [if_neg hm] at hp
      have := h.woken p (by omega)
      refine ⟨by simpa using this.1, ?_⟩
      intro q hq
      rw [hwt] at hq
      split at hq
      · cases hq
      · exact this.2 q hq
  · intro e he ha
    rw [wakeWaiters_pending] at he
    rcases List.mem_append.1 he with he | he
    · obtain ⟨_, _, _, _, _, q, _, hb, _⟩ := mem_wakeTags (List.mem_reverse.1 he)
      omega
    · exact h.subj e he ha

theorem winv_modProc {w : World} (h : WInv w) (p : Pid) (f : Proc → Proc)
    (hf : ∀ x, (f x).awaits = x.awaits ∧ (f x).waiters = x.waiters ∧ (f x).blocked = x.blocked) :
    WInv (w.modProc p f) :=
  h.of_views' (pa_modProc_keep w p f fun x => (hf x).1) (modProc_field Proc.waiters w p f fun x => (hf x).2.1)
    (fun z _ => modProc_field Proc.blocked w p f (fun x => (hf x).2.2) z) ((wev_closed w).ev_only h.wev rfl)

theorem winv_dropResources {w : World} (h : WInv w) (z : Pid) : WInv (dropResources w z) :=
  h.of_views' (dropResources_pa w z) (dropResources_waiters w z) (fun p _ => dropResources_blocked w z p)
    (ec_dropResources (wev_closed w) ⟨rfl, rfl⟩ w z h.wev)

theorem winv_finishMid {w : World} (h : WInv w) (z : Pid) (stopped : Bool) :
    WInv (finishMid w z stopped) ∧ (finishMid w z stopped).pa z = [] := by
  unfold finishMid; split
  · exact ⟨winv_dropResources (winv_cancelAwaiteds h z) z, by rw [dropResources_pa, cancelAwaiteds_pa, if_pos rfl]⟩
  · exact ⟨winv_cancelAwaiteds (winv_dropResources h z) z, by rw [cancelAwaiteds_pa, if_pos rfl]⟩

theorem winv_finishProc {w : World} (h : WInv w) (z : Pid) (val : Int) (stopped : Bool) :
    WInv (finishProc w z val stopped) ∧ (finishProc w z val stopped).pa z = [] := by
  have hmid := winv_finishMid h z stopped
  have hw := winv_wakeWaiters hmid.1 z (if stopped then sigStopped else sigSuccess)
  have hpa : (wakeWaiters (finishMid w z stopped) z (if stopped then sigStopped else sigSuccess)).pa z = [] :=
    (wakeWaiters_pa ..).trans hmid.2
  rw [finishProc_eq]
  refine ⟨hw.of_step hpa (pa_modProc_keep _ _ _ (by intro; rfl)) (modProc_field Proc.waiters _ _ _ (by intro; rfl))
    (fun p hp => congrArg Proc.blocked (proc_modProc_ne _ _ _ _ hp)) ((wev_closed _).ev_only hw.wev rfl), ?_⟩
  rw [pa_modProc_keep _ _ _ (by intro; rfl)]; exact hpa

/-- the world after `p` has registered with `q` and suspended itself -/
def waitWorld (w : World) (p q : Pid) : World :=
  (block ((addAwait w p (.proc q)).modProc q fun y => { y with waiters := p :: y.waiters }) p (.waitProc q)).1

theorem execCmd_waitProc (w : World) (p q : Pid) (hq : q < w.procs.size) (hnf : (w.proc q).status ≠ .finished) :
    execCmd w p (.waitProc q) = (waitWorld w p q, .blocked) := by
  have : ¬ q ≥ w.procs.size := Nat.not_le.2 hq
  simp only [execCmd, this, if_false, hnf]
  rfl

theorem addAwait_pa_proc (w : World) (p q : Pid) (hp : p < w.procs.size) (z : Pid) :
    (addAwait w p (.proc q)).pa z = if z = p then q :: w.pa z else w.pa z := by
  unfold addAwait
  rw [pa_modProc]
  by_cases e : z = p
  · subst e; simp [hp, World.pa]
  · simp [e]

theorem waitWorld_pa (w : World) (p q : Pid) (hp : p < w.procs.size) (z : Pid) :
    (waitWorld w p q).pa z = if z = p then q :: w.pa z else w.pa z := by
  unfold waitWorld
  rw [block_pa, ← addAwait_pa_proc w p q hp]
  simp

theorem waitWorld_waiters (w : World) (p q : Pid) (hq : q < w.procs.size) (z : Pid) :
    ((waitWorld w p q).proc z).waiters = if z = q then p :: (w.proc z).waiters else (w.proc z).waiters := by
  unfold waitWorld
  rw [block_waiters, proc_modProc]
  by_cases e : z = q
  · subst e
    have : z < (addAwait w p (.proc z)).procs.size := by simpa using hq
    rw [if_pos ⟨rfl, this⟩, if_pos rfl]
    simp
  · simp [e]

theorem waitWorld_blocked (w : World) (p q : Pid) (hp : p < w.procs.size) (z : Pid) :
    ((waitWorld w p q).proc z).blocked = if z = p then some (.waitProc q) else (w.proc z).blocked := by
  unfold waitWorld
  rw [block_blocked]
  by_cases e : z = p
  · subst e
    have : z < ((addAwait w z (.proc q)).modProc q fun y => { y with waiters := z :: y.waiters }).procs.size := by
      simpa using hp
    rw [if_pos ⟨rfl, this⟩, if_pos rfl]
  · simp only [e, false_and, if_false]
    refine (modProc_field Proc.blocked _ _ _ ?_ _).trans (by simp)
    intro; rfl

theorem winv_waitProc {w : World} (h : WInv w) (p q : Pid) (hp : p < w.procs.size) (hq : q < w.procs.size)
    (hpa : w.pa p = []) : WInv (waitWorld w p q) := by
  obtain ⟨hfree, hnp⟩ := h.free p hpa
  have hev : ∀ z, np (waitWorld w p q) z = np w z := fun z => cnt_of_ev (by unfold waitWorld; simp)
  refine ⟨?_, ?_, ?_, ?_, ?_, ?_⟩
  · intro p' q' hm
    rw [waitWorld_waiters w p q hq] at hm
    rw [waitWorld_pa w p q hp]
    by_cases e : p' = p
    · subst e
      rw [if_pos rfl, hpa]
      split at hm
      · rename_i e2; subst e2; exact List.mem_singleton.2 rfl
      · exact absurd hm (hfree q')
    · rw [if_neg e]
      split at hm
      · rcases List.mem_cons.1 hm with x | x
        · exact absurd x e
        · exact h.reg p' q' x
      · exact h.reg p' q' hm
  · intro q'
    rw [waitWorld_waiters w p q hq]
    split
    · exact List.nodup_cons.2 ⟨hfree q', h.nodup q'⟩
    · exact h.nodup q'
  · intro p'
    rw [waitWorld_pa w p q hp, waitWorld_blocked w p q hp]
    by_cases e : p' = p
    · subst e; right; exact ⟨q, by simp [hpa], by simp⟩
    · simp only [e, if_false]; exact h.frame p'
  · intro z; rw [hev]; exact h.one z
  · intro z hz
    rw [hev] at hz
    have hzp : z ≠ p := by intro e; subst e; omega
    have := h.woken z hz
    rw [waitWorld_pa w p q hp, if_neg hzp]
    refine ⟨this.1, fun q' => ?_⟩
    rw [waitWorld_waiters w p q hq]
    split
    · intro hm
      rcases List.mem_cons.1 hm with x | x
      · exact hzp x
      · exact this.2 q' x
    · exact this.2 q'
  · intro e he
    have : (waitWorld w p q).ev = w.ev := by unfold waitWorld; simp
    rw [this] at he; exact h.subj e he

/-- abstract transition: `p`, which awaited the end of `q`, stops awaiting it and is taken off `q`'s waiter list (if it
    was still on it); any pending process-end wake-up for `p` is gone -/
theorem WInv.unregister {w w' : World} (h : WInv w) (p q : Pid) (hpa : w.pa p = [q])
    (hpa' : ∀ z, w'.pa z = if z = p then [] else w.pa z)
    (hwt : ∀ z, (w'.proc z).waiters.Sublist (w.proc z).waiters)
    (hout : p ∉ (w'.proc q).waiters)
    (hbl : ∀ z, z ≠ p → (w'.proc z).blocked = (w.proc z).blocked)
    (hnp : ∀ z, np w' z ≤ np w z) (hnp0 : np w' p = 0)
    (hsub : ∀ e ∈ w'.ev.pending, e.item.a = aProc → 1 ≤ e.item.b) : WInv w' := by
  refine ⟨?_, ?_, ?_, ?_, ?_, hsub⟩
  · intro p' q' hm
    have hm0 := (hwt q').subset hm
    have hq := h.reg p' q' hm0
    rw [hpa']
    by_cases e : p' = p
    · subst e
      rw [hpa] at hq
      have : q' = q := List.mem_singleton.1 hq
      subst this
      exact absurd hm hout
    · rw [if_neg e]; exact hq
  · intro z; exact (h.nodup z).sublist (hwt z)
  · intro z
    rw [hpa']
    by_cases e : z = p
    · left; simp [e]
    · rw [if_neg e, hbl z e]; exact h.frame z
  · intro z; exact Nat.le_trans (hnp z) (h.one z)
  · intro z hz
    have hzp : z ≠ p := by intro e; subst e; omega
    have := h.woken z (Nat.lt_of_lt_of_le hz (hnp z))
    rw [hpa', if_neg hzp]
    exact ⟨this.1, fun q' hm => this.2 q' ((hwt q').subset hm)⟩

theorem filterMap_removeFirst_proc (l : List Await) (q : Pid) :
    (removeFirst l (.proc q)).1.filterMap procOf = (removeFirst (l.filterMap procOf) q).1 := by
  induction l with
  | nil => rfl
  | cons x xs ih =>
    cases x with
    | proc q' =>
      by_cases e : q' = q
      · subst e; simp [removeFirst]
      · have e' : ¬ Await.proc q' = Await.proc q := fun x => e (by injection x)
        simp only [removeFirst, e', if_false, List.filterMap_cons, procOf_proc, e, ih]
    | time h =>
      have e' : ¬ Await.time h = Await.proc q := fun x => by cases x
      simp only [removeFirst, e', if_false, List.filterMap_cons, procOf_time, ih]
    | guard g =>
      have e' : ¬ Await.guard g = Await.proc q := fun x => by cases x
      simp only [removeFirst, e', if_false, List.filterMap_cons, procOf_guard, ih]
    | event h =>
      have e' : ¬ Await.event h = Await.proc q := fun x => by cases x
      simp only [removeFirst, e', if_false, List.filterMap_cons, procOf_event, ih]

theorem removeAwait_pa_proc (w : World) (p q : Pid) (z : Pid) :
    (removeAwait w p (.proc q)).1.pa z = if z = p then (removeFirst (w.pa z) q).1 else w.pa z := by
  unfold removeAwait; dsimp only
  rw [pa_modProc]
  by_cases e : z = p
  · subst e
    by_cases hlt : z < w.procs.size
    · simp only [hlt, and_self, if_true]
      exact filterMap_removeFirst_proc _ _
    · simp [hlt, World.pa, proc_oob w z hlt, removeFirst]
  · simp [e]

theorem removeAwait_still_proc (w : World) (p q : Pid) : (removeAwait w p (.proc q)).2 = true ↔ q ∈ w.pa p := by
  unfold removeAwait; dsimp only
  rw [removeFirst_flag]
  unfold World.pa
  rw [List.mem_filterMap]
  constructor
  · intro h; exact ⟨_, h, rfl⟩
  · rintro ⟨a, ha, e⟩
    cases a <;> simp_all

/-- the three ways out of `wait_process` -/
theorem resumeFrame_waitProc_eq (w0 : World) (p q : Pid) (sig : Int) :
    (resumeFrame w0 p (.waitProc q) sig).1 =
      if (removeAwait w0 p (.proc q)).2 = true then
        if (removeFirst ((removeAwait w0 p (.proc q)).1.proc q).waiters p).2 = true then
          (removeAwait w0 p (.proc q)).1.modProc q fun y =>
            { y with waiters := (removeFirst ((removeAwait w0 p (.proc q)).1.proc q).waiters p).1 }
        else (cancelKindFor (removeAwait w0 p (.proc q)).1 p aProc none).1
      else (removeAwait w0 p (.proc q)).1 := by
  simp only [resumeFrame]
  split
  · split <;> rfl
  · rfl

/-- **leaving `wait_process` for whatever reason** restores the invariant with nothing awaited.  `w0` is the world in
    which the frame is resumed: `w` with the suspension mark of `p` cleared. -/
theorem winv_resume_waitProc {w w0 : World} (h : WInv w) (p q : Pid) (hb : (w.proc p).blocked = some (.waitProc q))
    (h0pa : ∀ z, w0.pa z = w.pa z) (h0wt : ∀ z, (w0.proc z).waiters = (w.proc z).waiters)
    (h0bl : ∀ z, z ≠ p → (w0.proc z).blocked = (w.proc z).blocked) (h0ev : w0.ev = w.ev) (sig : Int) :
    WInv (resumeFrame w0 p (.waitProc q) sig).1 ∧ (resumeFrame w0 p (.waitProc q) sig).1.pa p = [] := by
  rw [resumeFrame_waitProc_eq]
  have hev1 : (removeAwait w0 p (.proc q)).1.ev = w.ev := by simp [h0ev]
  have hwt1 : ∀ z, ((removeAwait w0 p (.proc q)).1.proc z).waiters = (w.proc z).waiters :=
    fun z => by rw [removeAwait_waiters, h0wt]
  have hbl1 : ∀ z, z ≠ p → ((removeAwait w0 p (.proc q)).1.proc z).blocked = (w.proc z).blocked :=
    fun z hz => by rw [removeAwait_blocked, h0bl z hz]
  rcases h.frame p with e | ⟨q0, e, b⟩
  · -- nothing awaited any more (the wake-up came from the end of `q`, or everything was cancelled)
    have hstill : (removeAwait w0 p (.proc q)).2 = false := by
      cases hs : (removeAwait w0 p (.proc q)).2 with
      | false => rfl
      | true =>
        have := (removeAwait_still_proc _ p q).1 hs
        rw [h0pa, e] at this; cases this
    rw [hstill]
    simp only [Bool.false_eq_true, if_false]
    have hpa : ∀ z, (removeAwait w0 p (.proc q)).1.pa z = w.pa z := by
      intro z
      rw [removeAwait_pa_proc, h0pa]
      split
      · rename_i x; subst x; rw [e]; rfl
      · rfl
    constructor
    · exact h.of_step e hpa hwt1 hbl1 ((wev_closed w).ev_only h.wev hev1)
    · rw [hpa, e]
  · -- still registered as awaiting `q`
    have hq : q0 = q := by rw [hb] at b; injection b with b; injection b with b; exact b.symm
    subst hq
    have hstill : (removeAwait w0 p (.proc q0)).2 = true := by
      rw [removeAwait_still_proc, h0pa, e]; exact List.mem_singleton.2 rfl
    rw [hstill]
    simp only [if_true]
    have hpa1 : ∀ z, (removeAwait w0 p (.proc q0)).1.pa z = if z = p then [] else w.pa z := by
      intro z
      rw [removeAwait_pa_proc, h0pa]
      split
      · rename_i x; subst x; rw [e]; simp [removeFirst]
      · rfl
    rw [hwt1 q0]
    cases hwas : (removeFirst (w.proc q0).waiters p).2 with
    | true =>
      simp only [if_true]
      have hmem : p ∈ (w.proc q0).waiters := (removeFirst_flag _ _).1 hwas
      have hnp0 : np w p = 0 := by
        apply Classical.byContradiction
        intro hn
        exact (h.woken p (by omega)).2 q0 hmem
      have hlt : q0 < w.procs.size := by
        apply Classical.byContradiction
        intro hlt; rw [proc_oob w q0 hlt] at hmem; cases hmem
      have hwt2 : ∀ z, (((removeAwait w0 p (.proc q0)).1.modProc q0
          fun y => { y with waiters := (removeFirst (w.proc q0).waiters p).1 }).proc z).waiters
            = if z = q0 then (removeFirst (w.proc q0).waiters p).1 else (w.proc z).waiters := by
        intro z
        rw [proc_modProc]
        by_cases x : z = q0
        · subst x
          have hz0 : p ∈ (w0.proc z).waiters := by rw [h0wt]; exact hmem
          have hlt0 : z < w0.procs.size := by
            apply Classical.byContradiction
            intro hlt0; rw [proc_oob w0 z hlt0] at hz0; cases hz0
          have : z < (removeAwait w0 p (.proc z)).1.procs.size := by simpa using hlt0
          rw [if_pos ⟨rfl, this⟩, if_pos rfl]
        · simp [x, hwt1]
      constructor
      · refine h.unregister p q0 e ?_ ?_ ?_ ?_ ?_ ?_ ?_
        · intro z; rw [← hpa1 z]; simp
        · intro z; rw [hwt2]; split
          · rename_i x; subst x; exact removeFirst_sublist _ _
          · exact List.Sublist.refl _
        · rw [hwt2, if_pos rfl]; exact removeFirst_not_mem p (h.nodup q0)
        · intro z hz
          refine (modProc_field Proc.blocked _ _ _ ?_ _).trans (hbl1 z hz)
          intro; rfl
        · intro z; exact Nat.le_of_eq (cnt_of_ev hev1)
        · have : np ((removeAwait w0 p (.proc q0)).1.modProc q0
            fun y => { y with waiters := (removeFirst (w.proc q0).waiters p).1 }) p = np w p := cnt_of_ev hev1
          rw [this]; exact hnp0
        · intro ev hev
          have : ((removeAwait w0 p (.proc q0)).1.modProc q0
            fun y => { y with waiters := (removeFirst (w.proc q0).waiters p).1 }).ev = w.ev := hev1
          rw [this] at hev; exact h.subj ev hev
      · have := hpa1 p; simp at this ⊢; exact this
    | false =>
      simp only [Bool.false_eq_true, if_false]
      have hnm : p ∉ (w.proc q0).waiters := by
        intro hm
        have := (removeFirst_flag _ _).2 hm
        rw [hwas] at this; cases this
      have hev2 : WEv w (cancelKindFor (removeAwait w0 p (.proc q0)).1 p aProc none).1 :=
        ec_cancelKindFor (wev_closed w) rfl _ _ _ _
          ((wev_closed w).ev_only h.wev hev1)
      constructor
      · refine h.unregister p q0 e ?_ ?_ ?_ ?_ hev2.1 ?_ hev2.2
        · intro z; rw [cancelKindFor_pa, hpa1]
        · intro z; rw [cancelKindFor_proc, hwt1]; exact List.Sublist.refl _
        · rw [cancelKindFor_proc, hwt1]; exact hnm
        · intro z hz; rw [cancelKindFor_proc]; exact hbl1 z hz
        · apply cancelKindFor_none
          · intro s c; rfl
          · intro it hit
            unfold isAProc at hit
            simp at hit; exact ⟨hit.2, hit.1⟩
      · rw [cancelKindFor_pa, hpa1]; simp

theorem finishProc_pa (w : World) (z : Pid) (val : Int) (stopped : Bool) (p : Pid) :
    (finishProc w z val stopped).pa p = if p = z then [] else w.pa p := by
  rw [finishProc_eq, pa_modProc_keep _ _ _ (by intro; rfl), wakeWaiters_pa]
  unfold finishMid; split
  · rw [dropResources_pa, cancelAwaiteds_pa]
  · rw [cancelAwaiteds_pa, dropResources_pa]

theorem wev_reprioritize {w0 w : World} (hw : WEv w0 w) {ev' : EvQ} {h : Nat} {v : Int}
    (hr : reprioritize w.ev h v = .ok ev') : WEv w0 { w with ev := ev' } := by
  have hi := reprioritize_items hr
  have hc : ∀ z, np { w with ev := ev' } z = np w z := by
    intro z
    unfold np cnt
    have : ∀ l : List HTag, l.countP (fun e => isAProc z e.item) = (l.map (·.item)).countP (isAProc z) := by
      intro l; rw [List.countP_map]; rfl
    rw [this, this]
    exact congrArg _ hi
  refine ⟨fun z => by rw [hc]; exact hw.1 z, ?_⟩
  intro e he ha
  have : e.item ∈ ev'.pending.map (·.item) := List.mem_map.2 ⟨e, he, rfl⟩
  rw [hi] at this
  obtain ⟨e0, he0, hie⟩ := List.mem_map.1 this
  have := hw.2 e0 he0 (by rw [hie]; exact ha)
  rw [hie] at this; exact this

theorem prioSet_blocked (w : World) (p q : Pid) (v : Int) (z : Pid) :
    ((execCmd w p (.prioSet q v)).1.proc z).blocked = (w.proc z).blocked :=
  (Eff.execCmd w p (.prioSet q v)).outside.blocked z (.inl rfl)

/-- the registrations of `wait_process` are in the scope of four commands only; a suspension mark other than the
    caller's in that of `stop` only -/
theorem cmdScope_reg (c : Cmd) (h1 : ∀ z v, c ≠ .stop z v) (h2 : ∀ v, c ≠ .exit v) :
    (cmdScope c).blocked.le .self = true ∧
      ((∀ q, c ≠ .waitProc q) → (∀ r, c ≠ .preempt r) → (cmdScope c).awaitsP = .no ∧ (cmdScope c).waiters = .no) := by
  cases c
  case stop z v => exact absurd rfl (h1 z v)
  case exit v => exact absurd rfl (h2 v)
  case waitProc q => exact ⟨rfl, fun h => absurd rfl (h q)⟩
  case preempt r => exact ⟨rfl, fun _ h => absurd rfl (h r)⟩
  case recStart kind _ => match kind with | 0 | 1 | 2 | 3 | _ + 4 => exact ⟨rfl, fun _ _ => ⟨rfl, rfl⟩⟩
  case recStop kind _ => match kind with | 0 | 1 | 2 | 3 | _ + 4 => exact ⟨rfl, fun _ _ => ⟨rfl, rfl⟩⟩
  all_goals exact ⟨rfl, fun _ _ => ⟨rfl, rfl⟩⟩

/-- what the invariant looks at in the process table under a command that neither waits for a process nor ends or
    preempts one: whose end each process awaits, and who is registered with it, stay as they are -/
theorem execCmd_reg (w : World) (p : Pid) (c : Cmd) (h1 : ∀ z v, c ≠ .stop z v) (h2 : ∀ v, c ≠ .exit v)
    (h3 : ∀ q, c ≠ .waitProc q) (h4 : ∀ r, c ≠ .preempt r) (z : Pid) :
    (execCmd w p c).1.pa z = w.pa z ∧ ((execCmd w p c).1.proc z).waiters = (w.proc z).waiters :=
  have o := (Eff.execCmd w p c).outside
  have k := (cmdScope_reg c h1 h2).2 h3 h4
  ⟨o.pa z (.inl k.1), o.waiters z (.inl k.2)⟩

theorem execCmd_blocked_ne (w : World) (p : Pid) (c : Cmd) (h1 : ∀ z v, c ≠ .stop z v) (h2 : ∀ v, c ≠ .exit v)
    (z : Pid) (hz : z ≠ p) : ((execCmd w p c).1.proc z).blocked = (w.proc z).blocked :=
  (Eff.execCmd w p c).outside.blocked z (Who.out_of_le (cmdScope_reg c h1 h2).1 hz)

theorem winv_sched {w : World} (h : WInv w) (a : Nat) (ha : notProc a = true) (s : Nat) (sig t pri : Int) :
    WInv (sched w a s sig t pri).1 :=
  h.of_views' (sched_pa w a s sig t pri) (fun q => congrArg _ (sched_proc w a s sig t pri q))
    (fun z _ => congrArg _ (sched_proc w a s sig t pri z)) ((wev_closed w).sched w a s sig t pri ha h.wev)

/-- `preempt` relieves the holder as `cancelAwaiteds` does … -/
theorem winv_preemptMid {w : World} (h : WInv w) (r : Nat) (victim : Pid) :
    WInv (preemptMid w r victim) ∧ ∀ z, (preemptMid w r victim).pa z = if z = victim then [] else w.pa z := by
  have h1 : WInv (removeHeld w victim (.res r)).1 :=
    h.of_views' (removeHeld_pa w victim _) (removeHeld_waiters w victim _) (fun z _ => removeHeld_blocked w victim _ z)
      (ec_removeHeld (wev_closed w) w victim _ h.wev)
  have tail : ∀ X : World, WInv X → ∀ (rs : Array Res) (s : Nat) (sig t pri : Int),
      WInv (sched { X with res := rs } aPreempt s sig t pri).1 ∧
      ∀ z, (sched { X with res := rs } aPreempt s sig t pri).1.pa z = X.pa z := fun X hX rs s sig t pri =>
    ⟨winv_sched (hX.of_same (w' := { X with res := rs }) rfl rfl) aPreempt rfl s sig t pri, fun z => sched_pa ..⟩
  unfold preemptMid
  dsimp only
  obtain ⟨h3, hpa3⟩ := tail _ (winv_cancelAwaiteds h1 victim) _ _ _ _ _
  refine ⟨h3, fun z => ?_⟩
  rw [hpa3, cancelAwaiteds_pa, removeHeld_pa]

/-- … everything else in it concerns the caller only -/
theorem winv_preempt {w : World} (h : WInv w) (p : Pid) (hpa : w.pa p = []) (r : Nat) :
    WInv (execCmd w p (.preempt r)).1 ∧ (execCmd w p (.preempt r)).1.pa p = [] := by
  have hgrab : ∀ {w : World}, WInv w → WInv (grab w r p) := fun {w} h =>
    h.of_views' (grab_pa w r p) (grab_waiters w r p) (fun z _ => grab_blocked w r p z) (ec_grab (wev_closed w) w r p h.wev)
  have hacq : WInv (acquireStep w p r).1 ∧ (acquireStep w p r).1.pa p = [] :=
    ⟨h.of_step hpa (fun z => acquireStep_pa w p z r) (fun z => acquireStep_waiters w p r z)
      (fun z hz => congrArg _ (acquireStep_proc_ne w p z hz r)) (ec_acquireStep (wev_closed w) w p r h.wev),
     (acquireStep_pa ..).trans hpa⟩
  cases hx : w.res[r]? with
  | none => simp only [execCmd, hx]; exact ⟨h, hpa⟩
  | some x =>
    cases hv : x.holder with
    | none =>
      have : execCmd w p (.preempt r) = (recordRes (grab w r p) r, .ret sigSuccess "") := by
        simp [execCmd, hx, hv]
      rw [this]
      dsimp only
      exact ⟨(hgrab h).of_same (recordRes_procs ..) (recordRes_ev ..), (recordRes_pa ..).trans ((grab_pa ..).trans hpa)⟩
    | some victim =>
      by_cases hvp : victim = p
      · simp only [execCmd, hx, hv, hvp, if_true]; exact ⟨h, hpa⟩
      · by_cases hpri : (w.proc p).prio ≥ (w.proc victim).prio
        · rw [preempt_victim_eq w p victim r x hx hv hvp hpri]
          dsimp only
          obtain ⟨h3, hpa3⟩ := winv_preemptMid h r victim
          refine ⟨hgrab h3, (grab_pa ..).trans ((hpa3 p).trans ?_)⟩
          split
          · rfl
          · exact hpa
        · have hne : ¬ some victim = some p := fun e => hvp (Option.some.inj e)
          simp only [execCmd, hx, hv, hne, if_false, hpri]
          exact hacq

/-- no command but `stop` / `exit` schedules a process-end wake-up -/
theorem wev_execCmd {w : World} (h : WInv w) (p : Pid) (c : Cmd)
    (h1 : ∀ z v, c ≠ .stop z v) (h2 : ∀ v, c ≠ .exit v) : WEv w (execCmd w p c).1 := by
  by_cases h5 : ∃ q v, c = .prioSet q v
  · obtain ⟨q, v, rfl⟩ := h5
    exact ec_prioSet (wev_closed w) (fun _ _ _ _ hw hr => wev_reprioritize hw hr) w p q v h.wev
  · refine ec_execCmd (wev_closed w) w p c ?_ (fun q v e => h5 ⟨q, v, e⟩) h.wev
    cases c
    case stop z v => exact absurd rfl (h1 z v)
    case exit v => exact absurd rfl (h2 v)
    all_goals rfl

/-- **every command keeps the registration invariant**; unless it is a `wait_process` that blocks, the caller still
    awaits no process end afterwards -/
theorem winv_execCmd {w : World} (h : WInv w) (p : Pid) (hp : p < w.procs.size) (hpa : w.pa p = []) (c : Cmd) :
    WInv (execCmd w p c).1 ∧
      ((execCmd w p c).1.pa p = [] ∨ ∃ q, execCmd w p c = (waitWorld w p q, .blocked)) := by
  by_cases h1 : ∃ z v, c = .stop z v
  · obtain ⟨z, v, rfl⟩ := h1
    simp only [execCmd]
    split
    · exact ⟨(winv_finishProc h p v true).1, Or.inl (winv_finishProc h p v true).2⟩
    · split
      · refine ⟨(winv_finishProc h z v true).1, Or.inl ?_⟩
        rw [finishProc_pa]; split
        · rfl
        · exact hpa
      · exact ⟨h, Or.inl hpa⟩
  by_cases h2 : ∃ v, c = .exit v
  · obtain ⟨v, rfl⟩ := h2
    exact ⟨(winv_finishProc h p v false).1, Or.inl (winv_finishProc h p v false).2⟩
  by_cases h3 : ∃ q, c = .waitProc q
  · obtain ⟨q, rfl⟩ := h3
    by_cases hq : q < w.procs.size
    · by_cases hf : (w.proc q).status = .finished
      · have : ¬ q ≥ w.procs.size := Nat.not_le.2 hq
        simp only [execCmd, this, if_false, hf, if_true]
        exact ⟨h, Or.inl hpa⟩
      · rw [execCmd_waitProc w p q hq hf]
        exact ⟨winv_waitProc h p q hp hq hpa, Or.inr ⟨q, rfl⟩⟩
    · have : q ≥ w.procs.size := Nat.le_of_not_lt hq
      simp only [execCmd, this, if_true]
      exact ⟨h, Or.inl hpa⟩
  by_cases h4 : ∃ r, c = .preempt r
  · obtain ⟨r, rfl⟩ := h4
    exact ⟨(winv_preempt h p hpa r).1, Or.inl (winv_preempt h p hpa r).2⟩
  have h1 : ∀ z v, c ≠ .stop z v := fun z v e => h1 ⟨z, v, e⟩
  have h2 : ∀ v, c ≠ .exit v := fun v e => h2 ⟨v, e⟩
  have hreg := execCmd_reg w p c h1 h2 (fun q e => h3 ⟨q, e⟩) (fun r e => h4 ⟨r, e⟩)
  exact ⟨h.of_step hpa (fun z => (hreg z).1) (fun z => (hreg z).2)
    (execCmd_blocked_ne w p c h1 h2)
    (wev_execCmd h p c h1 h2), Or.inl ((hreg p).1.trans hpa)⟩

end CimbaModel.Sim
