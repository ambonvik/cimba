/-
  S1 — the world in which the action of a dispatched event runs, the frame of `setRecording`, and the library calls
  that touch no process record but the caller's.
-/
import CimbaModel.Sim.S1Frame2

namespace CimbaModel.Sim
open CimbaModel CimbaModel.Event CimbaModel.Generated
open CimbaModel.HashHeap (HTag Item Order HH)

/-- the world in which the event's action runs: the event is off the queue, the clock is at its time, the processes
    waiting for this very event have their wake-ups scheduled -/
def afterPop (w : World) (t : HTag) (ev' : EvQ) : World :=
  wakeEventWaiters { w with ev := ev', dispatched := w.dispatched + 1, evWaiters := (popWaiters w.evWaiters t.key).2 }
    (popWaiters w.evWaiters t.key).1 sigSuccess

/-- `afterPop` is S1's name and `S3.takeNext` (Sim/Shape.lean) the name of the other trees for this one world -/
theorem afterPop_eq (w : World) (t : HTag) (ev' : EvQ) : afterPop w t ev' = S3.takeNext w t ev' := rfl

@[simp] theorem afterPop_proc (w : World) (t : HTag) (ev' : EvQ) (q : Pid) : (afterPop w t ev').proc q = w.proc q := by
  unfold afterPop; simp

@[simp] theorem afterPop_size (w : World) (t : HTag) (ev' : EvQ) : (afterPop w t ev').procs.size = w.procs.size := by
  unfold afterPop; simp

/-- the recording switch of any kind of object -/
def recordScope : Scope := { res := true, pools := true, bufs := true, oqs := true, pqs := true }

section
variable (w : World) (kind idx : Nat) (on : Bool)
theorem setRecording_eff (p : Pid) : Eff p recordScope w (setRecording w kind idx on):=
  Eff.setRecording (s := recordScope) .refl kind idx on (by unfold Scope.Records; split <;> rfl)
world_frame setRecording : (setRecording w kind idx on) ~ w keeps ev evWaiters procs guards conds flags gvars now
  by from_eff (setRecording_eff w kind idx on 0).outside
end

/-- no field of a process record may change but in the caller's -/
def Scope.isLocal (s : Scope) : Bool :=
  s.prio.le .self && s.status.le .self && s.awaitsT.le .self && s.awaitsG.le .self && s.awaitsP.le .self &&
  s.awaitsE.le .self && s.waiters.le .self && s.heldR.le .self && s.heldP.le .self && s.blocked.le .self &&
  s.pc.le .self && s.vars.le .self && s.exitVal.le .self

theorem Who.out_of_le {a : Who} (ha : a.le .self = true) {p q : Pid} (hq : q ≠ p) : a.Out p q := by
  cases a
  · exact .inl rfl
  · exact .inr ⟨rfl, hq⟩
  · cases ha

/-- a step within a local scope leaves the record of every process but the caller as it is -/
theorem Outside.proc_ne {p : Pid} {s : Scope} {w0 w : World} (h : Outside p s w0 w) (hs : s.isLocal = true) (q : Pid)
    (hq : q ≠ p) : w.proc q = w0.proc q := by
  simp only [Scope.isLocal, Bool.and_eq_true] at hs
  obtain ⟨⟨⟨⟨⟨⟨⟨⟨⟨⟨⟨⟨h1, h2⟩, hT⟩, hG⟩, hP⟩, hE⟩, h4⟩, hR⟩, hH⟩, h6⟩, h7⟩, h8⟩, h9⟩ := hs
  have o := fun {a : Who} (ha : a.le .self = true) => Who.out_of_le ha hq
  have e1 := h.prio q (o h1); have e2 := h.status q (o h2)
  have e3 := h.awaits q ⟨o hT, o hG, o hP, o hE⟩; have e4 := h.waiters q (o h4)
  have e5 := h.held q ⟨o hR, o hH⟩; have e6 := h.blocked q (o h6)
  have e7 := h.pc q (o h7); have e8 := h.vars q (o h8)
  have e9 := h.exitVal q (o h9); have e0 := h.script q
  cases hx : w.proc q; cases hy : w0.proc q
  rw [hx, hy] at e0 e1 e2 e3 e4 e5 e6 e7 e8 e9
  simp_all

section
variable (w : World) (p q : Pid) (hq : q ≠ p)
include hq

@[simp] theorem addAwait_proc_ne (a : Await) : (addAwait w p a).proc q = w.proc q := (addAwait_eff w p a).outside.proc_ne rfl q hq
@[simp] theorem removeAwait_proc_ne (a : Await) : (removeAwait w p a).1.proc q = w.proc q :=
  (removeAwait_eff w p a).outside.proc_ne rfl q hq
@[simp] theorem block_proc_ne (f : Frame) : (block w p f).1.proc q = w.proc q := (block_out w p f).proc_ne rfl q hq
@[simp] theorem setVar_proc_ne (v x : Nat) : (setVar w p v x).proc q = w.proc q := (setVar_out w p v x).proc_ne rfl q hq
@[simp] theorem timerAdd_proc_ne (d sig : Int) : (timerAdd w p d sig).1.proc q = w.proc q :=
  (timerAdd_eff w p d sig).outside.proc_ne rfl q hq
@[simp] theorem timerCancel_proc_ne (h : Nat) : (timerCancel w p h).1.proc q = w.proc q :=
  (timerCancel_eff w p h).outside.proc_ne rfl q hq
@[simp] theorem guardWaitEnter_proc_ne (g : Nat) (d : Demand) : (guardWaitEnter w g p d).proc q = w.proc q :=
  (guardWaitEnter_eff w g p d).outside.proc_ne rfl q hq
@[simp] theorem grab_proc_ne (r : Nat) : (grab w r p).proc q = w.proc q := (grab_eff w r p).outside.proc_ne rfl q hq

@[simp] theorem poolUpdateRecord_proc_ne (pl n : Nat) : (poolUpdateRecord w pl p n).proc q = w.proc q :=
  (poolUpdateRecord_eff w pl p n).outside.proc_ne rfl q hq
@[simp] theorem poolRollback_proc_ne (pl n : Nat) : (poolRollback w p pl n).proc q = w.proc q :=
  (poolRollback_eff w p pl n).outside.proc_ne rfl q hq
@[simp] theorem acquireStep_proc_ne (r : Nat) : (acquireStep w p r).1.proc q = w.proc q :=
  (acquireStep_eff w p r).outside.proc_ne rfl q hq
@[simp] theorem bufGetLoop_proc_ne (b rem got : Nat) : (bufGetLoop w p b rem got).1.proc q = w.proc q :=
  (bufGetLoop_eff w p b rem got).outside.proc_ne rfl q hq
@[simp] theorem bufPutLoop_proc_ne (b rem left : Nat) : (bufPutLoop w p b rem left).1.proc q = w.proc q :=
  (bufPutLoop_eff w p b rem left).outside.proc_ne rfl q hq
@[simp] theorem oqGetLoop_proc_ne (k : Nat) : (oqGetLoop w p k).1.proc q = w.proc q := (oqGetLoop_eff w p k).outside.proc_ne rfl q hq
@[simp] theorem oqPutLoop_proc_ne (k obj : Nat) : (oqPutLoop w p k obj).1.proc q = w.proc q :=
  (oqPutLoop_eff w p k obj).outside.proc_ne rfl q hq
@[simp] theorem pqGetLoop_proc_ne (k : Nat) : (pqGetLoop w p k).1.proc q = w.proc q := (pqGetLoop_eff w p k).outside.proc_ne rfl q hq
@[simp] theorem pqPutLoop_proc_ne (k obj : Nat) (pri : Int) (v : Nat) :
    (pqPutLoop w p k obj pri v).1.proc q = w.proc q := (pqPutLoop_eff w p k obj pri v).outside.proc_ne rfl q hq

end

/-- the commands that touch no process record but the caller's -/
def Cmd.isLocal : Cmd → Bool
  | .stop .. | .exit .. | .timersClearOf .. | .timerAddOf .. | .prioSet .. | .waitProc .. | .preempt ..
  | .poolPreempt .. => false
  | _ => true

/-- the suspended calls whose continuation touches no process record but the caller's -/
def Frame.isLocal : Frame → Bool
  | .waitProc _ => false
  | .pool _ _ _ preempt => !preempt
  | _ => true

theorem Cmd.isLocal_scope (c : Cmd) (hc : c.isLocal = true) : (cmdScope c).isLocal = true := by
  cases c
  case recStart kind _ => match kind with | 0 | 1 | 2 | 3 | _ + 4 => rfl
  case recStop kind _ => match kind with | 0 | 1 | 2 | 3 | _ + 4 => rfl
  all_goals first | rfl | cases hc

theorem Frame.isLocal_scope (f : Frame) (hf : f.isLocal = true) : (frameScope f).isLocal = true := by
  cases f <;> first | rfl | cases hf | (rename_i pre; cases pre <;> first | rfl | cases hf)

theorem execCmd_proc_ne (w : World) (p : Pid) (c : Cmd) (hc : c.isLocal = true) (q : Pid) (hq : q ≠ p) :
    (execCmd w p c).1.proc q = w.proc q :=
  (Eff.execCmd w p c).outside.proc_ne (c.isLocal_scope hc) q hq

theorem resumeFrame_proc_ne (w : World) (p : Pid) (f : Frame) (sig : Int) (hf : f.isLocal = true) (q : Pid)
    (hq : q ≠ p) : (resumeFrame w p f sig).1.proc q = w.proc q :=
  (Eff.resumeFrame w p f sig).outside.proc_ne (f.isLocal_scope hf) q hq

end CimbaModel.Sim
