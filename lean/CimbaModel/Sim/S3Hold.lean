/-
  S3 — the clock along the run (`Reach.clock`); holds and timers: what `hold d` arms, when it returns, and the pieces of
  "never stuck".
-/
import CimbaModel.Sim.S3Clock

namespace CimbaModel.Sim.S3
open CimbaModel CimbaModel.Sim CimbaModel.Event CimbaModel.Generated CimbaModel.KPQ
open CimbaModel.HashHeap (HTag Item Order HH WF abs liveTags)

theorem Reach.clock {w w' : World} (h : Reach w w') (hi : EvInv w.ev) :
    EvInv w'.ev ∧ w.now ≤ w'.now ∧ w.ev.counter ≤ w'.ev.counter ∧ (w'.fault = none → w.fault = none) ∧
    w'.procs.size = w.procs.size ∧
    (∀ e' ∈ w'.ev.pending, e'.key ≤ w.ev.counter → ∃ e ∈ w.ev.pending, e.key = e'.key ∧ e.d = e'.d ∧ e.item = e'.item) := by
  induction h with
  | refl => exact ⟨hi, Int.le_refl _, Nat.le_refl _, id, rfl, fun e he _ => ⟨e, he, rfl, rfl, rfl⟩⟩
  | step _ hd ih =>
    obtain ⟨h1, h2, h3, h4, h5, h6⟩ := ih
    have hs := dispatch_clock h1 hd
    refine ⟨hs.evinv, Int.le_trans h2 hs.mono, Nat.le_trans h3 hs.counter, fun hf => h4 (hs.fault hf),
      hs.psize.trans h5, ?_⟩
    intro e2 he2 hk
    obtain ⟨e1, he1, hk1, hd1, hi1⟩ := hs.stable e2 he2 (Nat.le_trans hk h3)
    obtain ⟨e0, he0, hk0, hd0, hi0⟩ := h6 e1 he1 (by rw [hk1]; exact hk)
    exact ⟨e0, he0, hk0.trans hk1, hd0.trans hd1, hi0.trans hi1⟩

theorem runAll_inv {I : World → Prop} (hemit : ∀ w l, I w → I (w.emit l))
    (hstep : ∀ w w', I w → w.fault = none → dispatch w = some w' → I w') :
    ∀ (fuel : Nat) (w : World), I w → I (runAll fuel w) := by
  intro fuel
  induction fuel with
  | zero => intro w h; exact hemit w _ h
  | succ fuel ih =>
    intro w h
    simp only [runAll]
    split
    · exact h
    · rename_i hf
      split
      · exact h
      · rename_i w' hd
        have : w.fault = none := by
          cases hw : w.fault with
          | none => rfl
          | some _ => rw [hw] at hf; simp at hf
        exact ih w' (hstep w w' h this hd)

theorem timerAdd_eq (w : World) (p : Pid) (d sig : Int) (hd : 0 ≤ d) :
    timerAdd w p d sig =
      (addAwait (pushEv w aTime (p + 1) sig (w.now + d) (w.proc p).prio) p (.time (w.ev.counter + 1)), w.ev.counter + 1) := by
  simp only [timerAdd, sched_ge w aTime (p + 1) sig (w.now + d) (w.proc p).prio (by omega)]

/-- the world in which `p` is suspended in `hold d` -/
def holdWorld (w : World) (p : Pid) (d : Int) : World :=
  (addAwait (pushEv w aTime (p + 1) sigSuccess (w.now + d) (w.proc p).prio) p (.time (w.ev.counter + 1))).modProc p
    fun x => { x with blocked := some (.hold (w.ev.counter + 1)) }

/-- `hold d` (d ≥ 0): the process arms one timer event — handle h = counter + 1, action aTime, addressed to it, carrying
    SUCCESS, due at exactly now + d, with its current priority —, registers it in its awaits and suspends in the frame
    `hold h`; the clock does not move -/
theorem hold_blocks (w : World) (p : Pid) (d : Int) (hd : 0 ≤ d) :
    execCmd w p (.hold d) = (holdWorld w p d, .blocked) ∧
    (holdWorld w p d).ev.pending =
      mkEv (w.ev.counter + 1) aTime (p + 1) sigSuccess (w.now + d) (w.proc p).prio :: w.ev.pending ∧
    (holdWorld w p d).now = w.now ∧ (holdWorld w p d).ev.counter = w.ev.counter + 1 ∧
    (p < w.procs.size → ((holdWorld w p d).proc p).blocked = some (.hold (w.ev.counter + 1)) ∧
      ((holdWorld w p d).proc p).awaits = .time (w.ev.counter + 1) :: (w.proc p).awaits ∧
      ((holdWorld w p d).proc p).status = (w.proc p).status) := by
  refine ⟨?_, rfl, rfl, rfl, ?_⟩
  · simp only [execCmd, timerAdd_eq w p d sigSuccess hd, block, holdWorld]
  · intro hp
    have hp' : p < (pushEv w aTime (p + 1) sigSuccess (w.now + d) (w.proc p).prio).procs.size := hp
    simp only [holdWorld, addAwait]
    rw [modProc_proc_self _ _ (by simpa using hp'), modProc_proc_self _ _ hp']
    exact ⟨rfl, rfl, rfl⟩

theorem resumeFrame_hold_success (w : World) (p : Pid) (h : Nat) :
    resumeFrame w p (.hold h) sigSuccess = (w, .ret sigSuccess "") := by
  simp [resumeFrame]

theorem resumeFrame_hold_other (w : World) (p : Pid) (h : Nat) (sig : Int) (hs : sig ≠ sigSuccess) :
    resumeFrame w p (.hold h) sig = ((removeAwait (timerCancel w p h).1 p (.time h)).1, .ret sig "") := by
  simp [resumeFrame, hs]

theorem resumeFrame_hold_ret (w : World) (p : Pid) (h : Nat) (sig : Int) :
    (resumeFrame w p (.hold h) sig).2 = .ret sig "" := by
  by_cases hs : sig = sigSuccess
  · subst hs; rw [resumeFrame_hold_success]
  · rw [resumeFrame_hold_other w p h sig hs]

theorem resumeProc_hold {w : World} {p : Pid} {h : Nat} (hr : (w.proc p).status = .running)
    (hb : (w.proc p).blocked = some (.hold h)) :
    resumeProc w p sigSuccess =
      runScript ((w.proc p).script.size + 2)
        (((w.modProc p fun y => { y with blocked := none }).emit
            (s!"r {p} {(w.proc p).pc} {w.now} {sigSuccess}" ++ "")).modProc p fun y => { y with pc := (w.proc p).pc + 1 }) p := by
  simp only [resumeProc, hr, hb, resumeFrame_hold_success]
  simp

theorem dispatchBody_time (w : World) (t : HTag) (ha : t.item.a = aTime) :
    dispatchBody w t = resumeProc (removeAwait w (t.item.b - 1) (.time t.key)).1 (t.item.b - 1) (decSig t.item.c) := by
  have h1 : ¬ aTime = aStart := by decide
  simp only [dispatchBody, ha, h1, if_false, if_true]

/-- `hold_exact`: a process that executes `hold d` (d ≥ 0) at time t₀: whenever — after any number of dispatched events —
    the event with the handle the hold has armed is the one that is dispatched, the clock is exactly t₀ + d at that
    moment, and the event is the (aTime, SUCCESS) wake-up of that process -/
theorem hold_exact {w0 : World} (p : Pid) {d : Int} (hd : 0 ≤ d) (hi : EvInv w0.ev) {w w' : World}
    (hreach : Reach (execCmd w0 p (.hold d)).1 w) (hdisp : dispatch w = some w')
    (hcur : w'.ev.current = w0.ev.counter + 1) :
    w'.now = w0.now + d ∧
    ∃ e ∈ w.ev.pending, e.key = w0.ev.counter + 1 ∧ e.d = w0.now + d ∧ e.item.a = aTime ∧ e.item.b = p + 1 ∧
      e.item.c = encSig sigSuccess ∧ decSig e.item.c = sigSuccess := by
  obtain ⟨hb, hpend, hnow, hctr, _⟩ := hold_blocks w0 p d hd
  rw [hb] at hreach
  have hi1 : EvInv (holdWorld w0 p d).ev := by
    have := Evo.eff (eff_execCmd (.refl (w0 := w0)) p (.hold d))
    rw [hb] at this
    exact this.evinv hi
  obtain ⟨hiw, _, _, _, _, hstab⟩ := hreach.clock hi1
  have hs := dispatch_clock hiw hdisp
  obtain ⟨e, he, _, hnow', _, hcur'⟩ := hs.ev
  have hk : e.key = w0.ev.counter + 1 := by rw [← hcur', hcur]
  obtain ⟨e1, he1, hk1, hd1, hi1'⟩ := hstab e he (by rw [hk, hctr]; exact Nat.le_refl _)
  -- e1 is the event armed by the hold: keys are unique
  have hhead : mkEv (w0.ev.counter + 1) aTime (p + 1) sigSuccess (w0.now + d) (w0.proc p).prio ∈
      (holdWorld w0 p d).ev.pending := by rw [hpend]; exact List.mem_cons_self
  have heq : e1 = mkEv (w0.ev.counter + 1) aTime (p + 1) sigSuccess (w0.now + d) (w0.proc p).prio :=
    HashHeap.eq_of_key_eq hi1.part.keysNodup he1 hhead (by rw [hk1, hk]; rfl)
  have hed : e.d = w0.now + d := by rw [← hd1, heq]; rfl
  have hit : e.item = ⟨aTime, p + 1, encSig sigSuccess, 0⟩ := by rw [← hi1', heq]; rfl
  refine ⟨by rw [hnow', hed], e, he, hk, hed, by rw [hit], by rw [hit], by rw [hit], ?_⟩
  rw [hit]; show decSig (encSig sigSuccess) = sigSuccess; decide


/-- when a process ends, every process registered as waiting for it gets a wake-up (aProc) pending at the current time,
    with SUCCESS (normal end) or STOPPED, and its own priority -/
theorem finishProc_wakes (w : World) (p : Pid) (val : Int) (stopped : Bool) (q : Pid)
    (hq : q ∈ ((finishPre w p stopped).proc p).waiters) :
    (∃ e ∈ (finishProc w p val stopped).ev.pending, e.item.a = aProc ∧ e.item.b = q + 1 ∧
      e.item.c = encSig (if stopped then sigStopped else sigSuccess) ∧ e.d = w.now ∧
      e.i = ((finishPre w p stopped).proc q).prio) ∧
    (finishProc w p val stopped).now = w.now := by
  have hnow : (finishPre w p stopped).now = w.now := by
    unfold finishPre
    split
    · exact (Evo.eff (.dropResources (.cancelAwaiteds .refl p) p)).wnow
    · exact (Evo.eff (.cancelAwaiteds (.dropResources .refl p) p)).wnow
  rw [finishProc_eq]
  refine ⟨?_, hnow⟩
  simp only [modProc_ev, pushAll_pending, modProc_now]
  obtain ⟨i, hi, hget⟩ := List.getElem_of_mem hq
  have hlen : i < (procWakes (finishPre w p stopped) p (if stopped then sigStopped else sigSuccess)).length := by
    simp [procWakes, hi]
  refine ⟨_, List.mem_append_left _ (mem_wakeEvs.2 ⟨i, hlen, rfl⟩), ?_⟩
  simp [procWakes, hget, mkEv, procWakes_prio, hnow]

/-- when an event is dispatched, every process registered as waiting for it gets a wake-up (aEvent, SUCCESS) pending at
    the time of the event, before the event's own action runs -/
theorem takeNext_wakes (w : World) (t : HTag) (ev' : EvQ) (q : Pid)
    (hq : q ∈ (w.evWaiters.lookup t.key).getD []) :
    ∃ e ∈ (takeNext w t ev').ev.pending, e.item.a = aEvent ∧ e.item.b = q + 1 ∧ e.item.c = encSig sigSuccess ∧
      e.d = ev'.now ∧ e.i = (w.proc q).prio := by
  unfold takeNext
  rw [wakeEventWaiters_eq]
  simp only [pushAll_pending, popWaiters]
  obtain ⟨i, hi, hget⟩ := List.getElem_of_mem hq
  refine ⟨_, List.mem_append_left _ (mem_wakeEvs.2 ⟨i, by simpa [evWakes] using hi, rfl⟩), ?_⟩
  simp [evWakes, hget, mkEv, afterNext, World.now]
  rfl

/-- when an event is cancelled, its waiters get a wake-up (aEvent, CANCELLED) pending at the current time, and the
    event is no longer pending -/
theorem evCancel_wakes (w : World) (h : Nat) (hi : EvInv w.ev) (hk : h ∈ keys w.ev.pending) (q : Pid)
    (hq : q ∈ (w.evWaiters.lookup h).getD []) :
    (evCancel w h).2 = true ∧
    (∃ e ∈ (evCancel w h).1.ev.pending, e.item.a = aEvent ∧ e.item.b = q + 1 ∧ e.item.c = encSig sigCancelled ∧
      e.d = w.now ∧ e.i = (w.proc q).prio) ∧
    h ∉ keys (evCancel w h).1.ev.pending := by
  rw [evCancel_eq]
  simp only [hk, if_true, pushAll_pending, true_and]
  obtain ⟨i, hi', hget⟩ := List.getElem_of_mem hq
  refine ⟨⟨_, List.mem_append_left _ (mem_wakeEvs.2 ⟨i, by simpa [evWakes] using hi', rfl⟩), ?_⟩, ?_⟩
  · simp [evWakes, hget, mkEv]
  · intro hmem
    obtain ⟨e, he, hek⟩ := Event.mem_keys.1 hmem
    rcases List.mem_append.1 he with he | he
    · have h1 := (wakeEvs_props he).1
      obtain ⟨e0, he0, hk0⟩ := Event.mem_keys.1 hk
      have h2 := EvInv.key_le hi he0
      simp only [cancelEv_counter] at h1
      omega
    · exact (mem_remove.1 he).2 hek

end CimbaModel.Sim.S3
