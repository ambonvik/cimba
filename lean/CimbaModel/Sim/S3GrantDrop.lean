/-
  S3 — the grant invariant: dropping resources and the end of a process.
-/
import CimbaModel.Sim.S3GrantObj
import CimbaModel.Sim.S3GrantFinish
import CimbaModel.Sim.S3PF

namespace CimbaModel.Sim.S3
open CimbaModel CimbaModel.Sim CimbaModel.Event CimbaModel.Generated CimbaModel.KPQ
open CimbaModel.HashHeap (HTag Item Order HH WF abs liveTags)

variable {fr : Pid → Option Frame} {df : Demand → Nat} {w : World}

theorem poolNeed_le_one (x : Pool) : poolNeed x ≤ 1 := by unfold poolNeed; omega
theorem resNeed_le_one (x : Res) : resNeed x ≤ 1 := by unfold resNeed; split <;> omega

theorem GS.pool_set_signal (h : GS fr df w) {pl : Nat} {x : Pool} (hx : w.pools[pl]? = some x) (y : Pool)
    (hs : poolStat y = poolStat x) : GS fr df (Sim.signal (Sim.recordPool { w with pools := w.pools.set! pl y } pl) x.guard) := by
  have hst : Stat w { w with pools := w.pools.set! pl y } :=
    Stat.eff (Eff.setPool .refl hx _ hs)
  refine ((h.objUpd (df' := fun d => df d + if d = .poolAvail pl then 1 else 0) hst rfl rfl rfl ?_).recordPool pl).signal_settle ?_
  · intro d
    rw [need_pools_set hx]
    split
    · have := poolNeed_le_one y; omega
    · omega
  · rw [gOf_of_stat (hst.step (Eff.recordPool .refl pl))]; exact gOf_pools_of hx

theorem GS.poolDropHolder (h : GS fr df w) (pl : Nat) (p : Pid) : GS fr df (poolDropHolder w pl p) := by
  unfold Sim.poolDropHolder
  split
  · exact h
  · rename_i x hx
    split
    · exact h
    · split
      · exact h.pool_set_signal hx _ rfl
      · exact h.fail _
    · exact h.fail _

theorem GS.res_set_signal (h : GS fr df w) {r : Nat} {x : Res} (hx : w.res[r]? = some x) (y : Res)
    (hs : resStat y = resStat x) : GS fr df (Sim.signal (Sim.recordRes { w with res := w.res.set! r y } r) x.guard) := by
  have hst : Stat w { w with res := w.res.set! r y } :=
    Stat.eff (Eff.setRes .refl hx _ hs)
  refine ((h.objUpd (df' := fun d => df d + if d = .resAvail r then 1 else 0) hst rfl rfl rfl ?_).recordRes r).signal_settle ?_
  · intro d
    rw [need_res_set hx]
    split
    · have := resNeed_le_one y; omega
    · omega
  · rw [gOf_of_stat (hst.step (Eff.recordRes .refl r))]; exact gOf_res_of hx

theorem GS.dropStep (h : GS fr df w) (p : Pid) (x : HoldRef) : GS fr df (dropStep p w x) := by
  cases x with
  | res r =>
    simp only [S3.dropStep]
    split
    · rename_i y hy; exact h.res_set_signal hy _ rfl
    · exact h
  | pool pl => exact h.poolDropHolder pl p

theorem GS.dropResources (h : GS fr df w) (p : Pid) : GS fr df (dropResources w p) := by
  rw [dropResources_eq]
  have h0 : GS fr df (w.modProc p fun x => { x with held := [] }) :=
    h.inert (h.ginv.modProc_ctl p _ (fun _ => ⟨rfl, rfl⟩)) ((Inert.refl w).modProc p _ (fun _ => rfl))
  generalize (w.modProc p fun x => { x with held := [] }) = W at h0
  generalize (w.proc p).held = l
  induction l generalizing W with
  | nil => exact h0
  | cons a l ih => exact ih _ (h0.dropStep p a)

theorem GS.finishProc (h : GS fr df w) (p : Pid) (v : Int) (s : Bool)
    (ht : ∀ k, Await.time k ∈ (w.proc p).awaits → NGc w k) : GS fr df (finishProc w p v s) := by
  suffices hs : HG (Sim.finishProc w p v s) ∧ GI df (Sim.finishProc w p v s) from
    ⟨h.ginv.finishProc p v s (noEx_not p), hs.1, hs.2⟩
  unfold Sim.finishProc
  have hpre : GS fr df (if s then Sim.dropResources (Sim.cancelAwaiteds w p) p else Sim.cancelAwaiteds (Sim.dropResources w p) p) := by
    split
    · exact (h.cancelAwaiteds p ht).dropResources p
    · refine (h.dropResources p).cancelAwaiteds p ?_
      intro k hk
      have hpf : PF w (Sim.dropResources w p) := (PF.refl w).dropResources p
      rw [(hpf.ctl p).1] at hk
      exact (ht k hk).ofEvo (Evo.eff (Eff.dropResources .refl p))
  generalize (if s then Sim.dropResources (Sim.cancelAwaiteds w p) p else Sim.cancelAwaiteds (Sim.dropResources w p) p) = w1 at hpre
  have h2 : GS fr df (Sim.wakeWaiters w1 p (if s then sigStopped else sigSuccess)) :=
    hpre.inert (hpre.ginv.wakeWaiters p _) ((Inert.refl w1).wakeWaiters p _)
  have hi : Inert (Sim.wakeWaiters w1 p (if s then sigStopped else sigSuccess))
      ((Sim.wakeWaiters w1 p (if s then sigStopped else sigSuccess)).modProc p fun x =>
        { x with status := .finished, exitVal := v, blocked := none }) := (Inert.refl _).modProc p _ (fun _ => rfl)
  exact ⟨h2.hg.inert hi, h2.gi.inert h2.ginv.ei hi⟩

end CimbaModel.Sim.S3
