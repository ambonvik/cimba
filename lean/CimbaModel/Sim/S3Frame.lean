/-
  S3 — basic frame lemmas of the process-layer model: what the atomic state transformers
  (`fail`, `emit`, `modProc`, `sched`, `pushEv`, `setGuardQ`) do to each component of a `World`; `modProc` composed
  and up to the record it meets (`removeAwait`, `removeAwaitKind` as a `modProc`), the encoding of signals, a process
  that exists.
-/
import CimbaModel.Sim.Shape

namespace CimbaModel.Sim.S3
open CimbaModel CimbaModel.Sim CimbaModel.Event CimbaModel.Generated
open CimbaModel.HashHeap (HTag Item Order HH)

@[simp] theorem fail_ev (w : World) (m : String) : (w.fail m).ev = w.ev := by unfold World.fail; split <;> rfl
@[simp] theorem fail_evWaiters (w : World) (m : String) : (w.fail m).evWaiters = w.evWaiters := by unfold World.fail; split <;> rfl
@[simp] theorem fail_procs (w : World) (m : String) : (w.fail m).procs = w.procs := by unfold World.fail; split <;> rfl
@[simp] theorem fail_guards (w : World) (m : String) : (w.fail m).guards = w.guards := by unfold World.fail; split <;> rfl
@[simp] theorem fail_res (w : World) (m : String) : (w.fail m).res = w.res := by unfold World.fail; split <;> rfl
@[simp] theorem fail_pools (w : World) (m : String) : (w.fail m).pools = w.pools := by unfold World.fail; split <;> rfl
@[simp] theorem fail_bufs (w : World) (m : String) : (w.fail m).bufs = w.bufs := by unfold World.fail; split <;> rfl
@[simp] theorem fail_oqs (w : World) (m : String) : (w.fail m).oqs = w.oqs := by unfold World.fail; split <;> rfl
@[simp] theorem fail_pqs (w : World) (m : String) : (w.fail m).pqs = w.pqs := by unfold World.fail; split <;> rfl
@[simp] theorem fail_conds (w : World) (m : String) : (w.fail m).conds = w.conds := by unfold World.fail; split <;> rfl
@[simp] theorem fail_flags (w : World) (m : String) : (w.fail m).flags = w.flags := by unfold World.fail; split <;> rfl
@[simp] theorem fail_gvars (w : World) (m : String) : (w.fail m).gvars = w.gvars := by unfold World.fail; split <;> rfl
@[simp] theorem fail_log (w : World) (m : String) : (w.fail m).log = w.log := by unfold World.fail; split <;> rfl
@[simp] theorem fail_dispatched (w : World) (m : String) : (w.fail m).dispatched = w.dispatched := by unfold World.fail; split <;> rfl
@[simp] theorem fail_now (w : World) (m : String) : (w.fail m).now = w.now := by simp [World.now]
@[simp] theorem fail_proc (w : World) (m : String) (p : Pid) : (w.fail m).proc p = w.proc p := by simp [World.proc]

theorem fail_fault_none {w : World} {m : String} (h : (w.fail m).fault = none) : False := by
  unfold World.fail at h
  split at h
  · rename_i hs; rw [h] at hs; simp at hs
  · simp at h

theorem fail_fault_isSome (w : World) (m : String) : (w.fail m).fault.isSome = true := by
  cases h : (w.fail m).fault with
  | none => exact (fail_fault_none h).elim
  | some _ => rfl

@[simp] theorem emit_ev (w : World) (l : String) : (w.emit l).ev = w.ev := rfl
@[simp] theorem emit_evWaiters (w : World) (l : String) : (w.emit l).evWaiters = w.evWaiters := rfl
@[simp] theorem emit_procs (w : World) (l : String) : (w.emit l).procs = w.procs := rfl
@[simp] theorem emit_guards (w : World) (l : String) : (w.emit l).guards = w.guards := rfl
@[simp] theorem emit_res (w : World) (l : String) : (w.emit l).res = w.res := rfl
@[simp] theorem emit_pools (w : World) (l : String) : (w.emit l).pools = w.pools := rfl
@[simp] theorem emit_bufs (w : World) (l : String) : (w.emit l).bufs = w.bufs := rfl
@[simp] theorem emit_oqs (w : World) (l : String) : (w.emit l).oqs = w.oqs := rfl
@[simp] theorem emit_pqs (w : World) (l : String) : (w.emit l).pqs = w.pqs := rfl
@[simp] theorem emit_conds (w : World) (l : String) : (w.emit l).conds = w.conds := rfl
@[simp] theorem emit_flags (w : World) (l : String) : (w.emit l).flags = w.flags := rfl
@[simp] theorem emit_gvars (w : World) (l : String) : (w.emit l).gvars = w.gvars := rfl
@[simp] theorem emit_fault (w : World) (l : String) : (w.emit l).fault = w.fault := rfl
@[simp] theorem emit_dispatched (w : World) (l : String) : (w.emit l).dispatched = w.dispatched := rfl
@[simp] theorem emit_now (w : World) (l : String) : (w.emit l).now = w.now := rfl
@[simp] theorem emit_proc (w : World) (l : String) (p : Pid) : (w.emit l).proc p = w.proc p := rfl

@[simp] theorem modProc_ev (w : World) (p : Pid) (f : Proc → Proc) : (w.modProc p f).ev = w.ev := rfl
@[simp] theorem modProc_evWaiters (w : World) (p : Pid) (f : Proc → Proc) : (w.modProc p f).evWaiters = w.evWaiters := rfl
@[simp] theorem modProc_guards (w : World) (p : Pid) (f : Proc → Proc) : (w.modProc p f).guards = w.guards := rfl
@[simp] theorem modProc_res (w : World) (p : Pid) (f : Proc → Proc) : (w.modProc p f).res = w.res := rfl
@[simp] theorem modProc_pools (w : World) (p : Pid) (f : Proc → Proc) : (w.modProc p f).pools = w.pools := rfl
@[simp] theorem modProc_bufs (w : World) (p : Pid) (f : Proc → Proc) : (w.modProc p f).bufs = w.bufs := rfl
@[simp] theorem modProc_oqs (w : World) (p : Pid) (f : Proc → Proc) : (w.modProc p f).oqs = w.oqs := rfl
@[simp] theorem modProc_pqs (w : World) (p : Pid) (f : Proc → Proc) : (w.modProc p f).pqs = w.pqs := rfl
@[simp] theorem modProc_conds (w : World) (p : Pid) (f : Proc → Proc) : (w.modProc p f).conds = w.conds := rfl
@[simp] theorem modProc_flags (w : World) (p : Pid) (f : Proc → Proc) : (w.modProc p f).flags = w.flags := rfl
@[simp] theorem modProc_gvars (w : World) (p : Pid) (f : Proc → Proc) : (w.modProc p f).gvars = w.gvars := rfl
@[simp] theorem modProc_log (w : World) (p : Pid) (f : Proc → Proc) : (w.modProc p f).log = w.log := rfl
@[simp] theorem modProc_fault (w : World) (p : Pid) (f : Proc → Proc) : (w.modProc p f).fault = w.fault := rfl
@[simp] theorem modProc_dispatched (w : World) (p : Pid) (f : Proc → Proc) : (w.modProc p f).dispatched = w.dispatched := rfl
@[simp] theorem modProc_now (w : World) (p : Pid) (f : Proc → Proc) : (w.modProc p f).now = w.now := rfl
@[simp] theorem modProc_procs_size (w : World) (p : Pid) (f : Proc → Proc) : (w.modProc p f).procs.size = w.procs.size := by
  simp [World.modProc]

theorem modProc_proc (w : World) (p q : Pid) (f : Proc → Proc) :
    (w.modProc p f).proc q = if q = p ∧ p < w.procs.size then f (w.proc p) else w.proc q := by
  unfold World.modProc World.proc
  simp only [Array.getD_eq_getD_getElem?, Array.getElem?_modify]
  by_cases hq : q = p
  · subst hq
    by_cases hp : q < w.procs.size
    · simp [hp]
    · simp [hp]
  · have : ¬ p = q := fun h => hq h.symm
    simp [hq, this]

theorem modProc_proc_ne (w : World) {p q : Pid} (f : Proc → Proc) (h : q ≠ p) : (w.modProc p f).proc q = w.proc q := by
  rw [modProc_proc]; simp [h]

theorem modProc_proc_self (w : World) {p : Pid} (f : Proc → Proc) (h : p < w.procs.size) :
    (w.modProc p f).proc p = f (w.proc p) := by
  rw [modProc_proc]; simp [h]

theorem proc_oob (w : World) {p : Pid} (h : w.procs.size ≤ p) : w.proc p = {} := Sim.proc_oob w p (Nat.not_lt.2 h)

/-- the event record a library wake-up is stored as -/
def mkEv (k act subj : Nat) (sig : Int) (t pri : Int) : HTag :=
  { key := k, item := ⟨act, subj, encSig sig, 0⟩, d := t, i := pri }

/-- the successful branch of `sched`: one more pending event, handle = counter + 1 -/
def pushEv (w : World) (act subj : Nat) (sig : Int) (t pri : Int) : World :=
  { w with ev := { w.ev with pending := mkEv (w.ev.counter + 1) act subj sig t pri :: w.ev.pending,
                             counter := w.ev.counter + 1 } }

theorem schedule_ge (w : World) (act subj : Nat) (sig t pri : Int) (ht : w.now ≤ t) :
    schedule w.ev act subj (encSig sig) t pri = .ok ((pushEv w act subj sig t pri).ev, w.ev.counter + 1) := by
  unfold schedule pushEv mkEv World.now at *
  have : ¬ t < w.ev.now := by omega
  simp [this, KPQ.insert, KPQ.norm]

theorem sched_ge (w : World) (act subj : Nat) (sig t pri : Int) (ht : w.now ≤ t) :
    sched w act subj sig t pri = (pushEv w act subj sig t pri, w.ev.counter + 1) := by
  unfold sched
  rw [schedule_ge w act subj sig t pri ht]
  rfl

theorem sched_now (w : World) (act subj : Nat) (sig pri : Int) :
    sched w act subj sig w.now pri = (pushEv w act subj sig w.now pri, w.ev.counter + 1) :=
  sched_ge w act subj sig w.now pri (Int.le_refl _)

theorem sched_lt (w : World) (act subj : Nat) (sig t pri : Int) (ht : t < w.now) :
    ∃ m, sched w act subj sig t pri = (w.fail m, 0) := by
  unfold sched schedule World.now at *
  simp only [ht, if_true]
  exact ⟨_, rfl⟩

theorem sched_cases (w : World) (act subj : Nat) (sig t pri : Int) :
    (w.now ≤ t ∧ sched w act subj sig t pri = (pushEv w act subj sig t pri, w.ev.counter + 1)) ∨
    (t < w.now ∧ ∃ m, sched w act subj sig t pri = (w.fail m, 0)) := by
  by_cases h : w.now ≤ t
  · exact Or.inl ⟨h, sched_ge w act subj sig t pri h⟩
  · exact Or.inr ⟨by omega, sched_lt w act subj sig t pri (by omega)⟩

@[simp] theorem pushEv_evWaiters (w : World) (a s : Nat) (sig t pri : Int) : (pushEv w a s sig t pri).evWaiters = w.evWaiters := rfl
@[simp] theorem pushEv_procs (w : World) (a s : Nat) (sig t pri : Int) : (pushEv w a s sig t pri).procs = w.procs := rfl
@[simp] theorem pushEv_guards (w : World) (a s : Nat) (sig t pri : Int) : (pushEv w a s sig t pri).guards = w.guards := rfl
@[simp] theorem pushEv_res (w : World) (a s : Nat) (sig t pri : Int) : (pushEv w a s sig t pri).res = w.res := rfl
@[simp] theorem pushEv_pools (w : World) (a s : Nat) (sig t pri : Int) : (pushEv w a s sig t pri).pools = w.pools := rfl
@[simp] theorem pushEv_bufs (w : World) (a s : Nat) (sig t pri : Int) : (pushEv w a s sig t pri).bufs = w.bufs := rfl
@[simp] theorem pushEv_oqs (w : World) (a s : Nat) (sig t pri : Int) : (pushEv w a s sig t pri).oqs = w.oqs := rfl
@[simp] theorem pushEv_pqs (w : World) (a s : Nat) (sig t pri : Int) : (pushEv w a s sig t pri).pqs = w.pqs := rfl
@[simp] theorem pushEv_conds (w : World) (a s : Nat) (sig t pri : Int) : (pushEv w a s sig t pri).conds = w.conds := rfl
@[simp] theorem pushEv_flags (w : World) (a s : Nat) (sig t pri : Int) : (pushEv w a s sig t pri).flags = w.flags := rfl
@[simp] theorem pushEv_gvars (w : World) (a s : Nat) (sig t pri : Int) : (pushEv w a s sig t pri).gvars = w.gvars := rfl
@[simp] theorem pushEv_log (w : World) (a s : Nat) (sig t pri : Int) : (pushEv w a s sig t pri).log = w.log := rfl
@[simp] theorem pushEv_fault (w : World) (a s : Nat) (sig t pri : Int) : (pushEv w a s sig t pri).fault = w.fault := rfl
@[simp] theorem pushEv_dispatched (w : World) (a s : Nat) (sig t pri : Int) : (pushEv w a s sig t pri).dispatched = w.dispatched := rfl
@[simp] theorem pushEv_now (w : World) (a s : Nat) (sig t pri : Int) : (pushEv w a s sig t pri).now = w.now := rfl
@[simp] theorem pushEv_proc (w : World) (a s : Nat) (sig t pri : Int) (p : Pid) : (pushEv w a s sig t pri).proc p = w.proc p := rfl
@[simp] theorem pushEv_pending (w : World) (a s : Nat) (sig t pri : Int) :
    (pushEv w a s sig t pri).ev.pending = mkEv (w.ev.counter + 1) a s sig t pri :: w.ev.pending := rfl
@[simp] theorem pushEv_counter (w : World) (a s : Nat) (sig t pri : Int) : (pushEv w a s sig t pri).ev.counter = w.ev.counter + 1 := rfl
@[simp] theorem pushEv_ev_now (w : World) (a s : Nat) (sig t pri : Int) : (pushEv w a s sig t pri).ev.now = w.ev.now := rfl
@[simp] theorem pushEv_executed (w : World) (a s : Nat) (sig t pri : Int) : (pushEv w a s sig t pri).ev.executed = w.ev.executed := rfl
@[simp] theorem pushEv_cancelled (w : World) (a s : Nat) (sig t pri : Int) : (pushEv w a s sig t pri).ev.cancelled = w.ev.cancelled := rfl
@[simp] theorem pushEv_current (w : World) (a s : Nat) (sig t pri : Int) : (pushEv w a s sig t pri).ev.current = w.ev.current := rfl

theorem sched_frame (w : World) (act subj : Nat) (sig t pri : Int) :
    let w' := (sched w act subj sig t pri).1
    w'.evWaiters = w.evWaiters ∧ w'.procs = w.procs ∧ w'.guards = w.guards ∧ w'.res = w.res ∧ w'.pools = w.pools ∧
    w'.bufs = w.bufs ∧ w'.oqs = w.oqs ∧ w'.pqs = w.pqs ∧ w'.conds = w.conds ∧ w'.flags = w.flags ∧
    w'.gvars = w.gvars ∧ w'.dispatched = w.dispatched ∧ w'.now = w.now := by
  rcases sched_cases w act subj sig t pri with ⟨_, h⟩ | ⟨_, m, h⟩ <;> simp [h]

@[simp] theorem sched_evWaiters (w : World) (a s : Nat) (sig t pri : Int) : (sched w a s sig t pri).1.evWaiters = w.evWaiters := (sched_frame w a s sig t pri).1
@[simp] theorem sched_procs (w : World) (a s : Nat) (sig t pri : Int) : (sched w a s sig t pri).1.procs = w.procs := (sched_frame w a s sig t pri).2.1
@[simp] theorem sched_guards (w : World) (a s : Nat) (sig t pri : Int) : (sched w a s sig t pri).1.guards = w.guards := (sched_frame w a s sig t pri).2.2.1
@[simp] theorem sched_res (w : World) (a s : Nat) (sig t pri : Int) : (sched w a s sig t pri).1.res = w.res := (sched_frame w a s sig t pri).2.2.2.1
@[simp] theorem sched_pools (w : World) (a s : Nat) (sig t pri : Int) : (sched w a s sig t pri).1.pools = w.pools := (sched_frame w a s sig t pri).2.2.2.2.1
@[simp] theorem sched_bufs (w : World) (a s : Nat) (sig t pri : Int) : (sched w a s sig t pri).1.bufs = w.bufs := (sched_frame w a s sig t pri).2.2.2.2.2.1
@[simp] theorem sched_oqs (w : World) (a s : Nat) (sig t pri : Int) : (sched w a s sig t pri).1.oqs = w.oqs := (sched_frame w a s sig t pri).2.2.2.2.2.2.1
@[simp] theorem sched_pqs (w : World) (a s : Nat) (sig t pri : Int) : (sched w a s sig t pri).1.pqs = w.pqs := (sched_frame w a s sig t pri).2.2.2.2.2.2.2.1
@[simp] theorem sched_conds (w : World) (a s : Nat) (sig t pri : Int) : (sched w a s sig t pri).1.conds = w.conds := (sched_frame w a s sig t pri).2.2.2.2.2.2.2.2.1
@[simp] theorem sched_flags (w : World) (a s : Nat) (sig t pri : Int) : (sched w a s sig t pri).1.flags = w.flags := (sched_frame w a s sig t pri).2.2.2.2.2.2.2.2.2.1
@[simp] theorem sched_gvars (w : World) (a s : Nat) (sig t pri : Int) : (sched w a s sig t pri).1.gvars = w.gvars := (sched_frame w a s sig t pri).2.2.2.2.2.2.2.2.2.2.1
@[simp] theorem sched_dispatched (w : World) (a s : Nat) (sig t pri : Int) : (sched w a s sig t pri).1.dispatched = w.dispatched := (sched_frame w a s sig t pri).2.2.2.2.2.2.2.2.2.2.2.1
@[simp] theorem sched_now' (w : World) (a s : Nat) (sig t pri : Int) : (sched w a s sig t pri).1.now = w.now := (sched_frame w a s sig t pri).2.2.2.2.2.2.2.2.2.2.2.2
@[simp] theorem sched_proc (w : World) (a s : Nat) (sig t pri : Int) (p : Pid) : (sched w a s sig t pri).1.proc p = w.proc p := by
  simp [World.proc]

theorem sched_fault_none {w : World} {a s : Nat} {sig t pri : Int} (h : (sched w a s sig t pri).1.fault = none) :
    w.fault = none ∧ sched w a s sig t pri = (pushEv w a s sig t pri, w.ev.counter + 1) := by
  rcases sched_cases w a s sig t pri with ⟨_, h'⟩ | ⟨_, m, h'⟩
  · rw [h'] at h; exact ⟨h, h'⟩
  · rw [h'] at h; exact (fail_fault_none h).elim

@[simp] theorem setGuardQ_ev (w : World) (g : Nat) (q : HH) : (setGuardQ w g q).ev = w.ev := rfl
@[simp] theorem setGuardQ_evWaiters (w : World) (g : Nat) (q : HH) : (setGuardQ w g q).evWaiters = w.evWaiters := rfl
@[simp] theorem setGuardQ_procs (w : World) (g : Nat) (q : HH) : (setGuardQ w g q).procs = w.procs := rfl
@[simp] theorem setGuardQ_res (w : World) (g : Nat) (q : HH) : (setGuardQ w g q).res = w.res := rfl
@[simp] theorem setGuardQ_pools (w : World) (g : Nat) (q : HH) : (setGuardQ w g q).pools = w.pools := rfl
@[simp] theorem setGuardQ_bufs (w : World) (g : Nat) (q : HH) : (setGuardQ w g q).bufs = w.bufs := rfl
@[simp] theorem setGuardQ_oqs (w : World) (g : Nat) (q : HH) : (setGuardQ w g q).oqs = w.oqs := rfl
@[simp] theorem setGuardQ_pqs (w : World) (g : Nat) (q : HH) : (setGuardQ w g q).pqs = w.pqs := rfl
@[simp] theorem setGuardQ_conds (w : World) (g : Nat) (q : HH) : (setGuardQ w g q).conds = w.conds := rfl
@[simp] theorem setGuardQ_flags (w : World) (g : Nat) (q : HH) : (setGuardQ w g q).flags = w.flags := rfl
@[simp] theorem setGuardQ_gvars (w : World) (g : Nat) (q : HH) : (setGuardQ w g q).gvars = w.gvars := rfl
@[simp] theorem setGuardQ_log (w : World) (g : Nat) (q : HH) : (setGuardQ w g q).log = w.log := rfl
@[simp] theorem setGuardQ_fault (w : World) (g : Nat) (q : HH) : (setGuardQ w g q).fault = w.fault := rfl
@[simp] theorem setGuardQ_dispatched (w : World) (g : Nat) (q : HH) : (setGuardQ w g q).dispatched = w.dispatched := rfl
@[simp] theorem setGuardQ_now (w : World) (g : Nat) (q : HH) : (setGuardQ w g q).now = w.now := rfl
@[simp] theorem setGuardQ_proc (w : World) (g : Nat) (q : HH) (p : Pid) : (setGuardQ w g q).proc p = w.proc p := rfl

theorem setGuardQ_guards_get (w : World) (g g' : Nat) (q : HH) :
    (setGuardQ w g q).guards[g']? = if g' = g then (w.guards[g]?).map (fun gd => { gd with q := q }) else w.guards[g']? := by
  unfold setGuardQ
  simp only [Array.getElem?_modify]
  by_cases h : g' = g
  · subst h; simp
  · have : ¬ g = g' := fun e => h e.symm
    simp [h, this]

@[simp] theorem setGuardQ_guards_size (w : World) (g : Nat) (q : HH) : (setGuardQ w g q).guards.size = w.guards.size := by
  simp [setGuardQ]

theorem evalDemand_congr {w w' : World} (hr : w'.res = w.res) (hp : w'.pools = w.pools) (hb : w'.bufs = w.bufs)
    (ho : w'.oqs = w.oqs) (hq : w'.pqs = w.pqs) (hf : w'.flags = w.flags) (d : Demand) :
    evalDemand w' d = evalDemand w d := by
  unfold evalDemand
  rw [hr, hp, hb, ho, hq, hf]

theorem modProc_congr (w : World) (p : Pid) (f g : Proc → Proc) (h : f (w.proc p) = g (w.proc p)) :
    w.modProc p f = w.modProc p g := by
  unfold World.modProc
  congr 1
  apply Array.ext_getElem?
  intro i
  simp only [Array.getElem?_modify]
  split
  · rename_i hi
    cases hg : w.procs[i]? with
    | none => rfl
    | some x =>
      have hx : w.proc p = x := by
        unfold World.proc
        rw [Array.getD_eq_getD_getElem?, hi, hg]; rfl
      rw [hx] at h
      simp [h]
  · rfl

theorem modProc_modProc (w : World) (p : Pid) (f g : Proc → Proc) :
    (w.modProc p f).modProc p g = w.modProc p (fun x => g (f x)) := by
  unfold World.modProc
  simp only
  congr 1
  apply Array.ext_getElem?
  intro i
  simp only [Array.getElem?_modify]
  split
  · cases w.procs[i]? <;> rfl
  · rfl

theorem removeAwait_fst_eq (w : World) (p : Pid) (a : Await) :
    (removeAwait w p a).1 = w.modProc p fun x => { x with awaits := (removeFirst x.awaits a).1 } := by
  simp only [removeAwait]
  exact modProc_congr w p _ _ rfl

theorem removeAwaitKind_fst_eq (w : World) (p : Pid) (k : Await → Bool) :
    (removeAwaitKind w p k).1 = w.modProc p fun x => { x with awaits := (removeAwaitKind.go k x.awaits).1 } := by
  simp only [removeAwaitKind]
  exact modProc_congr w p _ _ rfl

theorem script_none_of_oob {w : World} {p : Pid} (h : w.procs.size ≤ p) (i : Nat) : (w.proc p).script[i]? = none := by
  rw [proc_oob w h]; rfl

theorem lt_of_running {w : World} {p : Pid} (hr : (w.proc p).status = .running) : p < w.procs.size :=
  lt_np_of_status w p (by rw [hr]; decide)

theorem advance_proc (w : World) (p : Pid) (l : String) (pc' : Nat) :
    (((w.emit l).modProc p fun y => { y with pc := pc' }).proc p).blocked = (w.proc p).blocked ∧
    (((w.emit l).modProc p fun y => { y with pc := pc' }).proc p).status = (w.proc p).status ∧
    ((w.emit l).modProc p fun y => { y with pc := pc' }).procs.size = w.procs.size := by
  refine ⟨?_, ?_, by simp⟩ <;> (rw [modProc_proc]; split <;> rfl)

theorem encSig_lt (s : Int) : encSig s < 2 ^ 64 := by
  unfold encSig
  have h1 : 0 ≤ s % (2 ^ 64 : Int) := Int.emod_nonneg _ (by decide)
  have h2 : s % (2 ^ 64 : Int) < 2 ^ 64 := Int.emod_lt_of_pos _ (by decide)
  omega

theorem decSig_eq_zero {n : Nat} (hn : n < 2 ^ 64) : decSig n = 0 ↔ n = 0 := by
  unfold decSig
  split
  · omega
  · constructor
    · intro h; omega
    · intro h; omega

end CimbaModel.Sim.S3
