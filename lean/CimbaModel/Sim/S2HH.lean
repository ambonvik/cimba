/-
  S2 — hashheap facts used by the pool and priority-queue invariants, on top of HashHeap/Use.lean:
  inversion of a successful `enqueue` with either kind of key, sums over the abstraction.
-/
import CimbaModel.HashHeap.Use

namespace CimbaModel.HashHeap
open CimbaModel CimbaModel.KPQ

variable {lt : Order}

theorem enqueue_ok_inv [StrictWeak lt] [IgnoresHidx lt] {s s' : HH} (h : WF lt s) (it : Item) (k : Nat) (d i : Int) {k' : Nat}
    (hk0 : (if k = 0 then s.counter + 1 else k) ≠ 0) (hk64 : (if k = 0 then s.counter + 1 else k) < 2 ^ 64)
    (hfresh : (if k = 0 then s.counter + 1 else k) ∉ keys (abs s))
    (hrun : enqueue lt s it k d i = .ok (s', k')) :
    k' = (if k = 0 then s.counter + 1 else k) ∧ WF lt s' ∧
      (abs s').Perm (KPQ.insert (abs s) ⟨k', 0, it, d, i⟩) ∧
      s'.counter = s.counter + 1 ∧ s'.count = s.count + 1 := by
  by_cases hroom : s.count < 2 ^ s.exp ∨ s.exp < 31
  · obtain ⟨s2, hrun2, a, -⟩ := enqueue_abs h it k d i hk0 hk64 hfresh hroom
    cases hrun2.symm.trans hrun
    exact ⟨rfl, a.wf, a.perm, a.counter, a.count⟩
  · obtain ⟨f, hf⟩ := enqueue_no_room h hroom it k d i
    rw [hf] at hrun; cases hrun

/-- total of the second payload word (the amount held, for a pool's holder list) -/
def amounts (q : KPQ) : Nat := (q.map (·.item.b)).sum

theorem amounts_perm {q q' : KPQ} (h : q.Perm q') : amounts q = amounts q' := (h.map _).sum_nat

@[simp] theorem amounts_nil : amounts [] = 0 := rfl
@[simp] theorem amounts_cons (x : HTag) (q : KPQ) : amounts (x :: q) = x.item.b + amounts q := by
  simp [amounts]

def amountOf (q : KPQ) (k : Nat) : Nat := ((KPQ.lookup q k).map (·.item.b)).getD 0

theorem amountOf_of_mem {q : KPQ} (hnd : (keys q).Nodup) {x : HTag} (hx : x ∈ q) : amountOf q x.key = x.item.b := by
  unfold amountOf
  rw [(lookup_eq_some_iff hnd x.key x).2 ⟨hx, rfl⟩]
  rfl

theorem amountOf_of_not_mem {q : KPQ} {k : Nat} (hk : k ∉ keys q) : amountOf q k = 0 := by
  unfold amountOf
  rw [(lookup_eq_none_iff q k).2 hk]
  rfl

theorem amounts_remove {q : KPQ} (hnd : (keys q).Nodup) (k : Nat) :
    amounts (KPQ.remove q k) + amountOf q k = amounts q := by
  by_cases hk : k ∈ keys q
  · obtain ⟨x, hx, rfl⟩ := List.mem_map.1 hk
    rw [amountOf_of_mem hnd hx, amounts_perm (perm_cons_remove hnd hx), amounts_cons]
    omega
  · rw [amountOf_of_not_mem hk, remove_of_not_mem hk]; rfl

theorem amounts_reprio (q : KPQ) (k : Nat) (d i : Int) : amounts (KPQ.reprio q k d i) = amounts q := by
  unfold amounts KPQ.reprio
  rw [List.map_map]
  congr 1
  apply List.map_congr_left
  intro x _
  simp only [Function.comp]
  split <;> rfl

end CimbaModel.HashHeap
