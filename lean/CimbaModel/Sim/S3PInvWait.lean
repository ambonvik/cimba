/-
  S3 — `PInv`: waking the waiters of a process, entering `wait_process` and `wait_event`.
-/
import CimbaModel.Sim.S3PInvReg

namespace CimbaModel.Sim.S3
open CimbaModel CimbaModel.Sim CimbaModel.Event CimbaModel.Generated CimbaModel.KPQ
open CimbaModel.HashHeap (HTag Item Order HH WF abs liveTags)

variable {ex : Pid → Prop} {fr : Pid → Option Frame}

theorem procWakes_subj (w : World) (p : Pid) (sig : Int) : (procWakes w p sig).map (·.subj) = (w.proc p).waiters.map (· + 1) := by
  simp [procWakes, List.map_map, Function.comp_def]

/-- `wake_process_waiters`: every registered waiter gets its wake-up, the list is cleared -/
theorem PInv.wakeWaiters {w : World} (hp : PInv ex fr w) (p : Pid) (sig : Int) : PInv ex fr (wakeWaiters w p sig) := by
  rw [wakeWaiters_eq]
  have haw : ∀ x, ((pushAll (w.modProc p fun x => { x with waiters := [] }) (procWakes w p sig)).proc x).awaits = (w.proc x).awaits :=
    fun x => by rw [pushAll_proc]; exact modProc_keep Proc.awaits _ _ (x := x)
  have hbl : ∀ x, ((pushAll (w.modProc p fun x => { x with waiters := [] }) (procWakes w p sig)).proc x).blocked = (w.proc x).blocked :=
    fun x => by rw [pushAll_proc]; exact modProc_keep Proc.blocked _ _ (x := x)
  have hst : ∀ x, ((pushAll (w.modProc p fun x => { x with waiters := [] }) (procWakes w p sig)).proc x).status = (w.proc x).status :=
    fun x => by rw [pushAll_proc]; exact modProc_keep Proc.status _ _ (x := x)
  have hnew : ∀ e ∈ wakeEvs (w.modProc p fun x => { x with waiters := [] }).ev.counter
      (w.modProc p fun x => { x with waiters := [] }).now (procWakes w p sig),
      e.item.a = aProc ∧ ∃ q ∈ (w.proc p).waiters, e.item.b = q + 1 := by
    intro e he
    obtain ⟨_, _, _, _, x, hx, heq⟩ := wakeEvs_props he
    simp only [procWakes, List.mem_map] at hx
    obtain ⟨q, hq, rfl⟩ := hx
    rw [heq]; exact ⟨rfl, q, hq, rfl⟩
  have hpend : ∀ e ∈ (pushAll (w.modProc p fun x => { x with waiters := [] }) (procWakes w p sig)).ev.pending, e ∈ w.ev.pending ∨
      e ∈ wakeEvs (w.modProc p fun x => { x with waiters := [] }).ev.counter (w.modProc p fun x => { x with waiters := [] }).now
        (procWakes w p sig) := fun e he => by
    simp only [pushAll_pending, List.mem_append] at he
    exact he.symm
  -- the waiters of `p` are served; nothing changes for the registry of events
  have hP : RInv procK ex fr (pushAll (w.modProc p fun x => { x with waiters := [] }) (procWakes w p sig)) := by
    refine hp.procs.deliver p (· ∈ (w.proc p).waiters) _ (fun _ hq => hq) haw hbl (fun _ _ => Iff.rfl) ?_ hpend
      (fun e he => (hnew e he).2) ?_
    · intro b x
      show x ∈ ((pushAll _ _).proc b).waiters ↔ x ∈ (w.proc b).waiters ∧ ¬ (b = p ∧ x ∈ (w.proc p).waiters)
      rw [pushAll_proc, modProc_proc]
      by_cases hb : b = p
      · subst hb
        by_cases hs : b < w.procs.size
        · simp [hs]
        · simp [hs, proc_oob w (Nat.le_of_not_lt hs)]
      · simp [hb]
    · intro e1 _ e2 _ n1 n2 hbb
      refine wakeEvs_subj_inj ?_ n1 n2 hbb
      rw [procWakes_subj]; exact nodup_map_succ (hp.wn p)
  have hE : RInv eventK ex fr (pushAll (w.modProc p fun x => { x with waiters := [] }) (procWakes w p sig)) :=
    hp.events.frame haw hbl (fun _ _ => Iff.rfl) (fun _ _ h => h) fun e he hw =>
      (hpend e he).elim id fun hn => absurd ((hnew e hn).1.symm.trans hw) (by decide)
  refine PInv.join hP hE (pushAll_evinv _ hp.ei)
    (fun x hx => by unfold procAw evAw; rw [haw]; rw [hst] at hx; exact hp.ar x hx) (fun x => ?_) hp.en
    (fun h l hm => ?_) fun e he ha x hb hx h hh => ?_
  · rw [pushAll_proc, modProc_proc]; split
    · exact List.nodup_nil
    · exact hp.wn x
  · obtain ⟨e2, he2, hk2⟩ := Event.mem_keys.1 (hp.es h l hm)
    exact Event.mem_keys.2 ⟨e2, by simp only [pushAll_pending, modProc_ev]; exact List.mem_append_right _ he2, hk2⟩
  · rw [haw] at hh
    rcases hpend e he with he | he
    · obtain ⟨h1, h2⟩ := hp.oh e he ha x hb hx h hh
      refine ⟨fun hm => ?_, by simp only [pushAll_counter, modProc_ev]; omega⟩
      obtain ⟨e2, he2, hk2⟩ := Event.mem_keys.1 hm
      rcases hpend e2 he2 with he2 | he2
      · exact h1 (Event.mem_keys.2 ⟨e2, he2, hk2⟩)
      · have := (wakeEvs_props he2).1
        simp only [modProc_ev] at this
        omega
    · exact absurd ((hnew e he).1.symm.trans ha) (by decide)

/-- the world in which `p` is suspended in `wait_process q` -/
def waitProcWorld (w : World) (p q : Pid) : World :=
  (block ((addAwait w p (.proc q)).modProc q fun y => { y with waiters := p :: y.waiters }) p (.waitProc q)).1

theorem waitProcWorld_proc (w : World) (p q x : Pid) (hp : p < w.procs.size) (hq : q < w.procs.size) :
    ((waitProcWorld w p q).proc x).awaits = (if x = p then .proc q :: (w.proc x).awaits else (w.proc x).awaits) ∧
    ((waitProcWorld w p q).proc x).waiters = (if x = q then p :: (w.proc x).waiters else (w.proc x).waiters) ∧
    ((waitProcWorld w p q).proc x).blocked = (if x = p then some (.waitProc q) else (w.proc x).blocked) ∧
    ((waitProcWorld w p q).proc x).status = (w.proc x).status := by
  unfold waitProcWorld block addAwait
  simp only [modProc_proc, modProc_procs_size, hp, hq, and_true]
  by_cases h1 : x = p <;> by_cases h2 : x = q <;> simp [h1, h2]
  all_goals (try subst h1) <;> (try subst h2) <;> simp_all

theorem PInv.cmd_waitProc {w : World} (hp : PInv ex fr w) {p q : Pid} (hfr : fr p = none)
    (hr : (w.proc p).status = .running) (hq : q < w.procs.size) (hxp : ¬ ex p) :
    PInv ex (setFrame fr p (some (.waitProc q))) (waitProcWorld w p q) := by
  have hnil := hp.nil_of_fr_none hfr
  have hf := fun x => waitProcWorld_proc w p q x (lt_of_running hr) hq
  have hpa : ∀ x, procAw (waitProcWorld w p q) x = if x = p then [.proc q] else procAw w x := by
    intro x; unfold procAw; rw [(hf x).1]
    split
    · rename_i h; subst h
      have := hnil.1; unfold procAw at this
      simp [List.filter_cons, isProcA, this]
    · rfl
  have hea : ∀ x, evAw (waitProcWorld w p q) x = evAw w x := by
    intro x; unfold evAw; rw [(hf x).1]
    split
    · simp [isEventA]
    · rfl
  have hbl : ∀ y, y ≠ p → ((waitProcWorld w p q).proc y).blocked = (w.proc y).blocked := fun y hy => by rw [(hf y).2.2.1, if_neg hy]
  have hblp : ((waitProcWorld w p q).proc p).blocked = some (.waitProc q) := by rw [(hf p).2.2.1, if_pos rfl]
  have hnop : ∀ a, Await.proc a ∉ (w.proc p).awaits := fun a ha => by rw [mem_awaits_proc, hnil.1] at ha; cases ha
  -- `p` registers with process `q`; nothing changes for the registry of events
  have hP : RInv procK ex (setFrame fr p (some (.waitProc q))) (waitProcWorld w p q) := by
    refine hp.procs.register q (.waitProc q) hnil.1 hpa hbl hblp rfl (fun _ _ => Iff.rfl) (fun b y => ?_) fun _ he _ => he
    show y ∈ ((waitProcWorld w p q).proc b).waiters ↔ y ∈ (w.proc b).waiters ∨ (b = q ∧ y = p)
    rw [(hf b).2.1]; split
    · rename_i hb; simp [hb, or_comm]
    · rename_i hb; simp [hb]
  have hE : RInv eventK ex (setFrame fr p (some (.waitProc q))) (waitProcWorld w p q) :=
    hp.events.reframe _ hnil.2 hea hbl (fun _ _ => Iff.rfl) (fun _ _ => Iff.rfl) fun _ he _ => he
  refine PInv.join hP hE hp.ei (fun x hx => ?_) (fun x => ?_) hp.en hp.es fun e he ha x hb hx h hh => ?_
  · rw [(hf x).2.2.2] at hx
    have hxp' : x ≠ p := fun h => hx (h ▸ hr)
    rw [hpa, hea, if_neg hxp']; exact hp.ar x hx
  · rw [(hf x).2.1]; split
    · rename_i hxq; subst hxq
      exact List.nodup_cons.2 ⟨fun hmem => hnop x (hp.w1 x p hmem hxp), hp.wn x⟩
    · exact hp.wn x
  · refine hp.oh e he ha x hb hx h ?_
    rw [(hf x).1] at hh
    split at hh
    · exact (List.mem_cons.1 hh).elim (fun h' => by cases h') id
    · exact hh

/-- the world in which `p` is suspended in `wait_event h` -/
def waitEventWorld (w : World) (p : Pid) (h : Nat) : World :=
  (block (addAwait { w with evWaiters := (h, p :: (w.evWaiters.lookup h).getD []) :: w.evWaiters.filter (·.1 ≠ h) } p (.event h))
    p (.waitEvent h)).1

theorem waitEventWorld_proc (w : World) (p : Pid) (h : Nat) (x : Pid) (hp : p < w.procs.size) :
    ((waitEventWorld w p h).proc x).awaits = (if x = p then .event h :: (w.proc x).awaits else (w.proc x).awaits) ∧
    ((waitEventWorld w p h).proc x).waiters = (w.proc x).waiters ∧
    ((waitEventWorld w p h).proc x).blocked = (if x = p then some (.waitEvent h) else (w.proc x).blocked) ∧
    ((waitEventWorld w p h).proc x).status = (w.proc x).status := by
  unfold waitEventWorld block addAwait
  simp only [modProc_proc, modProc_procs_size, hp, and_true]
  have hpr : ∀ y, World.proc { w with evWaiters := (h, p :: (w.evWaiters.lookup h).getD []) :: w.evWaiters.filter (·.1 ≠ h) } y = w.proc y :=
    fun _ => rfl
  by_cases h1 : x = p <;> simp [h1]
  all_goals (first | rfl | exact ⟨rfl, rfl⟩ | exact ⟨rfl, rfl, rfl⟩ | exact ⟨rfl, rfl, rfl, rfl⟩)

theorem waitEventWorld_frame (w : World) (p : Pid) (h : Nat) :
    (waitEventWorld w p h).ev = w.ev ∧
    (waitEventWorld w p h).evWaiters = (h, p :: evWaitersOf w h) :: w.evWaiters.filter (·.1 ≠ h) := ⟨rfl, rfl⟩

theorem waitEventWorld_waitersOf (w : World) (p : Pid) (h h' : Nat) :
    evWaitersOf (waitEventWorld w p h) h' = if h' = h then p :: evWaitersOf w h else evWaitersOf w h' := by
  unfold evWaitersOf
  rw [(waitEventWorld_frame w p h).2, List.lookup_cons]
  by_cases hh : h' = h
  · subst hh; simp [evWaitersOf]
  · have : (h' == h) = false := by simpa using hh
    rw [this, lookup_filter_ne _ _ _ hh]; simp [hh]

theorem PInv.cmd_waitEvent {w : World} (hp : PInv ex fr w) {p : Pid} {h : Nat} (hfr : fr p = none)
    (hr : (w.proc p).status = .running) (hxp : ¬ ex p) (hs : h ∈ keys w.ev.pending) :
    PInv ex (setFrame fr p (some (.waitEvent h))) (waitEventWorld w p h) := by
  have hnil := hp.nil_of_fr_none hfr
  have hf := fun x => waitEventWorld_proc w p h x (lt_of_running hr)
  obtain ⟨hev, hew⟩ := waitEventWorld_frame w p h
  have hpa : ∀ x, procAw (waitEventWorld w p h) x = procAw w x := by
    intro x; unfold procAw; rw [(hf x).1]
    split
    · simp [isProcA]
    · rfl
  have hea : ∀ x, evAw (waitEventWorld w p h) x = if x = p then [.event h] else evAw w x := by
    intro x; unfold evAw; rw [(hf x).1]
    split
    · rename_i hx; subst hx
      have := hnil.2; unfold evAw at this
      simp [List.filter_cons, isEventA, this]
    · rfl
  have hbl : ∀ y, y ≠ p → ((waitEventWorld w p h).proc y).blocked = (w.proc y).blocked := fun y hy => by rw [(hf y).2.2.1, if_neg hy]
  have hblp : ((waitEventWorld w p h).proc p).blocked = some (.waitEvent h) := by rw [(hf p).2.2.1, if_pos rfl]
  have hnoe : ∀ a, Await.event a ∉ (w.proc p).awaits := fun a ha => by rw [mem_awaits_event, hnil.2] at ha; cases ha
  have hpnot : p ∉ evWaitersOf w h := fun hm => hnoe h (hp.events.reg h p hm hxp)
  -- `p` registers with event `h`; nothing changes for the registry of processes
  have hE : RInv eventK ex (setFrame fr p (some (.waitEvent h))) (waitEventWorld w p h) := by
    refine hp.events.register h (.waitEvent h) hnil.2 hea hbl hblp rfl (fun _ _ => Iff.rfl) (fun b y => ?_) fun _ he _ => he
    show y ∈ evWaitersOf (waitEventWorld w p h) b ↔ y ∈ evWaitersOf w b ∨ (b = h ∧ y = p)
    rw [waitEventWorld_waitersOf]; split
    · rename_i hb; simp [hb, or_comm]
    · rename_i hb; simp [hb]
  have hP : RInv procK ex (setFrame fr p (some (.waitEvent h))) (waitEventWorld w p h) :=
    hp.procs.reframe _ hnil.1 hpa hbl (fun _ _ => Iff.rfl) (fun b y => by show y ∈ _ ↔ y ∈ _; rw [(hf b).2.1])
      fun _ he _ => he
  refine PInv.join hP hE hp.ei (fun x hx => ?_) (fun x => by rw [(hf x).2.1]; exact hp.wn x) ?_ (fun h' l hm => ?_)
    fun e he ha x hb hx h' hh' => ?_
  · rw [(hf x).2.2.2] at hx
    have hxp' : x ≠ p := fun h' => hx (h' ▸ hr)
    rw [hpa, hea, if_neg hxp']; exact hp.ar x hx
  · rw [hew]
    constructor
    · simp only [List.map_cons, List.nodup_cons]
      refine ⟨?_, List.Nodup.sublist ((List.filter_sublist).map _) hp.en.1⟩
      intro hm
      obtain ⟨x, hx, hxk⟩ := List.mem_map.1 hm
      have := (List.mem_filter.1 hx).2
      simp only [ne_eq, decide_eq_true_eq] at this
      exact this hxk
    · intro h' l hm
      rcases List.mem_cons.1 hm with heq | hm
      · cases heq
        exact List.nodup_cons.2 ⟨hpnot, hp.evWaitersOf_nodup h⟩
      · exact hp.en.2 h' l (List.mem_filter.1 hm).1
  · rw [hew] at hm
    rcases List.mem_cons.1 hm with heq | hm
    · cases heq; exact hs
    · exact hp.es h' l (List.mem_filter.1 hm).1
  · obtain ⟨h'', h1, _⟩ := hp.oe e he ha x hb hx
    have hxp' : x ≠ p := fun hh => hnoe h'' (hh ▸ h1)
    rw [(hf x).1, if_neg hxp'] at hh'
    exact hp.oh e he ha x hb hx h' hh'

end CimbaModel.Sim.S3
