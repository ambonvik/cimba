/-
  S3 — the combined invariant of the process layer and what it says in plain terms.
-/
import CimbaModel.Sim.S3GInvDispatch

namespace CimbaModel.Sim.S3
open CimbaModel CimbaModel.Sim CimbaModel.Event CimbaModel.Generated CimbaModel.KPQ
open CimbaModel.HashHeap (HTag Item Order HH WF abs liveTags)

structure AllInv (w : World) : Prop where
  p : PInvB w
  t : TInvB w
  g : GInvB w
  nr : NRInv w
  side : SideOk w

-- the outer `mono` reorders the conjuncts and turns the conjunction's condition on resumptions, `Due ∧ True`, into `Due`
theorem AllInv.run : Run AllInv AllInv Caller Due :=
  ((GRely.run.mono (J' := AllInv) (fun h => ⟨h.g, h.p, h.nr, h.side⟩) id Iff.rfl).and (TInvB.run.mono AllInv.t id Iff.rfl)).mono id
    (fun h => ⟨h.1.p, h.2, h.1.g, h.1.nr, h.1.side⟩) ⟨fun h => ⟨h, trivial⟩, fun h => h.1⟩

theorem AllInv.dispatch {w w' : World} (h : AllInv w) (hd : dispatch w = some w') : AllInv w' := AllInv.run.dispatch h hd

theorem AllInv.reach {w w' : World} (hr : Reach w w') (h : AllInv w) : AllInv w' :=
  hr.keeps AllInv.dispatch h

theorem AllInv.emit {w : World} (h : AllInv w) (l : String) : AllInv (w.emit l) := AllInv.run.emit h l

theorem AllInv.runAll (fuel : Nat) (w : World) (h : AllInv w) : AllInv (runAll fuel w) := AllInv.run.runAll fuel h

/-- a state before anything has happened: nothing registered, nobody suspended, all waiting lists empty and well-formed,
    fewer than 2³¹ processes, and nothing pending that looks like a library wake-up (start events, user events and
    non-SUCCESS interrupts etc. may be pending) -/
structure InitOkG (w : World) : Prop where
  base : InitOk w
  gw : AllGWF w
  gsz : w.procs.size < 2 ^ 31
  nq : ∀ g k, ¬ queued w g k
  bl : ∀ p, (w.proc p).blocked = none
  hm : ∀ e ∈ w.ev.pending, Harmless e

theorem InitOkG.ginv {w : World} (h : InitOkG w) : GInvB w where
  ei := h.base.ei
  gw := h.gw
  gsz := h.gsz
  gk := fun g k hq => absurd hq (h.nq g k)
  ga := fun p => Or.inl (by unfold guardAw; rw [h.base.aw]; rfl)
  gfb := fun p _ hb => absurd rfl hb
  gr := fun e he hg => absurd hg (h.hm e he).1
  gu := fun a ha _ _ hg => absurd hg (h.hm a ha).1
  gc := fun e he ha => absurd (Or.inr ha) (h.hm e he).1
  gkc := fun c g _ k hq => absurd hq (h.nq g k)
  nz := fun e he hc => ⟨((h.hm e he).2.2 hc).1, ((h.hm e he).2.2 hc).2.1, ((h.hm e he).2.2 hc).2.2.1⟩
  oth := fun e he ha => absurd ha (h.base.nt e he)
  cl := fun e he => (h.hm e he).2.1

theorem InitOkG.nrinv {w : World} (h : InitOkG w) : NRInv w := fun x _ => ⟨h.base.aw x, h.bl x⟩

theorem InitOkG.all {w : World} (h : InitOkG w) (hs : SideOk w) : AllInv w :=
  ⟨h.base.pinv, h.base.tinv, h.ginv, h.nrinv, hs⟩

/-- I_guard: a key in a waiting list is a process that awaits exactly this guard and is suspended in a wait on it -/
theorem GInvB.queued_means {w : World} (h : GInvB w) {g k : Nat} (hq : queued w g k) :
    ∃ p f, k = p + 1 ∧ p < w.procs.size ∧ Await.guard g ∈ (w.proc p).awaits ∧ guardAw w p = [.guard g] ∧
      (w.proc p).blocked = some f ∧ FrameOn w f g := by
  obtain ⟨h1, h2, h3⟩ := h.gk g k hq
  have ha := h3 (noEx_not _)
  have ha' := mem_awaits_guard.1 ha
  refine ⟨k - 1, ?_⟩
  rcases h.ga (k - 1) with h0 | ⟨g', f, hf, hon, haw⟩
  · rw [h0] at ha'; cases ha'
  · rw [haw] at ha'
    have : g = g' := by simpa using ha'
    subst this
    exact ⟨f, by omega, by omega, ha, haw, hf, hon⟩

/-- a process awaits at most one guard, and only while suspended in a wait on that guard -/
theorem GInvB.one_guard {w : World} (h : GInvB w) (p : Pid) :
    guardAw w p = [] ∨ ∃ g f, (w.proc p).blocked = some f ∧ FrameOn w f g ∧ guardAw w p = [.guard g] := h.ga p

/-- no stale grants: a pending grant (aRes, SUCCESS) or condition wake-up (aCond) is addressed to a process that is
    suspended in a wait on a guard, still awaits that guard, has already been taken off its waiting list, and it is the
    only such event for that process -/
theorem GInvB.grant_owned {w : World} (h : GInvB w) {e : HTag} (he : e ∈ w.ev.pending) (hg : isGrant e) :
    ∃ p g f, e.item.b = p + 1 ∧ (w.proc p).blocked = some f ∧ FrameOn w f g ∧ guardAw w p = [.guard g] ∧
      ¬ queued w g (p + 1) ∧ (∀ g', ¬ queued w g' (p + 1)) ∧
      ∀ e' ∈ w.ev.pending, isGrant e' → e'.item.b = p + 1 → e' = e := by
  obtain ⟨hb0, h2⟩ := h.gr e he hg
  obtain ⟨g, hga, hnq⟩ := h2 (noEx_not _)
  have hb : e.item.b = (e.item.b - 1) + 1 := by omega
  have ha' := mem_awaits_guard.1 hga
  rcases h.ga (e.item.b - 1) with h0 | ⟨g', f, hf, hon, haw⟩
  · rw [h0] at ha'; cases ha'
  · rw [haw] at ha'
    have : g = g' := by simpa using ha'
    subst this
    refine ⟨e.item.b - 1, g, f, hb, hf, hon, haw, by rw [← hb]; exact hnq, ?_, ?_⟩
    · intro g' hq
      obtain ⟨p', f', hk, _, _, haw', _⟩ := h.queued_means hq
      have : p' = e.item.b - 1 := by omega
      subst this
      rw [haw] at haw'
      have : g = g' := by simpa using haw'
      subst this
      exact hnq (by rw [hb]; exact hq)
    · intro e' he' hg' hb'
      exact h.gu e' he' e he hg' hg (hb'.trans hb.symm) (noEx_not _)

/-- a condition wake-up goes to a process suspended in `cond_wait` -/
theorem GInvB.cond_owned {w : World} (h : GInvB w) {e : HTag} (he : e ∈ w.ev.pending) (ha : e.item.a = aCond) :
    ∃ c, (w.proc (e.item.b - 1)).blocked = some (.condWait c) := h.gc e he ha (noEx_not _)

/-- no stale hold wake-ups: a pending timer with the success code is the timer of the `hold` its process is suspended in -/
theorem GInvB.hold_owned {w : World} (h : GInvB w) {e : HTag} (he : e ∈ w.ev.pending) (ha : e.item.a = aTime)
    (hc : e.item.c = 0) : ∃ p, e.item.b = p + 1 ∧ (w.proc p).blocked = some (.hold e.key) := by
  obtain ⟨h1, h2⟩ := h.oth e he ha hc
  exact ⟨e.item.b - 1, by omega, h2 (noEx_not _)⟩

theorem GInvB.nonzero {w : World} (h : GInvB w) {e : HTag} (he : e ∈ w.ev.pending) (hc : e.item.c = 0) :
    e.item.a ≠ aIntr ∧ e.item.a ≠ aResume ∧ e.item.a ≠ aPreempt := h.nz e he hc

/-- the library wake-ups that can make a suspended call return SUCCESS -/
def isWake (a : Nat) : Prop := a = aTime ∨ a = aProc ∨ a = aEvent ∨ a = aRes ∨ a = aCond

inductive Cause (w : World) (e : HTag) (p : Pid) : Prop
  | hold : e.item.a = aTime → (w.proc p).blocked = some (.hold e.key) → Cause w e p
  | proc (q : Pid) : e.item.a = aProc → (w.proc p).blocked = some (.waitProc q) → Cause w e p
  | event (k : Nat) : e.item.a = aEvent → (w.proc p).blocked = some (.waitEvent k) → Cause w e p
  | grant (f : Frame) (g : Nat) : isGrant e → (w.proc p).blocked = some f → FrameOn w f g → ¬ queued w g (p + 1) → Cause w e p

/-- NoStaleInv: every pending SUCCESS wake-up is addressed to a process that is suspended, right now, in exactly the
    call that wake-up belongs to: a timer in the hold that armed it, a process-end wake-up in `wait_process`, an
    event-done wake-up in `wait_event`, a grant / condition wake-up in a wait on a guard (and the process is already off
    the waiting list) -/
theorem AllInv.success_cause {w : World} (h : AllInv w) {e : HTag} (he : e ∈ w.ev.pending) (hc : e.item.c = 0)
    (hk : isWake e.item.a) {p : Pid} (hb : e.item.b = p + 1) : Cause w e p := by
  rcases hk with ha | ha | ha | ha | ha
  · obtain ⟨p', hb', hf⟩ := h.g.hold_owned he ha hc
    have : p' = p := by omega
    subst this
    exact .hold ha hf
  · obtain ⟨p', q, hb', hf, _⟩ := h.p.procWake_owned he ha
    have : p' = p := by omega
    subst this
    exact .proc q ha hf
  · obtain ⟨p', k, hb', hf, _⟩ := h.p.eventWake_owned he ha
    have : p' = p := by omega
    subst this
    exact .event k ha hf
  · have hg : isGrant e := Or.inl ⟨ha, hc⟩
    obtain ⟨p', g, f, hb', hf, hon, _, hnq, _⟩ := h.g.grant_owned he hg
    have : p' = p := by omega
    subst this
    exact .grant f g hg hf hon hnq
  · have hg : isGrant e := Or.inr ha
    obtain ⟨p', g, f, hb', hf, hon, _, hnq, _⟩ := h.g.grant_owned he hg
    have : p' = p := by omega
    subst this
    exact .grant f g hg hf hon hnq

/-- "for exactly one cause": at most one SUCCESS wake-up is pending for a process at any time -/
theorem AllInv.one_success_wakeup {w : World} (h : AllInv w) {e1 e2 : HTag} (h1 : e1 ∈ w.ev.pending)
    (h2 : e2 ∈ w.ev.pending) (hc1 : e1.item.c = 0) (hc2 : e2.item.c = 0) (hk1 : isWake e1.item.a) (hk2 : isWake e2.item.a)
    {p : Pid} (hb1 : e1.item.b = p + 1) (hb2 : e2.item.b = p + 1) : e1 = e2 := by
  have c1 := h.success_cause h1 hc1 hk1 hb1
  have c2 := h.success_cause h2 hc2 hk2 hb2
  cases c1 with
  | hold a1 f1 =>
    cases c2 with
    | hold a2 f2 =>
      rw [f1] at f2
      exact HashHeap.eq_of_key_eq h.g.ei.part.keysNodup h1 h2 (Frame.hold.inj (Option.some.inj f2))
    | proc q a2 f2 => rw [f1] at f2; cases f2
    | event k a2 f2 => rw [f1] at f2; cases f2
    | grant f g _ f2 hon _ => rw [f1] at f2; cases f2; exact hon.elim
  | proc q a1 f1 =>
    cases c2 with
    | hold a2 f2 => rw [f1] at f2; cases f2
    | proc q' a2 f2 =>
      obtain ⟨p', _, hb', _, _, _, _, hu⟩ := h.p.procWake_owned h1 a1
      exact (hu e2 h2 a2 (hb2.trans (hb1.symm.trans hb'))).symm
    | event k a2 f2 => rw [f1] at f2; cases f2
    | grant f g _ f2 hon _ => rw [f1] at f2; cases f2; exact hon.elim
  | event k a1 f1 =>
    cases c2 with
    | hold a2 f2 => rw [f1] at f2; cases f2
    | proc q a2 f2 => rw [f1] at f2; cases f2
    | event k' a2 f2 =>
      obtain ⟨p', _, hb', _, _, _, _, _, hu⟩ := h.p.eventWake_owned h1 a1
      exact (hu e2 h2 a2 (hb2.trans (hb1.symm.trans hb'))).symm
    | grant f g _ f2 hon _ => rw [f1] at f2; cases f2; exact hon.elim
  | grant f g g1 f1 hon _ =>
    cases c2 with
    | hold a2 f2 => rw [f1] at f2; cases f2; exact hon.elim
    | proc q a2 f2 => rw [f1] at f2; cases f2; exact hon.elim
    | event k a2 f2 => rw [f1] at f2; cases f2; exact hon.elim
    | grant f' g' g2 _ _ _ => exact h.g.gu e1 h1 e2 h2 g1 g2 (hb1.trans hb2.symm) (noEx_not _)

/-- the actions on which `dispatch` resumes a suspended process -/
def isResuming (a : Nat) : Prop :=
  a = aTime ∨ a = aProc ∨ a = aEvent ∨ a = aRes ∨ a = aPreempt ∨ a = aCond ∨ a = aIntr ∨ a = aResume

/-- whatever pending event would resume `p` with SUCCESS is the legitimate wake-up of the call `p` is suspended in -/
theorem AllInv.success_resume {w : World} (h : AllInv w) {e : HTag} (he : e ∈ w.ev.pending) (hc : e.item.c = 0)
    (hk : isResuming e.item.a) {p : Pid} (hb : e.item.b = p + 1) : isWake e.item.a ∧ Cause w e p := by
  have hnz := h.g.nonzero he hc
  have hw : isWake e.item.a := by
    rcases hk with ha | ha | ha | ha | ha | ha | ha | ha
    · exact Or.inl ha
    · exact Or.inr (Or.inl ha)
    · exact Or.inr (Or.inr (Or.inl ha))
    · exact Or.inr (Or.inr (Or.inr (Or.inl ha)))
    · exact absurd ha hnz.2.2
    · exact Or.inr (Or.inr (Or.inr (Or.inr ha)))
    · exact absurd ha hnz.1
    · exact absurd ha hnz.2.1
  exact ⟨hw, h.success_cause he hc hw hb⟩

/-- a process suspended in `hold` is resumed with SUCCESS only by the timer that hold armed -/
theorem AllInv.hold_success_only_own_timer {w : World} (h : AllInv w) {e : HTag} (he : e ∈ w.ev.pending)
    (hc : e.item.c = 0) (hk : isResuming e.item.a) {p : Pid} (hb : e.item.b = p + 1) {k : Nat}
    (hf : (w.proc p).blocked = some (.hold k)) : e.item.a = aTime ∧ e.key = k := by
  obtain ⟨_, c⟩ := h.success_resume he hc hk hb
  cases c with
  | hold a f => rw [hf] at f; exact ⟨a, (Frame.hold.inj (Option.some.inj f)).symm⟩
  | proc q a f => rw [hf] at f; cases f
  | event q a f => rw [hf] at f; cases f
  | grant f' g _ f hon _ => rw [hf] at f; cases f; exact hon.elim

end CimbaModel.Sim.S3
