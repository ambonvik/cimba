/-
  S3 — every world the scenario loader (Drivers/SimMain.lean) can build satisfies the hypotheses of `AllInv`.
  The construction steps below mirror the loader line by line; that the loader's output is such a world is proved as
  `S4.Loaded.built` (Sim/S4Init.lean).
-/
import CimbaModel.Sim.S3All
import CimbaModel.HashHeap.RefinePattern

namespace CimbaModel.Sim.S3
open CimbaModel CimbaModel.Sim CimbaModel.Event CimbaModel.Generated CimbaModel.KPQ
open CimbaModel.HashHeap (HTag Item Order HH WF abs liveTags init_spec)

def newGuardW (w : World) (isCond : Bool) : World := { w with guards := w.guards.push { q := mkHH 3, isCond := isCond } }
def addRes (w : World) : World := { newGuardW w false with res := w.res.push { guard := w.guards.size } }
def addPool (w : World) (cap : Nat) : World :=
  { newGuardW w false with pools := w.pools.push { cap := cap, holders := mkHH 3, guard := w.guards.size } }
def addBuf (w : World) (cap : Nat) : World :=
  { newGuardW (newGuardW w false) false with bufs := w.bufs.push { cap := cap, front := w.guards.size, rear := w.guards.size + 1 } }
def addOQ (w : World) (cap : Nat) : World :=
  { newGuardW (newGuardW w false) false with oqs := w.oqs.push { cap := cap, front := w.guards.size, rear := w.guards.size + 1 } }
def addPQ (w : World) (cap : Nat) : World :=
  { newGuardW (newGuardW w false) false with
    pqs := w.pqs.push { cap := cap, queue := mkHH 3, front := w.guards.size, rear := w.guards.size + 1 } }
def addCond (w : World) : World := { newGuardW w true with conds := w.conds.push w.guards.size }
def addProc (w : World) (pr : Int) (cmds : Array (Cmd × String)) : World :=
  { w with procs := w.procs.push { prio := pr, script := cmds } }
/-- a condition's guard `cg` becomes an observer of guard `g` -/
def subscribe (w : World) (g cg : Nat) : World :=
  { w with guards := w.guards.modify g fun gd => { gd with observers := cg :: gd.observers } }
def autostart (w : World) (p : Pid) : World := (sched w aStart (p + 1) 0 w.now (w.proc p).prio).1

/-- the worlds the loader can build; the programs satisfy the documented precondition `CmdOk` -/
inductive Built : World → Prop
  | empty : Built {}
  | res {w : World} : Built w → Built (addRes w)
  | pool {w : World} (cap : Nat) : Built w → Built (addPool w cap)
  | buf {w : World} (cap : Nat) : Built w → Built (addBuf w cap)
  | oq {w : World} (cap : Nat) : Built w → Built (addOQ w cap)
  | pq {w : World} (cap : Nat) : Built w → Built (addPQ w cap)
  | cond {w : World} : Built w → Built (addCond w)
  | proc {w : World} (pr : Int) (cmds : Array (Cmd × String)) :
      Built w → (∀ (i : Nat) (c : Cmd) (t : String), cmds[i]? = some (c, t) → CmdOk c) → Built (addProc w pr cmds)
  | sub {w : World} (g cg : Nat) : Built w → Built (subscribe w g cg)
  | start {w : World} (p : Pid) : Built w → Built (autostart w p)

/-- what holds of every world on the loader's way: nothing registered, nobody suspended, nothing pending but start events
    and events that are nobody's wake-up -/
structure BInv (w : World) : Prop where
  ei : EvInv w.ev
  pr : ∀ p, (w.proc p).awaits = [] ∧ (w.proc p).waiters = [] ∧ (w.proc p).blocked = none
  ew : w.evWaiters = []
  pend : ∀ e ∈ w.ev.pending, e.item.a = aStart ∧ Harmless e
  gq : ∀ (g : Nat) (gd : Guard), w.guards[g]? = some gd → gd.q = mkHH 3
  fb : ∀ f g, FrameOn w f g → g < w.guards.size
  sep : CondSep w
  ok : ScriptsOk w

theorem mkHH_spec : GWF (mkHH 3) ∧ abs (mkHH 3) = [] := by
  obtain ⟨s, hs, hwf, habs, _⟩ := init_spec (lt := guard_queue_check) 3 (by decide) (by decide)
  have : mkHH 3 = s := by unfold mkHH; rw [hs]
  rw [this]; exact ⟨hwf, habs⟩

theorem push_get {α : Type} (a : Array α) (x : α) (i : Nat) (y : α) (h : (a.push x)[i]? = some y) :
    a[i]? = some y ∨ (i = a.size ∧ y = x) := by
  rw [Array.getElem?_push] at h
  split at h
  · rename_i hi; right; exact ⟨hi, by simpa using h.symm⟩
  · left; exact h

theorem map_push {α β : Type} (a : Array α) (x : α) (st : α → β) (i : Nat) (g : β)
    (h : ((a.push x)[i]?).map st = some g) : (a[i]?).map st = some g ∨ (i = a.size ∧ st x = g) := by
  rw [Array.getElem?_push] at h
  split at h
  · rename_i hi; right; exact ⟨hi, by simpa using h⟩
  · left; exact h

theorem BInv.grow {w w' : World} (h : BInv w) (hev : w'.ev = w.ev) (hpr : w'.procs = w.procs)
    (hew : w'.evWaiters = w.evWaiters)
    (hgq : ∀ (g : Nat) (gd : Guard), w'.guards[g]? = some gd → gd.q = mkHH 3)
    (hsz : w.guards.size ≤ w'.guards.size) (isC : Bool)
    (hF : ∀ f g, FrameOn w' f g → FrameOn w f g ∨
      (w.guards.size ≤ g ∧ g < w'.guards.size ∧ ((∃ c, f = .condWait c) ↔ isC = true)))
    (hC : ∀ (c g : Nat), w'.conds[c]? = some g → w.conds[c]? = some g ∨ (w.guards.size ≤ g ∧ isC = true)) : BInv w' := by
  have hproc : ∀ p, w'.proc p = w.proc p := fun p => by unfold World.proc; rw [hpr]
  refine ⟨by rw [hev]; exact h.ei, fun p => by rw [hproc]; exact h.pr p, by rw [hew]; exact h.ew,
    by rw [hev]; exact h.pend, hgq, ?_, ?_, ?_⟩
  · intro f g hon
    rcases hF f g hon with h1 | ⟨_, h2, _⟩
    · exact Nat.lt_of_lt_of_le (h.fb f g h1) hsz
    · exact h2
  · intro c g f hc hon
    rcases hC c g hc with hc1 | ⟨hge, hisC⟩
    · have hlt : g < w.guards.size := h.fb (.condWait c) g hc1
      rcases hF f g hon with h1 | ⟨h2, _, _⟩
      · exact h.sep c g f hc1 h1
      · exact absurd hlt (Nat.not_lt.2 h2)
    · rcases hF f g hon with h1 | ⟨_, _, h3⟩
      · exact absurd (h.fb f g h1) (Nat.not_lt.2 hge)
      · exact h3.2 hisC
  · intro p i c t hs; rw [hproc] at hs; exact h.ok p i c t hs

theorem newGuard_gq {w : World} (h : BInv w) (b : Bool) (g : Nat) (gd : Guard)
    (hg : (w.guards.push { q := mkHH 3, isCond := b })[g]? = some gd) : gd.q = mkHH 3 := by
  rcases push_get _ _ _ _ hg with h1 | ⟨_, rfl⟩
  · exact h.gq g gd h1
  · rfl

theorem newGuard2_gq {w : World} (h : BInv w) (g : Nat) (gd : Guard)
    (hg : ((w.guards.push { q := mkHH 3, isCond := false }).push { q := mkHH 3, isCond := false })[g]? = some gd) :
    gd.q = mkHH 3 := by
  rcases push_get _ _ _ _ hg with h1 | ⟨_, rfl⟩
  · exact newGuard_gq h false g gd h1
  · rfl

theorem BInv.addRes {w : World} (h : BInv w) : BInv (addRes w) := by
  refine h.grow rfl rfl rfl (newGuard_gq h false) (by simp [S3.addRes, newGuardW]) false ?_ (fun c g hc => Or.inl hc)
  intro f g hon
  cases f <;> first
    | exact Or.inl hon
    | (rcases map_push _ _ _ _ _ hon with h1 | ⟨_, h1⟩
       · exact Or.inl h1
       · right; simp only [resStat] at h1
         exact ⟨by omega, by simp [S3.addRes, newGuardW]; omega, by simp⟩)

theorem BInv.addPool {w : World} (h : BInv w) (cap : Nat) : BInv (addPool w cap) := by
  refine h.grow rfl rfl rfl (newGuard_gq h false) (by simp [S3.addPool, newGuardW]) false ?_ (fun c g hc => Or.inl hc)
  intro f g hon
  cases f <;> first
    | exact Or.inl hon
    | (rcases map_push _ _ _ _ _ hon with h1 | ⟨_, h1⟩
       · exact Or.inl h1
       · right; simp only [poolStat] at h1
         exact ⟨by omega, by simp [S3.addPool, newGuardW]; omega, by simp⟩)

theorem BInv.addBuf {w : World} (h : BInv w) (cap : Nat) : BInv (addBuf w cap) := by
  refine h.grow rfl rfl rfl (newGuard2_gq h) (by simp [S3.addBuf, newGuardW]; omega) false ?_ (fun c g hc => Or.inl hc)
  intro f g hon
  cases f <;> first
    | exact Or.inl hon
    | (rcases map_push _ _ _ _ _ hon with h1 | ⟨_, h1⟩
       · exact Or.inl h1
       · right; simp only [bufStat] at h1
         exact ⟨by omega, by simp [S3.addBuf, newGuardW]; omega, by simp⟩)

theorem BInv.addOQ {w : World} (h : BInv w) (cap : Nat) : BInv (addOQ w cap) := by
  refine h.grow rfl rfl rfl (newGuard2_gq h) (by simp [S3.addOQ, newGuardW]; omega) false ?_ (fun c g hc => Or.inl hc)
  intro f g hon
  cases f <;> first
    | exact Or.inl hon
    | (rcases map_push _ _ _ _ _ hon with h1 | ⟨_, h1⟩
       · exact Or.inl h1
       · right; simp only [oqStat] at h1
         exact ⟨by omega, by simp [S3.addOQ, newGuardW]; omega, by simp⟩)

theorem BInv.addPQ {w : World} (h : BInv w) (cap : Nat) : BInv (addPQ w cap) := by
  refine h.grow rfl rfl rfl (newGuard2_gq h) (by simp [S3.addPQ, newGuardW]; omega) false ?_ (fun c g hc => Or.inl hc)
  intro f g hon
  cases f <;> first
    | exact Or.inl hon
    | (rcases map_push _ _ _ _ _ hon with h1 | ⟨_, h1⟩
       · exact Or.inl h1
       · right; simp only [pqStat] at h1
         exact ⟨by omega, by simp [S3.addPQ, newGuardW]; omega, by simp⟩)

theorem BInv.addCond {w : World} (h : BInv w) : BInv (addCond w) := by
  refine h.grow rfl rfl rfl (newGuard_gq h true) (by simp [S3.addCond, newGuardW]) true ?_ ?_
  · intro f g hon
    cases f <;> first
      | exact Or.inl hon
      | (rcases push_get _ _ _ _ hon with h1 | ⟨_, h1⟩
         · exact Or.inl h1
         · right
           exact ⟨by omega, by simp [S3.addCond, newGuardW]; omega, by simp⟩)
  · intro c g hc
    rcases push_get _ _ _ _ hc with h1 | ⟨_, h1⟩
    · exact Or.inl h1
    · exact Or.inr ⟨by omega, rfl⟩

theorem BInv.addProc {w : World} (h : BInv w) (pr : Int) (cmds : Array (Cmd × String))
    (hok : ∀ (i : Nat) (c : Cmd) (t : String), cmds[i]? = some (c, t) → CmdOk c) : BInv (addProc w pr cmds) := by
  have hproc : ∀ p, (S3.addProc w pr cmds).proc p = w.proc p ∨
      (S3.addProc w pr cmds).proc p = ({ prio := pr, script := cmds } : Proc) := by
    intro p
    unfold World.proc S3.addProc
    simp only [Array.getD_eq_getD_getElem?, Array.getElem?_push]
    split
    · right; rfl
    · left; rfl
  refine ⟨h.ei, fun p => ?_, h.ew, h.pend, h.gq, h.fb, h.sep, ?_⟩
  · rcases hproc p with e | e <;> rw [e]
    · exact h.pr p
    · exact ⟨rfl, rfl, rfl⟩
  · intro p i c t hs
    rcases hproc p with e | e <;> rw [e] at hs
    · exact h.ok p i c t hs
    · exact hok i c t hs

theorem BInv.subscribe {w : World} (h : BInv w) (g cg : Nat) : BInv (subscribe w g cg) := by
  refine ⟨h.ei, h.pr, h.ew, h.pend, ?_, ?_, h.sep, h.ok⟩
  · intro i gd hg
    simp only [S3.subscribe, Array.getElem?_modify] at hg
    split at hg
    · cases hx : w.guards[i]? with
      | none => rw [hx] at hg; cases hg
      | some gd0 =>
        rw [hx] at hg
        simp only [Option.map_some, Option.some.injEq] at hg
        rw [← hg]; exact h.gq i gd0 hx
    · exact h.gq i gd hg
  · intro f g' hon
    have : (S3.subscribe w g cg).guards.size = w.guards.size := by simp [S3.subscribe]
    rw [this]; exact h.fb f g' hon

theorem BInv.fail {w : World} (h : BInv w) (m : String) : BInv (w.fail m) := by
  have hfo : ∀ f g, FrameOn (w.fail m) f g ↔ FrameOn w f g :=
    frameOn_congr (by simp) (by simp) (by simp) (by simp) (by simp) (by simp)
  refine ⟨by simpa using h.ei, fun p => by simpa using h.pr p, by simpa using h.ew, by simpa using h.pend,
    by simpa using h.gq, ?_, ?_, ?_⟩
  · intro f g hon; simpa using h.fb f g ((hfo f g).1 hon)
  · intro c g f hc hon; exact h.sep c g f (by simpa using hc) ((hfo f g).1 hon)
  · intro p i c t hs; exact h.ok p i c t (by simpa using hs)

theorem BInv.autostart {w : World} (h : BInv w) (p : Pid) : BInv (autostart w p) := by
  unfold S3.autostart
  rcases sched_cases w aStart (p + 1) 0 w.now (w.proc p).prio with ⟨ht, he⟩ | ⟨_, m, he⟩
  · rw [he]
    refine ⟨pushEv_evinv _ _ _ _ _ ht h.ei, h.pr, h.ew, ?_, h.gq, h.fb, h.sep, h.ok⟩
    intro e hm
    simp only [pushEv_pending, List.mem_cons] at hm
    rcases hm with rfl | hm
    · exact ⟨rfl, harmless_mkEv (by decide)⟩
    · exact h.pend e hm
  · rw [he]; exact h.fail m

theorem BInv.empty : BInv {} := by
  refine ⟨Event.init_inv 0, fun p => ⟨rfl, rfl, rfl⟩, rfl, (fun e he => by cases he), (fun g gd hg => by cases hg), ?_, ?_,
    (fun p i c t hs => by cases hs)⟩
  · intro f g hon; cases f <;> first | exact hon.elim | cases hon
  · intro c g f hc; cases hc

theorem Built.binv {w : World} (h : Built w) : BInv w := by
  induction h with
  | empty => exact BInv.empty
  | res _ ih => exact ih.addRes
  | pool cap _ ih => exact ih.addPool cap
  | buf cap _ ih => exact ih.addBuf cap
  | oq cap _ ih => exact ih.addOQ cap
  | pq cap _ ih => exact ih.addPQ cap
  | cond _ ih => exact ih.addCond
  | proc pr cmds _ hok ih => exact ih.addProc pr cmds hok
  | sub g cg _ ih => exact ih.subscribe g cg
  | start p _ ih => exact ih.autostart p

theorem BInv.initOk {w : World} (h : BInv w) (hsz : w.procs.size < 2 ^ 31) : InitOkG w ∧ SideOk w := by
  refine ⟨⟨⟨h.ei, fun p => (h.pr p).1, fun p => (h.pr p).2.1, h.ew, ?_, ?_⟩, ?_, hsz, ?_, fun p => (h.pr p).2.2,
    fun e he => (h.pend e he).2⟩, ⟨h.sep, h.ok⟩⟩
  · intro e he; rw [(h.pend e he).1]; decide
  · intro e he; rw [(h.pend e he).1]; decide
  · intro g gd hg; rw [h.gq g gd hg]; exact mkHH_spec.1
  · intro g k ⟨gd, hg, hk⟩
    rw [h.gq g gd hg, mkHH_spec.2] at hk; cases hk

/-- every world the scenario loader can build (with programs that respect the documented precondition on signal values,
    fewer than 2³¹ processes) satisfies the whole invariant, and so does every state of its run -/
theorem Built.allInv {w : World} (h : Built w) (hsz : w.procs.size < 2 ^ 31) : AllInv w :=
  let ⟨h1, h2⟩ := h.binv.initOk hsz
  h1.all h2

theorem Built.run {w : World} (h : Built w) (hsz : w.procs.size < 2 ^ 31) (fuel : Nat) : AllInv (runAll fuel w) :=
  (h.allInv hsz).runAll fuel w

end CimbaModel.Sim.S3
