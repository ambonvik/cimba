/-
  S3 — the calls of a process (the blocking calls, the commands, the continuation of a suspended call), for all
  registration invariants at once.  A call of process `p` in world `w` runs through steps that register nothing and then
  either returns or suspends `p`, as a rule in a wait on a guard.  `Call R Q w p` collects what an invariant knows about
  this: `R` holds across the steps, `Q` is what is to be shown of the world in which the call ends and of its outcome.
  `Calls` adds the commands that arm timers, wake or end processes and register the caller with a process or an event:
  `Calls.execCmd` is the only case analysis of `execCmd` the registration invariants need.
-/
import CimbaModel.Sim.S3Foot

namespace CimbaModel.Sim.S3
open CimbaModel CimbaModel.Sim CimbaModel.Event CimbaModel.Generated CimbaModel.KPQ
open CimbaModel.HashHeap (HTag Item Order HH WF abs liveTags)

theorem frameOn_of_stat {w w' : World} (hs : Stat w w') (f : Frame) (g : Nat) : FrameOn w' f g ↔ FrameOn w f g := by
  have hmap : ∀ {α β γ : Type} (o o' : Option α) (st : α → β) (pr : β → γ), o'.map st = o.map st →
      o'.map (fun x => pr (st x)) = o.map (fun x => pr (st x)) := by
    intro α β γ o o' st pr h
    have := congrArg (Option.map pr) h
    simpa [Option.map_map, Function.comp_def] using this
  cases f <;> simp only [FrameOn]
  · rw [hs.res]
  · rw [hmap _ _ poolStat Prod.fst (hs.pools _)]
  · rw [hmap _ _ bufStat Prod.fst (hs.bufs _)]
  · rw [hmap _ _ bufStat (fun x => x.2.1) (hs.bufs _)]
  · rw [hmap _ _ oqStat Prod.fst (hs.oqs _)]
  · rw [hmap _ _ oqStat (fun x => x.2.1) (hs.oqs _)]
  · rw [hmap _ _ pqStat Prod.fst (hs.pqs _)]
  · rw [hmap _ _ pqStat (fun x => x.2.1) (hs.pqs _)]
  · rw [hs.conds]

theorem frameOn_congr {w w' : World} (hr : w'.res = w.res) (hpl : w'.pools = w.pools) (hb : w'.bufs = w.bufs)
    (ho : w'.oqs = w.oqs) (hq : w'.pqs = w.pqs) (hc : w'.conds = w.conds) (f : Frame) (g : Nat) :
    FrameOn w' f g ↔ FrameOn w f g := by
  cases f <;> simp only [FrameOn, hr, hpl, hb, ho, hq, hc]

/-- the call has returned (with a value, or as a skipped command): the script of the caller goes on -/
def isCont : Outcome → Bool
  | .ret _ _ => true
  | .skip => true
  | _ => false

/-- `R` also holds across the calls that touch registrations, as far as every caller may make them -/
structure Cmds (R : World → World → Prop) : Prop extends Foot R where
  cancelAwaiteds : ∀ w q, R w (Sim.cancelAwaiteds w q)
  timersClear : ∀ w q, R w (Sim.timersClear w q)
  timerCancel : ∀ w q h, R w (Sim.timerCancel w q h).1
  prioAwait : ∀ w q v a, R w (prioAwaitStep q v w a)
  condSignal : ∀ (w : World) (c g : Nat), w.conds[c]? = some g → R w (Sim.condSignal w g).1

/-- what an invariant knows about a call of `p` in `w`: `R` holds across its steps, `Q` holds of the world in which it
    returns (`stay`), in which `p` is suspended in a wait on the guard `g` that belongs to the frame `f` (`enter`), or in
    which `p` is suspended without waiting for a guard (`blk`) -/
structure Call (R : World → World → Prop) (Q : World × Outcome → Prop) (w : World) (p : Pid) : Prop where
  cmds : Cmds R
  stay : ∀ w' o, isCont o = true → R w w' → Q (w', o)
  enter : ∀ W g d f, R w W → FrameOn w f g → Q (block (guardWaitEnter W g p d) p f)
  blk : ∀ W f, R w W → isGuardFrame f = false → Q (block W p f)

theorem Call.imp {R : World → World → Prop} {Q Q' : World × Outcome → Prop} {w : World} {p : Pid} (hc : Call R Q w p)
    (hQ : ∀ r, Q r → Q' r) : Call R Q' w p :=
  ⟨hc.cmds, fun w' o ho h => hQ _ (hc.stay w' o ho h), fun W g d f h hf => hQ _ (hc.enter W g d f h hf),
    fun W f h hf => hQ _ (hc.blk W f h hf)⟩

section
variable {R : World → World → Prop} {Q : World × Outcome → Prop} {w : World} {p : Pid} (hc : Call R Q w p)
include hc

theorem Call.acquireStep (r : Nat) : Q (acquireStep w p r) := by
  unfold Sim.acquireStep
  split
  · exact hc.stay _ _ rfl (hc.cmds.fail w _)
  · rename_i x hx
    split
    · exact hc.stay _ _ rfl (hc.cmds.same ((Same.grab w r p).trans (Same.recordRes _ r)))
    · exact hc.enter w x.guard _ _ (hc.cmds.refl w) (by show (w.res[r]?).map resStat = _; rw [hx]; rfl)

end

theorem Foot.poolTakeMug {R : World → World → Prop} (hR : Foot R) (w : World) (p : Pid) (pl : Nat) (x : Pool) (rem : Nat)
    (pre : Bool) : R w (Sim.poolTakeMug w p pl x rem pre).1 := by
  have take : R w (poolTake w p pl x rem).1 := by
    unfold Sim.poolTake
    split
    · exact hR.same (((Same.setPoolInUse w pl _).trans (Same.recordPool _ pl)).trans (Same.poolUpdateRecord _ pl p _))
    · exact hR.refl w
  unfold Sim.poolTakeMug
  split
  · exact hR.trans take (hR.poolMug _ _ p pl _)
  · exact take

section
variable {R : World → World → Prop} {Q : World × Outcome → Prop} {w : World} {p : Pid} (hc : Call R Q w p)
include hc

theorem Call.poolLoop (pl rem ini : Nat) (pre : Bool) : Q (poolLoop w p pl rem ini pre) := by
  rw [poolLoop_eq]
  split
  · exact hc.stay _ _ rfl (hc.cmds.fail w _)
  · rename_i x hx
    split
    · exact hc.stay _ _ rfl (hc.cmds.trans (hc.cmds.same (((Same.setPoolInUse w pl _).trans (Same.recordPool _ pl)).trans
        (Same.poolUpdateRecord _ pl p rem))) (hc.cmds.signal _ _))
    · split
      · exact hc.stay _ _ rfl (hc.cmds.poolTakeMug w p pl x rem pre)
      · exact hc.enter _ x.guard _ _ (hc.cmds.poolTakeMug w p pl x rem pre)
          (by show (w.pools[pl]?).map (fun x => (poolStat x).1) = _; rw [hx]; rfl)

theorem Call.bufGetLoop (b rem got : Nat) : Q (bufGetLoop w p b rem got) := by
  unfold Sim.bufGetLoop
  split
  · exact hc.stay _ _ rfl (hc.cmds.fail w _)
  · rename_i x hx
    split
    · dsimp only
      have h1 := hc.cmds.trans (hc.cmds.same ((Same.bufSet hx { x with level := x.level - rem, getTotal := x.getTotal + rem }).trans
        (Same.recordBuf _ b))) (hc.cmds.signal _ x.rear)
      split
      · exact hc.stay _ _ rfl (hc.cmds.trans h1 (hc.cmds.signal _ _))
      · exact hc.stay _ _ rfl h1
    · dsimp only
      refine hc.enter _ x.front _ _ (hc.cmds.trans ?_ (hc.cmds.signal _ _)) (by show (w.bufs[b]?).map (fun x => (bufStat x).1) = _; rw [hx]; rfl)
      split
      · dsimp only
        exact hc.cmds.trans (hc.cmds.same ((Same.bufSet hx _).trans (Same.recordBuf _ b))) (hc.cmds.signal _ _)
      · exact hc.cmds.refl w

theorem Call.bufPutLoop (b rem left : Nat) : Q (bufPutLoop w p b rem left) := by
  unfold Sim.bufPutLoop
  split
  · exact hc.stay _ _ rfl (hc.cmds.fail w _)
  · rename_i x hx
    split
    · dsimp only
      have h1 := hc.cmds.trans (hc.cmds.same ((Same.bufSet hx { x with level := x.level + rem, putTotal := x.putTotal + rem }).trans
        (Same.recordBuf _ b))) (hc.cmds.signal _ x.front)
      split
      · exact hc.stay _ _ rfl (hc.cmds.trans h1 (hc.cmds.signal _ _))
      · exact hc.stay _ _ rfl h1
    · dsimp only
      refine hc.enter _ x.rear _ _ (hc.cmds.trans ?_ (hc.cmds.signal _ _)) (by show (w.bufs[b]?).map (fun x => (bufStat x).2.1) = _; rw [hx]; rfl)
      split
      · dsimp only
        exact hc.cmds.trans (hc.cmds.same ((Same.bufSet hx _).trans (Same.recordBuf _ b))) (hc.cmds.signal _ _)
      · exact hc.cmds.refl w

theorem Call.oqGetLoop (q : Nat) : Q (oqGetLoop w p q) := by
  unfold Sim.oqGetLoop
  split
  · exact hc.stay _ _ rfl (hc.cmds.fail w _)
  · rename_i x hx
    split
    · dsimp only
      exact hc.stay _ _ rfl (hc.cmds.trans (hc.cmds.same ((Same.oqSet hx _).trans (Same.recordOQ _ q))) (hc.cmds.signal _ _))
    · exact hc.enter w x.front _ _ (hc.cmds.refl w) (by show (w.oqs[q]?).map (fun x => (oqStat x).1) = _; rw [hx]; rfl)

theorem Call.oqPutLoop (q obj : Nat) : Q (oqPutLoop w p q obj) := by
  unfold Sim.oqPutLoop
  split
  · exact hc.stay _ _ rfl (hc.cmds.fail w _)
  · rename_i x hx
    split
    · dsimp only
      exact hc.stay _ _ rfl (hc.cmds.trans (hc.cmds.same ((Same.oqSet hx _).trans (Same.recordOQ _ q))) (hc.cmds.signal _ _))
    · exact hc.enter w x.rear _ _ (hc.cmds.refl w) (by show (w.oqs[q]?).map (fun x => (oqStat x).2.1) = _; rw [hx]; rfl)

theorem Call.pqGetLoop (k : Nat) : Q (pqGetLoop w p k) := by
  unfold Sim.pqGetLoop
  split
  · exact hc.stay _ _ rfl (hc.cmds.fail w _)
  · rename_i x hx
    split
    · split
      · dsimp only
        exact hc.stay _ _ rfl (hc.cmds.trans (hc.cmds.same ((Same.pqSet hx _).trans (Same.recordPQ _ k))) (hc.cmds.signal _ _))
      · exact hc.stay _ _ rfl (hc.cmds.fail w _)
      · exact hc.stay _ _ rfl (hc.cmds.fail w _)
    · exact hc.enter w x.front _ _ (hc.cmds.refl w) (by show (w.pqs[k]?).map (fun x => (pqStat x).1) = _; rw [hx]; rfl)

theorem Call.pqPutLoop (k obj : Nat) (pri : Int) (v : Nat) : Q (pqPutLoop w p k obj pri v) := by
  unfold Sim.pqPutLoop
  split
  · exact hc.stay _ _ rfl (hc.cmds.fail w _)
  · rename_i x hx
    split
    · split
      · dsimp only
        exact hc.stay _ _ rfl (hc.cmds.trans (hc.cmds.same ((Same.pqSet hx _).trans ((Same.setVar _ p v _).trans (Same.recordPQ _ k))))
          (hc.cmds.signal _ _))
      · exact hc.stay _ _ rfl (hc.cmds.fail w _)
    · exact hc.enter w x.rear _ _ (hc.cmds.refl w) (by show (w.pqs[k]?).map (fun x => (pqStat x).2.1) = _; rw [hx]; rfl)

end

/-- the commands that arm a timer for a signal, wake another process with a signal, end a process or register the caller
    with a process or an event: what they do to a registration invariant depends on the invariant -/
def Cmd.special : Cmd → Bool
  | .hold _ | .timerAdd _ _ _ | .timerSet _ _ _ | .timerAddOf _ _ _ | .resume _ _ | .interrupt _ _ _ | .stop _ _ | .exit _
  | .waitProc _ | .waitEvent _ => true
  | _ => false

section
variable {R : World → World → Prop} {Q : World × Outcome → Prop} {w : World} {p : Pid} (hc : Call R Q w p)
include hc

theorem Call.execCmd (c : Cmd) (hsp : Cmd.special c = false) : Q (execCmd w p c) := by
  have hR := hc.cmds
  cases c with
  | yield => exact hc.blk w .yield (hR.refl w) rfl
  | timerCancel v =>
    simp only [Sim.execCmd]
    split
    · exact hc.stay _ _ rfl (hR.refl w)
    · exact hc.stay _ _ rfl (hR.timerCancel w p _)
  | timersClear => exact hc.stay _ _ rfl (hR.timersClear w p)
  | timersClearOf q =>
    simp only [Sim.execCmd]
    split
    · exact hc.stay _ _ rfl (hR.refl w)
    · exact hc.stay _ _ rfl (hR.timersClear w q)
  | start q =>
    simp only [Sim.execCmd]
    split
    · exact hc.stay _ _ rfl (hR.refl w)
    · exact hc.stay _ _ rfl (hR.sched w aStart _ 0 _ _ (by decide))
  | prioSet q v =>
    by_cases hq : q < w.procs.size
    · rw [prioSet_eq w p q v hq]
      dsimp only
      exact hc.stay _ _ rfl (hR.trans (hR.trans (hR.same (Same.modProc w q _)) (hR.toPath.foldl (fun w a => hR.prioAwait w q v a) _ _))
        (hR.toPath.foldl (fun w x => hR.same (Same.prioHeldStep q v w x)) _ _))
    · have : q ≥ w.procs.size := Nat.le_of_not_lt hq
      simp only [Sim.execCmd, this, if_true]
      exact hc.stay _ _ rfl (hR.refl w)
  | schedUser v d pri => exact hc.stay _ _ rfl (hR.trans (hR.sched w aUser 0 0 _ pri (by decide)) (hR.same (Same.setVar _ p v _)))
  | cancelUser v =>
    simp only [Sim.execCmd]
    split
    · exact hc.stay _ _ rfl (hR.refl w)
    · exact hc.stay _ _ rfl (hR.evCancel w _)
  | cancelUserAll => exact hc.stay _ _ rfl (hR.cancelUserAll w)
  | acquire r => exact hc.acquireStep r
  | preempt r =>
    simp only [Sim.execCmd]
    split
    · exact hc.stay _ _ rfl (hR.refl w)
    · rename_i x hx
      split
      · exact hc.stay _ _ rfl (hR.refl w)
      · split
        · exact hc.stay _ _ rfl (hR.same ((Same.grab w r p).trans (Same.recordRes _ r)))
        · rename_i victim _
          split
          · have h1 := hR.trans (hR.same (Same.removeHeld w victim (.res r))) (hR.cancelAwaiteds _ victim)
            generalize cancelAwaiteds (removeHeld w victim (HoldRef.res r)).1 victim = w1 at h1 ⊢
            have h2 := hR.trans h1 (hR.same (Same.resMod w1 r fun y => { y with holder := none }))
            generalize ({ w1 with res := w1.res.modify r fun y => { y with holder := none } } : World) = w2 at h2 ⊢
            exact hc.stay _ _ rfl (hR.trans (hR.trans h2 (hR.sched w2 aPreempt _ sigPreempted _ _ (by decide))) (hR.same (Same.grab _ r p)))
          · exact hc.acquireStep r
  | release r =>
    simp only [Sim.execCmd]
    split
    · exact hc.stay _ _ rfl (hR.refl w)
    · rename_i x hx
      split
      · exact hc.stay _ _ rfl (hR.refl w)
      · exact hc.stay _ _ rfl (hR.trans (hR.same ((Same.removeHeld w p _).trans ((Same.resSet (w := (removeHeld w p (.res r)).1) hx _).trans
          (Same.recordRes _ r)))) (hR.signal _ _))
  | poolAcquire pl n =>
    simp only [Sim.execCmd]
    split
    · exact hc.stay _ _ rfl (hR.refl w)
    · split
      · exact hc.stay _ _ rfl (hR.refl w)
      · exact hc.poolLoop pl n _ false
  | poolPreempt pl n =>
    simp only [Sim.execCmd]
    split
    · exact hc.stay _ _ rfl (hR.refl w)
    · split
      · exact hc.stay _ _ rfl (hR.refl w)
      · exact hc.poolLoop pl n _ true
  | poolRelease pl n =>
    simp only [Sim.execCmd]
    split
    · exact hc.stay _ _ rfl (hR.refl w)
    · rename_i x hx
      split
      · exact hc.stay _ _ rfl (hR.refl w)
      · refine hc.stay _ _ rfl (hR.trans (hR.same (Same.trans ?_ ((Same.setPoolInUse _ pl _).trans (Same.recordPool _ pl)))) (hR.signal _ _))
        split
        · split
          · exact (Same.poolSet hx _).trans (Same.removeHeld _ p _)
          · exact Same.fail w _
        · exact Same.setHeldAmount w pl p _
  | bufGet b n =>
    simp only [Sim.execCmd]
    split
    · exact hc.stay _ _ rfl (hR.refl w)
    · exact hc.bufGetLoop b n 0
  | bufPut b n =>
    simp only [Sim.execCmd]
    split
    · exact hc.stay _ _ rfl (hR.refl w)
    · exact hc.bufPutLoop b n n
  | oqGet q =>
    simp only [Sim.execCmd]
    split
    · exact hc.stay _ _ rfl (hR.refl w)
    · exact hc.oqGetLoop q
  | oqPut q obj =>
    simp only [Sim.execCmd]
    split
    · exact hc.stay _ _ rfl (hR.refl w)
    · exact hc.oqPutLoop q obj
  | pqGet k =>
    simp only [Sim.execCmd]
    split
    · exact hc.stay _ _ rfl (hR.refl w)
    · exact hc.pqGetLoop k
  | pqPut k obj pri v =>
    simp only [Sim.execCmd]
    split
    · exact hc.stay _ _ rfl (hR.refl w)
    · exact hc.pqPutLoop k obj pri v
  | pqCancel k v =>
    simp only [Sim.execCmd]
    split
    · exact hc.stay _ _ rfl (hR.refl w)
    · rename_i x hx
      split
      · exact hc.stay _ _ rfl (hR.refl w)
      · split
        · split
          · exact hc.stay _ _ rfl (hR.trans (hR.same ((Same.pqSet hx _).trans (Same.recordPQ _ k))) (hR.signal _ _))
          · exact hc.stay _ _ rfl (hR.same (Same.pqSet hx _))
        · exact hc.stay _ _ rfl (hR.fail w _)
  | pqReprio k v pri =>
    simp only [Sim.execCmd]
    split
    · exact hc.stay _ _ rfl (hR.refl w)
    · rename_i x hx
      split
      · exact hc.stay _ _ rfl (hR.refl w)
      · split
        · exact hc.stay _ _ rfl (hR.same (Same.pqSet hx _))
        · exact hc.stay _ _ rfl (hR.fail w _)
  | pqPos k v =>
    simp only [Sim.execCmd]
    split
    · exact hc.stay _ _ rfl (hR.refl w)
    · split
      · exact hc.stay _ _ rfl (hR.refl w)
      · exact hc.stay _ _ rfl (hR.refl w)
  | condWait c kind a b =>
    simp only [Sim.execCmd]
    split
    · exact hc.stay _ _ rfl (hR.refl w)
    · rename_i g hg
      exact hc.enter w g _ _ (hR.refl w) hg
  | condSignal c =>
    simp only [Sim.execCmd]
    split
    · exact hc.stay _ _ rfl (hR.refl w)
    · rename_i g hg
      exact hc.stay _ _ rfl (hR.condSignal w c g hg)
  | condCancel c q =>
    simp only [Sim.execCmd]
    split
    · exact hc.stay _ _ rfl (hR.refl w)
    · rename_i g hg
      split
      · exact hc.stay _ _ rfl (hR.refl w)
      · split
        · exact hc.stay _ _ rfl (hR.trans (hR.guardRemove w g q) (hR.sched _ aRes _ sigCancelled _ _ (by decide)))
        · exact hc.stay _ _ rfl (hR.guardRemove w g q)
  | condRemove c q =>
    simp only [Sim.execCmd]
    split
    · exact hc.stay _ _ rfl (hR.refl w)
    · rename_i g hg
      split
      · exact hc.stay _ _ rfl (hR.refl w)
      · exact hc.stay _ _ rfl (hR.guardRemove w g q)
  | setFlag k v => exact hc.stay _ _ rfl (hR.same (Same.flags w _))
  | recStart kind idx => exact hc.stay _ _ rfl (hR.same (Same.setRecording w kind idx true))
  | recStop kind idx => exact hc.stay _ _ rfl (hR.same (Same.setRecording w kind idx false))
  | _ => cases hsp
end

/-- what the programs must respect of a signal `Ok` demands: timers are armed, processes resumed and interrupted only with
    signals that are `Ok` (a resume or interrupt with 0 is refused by the library) -/
def Cmd.okSig (Ok : Int → Prop) : Cmd → Prop
  | .timerAdd _ _ sig | .timerSet _ _ sig | .timerAddOf _ _ sig => Ok sig
  | .resume _ sig | .interrupt _ sig _ => sig = 0 ∨ Ok sig
  | _ => True

theorem Cmd.okSig_true (c : Cmd) : Cmd.okSig (fun _ => True) c := by
  cases c <;> first | trivial | exact Or.inr trivial

/-- `Call` with what an invariant knows about the commands of `Cmd.special`: arming a timer of `p` or of a running
    process, waking a process with a signal, the end of another process (`R` holds across these) and of `p` itself,
    `hold`, and the registration of `p` with a process or an event (`Q` of the world in which `p` ends or is suspended) -/
structure Calls (R : World → World → Prop) (Q : World × Outcome → Prop) (Ok : Int → Prop) (w : World) (p : Pid) : Prop
    extends Call R Q w p where
  hold : ∀ d, Q (block (timerAdd w p d sigSuccess).1 p (.hold (timerAdd w p d sigSuccess).2))
  arm : ∀ q d sig, q = p ∨ isRunning w q = true → Ok sig → R w (timerAdd w q d sig).1
  rearm : ∀ d sig, Ok sig → R w (timerAdd (timersClear w p) p d sig).1
  poke : ∀ a q sig pri, a = aResume ∨ a = aIntr → sig ≠ 0 → Ok sig → R w (sched w a (q + 1) sig w.now pri).1
  finish : ∀ q v, q ≠ p → isRunning w q = true → R w (finishProc w q v true)
  ended : ∀ v s, Q (finishProc w p v s, .ended)
  waitProc : ∀ q, q < w.procs.size → (w.proc q).status ≠ .finished →
    Q (block ((addAwait w p (.proc q)).modProc q fun y => { y with waiters := p :: y.waiters }) p (.waitProc q))
  waitEvent : ∀ h, h ≠ 0 → isScheduled w.ev h = true →
    Q (block (addAwait { w with evWaiters := (h, p :: (w.evWaiters.lookup h).getD []) :: w.evWaiters.filter (·.1 ≠ h) } p (.event h)) p
      (.waitEvent h))

theorem Calls.execCmd {R : World → World → Prop} {Q : World × Outcome → Prop} {Ok : Int → Prop} {w : World} {p : Pid}
    (hc : Calls R Q Ok w p) (c : Cmd) (hok : Cmd.okSig Ok c) : Q (execCmd w p c) := by
  have hR := hc.cmds
  cases c with
  | hold d => exact hc.hold d
  | timerAdd v d sig => exact hc.stay _ _ rfl (hR.trans (hc.arm p d sig (Or.inl rfl) hok) (hR.same (Same.setVar _ p v _)))
  | timerSet v d sig => exact hc.stay _ _ rfl (hR.trans (hc.rearm d sig hok) (hR.same (Same.setVar _ p v _)))
  | timerAddOf q d sig =>
    simp only [Sim.execCmd]
    split
    · exact hc.stay _ _ rfl (hR.refl w)
    · rename_i hq
      exact hc.stay _ _ rfl (hc.arm q d sig (Or.inr (by simpa using hq)) hok)
  | resume q sig =>
    simp only [Sim.execCmd]
    split
    · exact hc.stay _ _ rfl (hR.refl w)
    · rename_i hn
      have hs0 : sig ≠ 0 := fun h => hn (Or.inr h)
      exact hc.stay _ _ rfl (hc.poke aResume q sig _ (Or.inl rfl) hs0 (hok.resolve_left hs0))
  | interrupt q sig pri =>
    simp only [Sim.execCmd]
    split
    · exact hc.stay _ _ rfl (hR.refl w)
    · rename_i hn
      have hs0 : sig ≠ 0 := fun h => hn (Or.inr h)
      exact hc.stay _ _ rfl (hc.poke aIntr q sig pri (Or.inr rfl) hs0 (hok.resolve_left hs0))
  | stop q v =>
    simp only [Sim.execCmd]
    by_cases hqp : q = p
    · rw [if_pos hqp]; exact hc.ended v true
    · rw [if_neg hqp]
      split
      · rename_i hq; exact hc.stay _ _ rfl (hc.finish q v hqp hq)
      · exact hc.stay _ _ rfl (hR.refl w)
  | exit v => exact hc.ended v false
  | waitProc q =>
    simp only [Sim.execCmd]
    split
    · exact hc.stay _ _ rfl (hR.refl w)
    · rename_i hq
      split
      · exact hc.stay _ _ rfl (hR.refl w)
      · rename_i hf; exact hc.waitProc q (Nat.lt_of_not_le hq) hf
  | waitEvent v =>
    simp only [Sim.execCmd]
    split
    · exact hc.stay _ _ rfl (hR.refl w)
    · rename_i hs
      exact hc.waitEvent _ (fun h => hs (Or.inl h)) (Decidable.of_not_not fun h => hs (Or.inr h))
  | _ => exact hc.toCall.execCmd _ rfl

theorem Call.retry {R : World → World → Prop} {Q : World × Outcome → Prop} {w : World} {p : Pid} (hc : Call R Q w p) (f : Frame) :
    Q (retry f w p) := by
  cases f with
  | acquire r => exact hc.acquireStep r
  | pool pl rem ini pre => exact hc.poolLoop pl rem ini pre
  | bufGet b rem got => exact hc.bufGetLoop b rem got
  | bufPut b rem left => exact hc.bufPutLoop b rem left
  | oqGet q => exact hc.oqGetLoop q
  | oqPut q obj => exact hc.oqPutLoop q obj
  | pqGet k => exact hc.pqGetLoop k
  | pqPut k obj pri v => exact hc.pqPutLoop k obj pri v
  | _ => exact hc.stay _ _ rfl (hc.cmds.refl w)

theorem Foot.giveUp {R : World → World → Prop} (hR : Foot R) (f : Frame) (w : World) (p : Pid) : R w (S3.giveUp f w p) := by
  cases f with
  | pool pl rem ini pre => exact hR.poolRollback w p pl ini
  | condWait c => exact hR.cancelKindFor w p aCond none
  | _ => exact hR.refl w

end CimbaModel.Sim.S3
