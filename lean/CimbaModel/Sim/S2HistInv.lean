/-
  S2 — recorded histories (C14): `RecKind`, what one kind of recordable object shows of `execCmd`, `resumeFrame` and
  `finishProc` (each a `Rec`, read off the command's chain in S2Cmd); from it both the invariant in every reachable
  state and "histories only grow".  At the end: the buffers (the pools are in S2HistPool, the other kinds in S2HistAll).
-/
import CimbaModel.Event.Lemmas
import CimbaModel.Sim.S2Buf

namespace CimbaModel.Sim
open CimbaModel CimbaModel.Event CimbaModel.Generated CimbaModel.KPQ
open CimbaModel.HashHeap (HTag Item Order HH)

theorem timeOk_tick {q q' : EvQ} {t : HTag} (hq : TimeOk q) (he : executeNext q = some (t, q')) :
    TimeOk q' ∧ q.now ≤ q'.now := by
  unfold executeNext at he
  split at he
  · cases he
  · rename_i m hm
    simp only [Option.some.injEq, Prod.mk.injEq] at he
    obtain ⟨rfl, rfl⟩ := he
    obtain ⟨hmem, hmin⟩ := minTag_spec hm
    refine ⟨?_, hq _ hmem⟩
    intro x hx
    simp only [KPQ.remove, List.mem_filter] at hx
    have hx1 := hmin x hx.1
    have : ¬ HashHeap.SpecOrders.eventLt x m := by
      intro hc
      rw [← CimbaModel.HashHeap.Orders.heap_order_check_iff] at hc
      rw [hx1] at hc; cases hc
    unfold HashHeap.SpecOrders.eventLt at this
    show m.d ≤ x.d
    omega

/-- a predicate that only needs the clock not to run backwards: together with "nothing pending in the past" it is
    preserved as soon as the commands, resumptions and process ends preserve it -/
theorem Preserved.withTime {J : World → Prop}
    (same : ∀ {w w'}, Same w w' → J w → J w')
    (mono : ∀ {w : World} (ev' : EvQ) (n : Nat), w.ev.now ≤ ev'.now → J w → J { w with ev := ev', dispatched := n })
    (exec : ∀ w p c, J w → J (execCmd w p c).1)
    (resume : ∀ w p f sig, J w → J (resumeFrame w p f sig).1)
    (finish : ∀ w p v st, J w → J (finishProc w p v st))
    (clear : ∀ w p (f : Proc → Proc), J w → J (w.modProc p f)) :
    Preserved (fun w => TimeOk w.ev ∧ J w) where
  clear w p f _ _ _ h := ⟨h.1, clear w p f h.2⟩
  same hs h := ⟨hs.timeOk h.1, same hs h.2⟩
  tick he h := ⟨(timeOk_tick h.1 he).1, mono _ _ (timeOk_tick h.1 he).2 h.2⟩
  exec w p c _ h := ⟨(execCmd_fp w p c).timeOk h.1, exec w p c h.2⟩
  resume w p f sig _ _ h := ⟨(resumeFrame_fp w p f sig).timeOk h.1, resume w p f sig h.2⟩
  finish w p v st h := ⟨(finishProc_fp w p v st).timeOk h.1, finish w p v st h.2⟩

def HistRes (w : World) : Prop := ArrAll (RecOK resOps w.now) w.res
def HistPool (w : World) : Prop := ArrAll (RecOK poolOps w.now) w.pools
def HistBuf (w : World) : Prop := ArrAll (RecOK bufOps w.now) w.bufs
def HistOQ (w : World) : Prop := ArrAll (RecOK oqOps w.now) w.oqs
def HistPQ (w : World) : Prop := ArrAll (RecOK pqOps w.now) w.pqs

section
variable {α : Type} {R : RecOps α} {sel : World → Array α}

/-- what is to be shown of one kind of recordable object: the steps that every invariant has to be carried through -/
structure RecKind (R : RecOps α) (sel : World → Array α) : Prop where
  same : ∀ {w w' : World}, Same w w' → sel w' = sel w
  tick : ∀ (w : World) (ev' : EvQ) (n : Nat), sel { w with ev := ev', dispatched := n } = sel w
  clear : ∀ (w : World) (p : Pid) (f : Proc → Proc), sel (w.modProc p f) = sel w
  exec : ∀ w p c, Rec R sel w (execCmd w p c).1
  resume : ∀ w p f sig, Rec R sel w (resumeFrame w p f sig).1
  finish : ∀ w p v st, Rec R sel w (finishProc w p v st)

/-- … then in every reachable state sample times are in order and the last sample of a recording object carries its
    current state value -/
theorem RecKind.preserved (k : RecKind R sel) : Preserved (fun w => TimeOk w.ev ∧ ArrAll (RecOK R w.now) (sel w)) :=
  Preserved.withTime (fun hs h => (Rec.of_eq (k.same hs) hs.now_eq).hist h)
    (fun {w} ev' n hle h => by
      show ArrAll (RecOK R ev'.now) (sel { w with ev := ev', dispatched := n })
      rw [k.tick]
      exact ArrAll.mono h (fun x ok => ok.mono _ hle))
    (fun w p c h => (k.exec w p c).hist h) (fun w p f sig h => (k.resume w p f sig).hist h)
    (fun w p v st h => (k.finish w p v st).hist h)
    (fun w p f h => (Rec.of_eq (w := w) (k.clear w p f) rfl).hist h)

/-- … and, relative to the state `wb` right after the clock tick of the current event, histories only grow, by samples
    taken at the time of that event -/
theorem RecKind.core (k : RecKind R sel) (wb : World) :
    PreservedCore (fun w => w.now = wb.now ∧ GrowArr R wb.now (sel wb) (sel w)) where
  same hs h := (Rec.of_eq (k.same hs) hs.now_eq).grow h
  exec w p c _ h := (k.exec w p c).grow h
  resume w p f sig _ _ h := (k.resume w p f sig).grow h
  finish w p v st h := (k.finish w p v st).grow h
  clear w p f _ _ _ h := (Rec.of_eq (w := w) (k.clear w p f) rfl).grow h

/-- a kind walked as `ObjKind` is walked as `RecKind` -/
theorem ObjKind.recKind {K : Kind α} (k : ObjKind K sel) : RecKind K.toRecOps sel where
  same := k.same
  tick := k.tick
  clear := k.clear
  exec w p c := (k.exec w p c).rec
  resume w p f sig := (k.resume w p f sig).rec
  finish w p v st := (k.finish w p v st).rec

end

theorem recBuf : RecKind bufOps World.bufs := objBuf.recKind

theorem HistBuf.preserved : Preserved (fun w => TimeOk w.ev ∧ HistBuf w) := recBuf.preserved

end CimbaModel.Sim
