/-
  S3 — `TInv`: its `Cmds` and `Call` instances, all commands and resumptions; an activation (`TInv.act`); `TInvB` at a
  dispatch (`TInvB.run`: between the pop of a timer event and the action's `removeAwait` the invariant does not hold).
-/
import CimbaModel.Sim.S3TInvReg
import CimbaModel.Sim.S3Keep

namespace CimbaModel.Sim.S3
open CimbaModel CimbaModel.Sim CimbaModel.Event CimbaModel.Generated CimbaModel.KPQ
open CimbaModel.HashHeap (HTag Item Order HH WF abs liveTags)

variable {ex : Pid → Prop} {w : World} {p : Pid}

theorem TInv.cmds : Cmds fun w w' => TInv ex w → TInv ex w' :=
  { TInv.foot with
    cancelAwaiteds := fun _ q h => h.cancelAwaiteds q
    timersClear := fun _ q h => h.timersClear q
    timerCancel := fun _ q k h => h.timerCancel_fst q k
    prioAwait := fun w q v a => prioAwaitStep_rel (R := fun w w' => TInv ex w → TInv ex w') (Path.ofPred _) q v (fun _ m h => h.fail m)
      (fun _ _ _ hr h => h.reprioEv hr) (fun w g => TInv.guardFree.reprioGuard w q v g) w a
    condSignal := fun w _ g _ h => TInv.guardFree.condSignal w g h }

theorem TInv.call (hp : TInv ex w) : Call (fun w w' => TInv ex w → TInv ex w') (fun r => TInv ex r.1) w p where
  cmds := TInv.cmds
  stay := fun _ _ _ h => h hp
  enter := fun _ g d f h _ => ((h hp).guardWaitEnter g p d).block_fst p f
  blk := fun _ f h _ => (h hp).block_fst p f

theorem TInv.calls (hp : TInv ex w) (hlt : p < w.procs.size) :
    Calls (fun w w' => TInv ex w → TInv ex w') (fun r => TInv ex r.1) (fun _ => True) w p where
  toCall := hp.call
  hold d := (hp.timerAdd_fst p d sigSuccess hlt).block_fst p _
  arm q d sig hq _ h := h.timerAdd_fst q d sig (hq.elim (fun e => e ▸ hlt) fun hr => lt_of_running (by simpa [isRunning] using hr))
  rearm d sig _ h := (h.timersClear p).timerAdd_fst p d sig (by rw [(Evo.eff (.timersClear .refl p)).psize]; exact hlt)
  poke a _ _ _ ha _ _ h := h.sched_other a _ _ _ _ (by rcases ha with rfl | rfl <;> decide)
  finish q v _ _ h := h.finishProc q v true
  ended v s := hp.finishProc p v s
  waitProc q _ _ := ((hp.addAwait_other p (.proc q) rfl).modProc_ctl q _ (by intro; rfl)).block_fst p _
  waitEvent k _ _ := ((hp.setEvWaiters _).addAwait_other p (.event k) rfl).block_fst p _

theorem TInv.execCmd_fst (hp : TInv ex w) (hlt : p < w.procs.size) (c : Cmd) : TInv ex (execCmd w p c).1 :=
  (hp.calls hlt).execCmd c (Cmd.okSig_true c)

theorem evCancel_not_pending (w : World) (h : Nat) (hi : EvInv w.ev) : h ∉ keys (evCancel w h).1.ev.pending := by
  rw [evCancel_eq]
  split
  · rename_i hk
    simp only [pushAll_pending]
    intro hmem
    obtain ⟨e, he, hek⟩ := Event.mem_keys.1 hmem
    rcases List.mem_append.1 he with he | he
    · have h1 := (wakeEvs_props he).1
      obtain ⟨e0, he0, hk0⟩ := Event.mem_keys.1 hk
      have h2 := EvInv.key_le hi he0
      simp only [cancelEv_counter] at h1
      omega
    · exact (mem_remove.1 he).2 hek
  · rename_i hk; exact hk

theorem TInv.resumeFrame_fst (hp : TInv ex w) (f : Frame) (sig : Int) : TInv ex (resumeFrame w p f sig).1 := by
  cases hg : isGuardFrame f with
  | true =>
    exact resumeFrame_wait (TInv ex) hg p sig (fun _ => hp) (fun g _ _ => (hp.guardWaitLeave g p sig).call.retry f)
      (fun g _ _ => TInv.foot.giveUp f _ p (hp.guardWaitLeave g p sig))
  | false =>
    cases f with
    | hold h =>
      simp only [Sim.resumeFrame]
      split
      · -- the hold's own timer is cancelled, then forgotten (again)
        have h1 := hp.timerCancel_fst p h
        refine h1.removeAwait_time_gone p h ?_
        intro e he hk _ _
        have hei : EvInv (removeAwait w p (.time h)).1.ev := by simp only [removeAwait]; exact hp.ei
        have := evCancel_not_pending (removeAwait w p (.time h)).1 h hei
        simp only [Sim.timerCancel] at he
        exact this (Event.mem_keys.2 ⟨e, he, hk⟩)
      · exact hp
    | yield => exact hp
    | waitProc q =>
      have h1 := hp.removeAwait_other p (.proc q) rfl
      simp only [Sim.resumeFrame]
      split
      · split
        · exact h1.modProc_ctl q _ (fun _ => rfl)
        · exact TInv.foot.cancelKindFor _ p aProc none h1
      · exact h1
    | waitEvent k =>
      have h1 := hp.removeAwait_other p (.event k) rfl
      simp only [Sim.resumeFrame]
      split
      · split
        · exact h1.setEvWaiters _
        · exact TInv.foot.cancelKindFor _ p aEvent none h1
      · exact h1
    | _ => cases hg

theorem TInv.act : Act (TInv ex) (TInv ex) Caller fun _ _ _ => True where
  emit h l := h.emit l
  fail h m := h.fail m
  pc h p n := h.modProc_ctl p (fun y => { y with pc := n }) fun _ => rfl
  finish h p := h.finishProc p 0 false
  exec h p _ c _ hs l := (h.emit l).execCmd_fst (p := p) (lt_np_of_script _ _ _ _ hs) c
  next _ _ hc _ _ hs _ _ _ l n heq ho := hc.next hs heq ho l n
  resume h p f sig _ hrun _ :=
    ⟨(h.modProc_ctl p (fun y => { y with blocked := none }) fun _ => rfl).resumeFrame_fst f sig,
      fun _ _ _ l n heq => Caller.resumed hrun heq l n⟩

theorem TInv.resumeProc (hp : TInv ex w) (p : Pid) (sig : Int) : TInv ex (resumeProc w p sig) :=
  TInv.act.resumeProc hp p sig trivial

def TInvB (w : World) : Prop := TInv noEx w

/-- after the next event has been taken off the queue (and its waiters woken): if it was a timer event, its
    registration — and only that — is dangling until the action removes it -/
theorem TInvB.takeNext_time {w : World} (hp : TInvB w) {t : HTag} {ev' : EvQ} (hn : executeNext w.ev = some (t, ev'))
    (ha : t.item.a = aTime) : TInvB (removeAwait (takeNext w t ev') (t.item.b - 1) (.time t.key)).1 := by
  obtain ⟨htm, hprocs, heiT, hpend', hstay, hcan, hctr⟩ := takeNext_facts hp.ei hn
  have hb0 := hp.tb t htm ha
  have hb : t.item.b = (t.item.b - 1) + 1 := by omega
  generalize takeNext w t ev' = wT at hprocs heiT hpend' hstay hcan hctr
  rw [removeAwait_fst_eq]
  have hprocT : ∀ x, wT.proc x = w.proc x := proc_congr hprocs
  have hpr : ∀ x, ((wT.modProc (t.item.b - 1) fun x => { x with awaits := (removeFirst x.awaits (.time t.key)).1 }).proc x).awaits =
      if x = t.item.b - 1 ∧ t.item.b - 1 < w.procs.size then (removeFirst (w.proc x).awaits (.time t.key)).1
      else (w.proc x).awaits := by
    intro x; rw [modProc_proc, hprocs]; split
    · rename_i hx; rw [hx.1, hprocT]
    · rw [hprocT]
  have hsub : ∀ x a, a ∈ ((wT.modProc (t.item.b - 1) fun x => { x with awaits := (removeFirst x.awaits (.time t.key)).1 }).proc x).awaits →
      a ∈ (w.proc x).awaits := by
    intro x a hm; rw [hpr] at hm; split at hm
    · exact removeFirst_subset _ _ _ hm
    · exact hm
  have hne : (aEvent : Nat) ≠ aTime := by decide
  refine { ei := heiT, t1 := ?_, t2 := ?_, tle := ?_, tnd := ?_, tb := ?_ }
  · intro x h h0 hh
    have hold := hsub x _ hh
    rcases hp.t1 x h h0 hold with ⟨e, he, hk, hea, heb⟩ | hc
    · by_cases hkt : h = t.key
      · -- it is the dispatched timer itself: its registration has just been removed
        exfalso
        have het : e = t := HashHeap.eq_of_key_eq hp.ei.part.keysNodup he htm (hk.trans hkt)
        subst het
        have hxp : x = e.item.b - 1 := Nat.add_right_cancel (heb.symm.trans hb)
        subst hxp
        rw [hpr] at hh
        have hlt : e.item.b - 1 < w.procs.size := by
          rcases Nat.lt_or_ge (e.item.b - 1) w.procs.size with h' | h'
          · exact h'
          · rw [proc_oob w h'] at hold; cases hold
        rw [if_pos ⟨rfl, hlt⟩, hkt] at hh
        have hnd := hp.tnd (e.item.b - 1)
        have h0' : e.key ≠ 0 := by rw [← hkt]; exact h0
        have hnd' : ((w.proc (e.item.b - 1)).awaits.filter fun a => decide (a ≠ .time 0) && isTimeA a).Nodup := by
          have := hnd; unfold timeAw at this; rwa [List.filter_filter] at this
        have hf : (fun a => decide (a ≠ Await.time 0) && isTimeA a) (Await.time e.key) = true := by simp [isTimeA, h0']
        have := removeFirst_filter_self (w.proc (e.item.b - 1)).awaits (.time e.key)
          (fun a => decide (a ≠ Await.time 0) && isTimeA a) hf
        have hin' : Await.time e.key ∈ ((removeFirst (w.proc (e.item.b - 1)).awaits (.time e.key)).1).filter
            (fun a => decide (a ≠ Await.time 0) && isTimeA a) := List.mem_filter.2 ⟨hh, hf⟩
        rw [this] at hin'
        exact (removeFirst_nodup _ _ hnd').2 hin'
      · exact Or.inl ⟨e, hstay e he (by rw [hk]; exact hkt), hk, hea, heb⟩
    · exact Or.inr (by show h ∈ wT.ev.cancelled; rw [hcan]; exact hc)
  · intro e he hea x hb' hx
    rcases hpend' e he with ⟨hew, hek⟩ | hev
    · have := hp.t2 e hew hea x hb' hx
      rw [hpr]; split
      · exact removeFirst_mem_ne _ _ _ this (fun heq => hek (by injection heq))
      · exact this
    · rw [hea] at hev; exact absurd hev.symm hne
  · intro x h hh
    exact Nat.le_trans (hp.tle x h (hsub x _ hh)) hctr
  · intro x
    unfold timeAw; rw [hpr]; split
    · exact List.Nodup.sublist (((removeFirst_sublist _ _).filter _).filter _) (hp.tnd x)
    · exact hp.tnd x
  · intro e he hea
    rcases hpend' e he with ⟨hew, _⟩ | hev
    · exact hp.tb e hew hea
    · rw [hea] at hev; exact absurd hev.symm hne

/-- … and if it was anything else, nothing dangles -/
theorem TInvB.takeNext_other {w : World} (hp : TInvB w) {t : HTag} {ev' : EvQ} (hn : executeNext w.ev = some (t, ev'))
    (ha : t.item.a ≠ aTime) : TInvB (takeNext w t ev') := by
  obtain ⟨htm, hprocs, heiT, hpend', hstay, hcan, hctr⟩ := takeNext_facts hp.ei hn
  generalize takeNext w t ev' = wT at hprocs heiT hpend' hstay hcan hctr
  have hprocT : ∀ x, wT.proc x = w.proc x := proc_congr hprocs
  have hne : (aEvent : Nat) ≠ aTime := by decide
  refine { ei := heiT, t1 := ?_, t2 := ?_, tle := ?_, tnd := ?_, tb := ?_ }
  · intro x h h0 hh
    rw [hprocT] at hh
    rcases hp.t1 x h h0 hh with ⟨e, he, hk, hea, heb⟩ | hc
    · refine Or.inl ⟨e, hstay e he (fun hkt => ?_), hk, hea, heb⟩
      have : e = t := HashHeap.eq_of_key_eq hp.ei.part.keysNodup he htm hkt
      subst this; exact ha hea
    · exact Or.inr (by rw [hcan]; exact hc)
  · intro e he hea x hb' hx
    rcases hpend' e he with ⟨hew, _⟩ | hev
    · rw [hprocT]; exact hp.t2 e hew hea x hb' hx
    · rw [hea] at hev; exact absurd hev.symm hne
  · intro x h hh
    rw [hprocT] at hh
    exact Nat.le_trans (hp.tle x h hh) hctr
  · intro x; unfold timeAw; rw [hprocT]; exact hp.tnd x
  · intro e he hea
    rcases hpend' e he with ⟨hew, _⟩ | hev
    · exact hp.tb e hew hea
    · rw [hea] at hev; exact absurd hev.symm hne

theorem TInvB.run : Run TInvB TInvB Caller fun _ _ _ => True where
  toAct := TInv.act
  start h t _ hn ha :=
    have hT := h.takeNext_other hn (by rw [ha]; decide)
    ⟨hT, fun _ => ⟨TInv.modProc_ctl hT _ _ fun _ => rfl, Caller.started _ _⟩⟩
  time h _ _ hn ha := ⟨h.takeNext_time hn ha, trivial⟩
  wake h t _ hn k hk :=
    ⟨TInv.removeAwaitKind_other (h.takeNext_other hn (by rcases hk with ⟨e, _⟩ | ⟨e, _⟩ | ⟨e, _⟩ <;> rw [e] <;> decide)) _ k
      (by rcases hk with ⟨_, rfl⟩ | ⟨_, rfl⟩ | ⟨_, rfl⟩ <;> intro a h <;> cases a <;> first | rfl | cases h), trivial⟩
  grant h t _ hn ha := ⟨h.takeNext_other hn (by rcases ha with e | e | e <;> rw [e] <;> decide), trivial⟩
  intr h t _ hn ha := ⟨TInv.cancelAwaiteds (h.takeNext_other hn (by rw [ha]; decide)) _, trivial⟩
  other h t _ hn ho := h.takeNext_other hn (ho aTime (by simp [actKinds]))

/-- I_timers is preserved by `dispatch`, for all programs -/
theorem TInvB.dispatch {w w' : World} (hp : TInvB w) (hd : dispatch w = some w') : TInvB w' := TInvB.run.dispatch hp hd

theorem TInvB.reach {w w' : World} (h : Reach w w') (hp : TInvB w) : TInvB w' :=
  h.keeps TInvB.dispatch hp

theorem TInvB.runAll (fuel : Nat) (w : World) (hp : TInvB w) : TInvB (runAll fuel w) := TInvB.run.runAll fuel hp

end CimbaModel.Sim.S3
