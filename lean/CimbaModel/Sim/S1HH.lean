/-
  S1 — the hashheap operations as the process-layer model uses them (results matched against `.ok`), in terms of
  the set of live keys: HashHeap/Use.lean under the names and in the shapes the S1 files use.
-/
import CimbaModel.HashHeap.Use

namespace CimbaModel.Sim
open CimbaModel CimbaModel.KPQ CimbaModel.HashHeap

section
variable {lt : Order} [StrictWeak lt]

def hkeys (s : HH) : List Nat := keys (abs s)

theorem hkeys_nodup {s : HH} (h : WF lt s) : (hkeys s).Nodup := h.keys_nodup

theorem hkeys_pos {s : HH} (h : WF lt s) {k : Nat} (hk : k ∈ hkeys s) : 1 ≤ k := by
  have := (h.keys_ne_zero hk).1; omega

theorem hh_remove_ok {s s' : HH} {k : Nat} {r : Bool} (h : WF lt s) (hk0 : k ≠ 0)
    (hr : remove lt s k = .ok (s', r)) :
    WF lt s' ∧ (∀ x, x ∈ hkeys s' ↔ x ∈ hkeys s ∧ x ≠ k) ∧ r = decide (k ∈ hkeys s) :=
  have a := remove_inv h hk0 hr
  ⟨a.wf, a.keys, a.res⟩

theorem hh_dequeue_ok {s s' : HH} {x : Option HTag} (h : WF lt s) (hc : s.count ≠ 0)
    (hr : dequeue lt s = .ok (s', x)) :
    ∃ t, x = some t ∧ peek s = .ok (some t) ∧ WF lt s' ∧ t.key ∈ hkeys s ∧
      ∀ k, k ∈ hkeys s' ↔ k ∈ hkeys s ∧ k ≠ t.key := by
  obtain ⟨t, rfl, a⟩ := dequeue_inv h hc hr
  exact ⟨t, rfl, a.top ▸ peek_spec h (Nat.pos_of_ne_zero hc), a.wf, a.key_mem, a.keys h⟩

theorem hh_enqueue_ok [IgnoresHidx lt] {s s' : HH} {it : Item} {k k' : Nat} {d i : Int} (h : WF lt s) (hk0 : k ≠ 0)
    (hk64 : k < 2 ^ 64) (hfresh : k ∉ hkeys s) (hr : enqueue lt s it k d i = .ok (s', k')) :
    k' = k ∧ WF lt s' ∧ ∀ x, x ∈ hkeys s' ↔ x = k ∨ x ∈ hkeys s :=
  have ⟨e, a⟩ := enqueue_key_inv h hk0 hk64 hfresh hr
  ⟨e, a.wf, a.keys⟩

theorem hh_findIndex {s : HH} (h : WF lt s) (k : Nat) {i : Nat} (hr : findIndex s k = .ok i) :
    (i ≠ 0 ↔ k ∈ hkeys s) := by
  by_cases hk : k ∈ hkeys s
  · obtain ⟨j, hj, _, _, hf⟩ := findIndex_mem h hk
    cases hf.symm.trans hr
    exact ⟨fun _ => hk, fun _ => by omega⟩
  · cases (findIndex_of_not_mem h hk).symm.trans hr
    exact ⟨fun h0 => absurd rfl h0, fun h1 => absurd h1 hk⟩

theorem hh_reprio_ok {s s' : HH} {k : Nat} {d i : Int} (h : WF lt s) (hr : reprioritize lt s k d i = .ok s') :
    WF lt s' ∧ ∀ x, x ∈ hkeys s' ↔ x ∈ hkeys s :=
  have a := reprio_inv h hr
  ⟨a.wf, a.keys⟩

theorem hh_isEnqueued {s : HH} (h : WF lt s) (k : Nat) (hk0 : k ≠ 0) :
    isEnqueued s k = .ok (decide (k ∈ hkeys s)) := isEnqueued_spec h k hk0

end

/-- changing the payload of a live entry in place (the pools' amount field) -/
theorem wf_setItem {lt : Order} {s : HH} (h : WF lt s)
    (hlt : ∀ (a b : HTag) (x y : Item), lt { a with item := x } { b with item := y } = lt a b)
    (i : Nat) (hi1 : 1 ≤ i) (hi2 : i ≤ s.count) (it : Item) :
    WF lt { s with heap := s.heap.set! i { s.tag i with item := it } } ∧
    hkeys { s with heap := s.heap.set! i { s.tag i with item := it } } = hkeys s :=
  haveI : IgnoresItem lt := ⟨hlt⟩
  ⟨(wf_withItem h ⟨hi1, hi2⟩ it).1,
    keys_withItem s i it (by have := h.heapSize; have := h.countLe; omega)⟩

end CimbaModel.Sim
