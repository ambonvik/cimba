/-
  S2 — the generic induction: a world predicate that is kept by `Same` steps, by the clock tick of
  `dispatch`, by every command, by every resumption of a suspended call and by the end of a process is
  kept by `runScript`, `resumeProc`, `dispatch` and `runAll`, i.e. holds in every reachable state.
  `PreservedCore` (no clock tick) is an `Act` of Sim/Shape.lean, `Preserved` a `Run`: the walk is Shape's.
-/
import CimbaModel.Sim.S2Frame

namespace CimbaModel.Sim
open CimbaModel CimbaModel.Event CimbaModel.Generated
open CimbaModel.HashHeap (HTag Item Order HH)

/-- everything except the clock tick: what happens inside one dispatched event after the clock has been advanced -/
structure PreservedCore (I : World → Prop) : Prop where
  same : ∀ {w w'}, Same w w' → I w → I w'
  /-- commands are only ever executed by an existing process -/
  exec : ∀ w p c, p < w.procs.size → I w → I (execCmd w p c).1
  /-- only an existing (running) process is ever resumed, and with the frame it was suspended in: `w` is a state `w0`
      (satisfying `I`) in which `p` was blocked in frame `f`, with that `blocked` field just cleared -/
  resume : ∀ w p f sig, p < w.procs.size →
    (∃ w0, I w0 ∧ (w0.proc p).blocked = some f ∧ w = w0.modProc p fun y => { y with blocked := none }) →
    I w → I (resumeFrame w p f sig).1
  finish : ∀ w p v st, I w → I (finishProc w p v st)
  /-- a process is taken out of its suspended state (resumption, start): `blocked := none`, `held` untouched -/
  clear : ∀ w p (f : Proc → Proc), (∀ x, (f x).held = x.held) → (∀ x, (f x).blocked = none) → (∀ x, (f x).prio = x.prio) →
    I w → I (w.modProc p f)

structure Preserved (I : World → Prop) : Prop extends PreservedCore I where
  tick : ∀ {w t ev'}, executeNext w.ev = some (t, ev') → I w →
    I { w with ev := ev', dispatched := w.dispatched + 1 }

variable {I : World → Prop}

theorem proc_default_of_ge {w : World} {p : Pid} (h : ¬ p < w.procs.size) : w.proc p = {} := proc_oob w p h

/-- one activation, in the terms of Sim/Shape.lean: the caller of a command exists because it has a script, a resumed
    process because it is running -/
theorem PreservedCore.act (hI : PreservedCore I) : Act I I (fun _ _ => True) fun _ _ _ => True where
  emit h l := hI.same (emit_same _ l) h
  fail h m := hI.same (fail_same _ m) h
  pc h p _ := hI.same (modProc_same _ p _ (fun _ => rfl) (fun _ => rfl) (fun _ => rfl)) h
  finish h p := hI.finish _ p 0 false h
  exec h p _ c _ hs l := hI.exec _ p c (lt_np_of_script _ _ _ _ hs) (hI.same (emit_same _ l) h)
  next _ _ _ _ _ _ _ _ _ _ _ _ _ := trivial
  resume h p f sig _ hrun hb :=
    ⟨hI.resume _ p f sig (by rw [modProc_size]; exact lt_np_of_status _ _ (by rw [hrun]; decide)) ⟨_, h, hb, rfl⟩
      (hI.clear _ p _ (fun _ => rfl) (fun _ => rfl) (fun _ => rfl) h), fun _ _ _ _ _ _ => trivial⟩

theorem PreservedCore.runScript (hI : PreservedCore I) (fuel : Nat) (w : World) (p : Pid) : I w → I (runScript fuel w p) :=
  fun h => hI.act.runScript p fuel h trivial

theorem PreservedCore.resumeProc (hI : PreservedCore I) (w : World) (p : Pid) (sig : Int) (h : I w) : I (resumeProc w p sig) :=
  hI.act.resumeProc h p sig trivial

/-- one dispatched event, given that the invariant holds right after the clock tick -/
theorem PreservedCore.afterTick (hI : PreservedCore I) {w w' : World} {t : HTag} {ev' : EvQ}
    (hex : executeNext w.ev = some (t, ev')) (h0 : I { w with ev := ev', dispatched := w.dispatched + 1 })
    (hd : dispatch w = some w') : I w' := by
  rw [S3.dispatch_eq, hex] at hd
  cases hd
  have h1 : I (S3.takeNext w t ev') :=
    hI.same (wakeEventWaiters_same _ _ _)
      (hI.same (w := S3.afterNext w ev') ⟨rfl, rfl, rfl, rfl, rfl, rfl, id, rfl, fun _ => rfl, fun _ => rfl, fun _ => rfl⟩ h0)
  exact dispatchBody_rel (Path.ofPred I) t (fun w m => hI.same (fail_same w m))
    (fun w p => hI.clear w p _ (fun _ => rfl) (fun _ => rfl) (fun _ => rfl)) hI.runScript hI.resumeProc
    (fun w p a => hI.same (removeAwait_same w p a)) (fun w p k => hI.same (removeAwaitKind_same w p k))
    (fun w p => hI.same (cancelAwaiteds_same w p)) _ h1

/-- the clock tick, then the waiters of the event are woken -/
theorem Preserved.afterNext (hI : Preserved I) {w : World} {t : HTag} {ev' : EvQ} (hex : executeNext w.ev = some (t, ev'))
    (h : I w) : I (S3.takeNext w t ev') :=
  hI.same (wakeEventWaiters_same _ _ _)
    (hI.same (w := S3.afterNext w ev') ⟨rfl, rfl, rfl, rfl, rfl, rfl, id, rfl, fun _ => rfl, fun _ => rfl, fun _ => rfl⟩
      (hI.tick hex h))

/-- one dispatch: whatever the kind of the event, its bookkeeping is a `Same` step after the tick -/
theorem Preserved.run (hI : Preserved I) : Run I I (fun _ _ => True) fun _ _ _ => True where
  toAct := hI.toPreservedCore.act
  start h _ _ hex _ := ⟨hI.afterNext hex h, fun _ =>
    ⟨hI.clear _ _ _ (fun _ => rfl) (fun _ => rfl) (fun _ => rfl) (hI.afterNext hex h), trivial⟩⟩
  time h _ _ hex _ := ⟨hI.same (removeAwait_same _ _ _) (hI.afterNext hex h), trivial⟩
  wake h _ _ hex k _ := ⟨hI.same (removeAwaitKind_same _ _ k) (hI.afterNext hex h), trivial⟩
  grant h _ _ hex _ := ⟨hI.afterNext hex h, trivial⟩
  intr h _ _ hex _ := ⟨hI.same (cancelAwaiteds_same _ _) (hI.afterNext hex h), trivial⟩
  other h _ _ hex _ := hI.afterNext hex h

theorem Preserved.dispatch (hI : Preserved I) {w w' : World} (h : I w) (hd : dispatch w = some w') : I w' :=
  hI.run.dispatch h hd

theorem Preserved.runScript (hI : Preserved I) : ∀ fuel w p, I w → I (runScript fuel w p) :=
  hI.toPreservedCore.runScript

theorem Preserved.resumeProc (hI : Preserved I) (w : World) (p : Pid) (sig : Int) (h : I w) : I (resumeProc w p sig) :=
  hI.toPreservedCore.resumeProc w p sig h

theorem Preserved.runAll (hI : Preserved I) : ∀ fuel w, I w → I (runAll fuel w) :=
  fun fuel _ h => hI.run.runAll fuel h

theorem Preserved.and {J : World → Prop} (hI : Preserved I) (hJ : Preserved J) : Preserved (fun w => I w ∧ J w) where
  same hs h := ⟨hI.same hs h.1, hJ.same hs h.2⟩
  tick he h := ⟨hI.tick he h.1, hJ.tick he h.2⟩
  exec w p c hv h := ⟨hI.exec w p c hv h.1, hJ.exec w p c hv h.2⟩
  resume w p f sig hv hfr h := by
    obtain ⟨w0, h0, hb, e⟩ := hfr
    exact ⟨hI.resume w p f sig hv ⟨w0, h0.1, hb, e⟩ h.1, hJ.resume w p f sig hv ⟨w0, h0.2, hb, e⟩ h.2⟩
  finish w p v st h := ⟨hI.finish w p v st h.1, hJ.finish w p v st h.2⟩
  clear w p f hf hb hp h := ⟨hI.clear w p f hf hb hp h.1, hJ.clear w p f hf hb hp h.2⟩

end CimbaModel.Sim
