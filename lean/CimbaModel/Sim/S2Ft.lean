/-
  S2 — the footprint with its finer columns.  `Ft m w w'`: `Fp m`, and for every object array how it changes — the
  histories of resources and pools as `RecStep` says, buffers and queues by steps of their kind (`ObjStep`) — and, as
  long as the mask keeps the pools (`m.pools = false`), no process's pool holdings change as a set and nobody is
  suspended in a pool acquisition (`PoolQuiet`).  Every function of the library has one lemma `f_ft`, a chain of the
  leaves below; what an invariant needs of the function is a field of it.
-/
import CimbaModel.Sim.S2Foot
import CimbaModel.Sim.S2Kind

namespace CimbaModel.Sim
open CimbaModel CimbaModel.Event CimbaModel.Generated
open CimbaModel.HashHeap (HTag Item Order HH)

def Frame.isPool : Frame → Bool
  | .pool _ _ _ _ => true
  | _ => false

/-- no pool frame appears that was not there before -/
def NNP (w w' : World) : Prop :=
  ∀ q F, Frame.isPool F = true → (w'.proc q).blocked = some F → (w.proc q).blocked = some F

theorem NNP.refl (w : World) : NNP w w := fun _ _ _ h => h
theorem NNP.trans {a b c : World} (h1 : NNP a b) (h2 : NNP b c) : NNP a c :=
  fun q F hF h => h1 q F hF (h2 q F hF h)

theorem NNP.of_fp {m : Mask} {w w' : World} (h : Fp m w w') (hb : m.blocked = false) : NNP w w' :=
  fun q F _ hq => by rw [← h.blocked_eq hb q]; exact hq

theorem NNP.of_same {w w' : World} (h : Same w w') : NNP w w' := NNP.of_fp (Same.fp {} h) rfl

theorem block_blocked (w : World) (p q : Pid) (f : Frame) :
    ((block w p f).1.proc q).blocked = if q = p ∧ p < w.procs.size then some f else (w.proc q).blocked := by
  unfold block
  rw [proc_modProc]
  split <;> rfl

theorem NNP.block (w : World) (p : Pid) (f : Frame) (hf : Frame.isPool f = false) : NNP w (block w p f).1 := by
  intro q F hF hq
  rw [block_blocked] at hq
  split at hq
  · injection hq with e; subst e; rw [hf] at hF; cases hF
  · exact hq

theorem NNP.clear (w : World) (p : Pid) (f : Proc → Proc) (hb : ∀ x, (f x).blocked = none) : NNP w (w.modProc p f) := by
  intro q F _ hq
  rw [proc_modProc] at hq
  split at hq
  · rw [hb] at hq; cases hq
  · exact hq

/-- the pool holdings of every process are the same set, and nobody has been suspended in a pool acquisition -/
def PoolQuiet (w w' : World) : Prop :=
  (∀ q pl, HoldRef.pool pl ∈ (w'.proc q).held ↔ HoldRef.pool pl ∈ (w.proc q).held) ∧ NNP w w'

theorem PoolQuiet.path : Path PoolQuiet :=
  ⟨fun w => ⟨fun _ _ => Iff.rfl, NNP.refl w⟩, fun h1 h2 => ⟨fun q pl => (h2.1 q pl).trans (h1.1 q pl), h1.2.trans h2.2⟩⟩

theorem PoolQuiet.of_fp {m : Mask} {w w' : World} (h : Fp m w w') (hh : m.held = false) (hb : m.blocked = false) :
    PoolQuiet w w' := ⟨fun q _ => by rw [h.held_eq hh q], NNP.of_fp h hb⟩

/-- the footprint of a step with its finer columns: besides `Fp m`, how each of the five object tables got from `w` to
    `w'` (by which updates and records, whatever the mask), and that a step which keeps the pools also keeps every
    process's pool holdings and suspends nobody in a pool.  One chain per function proves all of them at once. -/
structure Ft (m : Mask) (w w' : World) : Prop where
  fp : Fp m w w'
  res : RecStep resOps w.now w.res w'.res
  pools : RecStep poolOps w.now w.pools w'.pools
  bufs : ObjStep bufK w.now w.bufs w'.bufs
  oqs : ObjStep oqK w.now w.oqs w'.oqs
  pqs : ObjStep pqK w.now w.pqs w'.pqs
  /-- keyed on `m.pools`, a bit the mask has anyway: the resource commands move `held`, the buffer and queue commands
      `blocked`, and all of them keep the pools -/
  quiet : m.pools = false → PoolQuiet w w'

theorem Ft.refl (m : Mask) (w : World) : Ft m w w :=
  ⟨Fp.refl m w, .refl _ _ _, .refl _ _ _, .refl _, .refl _, .refl _, fun _ => PoolQuiet.path.refl w⟩

theorem Ft.trans {m : Mask} {a b c : World} (h1 : Ft m a b) (h2 : Ft m b c) : Ft m a c := by
  have hn := h1.fp.now_eq
  exact ⟨h1.fp.trans h2.fp, h1.res.trans (hn ▸ h2.res), h1.pools.trans (hn ▸ h2.pools), h1.bufs.trans (hn ▸ h2.bufs),
    h1.oqs.trans (hn ▸ h2.oqs), h1.pqs.trans (hn ▸ h2.pqs), fun hm => PoolQuiet.path.trans (h1.quiet hm) (h2.quiet hm)⟩

theorem Ft.path (m : Mask) : Path (Ft m) := ⟨Ft.refl m, Ft.trans⟩

theorem Ft.mono {m m' : Mask} {w w' : World} (hm : m.le m' = true) (h : Ft m w w') : Ft m' w w' := by
  refine ⟨h.fp.mono hm, h.res, h.pools, h.bufs, h.oqs, h.pqs, fun e => h.quiet ?_⟩
  -- `m'` keeps the pools and is above `m`: so does `m`
  simp only [Mask.le, Bool.and_eq_true] at hm
  have hp := hm.1.1.1.1.1.1.2
  rw [e] at hp
  cases hmp : m.pools
  · rfl
  · rw [hmp] at hp; cases hp

/-- a column the mask keeps has not moved -/
theorem Ft.ofFp {m : Mask} {w w' : World} (h : Fp m w w')
    (res : m.res = true → RecStep resOps w.now w.res w'.res) (pools : m.pools = true → RecStep poolOps w.now w.pools w'.pools)
    (bufs : m.bufs = true → ObjStep bufK w.now w.bufs w'.bufs) (oqs : m.oqs = true → ObjStep oqK w.now w.oqs w'.oqs)
    (pqs : m.pqs = true → ObjStep pqK w.now w.pqs w'.pqs) (quiet : m.pools = false → PoolQuiet w w') : Ft m w w' := by
  refine ⟨h, ?_, ?_, ?_, ?_, ?_, quiet⟩
  · cases hm : m.res
    · exact .of_eq _ (h.res_eq hm)
    · exact res hm
  · cases hm : m.pools
    · exact .of_eq _ (h.pools_eq hm)
    · exact pools hm
  · cases hm : m.bufs
    · exact .of_eq (h.bufs_eq hm)
    · exact bufs hm
  · cases hm : m.oqs
    · exact .of_eq (h.oqs_eq hm)
    · exact oqs hm
  · cases hm : m.pqs
    · exact .of_eq (h.pqs_eq hm)
    · exact pqs hm

/-- a step that touches no object array -/
theorem Ft.ofProcs {m : Mask} {w w' : World} (h : Fp m w w') (hr : w'.res = w.res) (hp : w'.pools = w.pools)
    (hb : w'.bufs = w.bufs) (ho : w'.oqs = w.oqs) (hk : w'.pqs = w.pqs) (quiet : m.pools = false → PoolQuiet w w') :
    Ft m w w' :=
  ⟨h, .of_eq _ hr, .of_eq _ hp, .of_eq hb, .of_eq ho, .of_eq hk, quiet⟩

theorem Ft.same (m : Mask) {w w' : World} (h : Same w w') : Ft m w w' :=
  .ofProcs (Same.fp m h) h.res_eq h.pools_eq h.bufs_eq h.oqs_eq h.pqs_eq fun _ => PoolQuiet.of_fp (Same.fp {} h) rfl rfl

/-- … under a mask that lets the pools change -/
theorem Ft.pooled {m : Mask} {w w' : World} (h : Fp m w w') (hm : m.pools = true) (hr : w'.res = w.res)
    (hp : w'.pools = w.pools) (hb : w'.bufs = w.bufs) (ho : w'.oqs = w.oqs) (hk : w'.pqs = w.pqs) : Ft m w w' :=
  .ofProcs h hr hp hb ho hk fun e => by rw [hm] at e; cases e

theorem Ft.toRecRes {m : Mask} {w w' : World} (h : Ft m w w') : Rec resOps World.res w w' := ⟨h.fp.now_eq, h.res⟩
theorem Ft.toRecPool {m : Mask} {w w' : World} (h : Ft m w w') : Rec poolOps World.pools w w' := ⟨h.fp.now_eq, h.pools⟩
theorem Ft.toObjBuf {m : Mask} {w w' : World} (h : Ft m w w') : Obj bufK World.bufs w w' := ⟨h.fp.now_eq, h.bufs⟩
theorem Ft.toObjOQ {m : Mask} {w w' : World} (h : Ft m w w') : Obj oqK World.oqs w w' := ⟨h.fp.now_eq, h.oqs⟩
theorem Ft.toObjPQ {m : Mask} {w w' : World} (h : Ft m w w') : Obj pqK World.pqs w w' := ⟨h.fp.now_eq, h.pqs⟩

theorem Ft.suspend (w : World) (p : Pid) {F : Frame} (hF : Frame.isPool F = false) : Ft mBlocked w (block w p F).1 :=
  .ofProcs (block_fp w p F) rfl rfl rfl rfl rfl fun _ =>
    ⟨fun q _ => by rw [(block_fp w p F).held_eq rfl q], NNP.block w p F hF⟩

theorem Ft.removeHeldRes (w : World) (p : Pid) (r : Nat) : Ft mHeld w (removeHeld w p (.res r)).1 := by
  refine .ofProcs (removeHeld_fp w p _) rfl rfl rfl rfl rfl fun _ => ⟨fun q pl => ?_, NNP.of_fp (removeHeld_fp w p _) rfl⟩
  rw [removeHeld_proc]
  split
  · simp
  · exact Iff.rfl

/-- a process is taken out of its suspended state, or ends -/
theorem Ft.unblock (w : World) (p : Pid) (f : Proc → Proc) (hf : ∀ x, (f x).held = x.held) (hb : ∀ x, (f x).blocked = none)
    (hp : ∀ x, (f x).prio = x.prio) : Ft mBlocked w (w.modProc p f) :=
  .ofProcs (modProc_fp_blocked w p f hf hp) rfl rfl rfl rfl rfl fun _ =>
    ⟨fun q _ => by rw [modProc_held w p q f hf], NNP.clear w p f hb⟩

theorem grab_res (w : World) (r : Nat) (p : Pid) :
    (grab w r p).res = match w.res[r]? with
      | some x => w.res.set! r { x with holder := some p }
      | none => w.res := by
  unfold grab
  cases hx : w.res[r]? with
  | none => rfl
  | some x =>
    dsimp only
    split
    · rw [(fail_same w _).res_eq]; rfl
    · rfl

theorem Ft.recRes (w : World) (r : Nat) : Ft mRes w (recordRes w r) :=
  .ofFp (recordRes_fp w r) (fun _ => recordRes_eq w r ▸ .record w.res r) nofun nofun nofun nofun
    fun _ => .of_fp (recordRes_fp w r) rfl rfl

/-- a change of resource `r` in a world `w1` that otherwise shows the same resources at the same time, then its sample -/
theorem recStep_setRes {w w1 : World} {r : Nat} {x y : Res} (hx : w.res[r]? = some x) (hy : y.hist = x.hist)
    (h1 : w1.res = w.res.set! r y) (hn : w1.now = w.now) : RecStep resOps w.now w.res (recordRes w1 r).res := by
  rw [recordRes_eq, h1, hn]
  exact RecStep.upd hx hy

theorem Ft.updRes {w : World} {r : Nat} {x y : Res} (hx : w.res[r]? = some x) (hy : y.hist = x.hist) :
    Ft mRes w (recordRes { w with res := w.res.set! r y } r) :=
  .ofFp (Fp.trans (fp_res w _) (recordRes_fp _ r)) (fun _ => recStep_setRes hx hy rfl rfl) nofun nofun nofun nofun
    fun _ => .of_fp (Fp.trans (fp_res w _) (recordRes_fp _ r)) rfl rfl

theorem pool_mem_modProc_res (w : World) (r : Nat) (p q : Pid) (pl : Nat) :
    HoldRef.pool pl ∈ ((w.modProc p fun y => { y with held := .res r :: y.held }).proc q).held ↔
      HoldRef.pool pl ∈ (w.proc q).held := by
  rw [proc_modProc]
  split
  · rename_i hq; rw [hq.1]; simp
  · exact Iff.rfl

theorem grab_pool_mem (w : World) (r : Nat) (p q : Pid) (pl : Nat) :
    HoldRef.pool pl ∈ ((grab w r p).proc q).held ↔ HoldRef.pool pl ∈ (w.proc q).held := by
  unfold grab
  split
  · dsimp only
    rw [pool_mem_modProc_res]
    split
    · exact iff_of_eq (congrArg (HoldRef.pool pl ∈ ·) ((fail_same w _).held_eq q))
    · exact Iff.rfl
  · exact Iff.rfl

/-- the caller takes the free resource `r`: held 0 → 1, sampled -/
theorem Ft.grabRecord (w : World) (r : Nat) (p : Pid) : Ft mResHeld w (recordRes (grab w r p) r) := by
  have hf : Fp mResHeld w (recordRes (grab w r p) r) := Fp.trans (grab_fp w r p) (Fp.mono rfl (recordRes_fp _ r))
  refine .ofFp hf (fun _ => ?_) nofun nofun nofun nofun fun _ =>
    ⟨fun q pl => by rw [recordRes_proc]; exact grab_pool_mem w r p q pl, NNP.of_fp hf rfl⟩
  cases hx : w.res[r]? with
  | none =>
    rw [recordRes_eq, (grab_fp w r p).now_eq, grab_res, hx]
    exact .record w.res r
  | some x => exact recStep_setRes (y := { x with holder := some p }) hx rfl (by rw [grab_res, hx]) (grab_fp w r p).now_eq

/-- `in_use = u; record_sample` -/
theorem Ft.charge (w : World) (pl u : Nat) : Ft mPools w (recordPool (setPoolInUse w pl u) pl) :=
  .ofFp (Fp.trans (setPoolInUse_fp w pl u) (recordPool_fp _ pl)) nofun
    (fun _ => (recordPool_eq _ pl) ▸ RecStep.modify pl (fun _ => rfl)) nofun nofun nofun nofun

theorem Ft.updPool {w : World} {pl : Nat} {x y : Pool} (hx : w.pools[pl]? = some x) (hy : y.hist = x.hist) :
    Ft mPools w (recordPool { w with pools := w.pools.set! pl y } pl) :=
  .ofFp (Fp.trans (fp_pools w _) (recordPool_fp _ pl)) nofun (fun _ => (recordPool_eq _ pl) ▸ RecStep.upd hx hy)
    nofun nofun nofun nofun

/-- a holder list is replaced: the amount in use, which is what is sampled, stays -/
theorem Ft.setHolders {w : World} {pl : Nat} {x : Pool} (hx : w.pools[pl]? = some x) (h' : HH) :
    Ft mPools w { w with pools := w.pools.set! pl { x with holders := h' } } :=
  .ofFp (fp_pools w _) nofun (fun _ => by rw [Array.set!_eq_setIfInBounds]; exact RecStep.same hx rfl rfl rfl)
    nofun nofun nofun nofun

theorem Ft.modifyHolders (w : World) (pl : Nat) (h' : HH) :
    Ft mPools w { w with pools := w.pools.modify pl fun y => { y with holders := h' } } :=
  .ofFp (fp_pools w _) nofun
    (fun _ => RecStep.modify_same (R := poolOps) (a := w.pools) pl (f := fun y => { y with holders := h' }) (fun _ => rfl)
      (fun _ => rfl) (fun _ => rfl)) nofun nofun nofun nofun

/-- a transition of buffer `b`, then its sample -/
theorem Ft.updBuf {w : World} {b : Nat} {x y : Buf} (hx : w.bufs[b]? = some x) (t : BufT x y) :
    Ft mBufs w (recordBuf { w with bufs := w.bufs.set! b y } b) :=
  .ofFp (Fp.trans (fp_bufs w _) (recordBuf_fp _ b)) nofun nofun (fun _ => (recordBuf_eq _ b) ▸ .upd (K := bufK) hx t)
    nofun nofun fun _ => .of_fp (Fp.trans (fp_bufs w _) (recordBuf_fp _ b)) rfl rfl

theorem Ft.updOQ {w : World} {q : Nat} {x y : OQ} (hx : w.oqs[q]? = some x) (t : OQT x y) :
    Ft mOqs w (recordOQ { w with oqs := w.oqs.set! q y } q) :=
  .ofFp (Fp.trans (fp_oqs w _) (recordOQ_fp _ q)) nofun nofun nofun (fun _ => (recordOQ_eq _ q) ▸ .upd (K := oqK) hx t)
    nofun fun _ => .of_fp (Fp.trans (fp_oqs w _) (recordOQ_fp _ q)) rfl rfl

/-- … of priority queue `k`; the handle may have been stored in a variable before the sample is taken (`w1`) -/
theorem Ft.updPQ {w w1 : World} {k : Nat} {x y : PQ} (hx : w.pqs[k]? = some x) (t : PQT x y)
    (h1 : Same { w with pqs := w.pqs.set! k y } w1) : Ft mPqs w (recordPQ w1 k) := by
  have hf : Fp mPqs w (recordPQ w1 k) := Fp.trans (Fp.trans (fp_pqs w _) (Same.fp _ h1)) (recordPQ_fp _ k)
  refine .ofFp hf nofun nofun nofun nofun (fun _ => ?_) fun _ => .of_fp hf rfl rfl
  rw [recordPQ_eq, h1.pqs_eq, h1.now_eq]
  exact .upd (K := pqK) hx t

theorem Ft.quietPQ {w : World} {k : Nat} {x y : PQ} (hx : w.pqs[k]? = some x) (t : PQT x y)
    (hv : y.queue.count = x.queue.count) : Ft mPqs w { w with pqs := w.pqs.set! k y } :=
  .ofFp (fp_pqs w _) nofun nofun nofun nofun
    (fun _ => by rw [Array.set!_eq_setIfInBounds]; exact .quiet (K := pqK) hx t (congrArg Nat.cast hv))
    fun _ => .of_fp (fp_pqs w _) rfl rfl

/-! ### the recording switch: switched on, the flag is set and a sample taken; switched off, the other way round -/

theorem Ft.onRes (w : World) (i : Nat) :
    Ft mRes w (recordRes { w with res := w.res.modify i fun x => { x with recording := true } } i) :=
  .ofFp (Fp.trans (fp_res w _) (recordRes_fp _ i)) (fun _ => (recordRes_eq _ i) ▸ RecStep.modify i (fun _ => rfl))
    nofun nofun nofun nofun fun _ => .of_fp (Fp.trans (fp_res w _) (recordRes_fp _ i)) rfl rfl

theorem Ft.offRes (w : World) (i : Nat) :
    Ft mRes w { recordRes w i with res := (recordRes w i).res.modify i fun x => { x with recording := false } } := by
  refine .ofFp (Fp.trans (recordRes_fp w i) (fp_res _ _)) (fun _ => ?_) nofun nofun nofun nofun fun _ =>
    .of_fp (Fp.trans (recordRes_fp w i) (fp_res _ _)) rfl rfl
  show RecStep resOps w.now w.res ((recordRes w i).res.modify i fun x => { x with recording := false })
  rw [recordRes_eq]
  exact RecStep.off i (fun _ => rfl) (fun _ => rfl)

theorem Ft.onPool (w : World) (i : Nat) :
    Ft mPools w (recordPool { w with pools := w.pools.modify i fun x => { x with recording := true } } i) :=
  .ofFp (Fp.trans (fp_pools w _) (recordPool_fp _ i)) nofun
    (fun _ => (recordPool_eq _ i) ▸ RecStep.modify i (fun _ => rfl)) nofun nofun nofun nofun

theorem Ft.offPool (w : World) (i : Nat) :
    Ft mPools w { recordPool w i with pools := (recordPool w i).pools.modify i fun x => { x with recording := false } } := by
  refine .ofFp (Fp.trans (recordPool_fp w i) (fp_pools _ _)) nofun (fun _ => ?_) nofun nofun nofun nofun
  show RecStep poolOps w.now w.pools ((recordPool w i).pools.modify i fun x => { x with recording := false })
  rw [recordPool_eq]
  exact RecStep.off i (fun _ => rfl) (fun _ => rfl)

theorem Ft.onBuf (w : World) (i : Nat) :
    Ft mBufs w (recordBuf { w with bufs := w.bufs.modify i fun x => { x with recording := true } } i) :=
  .ofFp (Fp.trans (fp_bufs w _) (recordBuf_fp _ i)) nofun nofun (fun _ => (recordBuf_eq _ i) ▸ .on (K := bufK) w.bufs i)
    nofun nofun fun _ => .of_fp (Fp.trans (fp_bufs w _) (recordBuf_fp _ i)) rfl rfl

theorem Ft.offBuf (w : World) (i : Nat) :
    Ft mBufs w { recordBuf w i with bufs := (recordBuf w i).bufs.modify i fun x => { x with recording := false } } := by
  refine .ofFp (Fp.trans (recordBuf_fp w i) (fp_bufs _ _)) nofun nofun (fun _ => ?_) nofun nofun fun _ =>
    .of_fp (Fp.trans (recordBuf_fp w i) (fp_bufs _ _)) rfl rfl
  show ObjStep bufK w.now w.bufs ((recordBuf w i).bufs.modify i fun x => { x with recording := false })
  rw [recordBuf_eq]
  exact .off w.bufs i

theorem Ft.onOQ (w : World) (i : Nat) :
    Ft mOqs w (recordOQ { w with oqs := w.oqs.modify i fun x => { x with recording := true } } i) :=
  .ofFp (Fp.trans (fp_oqs w _) (recordOQ_fp _ i)) nofun nofun nofun (fun _ => (recordOQ_eq _ i) ▸ .on (K := oqK) w.oqs i)
    nofun fun _ => .of_fp (Fp.trans (fp_oqs w _) (recordOQ_fp _ i)) rfl rfl

theorem Ft.offOQ (w : World) (i : Nat) :
    Ft mOqs w { recordOQ w i with oqs := (recordOQ w i).oqs.modify i fun x => { x with recording := false } } := by
  refine .ofFp (Fp.trans (recordOQ_fp w i) (fp_oqs _ _)) nofun nofun nofun (fun _ => ?_) nofun fun _ =>
    .of_fp (Fp.trans (recordOQ_fp w i) (fp_oqs _ _)) rfl rfl
  show ObjStep oqK w.now w.oqs ((recordOQ w i).oqs.modify i fun x => { x with recording := false })
  rw [recordOQ_eq]
  exact .off w.oqs i

theorem Ft.onPQ (w : World) (i : Nat) :
    Ft mPqs w (recordPQ { w with pqs := w.pqs.modify i fun x => { x with recording := true } } i) :=
  .ofFp (Fp.trans (fp_pqs w _) (recordPQ_fp _ i)) nofun nofun nofun nofun (fun _ => (recordPQ_eq _ i) ▸ .on (K := pqK) w.pqs i)
    fun _ => .of_fp (Fp.trans (fp_pqs w _) (recordPQ_fp _ i)) rfl rfl

theorem Ft.offPQ (w : World) (i : Nat) :
    Ft mPqs w { recordPQ w i with pqs := (recordPQ w i).pqs.modify i fun x => { x with recording := false } } := by
  refine .ofFp (Fp.trans (recordPQ_fp w i) (fp_pqs _ _)) nofun nofun nofun nofun (fun _ => ?_) fun _ =>
    .of_fp (Fp.trans (recordPQ_fp w i) (fp_pqs _ _)) rfl rfl
  show ObjStep pqK w.now w.pqs ((recordPQ w i).pqs.modify i fun x => { x with recording := false })
  rw [recordPQ_eq]
  exact .off w.pqs i

theorem setRecording_ft (w : World) (kind idx : Nat) (on : Bool) : Ft (recMask kind) w (setRecording w kind idx on) := by
  unfold setRecording
  cases on with
  | true =>
    match kind with
    | 0 => exact .onRes w idx
    | 1 => exact .onPool w idx
    | 2 => exact .onBuf w idx
    | 3 => exact .onOQ w idx
    | _ + 4 => exact .onPQ w idx
  | false =>
    match kind with
    | 0 => exact .offRes w idx
    | 1 => exact .offPool w idx
    | 2 => exact .offBuf w idx
    | 3 => exact .offOQ w idx
    | _ + 4 => exact .offPQ w idx

theorem setRecording_fp (w : World) (kind idx : Nat) (on : Bool) : Fp (recMask kind) w (setRecording w kind idx on) :=
  (setRecording_ft w kind idx on).fp

theorem bufGetLoop_ft (w : World) (p : Pid) (b rem got : Nat) : Ft mBufsB w (bufGetLoop w p b rem got).1 := by
  unfold bufGetLoop
  split
  · exact .same _ (fail_same w _)
  · rename_i x hx
    have take : ∀ n, n ≤ x.level → Ft mBufsB w (signal (recordBuf
        { w with bufs := w.bufs.set! b { x with level := x.level - n, getTotal := x.getTotal + n } } b) x.rear) := fun n hn =>
      Ft.trans (.mono rfl (.updBuf hx (.get x n hn))) (.same _ (signal_same _ _))
    split
    · dsimp only
      split
      · exact Ft.trans (take rem ‹_›) (.same _ (signal_same _ _))
      · exact take rem ‹_›
    · dsimp only
      refine Ft.trans ?_ (.mono rfl (.suspend _ p rfl))
      refine Ft.trans ?_ (.same _ (guardWaitEnter_same _ _ p _))
      refine Ft.trans ?_ (.same _ (signal_same _ _))
      split
      · exact Nat.sub_self x.level ▸ take x.level (Nat.le_refl _)
      · exact .refl _ w

theorem bufPutLoop_ft (w : World) (p : Pid) (b rem left : Nat) : Ft mBufsB w (bufPutLoop w p b rem left).1 := by
  unfold bufPutLoop
  split
  · exact .same _ (fail_same w _)
  · rename_i x hx
    have take : ∀ n, n ≤ x.cap - x.level → Ft mBufsB w (signal (recordBuf
        { w with bufs := w.bufs.set! b { x with level := x.level + n, putTotal := x.putTotal + n } } b) x.front) := fun n hn =>
      Ft.trans (.mono rfl (.updBuf hx (.put x n hn))) (.same _ (signal_same _ _))
    split
    · dsimp only
      split
      · exact Ft.trans (take rem ‹_›) (.same _ (signal_same _ _))
      · exact take rem ‹_›
    · dsimp only
      refine Ft.trans ?_ (.mono rfl (.suspend _ p rfl))
      refine Ft.trans ?_ (.same _ (guardWaitEnter_same _ _ p _))
      refine Ft.trans ?_ (.same _ (signal_same _ _))
      split
      · have := take (x.cap - x.level) (Nat.le_refl _)
        rwa [show x.level + (x.cap - x.level) = x.cap by omega] at this
      · exact .refl _ w

theorem oqGetLoop_ft (w : World) (p : Pid) (q : Nat) : Ft mOqsB w (oqGetLoop w p q).1 := by
  unfold oqGetLoop
  split
  · exact .same _ (fail_same w _)
  · rename_i x hx
    split
    · rename_i o rest hit
      refine Ft.trans ?_ (.same _ (signal_same _ _))
      exact .mono rfl (.updOQ hx (.get x hit))
    · exact Ft.trans (.same _ (guardWaitEnter_same w _ p _)) (.mono rfl (.suspend _ p rfl))

theorem oqPutLoop_ft (w : World) (p : Pid) (q obj : Nat) : Ft mOqsB w (oqPutLoop w p q obj).1 := by
  unfold oqPutLoop
  split
  · exact .same _ (fail_same w _)
  · rename_i x hx
    split
    · refine Ft.trans ?_ (.same _ (signal_same _ _))
      exact .mono rfl (.updOQ hx (.put x obj ‹_›))
    · exact Ft.trans (.same _ (guardWaitEnter_same w _ p _)) (.mono rfl (.suspend _ p rfl))

theorem pqGetLoop_ft (w : World) (p : Pid) (k : Nat) : Ft mPqsB w (pqGetLoop w p k).1 := by
  unfold pqGetLoop
  split
  · exact .same _ (fail_same w _)
  · rename_i x hx
    split
    · rename_i hpos
      split
      · rename_i q' t hd
        refine Ft.trans ?_ (.same _ (signal_same _ _))
        exact .mono rfl (.updPQ hx (.get x hpos hd) (Same.refl _))
      · exact .same _ (fail_same w _)
      · exact .same _ (fail_same w _)
    · exact Ft.trans (.same _ (guardWaitEnter_same w _ p _)) (.mono rfl (.suspend _ p rfl))

theorem pqPutLoop_ft (w : World) (p : Pid) (k obj : Nat) (pri : Int) (v : Nat) :
    Ft mPqsB w (pqPutLoop w p k obj pri v).1 := by
  unfold pqPutLoop
  split
  · exact .same _ (fail_same w _)
  · rename_i x hx
    split
    · rename_i hroom
      split
      · rename_i q' h he
        refine Ft.trans ?_ (.same _ (signal_same _ _))
        exact .mono rfl (.updPQ hx (.put x hroom he) (setVar_same _ p v h))
      · exact .same _ (fail_same w _)
    · exact Ft.trans (.same _ (guardWaitEnter_same w _ p _)) (.mono rfl (.suspend _ p rfl))

theorem acquireStep_ft (w : World) (p : Pid) (r : Nat) : Ft mResHeldB w (acquireStep w p r).1 := by
  unfold acquireStep
  split
  · exact .same _ (fail_same w _)
  · split
    · exact .mono rfl (.grabRecord w r p)
    · exact Ft.trans (.same _ (guardWaitEnter_same w _ p _)) (.mono rfl (.suspend _ p rfl))

theorem bufGetLoop_fp (w : World) (p : Pid) (b rem got : Nat) : Fp mBufsB w (bufGetLoop w p b rem got).1 :=
  (bufGetLoop_ft w p b rem got).fp
theorem bufPutLoop_fp (w : World) (p : Pid) (b rem left : Nat) : Fp mBufsB w (bufPutLoop w p b rem left).1 :=
  (bufPutLoop_ft w p b rem left).fp
theorem oqGetLoop_fp (w : World) (p : Pid) (q : Nat) : Fp mOqsB w (oqGetLoop w p q).1 := (oqGetLoop_ft w p q).fp
theorem oqPutLoop_fp (w : World) (p : Pid) (q obj : Nat) : Fp mOqsB w (oqPutLoop w p q obj).1 := (oqPutLoop_ft w p q obj).fp
theorem pqGetLoop_fp (w : World) (p : Pid) (k : Nat) : Fp mPqsB w (pqGetLoop w p k).1 := (pqGetLoop_ft w p k).fp
theorem pqPutLoop_fp (w : World) (p : Pid) (k obj : Nat) (pri : Int) (v : Nat) :
    Fp mPqsB w (pqPutLoop w p k obj pri v).1 := (pqPutLoop_ft w p k obj pri v).fp
theorem acquireStep_fp (w : World) (p : Pid) (r : Nat) : Fp mResHeldB w (acquireStep w p r).1 := (acquireStep_ft w p r).fp

theorem setHeldAmount_ft (w : World) (pl : Nat) (p : Pid) (a : Nat) : Ft mPools w (setHeldAmount w pl p a) := by
  unfold setHeldAmount
  split
  · rename_i x hx
    split
    · split
      · exact .same _ (fail_same w _)
      · exact .setHolders hx _
    · exact .same _ (fail_same w _)
  · exact .refl _ w

theorem poolUpdateRecord_ft (w : World) (pl : Nat) (p : Pid) (a : Nat) : Ft mPoolsHeld w (poolUpdateRecord w pl p a) := by
  unfold poolUpdateRecord
  split
  · exact .refl _ w
  · rename_i x hx
    extract_lets present _ w1
    split
    · split
      · exact .mono rfl (.setHolders hx _)
      · exact .same _ (fail_same w _)
    · refine Ft.trans (b := w1)
        (.pooled (Fp.mono rfl (modProc_fp_held w p _ (fun _ => rfl) (fun _ => rfl))) rfl rfl rfl rfl rfl rfl) ?_
      split
      · exact .mono rfl (.setHolders (w := w1) hx _)
      · exact .same _ (fail_same w1 _)

theorem poolDropHolder_ft (w : World) (pl : Nat) (p : Pid) : Ft mPools w (poolDropHolder w pl p) := by
  unfold poolDropHolder
  split
  · exact .refl _ w
  · rename_i x hx
    split
    · exact .refl _ w
    · split
      · refine Ft.trans ?_ (.same _ (signal_same _ _))
        exact .updPool hx rfl
      · exact .same _ (fail_same w _)
    · exact .same _ (fail_same w _)

theorem dropResources_ft (w : World) (p : Pid) : Ft mEndNB w (dropResources w p) := by
  unfold dropResources
  extract_lets hs w1
  refine Ft.trans (b := w1)
    (.pooled (Fp.mono rfl (modProc_fp_held w p _ (fun _ => rfl) (fun _ => rfl))) rfl rfl rfl rfl rfl rfl)
    ((Ft.path _).foldl ?_ hs w1)
  intro w h
  cases h with
  | res r =>
    dsimp only
    split
    · rename_i x hx
      refine Ft.trans ?_ (.same _ (signal_same _ _))
      exact .mono rfl (.updRes hx rfl)
    · exact .refl _ w
  | pool pl => exact .mono rfl (poolDropHolder_ft w pl p)

theorem finishProc_ft (w : World) (p : Pid) (v : Int) (st : Bool) : Ft mEnd w (finishProc w p v st) := by
  unfold finishProc
  refine Ft.trans ?_ (.mono rfl (.unblock _ p _ (fun _ => rfl) (fun _ => rfl) (fun _ => rfl)))
  refine Ft.trans ?_ (.same _ (wakeWaiters_same _ p _))
  split
  · exact Ft.trans (.same _ (cancelAwaiteds_same w p)) (.mono rfl (dropResources_ft _ p))
  · exact Ft.trans (.mono rfl (dropResources_ft w p)) (.same _ (cancelAwaiteds_same _ p))

theorem mugVictim_ft {w : World} {pl : Nat} {x : Pool} (hx : w.pools[pl]? = some x) (h' : HH) (t : HTag) :
    Ft mPoolsHeld w (mugVictim w pl x h' t) :=
  Ft.trans (Ft.trans (.mono rfl (.setHolders hx h'))
    (.pooled (Fp.mono rfl (removeHeld_fp _ _ _)) rfl rfl rfl rfl rfl rfl)) (.same _ (sched_same _ _ _ _ _ _))

theorem poolMug_ft (fuel : Nat) (w : World) (p : Pid) (pl rem : Nat) : Ft mPoolsHeld w (poolMug fuel w p pl rem).1 :=
  poolMug_rel (Ft.path _) p pl (fun w _ _ m _ _ _ => .same _ (fail_same w m))
    (fun _ _ _ h' t hx _ _ _ _ => mugVictim_ft hx h' t)
    (fun w n => poolUpdateRecord_ft w pl p n)
    (fun w _ rem _ => Ft.trans (Ft.trans (poolUpdateRecord_ft w pl p rem) (.mono rfl (.charge _ pl _)))
      (.same _ (signal_same _ _)))
    fuel w rem

theorem poolLoop_ft (w : World) (p : Pid) (pl rem ini : Nat) (pre : Bool) :
    Ft mPoolsHeldB w (poolLoop w p pl rem ini pre).1 :=
  poolLoop_rel (Ft.path _) p pl ini pre (fun w m _ => .same _ (fail_same w m))
    (fun w v => .mono rfl (.charge w pl v))
    (fun w n => .mono rfl (poolUpdateRecord_ft w pl p n))
    (fun w g => .same _ (signal_same w g))
    (fun _ fuel w rem => .mono rfl (poolMug_ft fuel w p pl rem))
    (fun w g _ => Ft.trans (.same _ (guardWaitEnter_same w g p _))
      (.pooled (Fp.mono rfl (block_fp _ p _)) rfl rfl rfl rfl rfl rfl))
    w rem

theorem poolRollback_ft (w : World) (p : Pid) (pl ini : Nat) : Ft mPoolsHeld w (poolRollback w p pl ini) := by
  unfold poolRollback
  split
  · exact .refl _ w
  · rename_i x hx
    split
    · extract_lets now
      split
      · refine Ft.trans ?_ (.same _ (signal_same _ _))
        refine Ft.trans ?_ (.mono rfl (.charge _ pl _))
        exact .mono rfl (setHeldAmount_ft w pl p ini)
      · exact .refl _ w
    · extract_lets now w1 w2
      have h2 : Ft mPoolsHeld w w2 := .mono rfl (.charge w pl (x.inUse - now))
      split
      · extract_lets w3 w4
        refine Ft.trans ?_ (.same _ (signal_same _ _))
        refine Ft.trans (Ft.trans h2 (.mono rfl (.modifyHolders w2 pl _)) : Ft _ w w3) ?_
        show Ft _ w3 (if _ then _ else _)
        split
        · exact .pooled (Fp.mono rfl (removeHeld_fp w3 p _)) rfl rfl rfl rfl rfl rfl
        · exact .refl _ w3
      · exact Ft.trans h2 (.same _ (fail_same w2 _))

theorem setHeldAmount_fp (w : World) (pl : Nat) (p : Pid) (a : Nat) : Fp mPools w (setHeldAmount w pl p a) :=
  (setHeldAmount_ft w pl p a).fp
theorem poolUpdateRecord_fp (w : World) (pl : Nat) (p : Pid) (a : Nat) :
    Fp mPoolsHeld w (poolUpdateRecord w pl p a) := (poolUpdateRecord_ft w pl p a).fp
theorem poolDropHolder_fp (w : World) (pl : Nat) (p : Pid) : Fp mPools w (poolDropHolder w pl p) := (poolDropHolder_ft w pl p).fp
theorem dropResources_fp (w : World) (p : Pid) : Fp mEndNB w (dropResources w p) := (dropResources_ft w p).fp
theorem finishProc_fp (w : World) (p : Pid) (v : Int) (st : Bool) : Fp mEnd w (finishProc w p v st) := (finishProc_ft w p v st).fp
theorem poolMug_fp (fuel : Nat) (w : World) (p : Pid) (pl rem : Nat) :
    Fp mPoolsHeld w (poolMug fuel w p pl rem).1 := (poolMug_ft fuel w p pl rem).fp
theorem poolLoop_fp (w : World) (p : Pid) (pl rem ini : Nat) (pre : Bool) :
    Fp mPoolsHeldB w (poolLoop w p pl rem ini pre).1 := (poolLoop_ft w p pl rem ini pre).fp
theorem poolRollback_fp (w : World) (p : Pid) (pl ini : Nat) : Fp mPoolsHeld w (poolRollback w p pl ini) :=
  (poolRollback_ft w p pl ini).fp

theorem poolTake_fp (w : World) (p : Pid) (pl : Nat) (x : Pool) (rem : Nat) : Fp mPoolsHeld w (poolTake w p pl x rem).1 := by
  unfold poolTake
  split
  · exact Fp.trans (Fp.mono rfl (Fp.trans (setPoolInUse_fp w pl _) (recordPool_fp _ pl))) (poolUpdateRecord_fp _ pl p _)
  · exact Fp.refl _ w

theorem poolTakeMug_fp (w : World) (p : Pid) (pl : Nat) (x : Pool) (rem : Nat) (pre : Bool) :
    Fp mPoolsHeld w (poolTakeMug w p pl x rem pre).1 := by
  unfold poolTakeMug
  split
  · exact Fp.trans (poolTake_fp w p pl x rem) (poolMug_fp _ _ p pl _)
  · exact poolTake_fp w p pl x rem

/-- enough is free: it is charged to the pool and credited to the caller, the pool's waiters are told -/
theorem poolDirect_fp (w : World) (p : Pid) (pl rem g : Nat) (v : Nat) :
    Fp mPoolsHeld w (signal (poolUpdateRecord (recordPool (setPoolInUse w pl v) pl) pl p rem) g) :=
  Fp.trans (Fp.trans (Fp.mono rfl (Fp.trans (setPoolInUse_fp w pl v) (recordPool_fp _ pl))) (poolUpdateRecord_fp _ pl p rem))
    (Same.fp _ (signal_same _ g))

end CimbaModel.Sim
