/-
  S4 — the strong timer invariant: the writes of handle variables and of recorded frames, `TX` across whatever the
  library does without cancelling an event, touching a TIME awaitable or recording an event handle (`TX.ofEff`), and the
  functions of the model that are instances of that.
-/
import CimbaModel.Sim.S4TimerBase

namespace CimbaModel.Sim.S4
open CimbaModel CimbaModel.Sim CimbaModel.Sim.S3 CimbaModel.Event CimbaModel.Generated CimbaModel.KPQ
open CimbaModel.HashHeap (HTag Item Order HH WF abs liveTags)

theorem set!_getD_cases (a : Array Nat) (v x i : Nat) :
    (a.set! v x).getD i 0 = a.getD i 0 ∨ (i = v ∧ (a.set! v x).getD i 0 = x) := by
  simp only [Array.getD_eq_getD_getElem?, Array.set!_eq_setIfInBounds, Array.getElem?_setIfInBounds]
  by_cases h : v = i
  · subst h
    by_cases hlt : v < a.size
    · right; simp [hlt]
    · left; simp [hlt]
  · left; simp [h]

theorem setVar_evq (w : World) (p : Pid) (v x : Nat) : (setVar w p v x).ev = w.ev := by
  unfold setVar; split <;> rfl

theorem setVar_proc_cases (w : World) (p : Pid) (v x : Nat) (q : Pid) :
    (setVar w p v x).proc q = w.proc q ∨
    (q = p ∧ v < 8 ∧ (setVar w p v x).proc q = { w.proc q with vars := (w.proc q).vars.set! v x }) := by
  unfold setVar
  split
  · left; rfl
  · rename_i hv
    rw [modProc_proc]; split
    · rename_i hq; right; rw [hq.1]; exact ⟨rfl, by omega, rfl⟩
    · left; rfl

theorem setVar_gvars_cases (w : World) (p : Pid) (v x : Nat) :
    (setVar w p v x).gvars = w.gvars ∨ (8 ≤ v ∧ (setVar w p v x).gvars = w.gvars.set! v x) := by
  unfold setVar
  split
  · rename_i hv; right; exact ⟨hv, rfl⟩
  · left; rfl

theorem VarInv.setVar {w : World} (hv : VarInv w) (p : Pid) (v x : Nat)
    (ht : v < 4 → x ≤ w.ev.counter ∧ ∀ e ∈ w.ev.pending, e.key = x → e.item.a = aTime ∧ e.item.b = p + 1)
    (hu : 8 ≤ v → x ≤ w.ev.counter ∧ ∀ e ∈ w.ev.pending, e.key = x → e.item.a = aUser) : VarInv (setVar w p v x) where
  tv := by
    intro q i hi
    rw [setVar_evq]
    rcases setVar_proc_cases w p v x q with h | ⟨hq, _, h⟩
    · rw [h]; exact hv.tv q i hi
    · rw [h]
      rcases set!_getD_cases (w.proc q).vars v x i with h' | ⟨hiv, h'⟩
      · dsimp only
        rw [h']; exact hv.tv q i hi
      · dsimp only
        rw [h', hq]; exact ht (by omega)
  uv := by
    intro i hi
    rw [setVar_evq]
    rcases setVar_gvars_cases w p v x with h | ⟨hv8, h⟩
    · rw [h]; exact hv.uv i hi
    · rw [h]
      rcases set!_getD_cases w.gvars v x i with h' | ⟨_, h'⟩
      · rw [h']; exact hv.uv i hi
      · rw [h']; exact hu hv8

theorem setVar_keep (w : World) (p : Pid) (v x : Nat) (fr : Bool) (q : Pid) :
    (∀ k, Await.time k ∈ ((setVar w p v x).proc q).awaits → Await.time k ∈ (w.proc q).awaits) ∧
      (fr = true → ((setVar w p v x).proc q).blocked = (w.proc q).blocked ∨ ((setVar w p v x).proc q).blocked = none) := by
  rcases setVar_proc_cases w p v x q with h | ⟨_, _, h⟩ <;> rw [h] <;> exact ⟨fun _ h => h, fun _ => Or.inl rfl⟩

variable {fr : Bool}

theorem TX.setVar {w : World} (h : TX fr w) (p : Pid) (v x : Nat)
    (ht : v < 4 → x ≤ w.ev.counter ∧ ∀ e ∈ w.ev.pending, e.key = x → e.item.a = aTime ∧ e.item.b = p + 1)
    (hu : 8 ≤ v → x ≤ w.ev.counter ∧ ∀ e ∈ w.ev.pending, e.key = x → e.item.a = aUser) : TX fr (setVar w p v x) where
  ei := by rw [setVar_evq]; exact h.ei
  tl := h.tl.congr (fun q k hk => (setVar_keep w p v x fr q).1 k hk)
    (fun q k _ e he _ _ _ => ⟨e, by rw [setVar_evq]; exact he, rfl, rfl⟩)
  vi := h.vi.setVar p v x ht hu
  fi := fun hfr => (h.fi hfr).mono (Stb.ofEv (setVar_evq w p v x)) (fun q => (setVar_keep w p v x fr q).2 hfr)

theorem TX.foldl {α : Type} {f : World → α → World}
    (hf : ∀ w a, TX fr w → TX fr (f w a)) : ∀ (l : List α) {w : World}, TX fr w → TX fr (l.foldl f w) :=
  fun l w => (Path.ofPred (TX fr)).foldl hf l w

theorem TX.setVar_mid {w : World} (h : TX fr w) (p : Pid) (v x : Nat) (hv : 4 ≤ v ∧ v < 8) : TX fr (Sim.setVar w p v x) :=
  h.setVar p v x (fun h1 => absurd h1 (by omega)) (fun h1 => absurd h1 (by omega))

theorem TX.block_fst (h : TX fr w) (p : Pid) (f : Frame) (hf : fr = true → FrameOk w p f) : TX fr (block w p f).1 := by
  have hpr : ∀ q, (((block w p f).1).proc q).vars = (w.proc q).vars ∧
      (((block w p f).1).proc q).awaits = (w.proc q).awaits ∧
      ((((block w p f).1).proc q).blocked = (w.proc q).blocked ∨ (q = p ∧ (((block w p f).1).proc q).blocked = some f)) := by
    intro q; unfold block; rw [modProc_proc]; split
    · rename_i hq; rw [hq.1]; exact ⟨rfl, rfl, Or.inr ⟨rfl, rfl⟩⟩
    · exact ⟨rfl, rfl, Or.inl rfl⟩
  have hev : (block w p f).1.ev = w.ev := rfl
  refine { ei := h.ei, tl := ?_, vi := h.vi.mono (Stb.ofEv hev) (fun q => (hpr q).1) rfl, fi := ?_ }
  · exact h.tl.congr (fun q k hk => by rw [(hpr q).2.1] at hk; exact hk) (fun q k _ e he _ _ _ => ⟨e, he, rfl, rfl⟩)
  · intro hfr q f' hq
    rcases (hpr q).2.2 with h1 | ⟨h1, h2⟩
    · rw [h1] at hq; exact (h.fi hfr q f' hq).mono (Stb.ofEv hev)
    · rw [h2] at hq; cases hq; subst h1; exact (hf hfr).mono (Stb.ofEv hev)

theorem mem_time_filter {l : List Await} {k : Nat} : Await.time k ∈ l ↔ Await.time k ∈ l.filter isTimeA := by
  simp [List.mem_filter, isTimeA]

/-- `TX` across whatever the library does without cancelling an event, without touching a TIME awaitable and without
    recording the handle of an event; the handles of queued objects go to the variables 4..7.  What is left out has a
    condition on the state: a timer is armed with a duration that is not negative, a cancelled handle is nobody's timer. -/
theorem TX.ofEff {p : Pid} {s : Scope} {w0 w : World} (hc : s.cancel = false) (hT : s.awaitsT = .no) (hh : s.handles = false)
    (hq : ∀ v, s.PqVar v → 4 ≤ v ∧ v < 8) (h : Eff p s w0 w) : TX fr w0 → TX fr w := by
  induction h with
  | refl => exact id
  | fail _ m ih => exact fun h => (ih h).fail m
  | emit _ l ih => exact fun h => (ih h).emit l
  | modProc _ q f hf ih =>
    refine fun h => (ih h).same rfl (fun z => ?_) rfl
    rw [modProc_proc]; split
    · rename_i hz
      obtain ⟨rfl, _⟩ := hz
      refine ⟨fun k hk => ?_, (hf.keeps _).2.2.1, fun _ => Or.inl (hf.keeps _).2.2.2.1⟩
      rw [mem_time_filter, ← hf.awaitsT.resolve_left (by rw [hT]; exact id)]
      exact mem_time_filter.1 hk
    · exact ⟨fun _ hk => hk, rfl, fun _ => Or.inl rfl⟩
  | block _ q f _ hv hhd ih =>
    refine fun h => (ih h).block_fst q f fun _ => ?_
    cases f <;> first
      | trivial
      | exact hq _ (hv _ _ _ _ rfl)
      | exact absurd ((hhd _ rfl).1.symm.trans hh) (by decide)
  | unblock _ q _ ih => exact fun h => (ih h).modProc_ctl q _ fun _ => ⟨rfl, rfl, fun _ => Or.inr rfl⟩
  | setVar _ q v x _ _ hx ih =>
    refine fun h => (ih h).setVar_mid q v x ?_
    rcases hx with hx | hx
    · exact hq v hx
    · exact absurd (hx.1.symm.trans hh) (by decide)
  | ended _ q v _ _ _ ih => exact fun h => (ih h).modProc_ctl q _ fun _ => ⟨rfl, rfl, fun _ => Or.inr rfl⟩
  | started _ q _ _ _ ih => exact fun h => (ih h).modProc_ctl q _ fun _ => ⟨rfl, rfl, fun _ => Or.inr rfl⟩
  | evWaiters _ _ x ih => exact fun h => (ih h).setEvWaiters x
  | guards _ _ a _ ih => exact fun h => (ih h).setGuards a
  | res _ _ a _ _ ih => exact fun h => (ih h).setRes a
  | pools _ _ a _ _ _ ih => exact fun h => (ih h).setPools a
  | bufs _ _ a _ _ ih => exact fun h => (ih h).setBufs a
  | oqs _ _ a _ _ ih => exact fun h => (ih h).setOqs a
  | pqs _ _ a _ _ _ ih => exact fun h => (ih h).setPqs a
  | flags _ _ x ih => exact fun h => (ih h).setFlags x
  | push _ _ he _ _ ih => intro h; rw [(schedule_ok he).2]; exact (ih h).pushEv _ _ _ _ _ (schedule_ok he).1
  | cancel _ hs _ _ => rw [hc] at hs; cases hs
  | reprio _ _ he ih => exact fun h => (ih h).reprioEv he

/-- the largest scope `TX` tolerates -/
def TX.scope : Scope := { Scope.top with cancel := false, awaitsT := .no, handles := false, pqVars := some [] }

theorem TX.lib {w w' : World} (h : TX fr w) (he : Eff 0 TX.scope w w') : TX fr w' :=
  TX.ofEff rfl rfl rfl (fun _ hv => by cases hv) he h

theorem TX.recordRes {w : World} (h : TX fr w) (r : Nat) : TX fr (recordRes w r) :=
  h.lib (Eff.recordRes .refl r)

theorem TX.recordPool {w : World} (h : TX fr w) (r : Nat) : TX fr (recordPool w r) :=
  h.lib (Eff.recordPool .refl r)

theorem TX.recordBuf {w : World} (h : TX fr w) (r : Nat) : TX fr (recordBuf w r) :=
  h.lib (Eff.recordBuf .refl r)

theorem TX.recordOQ {w : World} (h : TX fr w) (r : Nat) : TX fr (recordOQ w r) :=
  h.lib (Eff.recordOQ .refl r)

theorem TX.recordPQ {w : World} (h : TX fr w) (r : Nat) : TX fr (recordPQ w r) :=
  h.lib (Eff.recordPQ .refl r)

theorem TX.guardRemove_fst {w : World} (h : TX fr w) (g : Nat) (p : Pid) : TX fr (guardRemove w g p).1 :=
  h.lib (Eff.guardRemove .refl g p)

theorem TX.condSignal_fst {w : World} (h : TX fr w) (g : Nat) : TX fr (condSignal w g).1 :=
  h.lib (Eff.condSignal .refl g)

theorem TX.guardSignal (fuel : Nat) {w : World} (h : TX fr w) (g : Nat) : TX fr (guardSignal fuel w g) :=
  h.lib (Eff.guardSignal .refl fuel g)

theorem TX.signal {w : World} (h : TX fr w) (g : Nat) : TX fr (signal w g) := TX.guardSignal 8 h g

theorem TX.removeHeld_fst {w : World} (h : TX fr w) (p : Pid) (x : HoldRef) : TX fr (removeHeld w p x).1 :=
  h.lib (Eff.removeHeld .refl p x)

theorem TX.setPoolInUse {w : World} (h : TX fr w) (pl v : Nat) : TX fr (setPoolInUse w pl v) := h.setPools _

theorem TX.setHeldAmount {w : World} (h : TX fr w) (pl : Nat) (p : Pid) (a : Nat) : TX fr (setHeldAmount w pl p a) :=
  h.lib (Eff.setHeldAmount .refl pl p a)

theorem TX.poolUpdateRecord {w : World} (h : TX fr w) (pl : Nat) (p : Pid) (a : Nat) :
    TX fr (poolUpdateRecord w pl p a) :=
  h.lib (Eff.poolUpdateRecord .refl pl p a)

theorem TX.grab {w : World} (h : TX fr w) (r : Nat) (p : Pid) : TX fr (grab w r p) :=
  h.lib (Eff.grab .refl r p)

theorem TX.guardWithdraw {w : World} (h : TX fr w) (g : Nat) (p : Pid) : TX fr (guardWithdraw w g p) := by
  simp only [Sim.guardWithdraw]
  split
  · exact h.guardRemove_fst g p
  · split
    · exact ((h.guardRemove_fst g p).cancelKindFor_fst p aRes _ (by decide)).signal g
    · exact (h.guardRemove_fst g p).cancelKindFor_fst p aRes _ (by decide)

theorem TX.dropResources {w : World} (h : TX fr w) (p : Pid) : TX fr (dropResources w p) :=
  h.lib (Eff.dropResources .refl p)

theorem TX.poolMug_fst (fuel : Nat) {w : World} (h : TX fr w) (p : Pid) (pl rem : Nat) : TX fr (poolMug fuel w p pl rem).1 :=
  h.lib (Eff.poolMug .refl fuel p pl rem)

theorem TX.poolRollback {w : World} (h : TX fr w) (p : Pid) (pl ini : Nat) : TX fr (poolRollback w p pl ini) :=
  h.lib (Eff.poolRollback .refl p pl ini)

theorem TX.setRecording {w : World} (h : TX fr w) (kind idx : Nat) (on : Bool) : TX fr (setRecording w kind idx on) :=
  h.lib (Eff.setRecording .refl kind idx on (by unfold Scope.Records; split <;> rfl))

theorem TX.prioAwaitStep {w : World} (h : TX fr w) (q : Pid) (v : Int) (a : Await) : TX fr (prioAwaitStep q v w a) := by
  unfold S3.prioAwaitStep
  split
  · split
    · rename_i hr; exact h.reprioEv hr
    · exact h.fail _
  · unfold S3.reprioGuard
    split
    · split
      · split
        · split
          · exact h.setGuardQ _ _
          · exact h.fail _
        · exact h.fail _
      · exact h
    · exact h
  · exact h

theorem TX.prioHeldStep {w : World} (h : TX fr w) (q : Pid) (v : Int) (x : HoldRef) : TX fr (prioHeldStep q v w x) := by
  unfold S3.prioHeldStep
  split
  · split
    · split
      · exact h.setPools _
      · exact h.fail _
    · exact h
  · exact h

end CimbaModel.Sim.S4
