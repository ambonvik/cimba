/-
  S3 — the grant invariant (no lost wake-ups, C08): definitions and counting.

  `need w d`   : how much of the demand `d` (= an object end: resource, pool, buffer front / rear, …) is available, in
                 the unit in which one grant consumes it (min 1 for resources, pools, buffers whose consumers signal
                 again; the number of objects / free slots for the queues, whose consumers take exactly one).
  `gOf w d`    : the guard of that object end.
  `G w g`      : the number of pending grants (aRes, SUCCESS) whose process awaits guard `g`.
  `GI df w`    : for every object end with a non-empty waiting list, `need ≤ G + df` (df = deficit, 0 between dispatches).
-/
import CimbaModel.Sim.S3GInv

namespace CimbaModel.Sim.S3
open CimbaModel CimbaModel.Sim CimbaModel.Event CimbaModel.Generated CimbaModel.KPQ
open CimbaModel.HashHeap (HTag Item Order HH WF abs liveTags)

theorem length_le_succ_of_nodup_subset_except {α : Type} [DecidableEq α] (l l' : List α) (a : α) (hnd : l.Nodup)
    (hs : ∀ x ∈ l, x ≠ a → x ∈ l') : l.length ≤ l'.length + 1 := by
  have h1 : (l.erase a).length ≤ l'.length := by
    refine List.Nodup.length_le_of_subset (hnd.erase a) ?_
    intro x hx
    have hne : x ≠ a := fun h => by
      subst h
      exact (List.Nodup.mem_erase_iff hnd).1 hx |>.1 rfl
    exact hs x (List.mem_of_mem_erase hx) hne
  have h2 : l.length ≤ (l.erase a).length + 1 := by
    rw [List.length_erase]; split <;> omega
  omega

/-- a grant: the wake-up of a guard's front waiter, kind `aRes` with the code 0 of SUCCESS (a code ≠ 0 is a cancellation notice of
    `cmb_condition_cancel`) -/
def isG01 (e : HTag) : Prop := e.item.a = aRes ∧ e.item.c = 0

instance (e : HTag) : Decidable (isG01 e) := by unfold isG01; infer_instance

/-- `e` is a grant to a process that awaits guard `g` -/
def grantOf (w : World) (g : Nat) (e : HTag) : Prop := isG01 e ∧ Await.guard g ∈ (w.proc (e.item.b - 1)).awaits

instance (w : World) (g : Nat) (e : HTag) : Decidable (grantOf w g e) := by unfold grantOf; infer_instance

def grantKeys (w : World) (g : Nat) : List Nat := (w.ev.pending.filter fun e => decide (grantOf w g e)).map (·.key)

/-- the number of pending grants whose process awaits guard `g` -/
def G (w : World) (g : Nat) : Nat := (grantKeys w g).length

/-- somebody is on the waiting list of guard `g` -/
def Qne (w : World) (g : Nat) : Prop := ∃ k, queued w g k

def gOf (w : World) : Demand → Option Nat
  | .resAvail r => (w.res[r]?).map resStat
  | .poolAvail p => (w.pools[p]?).map (fun x => (poolStat x).1)
  | .bufContent b => (w.bufs[b]?).map (fun x => (bufStat x).1)
  | .bufSpace b => (w.bufs[b]?).map (fun x => (bufStat x).2.1)
  | .oqContent q => (w.oqs[q]?).map (fun x => (oqStat x).1)
  | .oqSpace q => (w.oqs[q]?).map (fun x => (oqStat x).2.1)
  | .pqContent k => (w.pqs[k]?).map (fun x => (pqStat x).1)
  | .pqSpace k => (w.pqs[k]?).map (fun x => (pqStat x).2.1)
  | .cond _ _ _ => none

def need (w : World) : Demand → Nat
  | .resAvail r => ((w.res[r]?).map fun x => if x.holder.isNone then 1 else 0).getD 0
  | .poolAvail p => ((w.pools[p]?).map fun x => min (x.cap - x.inUse) 1).getD 0
  | .bufContent b => ((w.bufs[b]?).map fun x => min x.level 1).getD 0
  | .bufSpace b => ((w.bufs[b]?).map fun x => min (x.cap - x.level) 1).getD 0
  | .oqContent q => ((w.oqs[q]?).map fun x => x.items.length).getD 0
  | .oqSpace q => ((w.oqs[q]?).map fun x => x.cap - x.items.length).getD 0
  | .pqContent k => ((w.pqs[k]?).map fun x => x.queue.count).getD 0
  | .pqSpace k => ((w.pqs[k]?).map fun x => x.cap - x.queue.count).getD 0
  | .cond _ _ _ => 0

theorem opt_pos {α : Type} (o : Option α) (f : α → Bool) (n : α → Nat) (h : ∀ x, f x = true ↔ 0 < n x) :
    (o.map f).getD false = true ↔ 0 < (o.map n).getD 0 := by
  cases o with
  | none => simp
  | some x => simpa using h x

theorem evalDemand_need (w : World) (d : Demand) (hd : ∀ k a b, d ≠ .cond k a b) : evalDemand w d = true ↔ 0 < need w d := by
  cases d with
  | cond k a b => exact absurd rfl (hd k a b)
  | resAvail r => exact opt_pos _ _ _ (fun x => by cases hx : x.holder <;> simp)
  | poolAvail r => exact opt_pos _ _ _ (fun x => by simp; omega)
  | bufContent r => exact opt_pos _ _ _ (fun x => by simp; omega)
  | bufSpace r => exact opt_pos _ _ _ (fun x => by simp; omega)
  | oqContent r => exact opt_pos _ _ _ (fun x => by simp)
  | oqSpace r => exact opt_pos _ _ _ (fun x => by simp; omega)
  | pqContent r => exact opt_pos _ _ _ (fun x => by simp)
  | pqSpace r => exact opt_pos _ _ _ (fun x => by simp; omega)

theorem need_of_gOf_none {w : World} {d : Demand} (h : gOf w d = none) : need w d = 0 := by
  cases d <;> simp only [gOf, Option.map_eq_none_iff] at h <;> simp only [need, h] <;> rfl

theorem gOf_not_cond {w : World} {d : Demand} {g : Nat} (h : gOf w d = some g) : ∀ k a b, d ≠ .cond k a b := by
  intro k a b hd; subst hd; cases h

theorem gOf_of_stat {w w' : World} (hs : Stat w w') (d : Demand) : gOf w' d = gOf w d := by
  cases d <;> simp only [gOf]
  · rw [hs.res]
  · rw [map_of_map poolStat Prod.fst (hs.pools _)]
  · rw [map_of_map bufStat Prod.fst (hs.bufs _)]
  · rw [map_of_map bufStat (fun x => x.2.1) (hs.bufs _)]
  · rw [map_of_map oqStat Prod.fst (hs.oqs _)]
  · rw [map_of_map oqStat (fun x => x.2.1) (hs.oqs _)]
  · rw [map_of_map pqStat Prod.fst (hs.pqs _)]
  · rw [map_of_map pqStat (fun x => x.2.1) (hs.pqs _)]

def frameDemand : Frame → Option Demand
  | .acquire r => some (.resAvail r)
  | .pool pl _ _ _ => some (.poolAvail pl)
  | .bufGet b _ _ => some (.bufContent b)
  | .bufPut b _ _ => some (.bufSpace b)
  | .oqGet q => some (.oqContent q)
  | .oqPut q _ => some (.oqSpace q)
  | .pqGet k => some (.pqContent k)
  | .pqPut k _ _ _ => some (.pqSpace k)
  | _ => none

theorem frameOn_gOf {w : World} {f : Frame} {d : Demand} (h : frameDemand f = some d) (g : Nat) :
    FrameOn w f g ↔ gOf w d = some g := by
  cases f <;> simp only [frameDemand, Option.some.injEq, reduceCtorEq] at h <;> subst h <;> exact Iff.rfl

/-- the grant invariant with deficit `df`: while somebody waits at the guard of an object end, what is available there is
    covered by the pending grants of that guard, up to `df` (0 between dispatches) -/
def GI (df : Demand → Nat) (w : World) : Prop :=
  ∀ d g, gOf w d = some g → Qne w g → need w d ≤ G w g + df d

/-- homogeneity: every waiter of the guard of an object end has registered that end's demand -/
def HG (w : World) : Prop :=
  ∀ d g, gOf w d = some g → ∀ gd, w.guards[g]? = some gd → ∀ k ∈ keys (abs gd.q), demandOf gd k = d

/-- different object ends have different guards -/
def EndSep (w : World) : Prop := ∀ d d' g, gOf w d = some g → gOf w d' = some g → d = d'

theorem EndSep.ofStat {w w' : World} (h : EndSep w) (hs : Stat w w') : EndSep w' := by
  intro d d' g h1 h2
  rw [gOf_of_stat hs] at h1 h2
  exact h d d' g h1 h2

theorem GI.mono {df df' : Demand → Nat} {w : World} (h : GI df w) (hle : ∀ d, df d ≤ df' d) : GI df' w := by
  intro d g hg hq
  have := h d g hg hq
  have := hle d
  omega

theorem grantKeys_nodup {w : World} (hi : EvInv w.ev) (g : Nat) : (grantKeys w g).Nodup := by
  unfold grantKeys
  have h1 : ((w.ev.pending.filter fun e => decide (grantOf w g e)).map (·.key)).Sublist (keys w.ev.pending) :=
    (List.filter_sublist).map _
  exact h1.nodup hi.part.keysNodup

theorem mem_grantKeys {w : World} {g k : Nat} : k ∈ grantKeys w g ↔ ∃ e ∈ w.ev.pending, e.key = k ∧ grantOf w g e := by
  unfold grantKeys
  simp only [List.mem_map, List.mem_filter, decide_eq_true_eq]
  constructor
  · rintro ⟨e, ⟨he, hg⟩, rfl⟩; exact ⟨e, he, rfl, hg⟩
  · rintro ⟨e, he, rfl, hg⟩; exact ⟨e, ⟨he, hg⟩, rfl⟩

theorem G_le_of_keep {w w' : World} (hi : EvInv w.ev) (g : Nat)
    (h : ∀ e ∈ w.ev.pending, grantOf w g e → ∃ e' ∈ w'.ev.pending, e'.key = e.key ∧ grantOf w' g e') : G w g ≤ G w' g := by
  unfold G
  refine List.Nodup.length_le_of_subset (grantKeys_nodup hi g) ?_
  intro k hk
  obtain ⟨e, he, rfl, hg⟩ := mem_grantKeys.1 hk
  obtain ⟨e', he', hk', hg'⟩ := h e he hg
  exact mem_grantKeys.2 ⟨e', he', hk', hg'⟩

theorem G_le_succ_of_keep_except {w w' : World} (hi : EvInv w.ev) (g : Nat) (k0 : Nat)
    (h : ∀ e ∈ w.ev.pending, e.key ≠ k0 → grantOf w g e → ∃ e' ∈ w'.ev.pending, e'.key = e.key ∧ grantOf w' g e') :
    G w g ≤ G w' g + 1 := by
  unfold G
  refine length_le_succ_of_nodup_subset_except _ _ k0 (grantKeys_nodup hi g) ?_
  intro k hk hne
  obtain ⟨e, he, rfl, hg⟩ := mem_grantKeys.1 hk
  obtain ⟨e', he', hk', hg'⟩ := h e he hne hg
  exact mem_grantKeys.2 ⟨e', he', hk', hg'⟩

theorem G_succ_le_of_new {w w' : World} (hi : EvInv w.ev) (g : Nat) {e0 : HTag} (he0 : e0 ∈ w'.ev.pending)
    (hg0 : grantOf w' g e0) (hnew : ∀ e ∈ w.ev.pending, e.key ≠ e0.key)
    (h : ∀ e ∈ w.ev.pending, grantOf w g e → ∃ e' ∈ w'.ev.pending, e'.key = e.key ∧ grantOf w' g e') :
    G w g + 1 ≤ G w' g := by
  unfold G
  have h1 : (e0.key :: grantKeys w g).length ≤ (grantKeys w' g).length := by
    refine List.Nodup.length_le_of_subset ?_ ?_
    · refine List.nodup_cons.2 ⟨?_, grantKeys_nodup hi g⟩
      intro hk
      obtain ⟨e, he, hk', _⟩ := mem_grantKeys.1 hk
      exact hnew e he hk'
    · intro k hk
      rcases List.mem_cons.1 hk with rfl | hk
      · exact mem_grantKeys.2 ⟨e0, he0, rfl, hg0⟩
      · obtain ⟨e, he, rfl, hg⟩ := mem_grantKeys.1 hk
        obtain ⟨e', he', hk', hg'⟩ := h e he hg
        exact mem_grantKeys.2 ⟨e', he', hk', hg'⟩
  simpa using h1

theorem G_zero_of_no_pending {w : World} (h : w.ev.pending = []) (g : Nat) : G w g = 0 := by
  unfold G grantKeys; rw [h]; rfl

end CimbaModel.Sim.S3
