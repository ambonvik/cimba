/-
  S3 — `NRInv`: a process that is not running (created, finished) awaits nothing and has no recorded frame.
-/
import CimbaModel.Sim.S3Keep
import CimbaModel.Sim.S3PF

namespace CimbaModel.Sim.S3
open CimbaModel CimbaModel.Sim CimbaModel.Event CimbaModel.Generated CimbaModel.KPQ
open CimbaModel.HashHeap (HTag Item Order HH WF abs liveTags)

def NRInv (w : World) : Prop :=
  ∀ x, (w.proc x).status ≠ .running → (w.proc x).awaits = [] ∧ (w.proc x).blocked = none

theorem NRInv.ofCtl {w w' : World} (h : NRInv w) (hc : SameCtl w w') : NRInv w' := by
  intro x hx
  rw [(hc x).1, (hc x).2.2.2]
  exact h x (by rw [← (hc x).2.2.1]; exact hx)

theorem NRInv.ofPF {w w' : World} (h : NRInv w) (hpf : PF w w') : NRInv w' := h.ofCtl hpf.ctl

theorem NRInv.modProc_shrink {w : World} (h : NRInv w) (q : Pid) (f : Proc → Proc)
    (hf : ∀ x, (f x).status = x.status ∧ (x.awaits = [] → (f x).awaits = []) ∧ (x.blocked = none → (f x).blocked = none)) :
    NRInv (w.modProc q f) := by
  intro x hx
  rw [modProc_proc] at hx ⊢
  split
  · rename_i hq
    rw [if_pos hq] at hx
    rw [(hf _).1] at hx
    have := h q hx
    exact ⟨(hf _).2.1 this.1, (hf _).2.2 this.2⟩
  · rename_i hq
    rw [if_neg hq] at hx
    exact h x hx

theorem NRInv.modProc_running {w : World} (h : NRInv w) (q : Pid) (f : Proc → Proc) (hr : (w.proc q).status = .running)
    (hf : ∀ x, (f x).status = x.status) : NRInv (w.modProc q f) := by
  intro x hx
  rw [modProc_proc] at hx ⊢
  split
  · rename_i hq
    rw [if_pos hq, hf, hr] at hx
    exact absurd rfl hx
  · rename_i hq
    rw [if_neg hq] at hx
    exact h x hx

theorem NRInv.addAwait {w : World} (h : NRInv w) (q : Pid) (a : Await) (hr : (w.proc q).status = .running) :
    NRInv (addAwait w q a) := h.modProc_running q _ hr (fun _ => rfl)

theorem NRInv.block_fst {w : World} (h : NRInv w) (q : Pid) (f : Frame) (hr : (w.proc q).status = .running) :
    NRInv (block w q f).1 := h.modProc_running q _ hr (fun _ => rfl)

theorem NRInv.removeAwait_fst {w : World} (h : NRInv w) (q : Pid) (a : Await) : NRInv (removeAwait w q a).1 := by
  rw [removeAwait_fst_eq]
  exact h.modProc_shrink q _ (fun x => ⟨rfl, fun hx => by show (removeFirst x.awaits a).1 = []; rw [hx]; rfl, fun hx => hx⟩)

theorem NRInv.removeAwaitKind_fst {w : World} (h : NRInv w) (q : Pid) (k : Await → Bool) : NRInv (removeAwaitKind w q k).1 := by
  rw [removeAwaitKind_fst_eq]
  exact h.modProc_shrink q _ (fun x => ⟨rfl, fun hx => by show (removeAwaitKind.go k x.awaits).1 = []; rw [hx]; rfl, fun hx => hx⟩)

theorem NRInv.timerAdd_fst {w : World} (h : NRInv w) (q : Pid) (d sig : Int) (hr : (w.proc q).status = .running) :
    NRInv (timerAdd w q d sig).1 := by
  simp only [timerAdd]
  refine NRInv.addAwait (h.ofPF ((PF.refl w).sched_fst _ _ _ _ _)) q _ ?_
  rw [sched_proc]; exact hr

theorem NRInv.timerCancel_fst {w : World} (h : NRInv w) (q : Pid) (k : Nat) : NRInv (timerCancel w q k).1 := by
  simp only [timerCancel]
  exact (h.removeAwait_fst q _).ofPF ((PF.refl _).evCancel_fst k)

theorem NRInv.timersClear {w : World} (h : NRInv w) (q : Pid) : NRInv (timersClear w q) := by
  unfold Sim.timersClear
  refine NRInv.ofPF ?_ (PF.foldl (fun w k => (PF.refl w).evCancel_fst k) _ (PF.refl _))
  exact h.modProc_shrink q _ (fun x => ⟨rfl, fun hx => by simp [hx], fun hx => hx⟩)

theorem NRInv.cancelAwaiteds {w : World} (h : NRInv w) (q : Pid) : NRInv (cancelAwaiteds w q) := by
  unfold Sim.cancelAwaiteds
  refine NRInv.ofPF ?_ (PF.cancelAllFor (PF.refl _) q)
  refine (Path.ofPred NRInv).foldl (fun w a hw => ?_) _ _ (h.modProc_shrink q _ (fun x => ⟨rfl, fun _ => rfl, fun hx => hx⟩))
  cases a with
  | time k => exact hw.ofPF ((PF.refl w).evCancel_fst k)
  | guard g => exact hw.ofPF ((PF.refl w).guardWithdraw g q)
  | proc r => exact hw.modProc_shrink r _ (fun x => ⟨rfl, fun hx => hx, fun hx => hx⟩)
  | event k => exact hw

theorem NRInv.wakeWaiters {w : World} (h : NRInv w) (q : Pid) (sig : Int) : NRInv (wakeWaiters w q sig) := by
  unfold Sim.wakeWaiters
  refine NRInv.ofPF ?_ (PF.foldl (fun w k => (PF.refl w).sched_fst _ _ _ _ _) _ (PF.refl _))
  exact h.modProc_shrink q _ (fun x => ⟨rfl, fun hx => hx, fun hx => hx⟩)

theorem cancelAwaiteds_awaits (w : World) (q : Pid) : ((cancelAwaiteds w q).proc q).awaits = [] := by
  refine cancelAwaiteds_induct q (fun _ w1 => (w1.proc q).awaits = []) (fun w1 => (w1.proc q).awaits = []) w ?_
    (fun a _ w1 h0 => ?_) (fun w1 h0 => by rw [((PF.refl _).cancelAllFor q |>.ctl q).1]; exact h0)
  · rw [modProc_proc]; split
    · rfl
    · rename_i hn
      by_cases hs : q < w.procs.size
      · exact absurd ⟨rfl, hs⟩ hn
      · rw [proc_oob w (Nat.le_of_not_lt hs)]
  · cases a with
    | time k => show (((evCancel w1 k).1).proc q).awaits = []; rw [(evCancel_rel w1 k).proc]; exact h0
    | guard g => show ((guardWithdraw w1 g q).proc q).awaits = []; rw [((PF.refl w1).guardWithdraw g q |>.ctl q).1]; exact h0
    | proc r =>
      show ((w1.modProc r fun x => { x with waiters := (removeFirst x.waiters q).1 }).proc q).awaits = []
      rw [modProc_proc]; split
      · rename_i hq; obtain ⟨rfl, _⟩ := hq; exact h0
      · exact h0
    | event k => exact h0

theorem NRInv.finishProc {w : World} (h : NRInv w) (q : Pid) (v : Int) (s : Bool) : NRInv (finishProc w q v s) := by
  rw [finishProc_eq]
  have hpre : NRInv (finishPre w q s) ∧ ((finishPre w q s).proc q).awaits = [] := by
    unfold finishPre
    split
    · refine ⟨(NRInv.cancelAwaiteds h q).ofPF ((PF.refl _).dropResources q), ?_⟩
      rw [((PF.refl _).dropResources q |>.ctl q).1]; exact cancelAwaiteds_awaits w q
    · exact ⟨NRInv.cancelAwaiteds (h.ofPF ((PF.refl _).dropResources q)) q, cancelAwaiteds_awaits _ q⟩
  obtain ⟨h1, ha⟩ := hpre
  generalize finishPre w q s = w1 at h1 ha
  have h2 : NRInv (w1.modProc q fun x => { x with waiters := [] }) :=
    h1.modProc_shrink q _ (fun x => ⟨rfl, fun hx => hx, fun hx => hx⟩)
  generalize (if s then sigStopped else sigSuccess) = sg
  intro x hx
  rw [modProc_proc] at hx ⊢
  split
  · rename_i hq
    obtain ⟨rfl, _⟩ := hq
    refine ⟨?_, rfl⟩
    show ((pushAll _ _).proc x).awaits = []
    rw [pushAll_proc, modProc_proc]; split
    · exact ha
    · exact ha
  · rename_i hq
    rw [if_neg hq, pushAll_proc] at hx
    rw [pushAll_proc]
    exact h2 x hx

theorem NRInv.guardWaitEnter {w : World} (h : NRInv w) (g : Nat) (q : Pid) (d : Demand) (hr : (w.proc q).status = .running) :
    NRInv (guardWaitEnter w g q d) := by
  unfold Sim.guardWaitEnter
  split
  · exact h.ofPF ((PF.refl w).fail _)
  · split
    · exact (h.ofPF ((PF.refl w).setGuards _)).addAwait q _ hr
    · exact h.ofPF ((PF.refl w).fail _)

theorem NRInv.guardWaitLeave {w : World} (h : NRInv w) (g : Nat) (q : Pid) (sig : Int) : NRInv (guardWaitLeave w g q sig) := by
  unfold Sim.guardWaitLeave
  apply NRInv.removeAwait_fst
  split
  · exact h.ofPF ((PF.refl w).guardWithdraw g q)
  · exact h

/-- `NRInv`, and the caller `p` is running: what holds of the worlds a call of `p` passes through -/
structure NRw (p : Pid) (w : World) : Prop where
  nr : NRInv w
  run : (w.proc p).status = .running

theorem NRw.ofCtl {p : Pid} {w w' : World} (h : NRw p w) (hc : SameCtl w w') : NRw p w' :=
  ⟨h.nr.ofCtl hc, by rw [(hc p).2.2.1]; exact h.run⟩

theorem NRw.ofPF {p : Pid} {w w' : World} (h : NRw p w) (hpf : PF w w') : NRw p w' := h.ofCtl hpf.ctl

theorem NRw.modProc {p : Pid} {w : World} (h : NRw p w) (q : Pid) (f : Proc → Proc)
    (hf : ∀ x, (f x).status = x.status ∧ (f x).awaits = x.awaits ∧ ((f x).blocked = x.blocked ∨ (f x).blocked = none)) :
    NRw p (w.modProc q f) := by
  refine ⟨h.nr.modProc_shrink q f (fun x => ⟨(hf x).1, fun hx => by rw [(hf x).2.1]; exact hx, fun hx => ?_⟩), ?_⟩
  · cases (hf x).2.2 with
    | inl e => rw [e]; exact hx
    | inr e => exact e
  · rw [modProc_proc]; split
    · rename_i hq; rw [(hf _).1, ← hq.1]; exact h.run
    · exact h.run

/-- everything but the status of a process -/
def NRw.scope : Scope := { Scope.top with status := .no }

/-- `NRw p` across a step that keeps `NRInv` and cannot reach the status of `p` -/
theorem NRw.ofEff {p c : Pid} {s : Scope} {w w' : World} (h : NRw p w) (hn : NRInv w') (he : Eff c s w w')
    (hs : s.status.Out c p) : NRw p w' := ⟨hn, (he.outside.status p hs).trans h.run⟩

theorem NRw.step {p : Pid} {w w' : World} (h : NRw p w) (hn : NRInv w') (he : Eff 0 NRw.scope w w') : NRw p w' :=
  h.ofEff hn he (.inl rfl)

theorem NRw.addAwait {p : Pid} {w : World} (h : NRw p w) (a : Await) : NRw p (addAwait w p a) :=
  h.step (h.nr.addAwait p a h.run) (.addAwait .refl p a)

theorem NRw.block_fst {p : Pid} {w : World} (h : NRw p w) (f : Frame) : NRw p (block w p f).1 :=
  ⟨h.nr.block_fst p f h.run,
    (modProc_field Proc.status w p (fun x => { x with blocked := some f }) (fun _ => rfl) p).trans h.run⟩

theorem NRw.removeAwait_fst {p : Pid} {w : World} (h : NRw p w) (q : Pid) (a : Await) : NRw p (removeAwait w q a).1 :=
  h.step (h.nr.removeAwait_fst q a) (.removeAwait .refl q a)

theorem NRw.removeAwaitKind_fst {p : Pid} {w : World} (h : NRw p w) (q : Pid) (k : Await → Bool) :
    NRw p (removeAwaitKind w q k).1 := h.step (h.nr.removeAwaitKind_fst q k) (.removeAwaitKind .refl q k)

theorem NRw.timerAdd_fst {p : Pid} {w : World} (h : NRw p w) (d sig : Int) : NRw p (timerAdd w p d sig).1 :=
  h.step (h.nr.timerAdd_fst p d sig h.run) (.timerAdd .refl p d sig)

/-- a timer armed for ANOTHER running process (`timerAddOf`) -/
theorem NRw.timerAdd_of {p : Pid} {w : World} (h : NRw p w) (q : Pid) (d sig : Int) (hr : (w.proc q).status = .running) :
    NRw p (timerAdd w q d sig).1 := h.step (h.nr.timerAdd_fst q d sig hr) (.timerAdd .refl q d sig)

theorem NRw.timerCancel_fst {p : Pid} {w : World} (h : NRw p w) (q : Pid) (k : Nat) : NRw p (timerCancel w q k).1 :=
  h.step (h.nr.timerCancel_fst q k) (.timerCancel .refl q k)

theorem NRw.timersClear {p : Pid} {w : World} (h : NRw p w) (q : Pid) : NRw p (timersClear w q) :=
  h.step (h.nr.timersClear q) (.timersClear .refl q)

theorem NRw.cancelAwaiteds {p : Pid} {w : World} (h : NRw p w) (q : Pid) : NRw p (cancelAwaiteds w q) :=
  h.step (NRInv.cancelAwaiteds h.nr q) (.cancelAwaiteds .refl q)

theorem NRw.wakeWaiters {p : Pid} {w : World} (h : NRw p w) (q : Pid) (sig : Int) : NRw p (wakeWaiters w q sig) :=
  h.step (NRInv.wakeWaiters h.nr q sig) (.wakeWaiters .refl q sig)

theorem NRw.finishProc_other {p : Pid} {w : World} (h : NRw p w) {q : Pid} (hq : q ≠ p) (v : Int) (s : Bool) :
    NRw p (finishProc w q v s) :=
  h.ofEff (NRInv.finishProc h.nr q v s) (c := q) (s := KeepP.other) (.finishProc .refl q v s) (.inr ⟨rfl, hq.symm⟩)

theorem NRw.guardWaitEnter {p : Pid} {w : World} (h : NRw p w) (g : Nat) (d : Demand) : NRw p (guardWaitEnter w g p d) :=
  h.step (NRInv.guardWaitEnter h.nr g p d h.run) (.guardWaitEnter .refl g p d)

theorem NRw.guardWaitLeave {p : Pid} {w : World} (h : NRw p w) (g : Nat) (q : Pid) (sig : Int) :
    NRw p (guardWaitLeave w g q sig) := h.step (NRInv.guardWaitLeave h.nr g q sig) (.guardWaitLeave .refl g q sig)

theorem NRw.setEvWaiters {p : Pid} {w : World} (h : NRw p w) (x : List (Nat × List Pid)) : NRw p { w with evWaiters := x } :=
  ⟨h.nr, h.run⟩

/-- … and of the world and outcome it ends in: `p` is running unless the call has ended it -/
def NRr (p : Pid) (r : World × Outcome) : Prop := NRInv r.1 ∧ (r.2 ≠ .ended → (r.1.proc p).status = .running)

theorem NRr.of {p : Pid} {r : World × Outcome} (h : NRw p r.1) : NRr p r := ⟨h.nr, fun _ => h.run⟩
theorem NRr.blocked {p : Pid} {w : World} (h : NRw p w) : NRr p (w, .blocked) := ⟨h.nr, fun _ => h.run⟩
theorem NRr.ended {p : Pid} {w : World} (h : NRw p w) (q : Pid) (v : Int) (s : Bool) : NRr p (finishProc w q v s, .ended) :=
  ⟨NRInv.finishProc h.nr q v s, fun hne => absurd rfl hne⟩

section
variable {p : Pid} {w : World}

theorem NRw.sched_fst (h : NRw p w) (a s : Nat) (sig t pri : Int) : NRw p (sched w a s sig t pri).1 :=
  h.ofCtl (sameCtl_of_procs (sched_procs w a s sig t pri))

theorem NRw.guardFree : GuardFree fun w w' => NRw p w → NRw p w' where
  toPath := Path.ofPred _
  same := fun hs h => h.ofCtl hs.ctl
  evCancel := fun w k h => h.ofCtl (sameCtl_of_procs (evCancel_rel w k).procs)
  sched := fun _ a s sig t pri _ h => h.sched_fst a s sig t pri
  guards := fun _ _ h => ⟨h.nr, h.run⟩
  wake := fun _ a s t pri _ h => h.sched_fst a s sigSuccess t pri

theorem NRw.cmds : Cmds fun w w' => NRw p w → NRw p w' :=
  { NRw.guardFree.foot with
    cancelAwaiteds := fun _ q h => h.cancelAwaiteds q
    timersClear := fun _ q h => h.timersClear q
    timerCancel := fun _ q k h => h.timerCancel_fst q k
    prioAwait := fun w q v a h => h.ofPF ((PF.refl w).prioAwaitStep q v a)
    condSignal := fun w _ g _ h => NRw.guardFree.condSignal w g h }

theorem NRw.call (h : NRw p w) : Call (fun w w' => NRw p w → NRw p w') (fun r => NRw p r.1) w p where
  cmds := NRw.cmds
  stay := fun _ _ _ hh => hh h
  enter := fun _ g d f hh _ => ((hh h).guardWaitEnter g d).block_fst f
  blk := fun _ f hh _ => (hh h).block_fst f

theorem NRw.calls (h : NRw p w) : Calls (fun w w' => NRw p w → NRw p w') (NRr p) (fun _ => True) w p where
  toCall := h.call.imp fun _ => NRr.of
  hold d := NRr.of ((h.timerAdd_fst d sigSuccess).block_fst _)
  arm q d sig hq _ hh := hq.elim (fun e => e ▸ hh.timerAdd_fst d sig) fun hr => hh.timerAdd_of q d sig (by simpa [isRunning] using hr)
  rearm d sig _ hh := (hh.timersClear p).timerAdd_fst d sig
  poke _ _ _ _ _ _ _ hh := hh.sched_fst _ _ _ _ _
  finish _ v hq _ hh := hh.finishProc_other hq v true
  ended _ _ := NRr.ended h _ _ _
  waitProc q _ _ := NRr.of (((h.addAwait (.proc q)).modProc q _ (by intro; exact ⟨rfl, rfl, Or.inl rfl⟩)).block_fst _)
  waitEvent k _ _ := NRr.of (((h.setEvWaiters _).addAwait (.event k)).block_fst _)

theorem NRr.execCmd (h : NRw p w) (c : Cmd) : NRr p (execCmd w p c) := h.calls.execCmd c (Cmd.okSig_true c)

theorem NRr.resumeFrame (h : NRw p w) (f : Frame) (sig : Int) : NRr p (resumeFrame w p f sig) := by
  refine NRr.of ?_
  cases hg : isGuardFrame f with
  | true =>
    exact resumeFrame_wait (NRw p) hg p sig (fun _ => h) (fun g _ _ => (h.guardWaitLeave g p sig).call.retry f)
      (fun g _ _ => NRw.cmds.giveUp f _ p (h.guardWaitLeave g p sig))
  | false =>
    cases f with
    | hold k =>
      simp only [Sim.resumeFrame]
      split
      · dsimp only
        exact (h.timerCancel_fst p k).removeAwait_fst p _
      · exact h
    | yield => exact h
    | waitProc q =>
      have h1 := h.removeAwait_fst p (.proc q)
      simp only [Sim.resumeFrame]
      split
      · split
        · exact h1.modProc q _ (by intro; exact ⟨rfl, rfl, Or.inl rfl⟩)
        · exact NRw.cmds.cancelKindFor _ p aProc none h1
      · exact h1
    | waitEvent k =>
      have h1 := h.removeAwait_fst p (.event k)
      simp only [Sim.resumeFrame]
      split
      · split
        · exact h1.setEvWaiters _
        · exact NRw.cmds.cancelKindFor _ p aEvent none h1
      · exact h1
    | _ => cases hg

end

theorem NRw.pc {p : Pid} {w : World} (h : NRw p w) (n : Nat) : NRw p (w.modProc p fun y => { y with pc := n }) :=
  h.modProc p _ (fun _ => ⟨rfl, rfl, Or.inl rfl⟩)

theorem NRInv.kept : Kept NRInv Caller where
  emit {w} h l := h.ofPF ((PF.refl w).emit l)
  fail {w} h m := h.ofPF ((PF.refl w).fail m)
  pc h p _ := h.modProc_shrink p _ fun _ => ⟨rfl, fun hx => hx, fun hx => hx⟩
  finish h p := NRInv.finishProc h p 0 false
  exec {w} h p hc c _ hs l := (NRr.execCmd ((NRw.mk h (hc.2 (lt_np_of_script _ _ _ _ hs))).ofPF ((PF.refl w).emit l)) c).1
  next _ _ hc _ _ hs _ _ _ l n heq ho := hc.next hs heq ho l n
  resume {w} h p f hrun _ sig :=
    ⟨(NRr.resumeFrame ((NRw.mk h hrun).modProc p (fun y => { y with blocked := none }) fun _ => ⟨rfl, rfl, Or.inr rfl⟩) f sig).1,
      fun _ _ _ l n heq => Caller.resumed hrun heq l n⟩
  pop {w} h t ev' _ := fun x hx => by rw [takeNext_proc] at hx ⊢; exact h x hx
  start {w} h z _ := by
    refine ⟨fun x hx => ?_, Caller.started w z⟩
    rw [modProc_proc] at hx ⊢
    split
    · rename_i hq; rw [if_pos hq] at hx; exact absurd rfl hx
    · rename_i hq; rw [if_neg hq] at hx; exact h x hx
  untime h z _ := h.removeAwait_fst z _
  unawaitKind {w} h t ev' _ k _ :=
    NRInv.removeAwaitKind_fst (fun x hx => by rw [takeNext_proc] at hx ⊢; exact h x hx) _ k
  cancel h z := NRInv.cancelAwaiteds h z

theorem NRInv.resumeProc {w : World} (h : NRInv w) (p : Pid) (sig : Int) : NRInv (resumeProc w p sig) :=
  NRInv.kept.resumeProc h p sig

theorem NRInv.dispatch {w w' : World} (h : NRInv w) (hd : dispatch w = some w') : NRInv w' := NRInv.kept.dispatch h hd

theorem NRInv.reach {w w' : World} (h : Reach w w') (hp : NRInv w) : NRInv w' :=
  h.keeps NRInv.dispatch hp

theorem NRInv.runAll (fuel : Nat) (w : World) (hp : NRInv w) : NRInv (runAll fuel w) := NRInv.kept.runAll fuel hp

end CimbaModel.Sim.S3
