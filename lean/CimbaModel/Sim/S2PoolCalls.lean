/-
  S2 — resource pools (C07): exact accounting of acquire, rollback, release, end of process and of one
  preemption step, in terms of `heldOf` (the amount a process holds, = the model's `heldAmount`) and the amount in use.
-/
import CimbaModel.Sim.S2PoolFull
import CimbaModel.Sim.Basic

namespace CimbaModel.Sim
open CimbaModel CimbaModel.Event CimbaModel.Generated CimbaModel.KPQ
open CimbaModel.HashHeap (HTag Item Order HH WF abs amounts amountOf)

theorem heldAmount_eq_heldOf {w : World} (hi : PoolInv w) (pl : Nat) (p : Pid) : heldAmount w pl p = heldOf w pl p := by
  unfold heldOf
  cases hv : poolView w pl with
  | none =>
    unfold heldAmount
    unfold poolView at hv
    cases hx : w.pools[pl]? with
    | none => rfl
    | some x => rw [hx] at hv; cases hv
  | some v => exact heldAmount_eq hv (hi.2 pl v hv).1.wf p

/-- **acquire / preempt, enough available**: success at once; the caller holds exactly `rem` more, the amount in use
    grows by exactly `rem` -/
theorem poolLoop_direct {w : World} {p : Pid} {pl : Nat} {x : Pool} (hi : PoolInv w) (hp : p < w.procs.size)
    (hx : w.pools[pl]? = some x) (rem ini : Nat) (pre : Bool) (hav : x.cap - x.inUse ≥ rem) (hrem : 0 < rem) :
    (poolLoop w p pl rem ini pre).2 = .ret sigSuccess "" ∧
    heldOf (poolLoop w p pl rem ini pre).1 pl p = heldOf w pl p + rem ∧
    inUseOf (poolLoop w p pl rem ini pre).1 pl = inUseOf w pl + rem := by
  have hv := poolView_of_get hx
  obtain ⟨h2, st3, _, hamt, _⟩ := (((PSt.init hi hv).setInUse (x.inUse + rem)).record pl).update hi.1 hp rem hrem
  have st4 := st3.same (signal_same _ x.guard)
  simp only [poolLoop_eq, hx, hav, if_true]
  exact ⟨trivial, by rw [st4.heldOf, (PSt.init hi hv).heldOf]; exact hamt, by rw [st4.inUseOf, (PSt.init hi hv).inUseOf]; rfl⟩

theorem poolLoop_wait {w : World} {p : Pid} {pl : Nat} {x : Pool} (hx : w.pools[pl]? = some x) (rem ini : Nat) (pre : Bool)
    (hav : ¬ x.cap - x.inUse ≥ rem) {r : Nat} (hr : (poolTakeMug w p pl x rem pre).2 = some r) :
    poolLoop w p pl rem ini pre =
      block (guardWaitEnter (poolTakeMug w p pl x rem pre).1 x.guard p (.poolAvail pl)) p (.pool pl r ini pre) := by
  simp only [poolLoop_eq, hx, hav, if_false, hr]

/-- **acquire (no preemption), not enough available**: the caller takes what is there and waits for the rest -/
theorem poolLoop_partial {w : World} {p : Pid} {pl : Nat} {x : Pool} (hi : PoolInv w) (hp : p < w.procs.size)
    (hx : w.pools[pl]? = some x) (rem ini : Nat) (hav : ¬ x.cap - x.inUse ≥ rem) :
    ∃ w1, poolLoop w p pl rem ini false = block w1 p (.pool pl (rem - (x.cap - x.inUse)) ini false) ∧
      heldOf w1 pl p = heldOf w pl p + (x.cap - x.inUse) ∧
      inUseOf w1 pl = inUseOf w pl + (x.cap - x.inUse) := by
  obtain ⟨_, _, hr1, hh1, hu1⟩ := poolTake_spec hi hp hx rem
  have hs := ViewSame.of_same (guardWaitEnter_same (poolTake w p pl x rem).1 x.guard p (.poolAvail pl))
  exact ⟨_, poolLoop_wait hx rem ini false hav (congrArg some hr1), (heldOf_viewSame hs pl p).trans hh1,
    (inUseOf_viewSame hs pl).trans hu1⟩

/-- **acquire_ok** (acquire without preemption): if one pass of the acquire loop returns at all, it returns success,
    and the caller then holds exactly `rem` more than before the pass -/
theorem poolLoop_acquire_ok {w : World} {p : Pid} {pl : Nat} {x : Pool} (hi : PoolInv w) (hp : p < w.procs.size)
    (hx : w.pools[pl]? = some x) (rem ini : Nat) (hrem : 0 < rem) {sig : Int} {extra : String}
    (hr : (poolLoop w p pl rem ini false).2 = .ret sig extra) :
    sig = sigSuccess ∧ heldOf (poolLoop w p pl rem ini false).1 pl p = heldOf w pl p + rem ∧
      inUseOf (poolLoop w p pl rem ini false).1 pl = inUseOf w pl + rem := by
  by_cases hav : x.cap - x.inUse ≥ rem
  · obtain ⟨h1, h2, h3⟩ := poolLoop_direct hi hp hx rem ini false hav hrem
    rw [h1] at hr
    injection hr with hs _
    exact ⟨hs.symm, h2, h3⟩
  · obtain ⟨w1, h1, _⟩ := poolLoop_partial hi hp hx rem ini hav
    rw [h1] at hr
    cases hr

/-- `AcquireRun p pl rem ini gained sig`: a `cmb_resourcepool_acquire` by `p`, suspended (or starting) with outstanding
    claim `rem`, runs to its return with signal `sig` through some number of further passes of the acquire loop, which
    together hand `gained` units to the caller (measured on what the caller holds before and after each pass; between
    passes anything may happen, including the caller being preempted).  A pass that suspends stores the claim reduced by
    what it took (`poolLoop_partial`), which is what the next pass is started with. -/
inductive AcquireRun (p : Pid) (pl : Nat) : Nat → Nat → Nat → Int → Prop
  | last {w : World} {x : Pool} {rem ini : Nat} {sig : Int} {extra : String} (hi : PoolInv w) (hp : p < w.procs.size)
      (hx : w.pools[pl]? = some x) (h : (poolLoop w p pl rem ini false).2 = .ret sig extra) :
      AcquireRun p pl rem ini (heldOf (poolLoop w p pl rem ini false).1 pl p - heldOf w pl p) sig
  | wait {w : World} {x : Pool} {rem ini m : Nat} {sig : Int} (hi : PoolInv w) (hp : p < w.procs.size)
      (hx : w.pools[pl]? = some x) (hav : ¬ x.cap - x.inUse ≥ rem)
      (rest : AcquireRun p pl (rem - (x.cap - x.inUse)) ini m sig) :
      AcquireRun p pl rem ini (heldOf (poolLoop w p pl rem ini false).1 pl p - heldOf w pl p + m) sig
  | intr {rem ini : Nat} {sig : Int} (hs : sig ≠ sigSuccess) : AcquireRun p pl rem ini 0 sig

/-- **acquire_ok** for a whole call: the passes never hand out more than the claim, and a call that returns success has
    handed out exactly the claim `n` -/
theorem AcquireRun.exact {p : Pid} {pl rem ini m : Nat} {sig : Int} (h : AcquireRun p pl rem ini m sig) (hrem : 0 < rem) :
    m ≤ rem ∧ (sig = sigSuccess → m = rem) := by
  induction h with
  | @last w x rem ini sig extra hi hp hx h =>
    obtain ⟨hs, hh, _⟩ := poolLoop_acquire_ok hi hp hx rem ini hrem h
    rw [hh]
    exact ⟨by omega, fun _ => by omega⟩
  | @wait w x rem ini m sig hi hp hx hav rest ih =>
    obtain ⟨w1, hblk, hh, _⟩ := poolLoop_partial hi hp hx rem ini hav
    have hv : heldOf (poolLoop w p pl rem ini false).1 pl p = heldOf w pl p + (x.cap - x.inUse) := by
      rw [hblk, heldOf_viewSame (ViewSame.of_fp (block_fp _ _ _) rfl rfl)]; exact hh
    rw [hv]
    obtain ⟨e1, e2⟩ := ih (by omega)
    refine ⟨by omega, fun hs => ?_⟩
    have := e2 hs
    omega
  | intr hs => exact ⟨Nat.zero_le _, fun e => absurd e hs⟩

/-- **acquire_intr**: what the rollback after an interrupted acquire / preempt leaves: the caller holds what it held
    before the call (`ini`) — or less, if a preempting process took its units in this same instant (then nothing is
    put back); with `ini = 0` it holds nothing.  The amount in use goes down by exactly what the caller gave back. -/
theorem poolRollback_spec {w : World} {p : Pid} {pl : Nat} {x : Pool} (hi : PoolInv w) (hx : w.pools[pl]? = some x)
    (ini : Nat) :
    heldOf (poolRollback w p pl ini) pl p = (if ini > 0 then min (heldOf w pl p) ini else 0) ∧
    inUseOf (poolRollback w p pl ini) pl + heldOf w pl p = inUseOf w pl + heldOf (poolRollback w p pl ini) pl p := by
  obtain ⟨u, h', st, _, _, h4, h5⟩ := poolRollback_pst (p := p) hi hx ini
  rw [st.heldOf, st.inUseOf, (PSt.init hi (poolView_of_get hx)).inUseOf]
  exact ⟨h4, h5⟩

/-- **release_ok**: a release of `n` (1 ≤ n ≤ what the caller holds) lowers the caller's holding and the amount in use
    by exactly `n` -/
theorem poolRelease_spec {w : World} {p : Pid} {pl : Nat} {x : Pool} (hi : PoolInv w) (hx : w.pools[pl]? = some x)
    {n : Nat} (hn0 : n ≠ 0) (hnle : n ≤ heldOf w pl p) :
    (execCmd w p (.poolRelease pl n)).2 = .ret 0 "" ∧
    heldOf (execCmd w p (.poolRelease pl n)).1 pl p + n = heldOf w pl p ∧
    inUseOf (execCmd w p (.poolRelease pl n)).1 pl + n = inUseOf w pl := by
  have hsum : x.inUse = amounts (abs x.holders) := (hi.2 pl _ (poolView_of_get hx)).1.sum
  obtain ⟨h', he, st, hs, ha⟩ := poolRelease_pst (p := p) hi hx hn0 (by rw [heldAmount_eq_heldOf hi]; exact hnle)
  rw [he]
  dsimp only
  rw [st.heldOf, st.inUseOf, (PSt.init hi (poolView_of_get hx)).inUseOf]
  exact ⟨rfl, ha, by show x.inUse - n + n = x.inUse; omega⟩

/-- **lose_all**: a process that ends (return, exit or stop) holds nothing of any pool afterwards -/
theorem heldOf_finishProc (w : World) (p : Pid) (v : Int) (st : Bool) (hi : PoolInv w) (pl : Nat) :
    heldOf (finishProc w p v st) pl p = 0 := by
  unfold finishProc
  dsimp only
  refine Eq.trans (heldOf_viewSame (ViewSame.of_fp (modProc_fp_blocked _ _ _ ?_ ?_) rfl rfl) pl p) ?_
  · intro _; rfl
  · intro _; rfl
  refine Eq.trans (heldOf_viewSame (ViewSame.of_same (wakeWaiters_same _ _ _)) pl p) ?_
  split
  · exact heldOf_dropResources _ _ (hi.same (cancelAwaiteds_same _ _)) pl
  · refine Eq.trans (heldOf_viewSame (ViewSame.of_same (cancelAwaiteds_same _ _)) pl p) ?_
    exact heldOf_dropResources _ _ hi pl

theorem removeHeld_prio (w : World) (p q : Pid) (h : HoldRef) : ((removeHeld w p h).1.proc q).prio = (w.proc q).prio := by
  unfold removeHeld
  rw [proc_modProc]
  split
  · rename_i hq; rw [hq.1]
  · rfl

/-- **preempt_strict**, refusing side: if the first holder in the holder order (lowest priority first) is not of strictly
    lower priority than the caller, the loop takes nothing — and then no holder at all has a strictly lower priority -/
theorem poolMug_refuses {w : World} {p : Pid} {pl : Nat} {x : Pool} (hi : PoolInv w) (hx : w.pools[pl]? = some x)
    (hc : x.holders.count ≠ 0) (hge : ¬ (x.holders.tag 1).i < (w.proc p).prio) (fuel rem : Nat) :
    poolMug (fuel + 1) w p pl rem = (w, some rem) ∧ ∀ t ∈ abs x.holders, ¬ t.i < (w.proc p).prio := by
  have hv := poolView_of_get hx
  have vok := (hi.2 pl _ hv).1
  have hwf : WF holder_queue_check x.holders := vok.wf
  have hpos : 0 < x.holders.count := by omega
  constructor
  · rw [poolMug_succ]
    simp only [hx, hc, if_false, HashHeap.peek_spec hwf hpos, hge]
  · intro t ht
    have hmin := HashHeap.root_isMin_abs hwf hpos
    have := hmin.2 t ht
    have hn : ¬ HashHeap.SpecOrders.holderLt t (KPQ.norm (x.holders.tag 1)) := by
      rw [← HashHeap.Orders.holder_queue_check_iff, this]; simp
    unfold HashHeap.SpecOrders.holderLt at hn
    simp only [KPQ.norm] at hn
    omega

/-- **preempt_strict**, taking side: the victim is the first holder, of strictly lower priority than the caller; it is
    taken off the holder list, the pool off its held list, and an interrupt event with the PREEMPTED signal is scheduled
    for it at the current time with the victim's priority; its `loot` goes to the caller (all of it, and the loop goes
    on, or just the remaining claim, the surplus returning to the pool) -/
theorem poolMug_takes {w : World} {p : Pid} {pl : Nat} {x : Pool} (hi : PoolInv w) (hx : w.pools[pl]? = some x)
    (hc : x.holders.count ≠ 0) (hlt : (x.holders.tag 1).i < (w.proc p).prio) (fuel rem : Nat) :
    ∃ h1 w3,
      HashHeap.dequeue holder_queue_check x.holders = .ok (h1, some (x.holders.tag 1)) ∧
      w3 = (sched (removeHeld { w with pools := w.pools.set! pl { x with holders := h1 } }
              ((x.holders.tag 1).key - 1) (.pool pl)).1 aIntr ((x.holders.tag 1).key - 1 + 1) sigPreempted w.now
              (w.proc ((x.holders.tag 1).key - 1)).prio).1 ∧
      poolMug (fuel + 1) w p pl rem =
        (if (x.holders.tag 1).item.b < rem then
          poolMug fuel (poolUpdateRecord w3 pl p (x.holders.tag 1).item.b) p pl (rem - (x.holders.tag 1).item.b)
        else
          (signal (recordPool (setPoolInUse (poolUpdateRecord w3 pl p rem) pl
            (((poolUpdateRecord w3 pl p rem).pools.getD pl x).inUse - ((x.holders.tag 1).item.b - rem))) pl) x.guard,
            none)) ∧
      (∃ e ∈ w3.ev.pending, e.item.a = aIntr ∧ e.item.b = (x.holders.tag 1).key - 1 + 1 ∧
          e.item.c = encSig sigPreempted ∧ e.d = w.now ∧ e.i = (w.proc ((x.holders.tag 1).key - 1)).prio) ∧
      (x.holders.tag 1).key - 1 < w.procs.size ∧ (x.holders.tag 1).key - 1 + 1 = (x.holders.tag 1).key ∧
      heldOf w3 pl ((x.holders.tag 1).key - 1) = 0 ∧
      heldOf w pl ((x.holders.tag 1).key - 1) = (x.holders.tag 1).item.b := by
  have hv := poolView_of_get hx
  have vok := (hi.2 pl _ hv).1
  have hok : HoldersOK w.procs.size (prOf w) x.holders := vok.toHoldersOK
  have hpos : 0 < x.holders.count := by omega
  obtain ⟨h1, hdq, ok1, _, hkeys1, hmem1, hamt1, _, _⟩ := dequeue_holders hok hpos
  obtain ⟨hk1, hk2⟩ := key_pred_succ hok hmem1
  obtain ⟨h1', hdq', hst, _, _, _⟩ := (PSt.init hi hv).mug hx hpos
  rw [hdq] at hdq'
  injection hdq' with e; injection e with e1 _; subst e1
  have hw3 : mugVictim w pl x h1 (x.holders.tag 1) =
      (sched (removeHeld { w with pools := w.pools.set! pl { x with holders := h1 } } ((x.holders.tag 1).key - 1) (.pool pl)).1
        aIntr ((x.holders.tag 1).key - 1 + 1) sigPreempted w.now (w.proc ((x.holders.tag 1).key - 1)).prio).1 := by
    unfold mugVictim
    dsimp only
    rw [removeHeld_prio]
    rfl
  refine ⟨h1, _, hdq, rfl, ?_, ?_, hk2, hk1, ?_, ?_⟩
  · rw [poolMug_succ]
    simp only [hx, hc, if_false, HashHeap.peek_spec hok.wf hpos, hlt, if_true, hdq, hw3, mugSettle]
  · have hs := sched_ok (removeHeld { w with pools := w.pools.set! pl { x with holders := h1 } }
      ((x.holders.tag 1).key - 1) (.pool pl)).1 aIntr ((x.holders.tag 1).key - 1 + 1) sigPreempted w.now
      (w.proc ((x.holders.tag 1).key - 1)).prio (Int.le_refl _)
    refine ⟨_, by rw [hs.2.1]; exact List.mem_cons_self, rfl, rfl, rfl, rfl, rfl⟩
  · rw [(hst w.now (w.proc ((x.holders.tag 1).key - 1)).prio).heldOf]
    apply HashHeap.amountOf_of_not_mem
    intro hm
    rw [hk1] at hm
    exact ((hkeys1 _).1 hm).2 rfl
  · rw [(PSt.init hi hv).heldOf, hk1]
    exact hamt1

/-- **preempt_ok**: if a pass of `cmb_resourcepool_preempt`'s loop returns, it returns success, and the caller then holds
    exactly the outstanding claim `rem` more than before the pass — whatever was free plus what was taken from any
    number of victims -/
theorem poolLoop_preempt_ok {w : World} {p : Pid} {pl : Nat} {x : Pool} (hi : PoolInv w) (hp : p < w.procs.size)
    (hx : w.pools[pl]? = some x) (rem ini : Nat) (hrem : 0 < rem) {sig : Int} {extra : String}
    (hr : (poolLoop w p pl rem ini true).2 = .ret sig extra) :
    sig = sigSuccess ∧ heldOf (poolLoop w p pl rem ini true).1 pl p = heldOf w pl p + rem := by
  by_cases hav : x.cap - x.inUse ≥ rem
  · obtain ⟨h1, h2, _⟩ := poolLoop_direct hi hp hx rem ini true hav hrem
    rw [h1] at hr
    injection hr with hs _
    exact ⟨hs.symm, h2⟩
  · -- take what is free, then mug
    obtain ⟨_, _, hh2⟩ := poolTakeMug_spec hi hp hx hav true
    cases hm : (poolTakeMug w p pl x rem true).2 with
    | none =>
      simp only [poolLoop_eq, hx, hav, if_false, hm] at hr ⊢
      injection hr with hs _
      rw [hm] at hh2
      exact ⟨hs.symm, hh2⟩
    | some r =>
      rw [poolLoop_wait hx rem ini true hav hm] at hr
      cases hr

/-- **preempt, one pass that does not return**: the caller has received part of its claim — what was free plus what the
    victims held — and is suspended with the claim reduced by exactly that: `held + claim` is conserved -/
theorem poolLoop_preempt_partial {w : World} {p : Pid} {pl : Nat} {x : Pool} (hi : PoolInv w) (hp : p < w.procs.size)
    (hx : w.pools[pl]? = some x) (rem ini : Nat) (hrem : 0 < rem)
    (hr : (poolLoop w p pl rem ini true).2 = .blocked) :
    ∃ w1 rem', poolLoop w p pl rem ini true = block w1 p (.pool pl rem' ini true) ∧ 0 < rem' ∧ rem' ≤ rem ∧
      heldOf w1 pl p + rem' = heldOf w pl p + rem := by
  by_cases hav : x.cap - x.inUse ≥ rem
  · obtain ⟨h1, _, _⟩ := poolLoop_direct hi hp hx rem ini true hav hrem
    rw [h1] at hr; cases hr
  · obtain ⟨_, _, hh2⟩ := poolTakeMug_spec hi hp hx hav true
    cases hm : (poolTakeMug w p pl x rem true).2 with
    | none => simp only [poolLoop_eq, hx, hav, if_false, hm] at hr; cases hr
    | some r =>
      obtain ⟨hpos, hle⟩ := poolTakeMug_rem hrem hav r hm
      rw [hm] at hh2
      exact ⟨_, r, poolLoop_wait hx rem ini true hav hm, hpos, hle,
        (congrArg (· + r) (heldOf_viewSame (ViewSame.of_same (guardWaitEnter_same _ _ _ _)) pl p)).trans hh2⟩

/-- `ClaimRun p pl pre rem ini gained sig`: a pool acquire (`pre = false`) or preempt (`pre = true`) as the sequence of its
    passes, as `AcquireRun` -/
inductive ClaimRun (p : Pid) (pl : Nat) (pre : Bool) : Nat → Nat → Nat → Int → Prop
  | last {w : World} {x : Pool} {rem ini : Nat} {sig : Int} {extra : String} (hi : PoolInv w) (hp : p < w.procs.size)
      (hx : w.pools[pl]? = some x) (h : (poolLoop w p pl rem ini pre).2 = .ret sig extra) :
      ClaimRun p pl pre rem ini (heldOf (poolLoop w p pl rem ini pre).1 pl p - heldOf w pl p) sig
  | wait {w w1 : World} {x : Pool} {rem rem' ini m : Nat} {sig : Int} (hi : PoolInv w) (hp : p < w.procs.size)
      (hx : w.pools[pl]? = some x) (h : poolLoop w p pl rem ini pre = block w1 p (.pool pl rem' ini pre))
      (rest : ClaimRun p pl pre rem' ini m sig) :
      ClaimRun p pl pre rem ini (heldOf w1 pl p - heldOf w pl p + m) sig
  | intr {rem ini : Nat} {sig : Int} (hs : sig ≠ sigSuccess) : ClaimRun p pl pre rem ini 0 sig

theorem block_inv {w1 w2 : World} {p : Pid} {F F' : Frame} (hp : p < w1.procs.size)
    (h : block w1 p F = block w2 p F') : F = F' ∧ ∀ pl q, heldOf w1 pl q = heldOf w2 pl q := by
  have h1 : (block w1 p F).1 = (block w2 p F').1 := congrArg Prod.fst h
  have hs : w2.procs.size = w1.procs.size := by
    have := congrArg (fun w : World => w.procs.size) h1
    simpa [block] using this.symm
  constructor
  · have hb : ((block w1 p F).1.proc p).blocked = ((block w2 p F').1.proc p).blocked := by rw [h1]
    rw [block_blocked, block_blocked, if_pos ⟨rfl, hp⟩, if_pos ⟨rfl, by rw [hs]; exact hp⟩] at hb
    injection hb
  · intro pl q
    rw [← heldOf_viewSame (ViewSame.of_fp (block_fp w1 p F) rfl rfl), ← heldOf_viewSame (ViewSame.of_fp (block_fp w2 p F') rfl rfl), h1]

/-- **acquire_ok / preempt_ok for a whole call**: the passes never hand out more than the claim, and a call that returns
    success has handed out exactly the claim -/
theorem ClaimRun.exact {p : Pid} {pl : Nat} {pre : Bool} {rem ini m : Nat} {sig : Int}
    (h : ClaimRun p pl pre rem ini m sig) (hrem : 0 < rem) : m ≤ rem ∧ (sig = sigSuccess → m = rem) := by
  induction h with
  | @last w x rem ini sig extra hi hp hx h =>
    have hh : heldOf (poolLoop w p pl rem ini pre).1 pl p = heldOf w pl p + rem := by
      cases pre
      · exact (poolLoop_acquire_ok hi hp hx rem ini hrem h).2.1
      · exact (poolLoop_preempt_ok hi hp hx rem ini hrem h).2
    rw [hh]
    exact ⟨by omega, fun _ => by omega⟩
  | @wait w w1 x rem rem' ini m sig hi hp hx h rest ih =>
    have key : 0 < rem' ∧ rem' ≤ rem ∧ heldOf w1 pl p + rem' = heldOf w pl p + rem := by
      cases pre
      · by_cases hav : x.cap - x.inUse ≥ rem
        · obtain ⟨h1, _, _⟩ := poolLoop_direct hi hp hx rem ini false hav hrem
          rw [h] at h1; cases h1
        · obtain ⟨w1', hblk, hh, _⟩ := poolLoop_partial hi hp hx rem ini hav
          rw [h] at hblk
          have hsz : w1.procs.size = w.procs.size := by
            have := (poolLoop_fp w p pl rem ini false).size_eq
            rw [h] at this
            simpa [block] using this
          obtain ⟨e, hheld⟩ := block_inv (by rw [hsz]; exact hp) hblk
          injection e with _ e2 _ _
          rw [hheld pl p, hh, e2]
          omega
      · obtain ⟨w1', rem'', hblk, hpos, hle, hh⟩ := poolLoop_preempt_partial hi hp hx rem ini hrem (by rw [h]; rfl)
        rw [h] at hblk
        have hsz : w1.procs.size = w.procs.size := by
          have := (poolLoop_fp w p pl rem ini true).size_eq
          rw [h] at this
          simpa [block] using this
        obtain ⟨e, hheld⟩ := block_inv (by rw [hsz]; exact hp) hblk
        injection e with _ e2 _ _
        rw [hheld pl p, e2]
        exact ⟨hpos, hle, hh⟩
    obtain ⟨k1, k3, k2⟩ := key
    obtain ⟨e1, e2⟩ := ih k1
    refine ⟨by omega, fun hs => ?_⟩
    have := e2 hs
    omega
  | intr hs => exact ⟨Nat.zero_le _, fun e => absurd e hs⟩

end CimbaModel.Sim
