/-
  S2 — resource pools (C07): the frames of suspended acquisitions carry a positive outstanding claim; together
  with `PoolInv` (which includes "nobody is recorded as holding nothing") this is preserved by `dispatch`.
-/
import CimbaModel.Sim.S2PoolInv

namespace CimbaModel.Sim
open CimbaModel CimbaModel.Event CimbaModel.Generated CimbaModel.KPQ
open CimbaModel.HashHeap (HTag Item Order HH WF abs amounts amountOf)

/-- every process suspended inside a pool acquisition still has something to claim -/
def FramePos (w : World) : Prop :=
  ∀ q pl rem ini pre, (w.proc q).blocked = some (.pool pl rem ini pre) → 0 < rem

theorem FramePos.of_nnp {w w' : World} (h : NNP w w') (hf : FramePos w) : FramePos w' :=
  fun q pl rem ini pre hq => hf q pl rem ini pre (h q _ rfl hq)

theorem finishProc_nnp (w : World) (p : Pid) (v : Int) (st : Bool) : NNP w (finishProc w p v st) := by
  unfold finishProc
  dsimp only
  refine NNP.trans (NNP.trans ?_ (NNP.of_same (wakeWaiters_same _ _ _))) (NNP.clear _ _ _ (fun _ => rfl))
  split
  · exact NNP.trans (NNP.of_same (cancelAwaiteds_same _ _)) (NNP.of_fp (dropResources_fp _ _) rfl)
  · exact NNP.trans (NNP.of_fp (dropResources_fp _ _) rfl) (NNP.of_same (cancelAwaiteds_same _ _))

theorem poolMug_rem : ∀ (fuel : Nat) (w : World) (p : Pid) (pl rem : Nat), 0 < rem →
    ∀ r, (poolMug fuel w p pl rem).2 = some r → 0 < r ∧ r ≤ rem := by
  intro fuel
  induction fuel with
  | zero => intro w p pl rem hrem r h; cases h; exact ⟨hrem, Nat.le_refl _⟩
  | succ n ih =>
    intro w p pl rem hrem r h
    have stay : some rem = some r → 0 < r ∧ r ≤ rem := fun e => by cases e; exact ⟨hrem, Nat.le_refl _⟩
    rw [poolMug_succ] at h
    split at h
    · exact stay h
    · split at h
      · exact stay h
      · split at h
        · split at h
          · split at h
            · split at h
              · rename_i hlt
                have := ih _ _ _ _ (by omega) r h
                omega
              · cases h
            · exact stay h
            · exact stay h
          · exact stay h
        · exact stay h

theorem poolMug_rem_le : ∀ (fuel : Nat) (w : World) (p : Pid) (pl rem : Nat),
    ∀ r, (poolMug fuel w p pl rem).2 = some r → r ≤ rem := by
  intro fuel w p pl rem r h
  rcases Nat.eq_zero_or_pos rem with h0 | h0
  · -- nothing is asked for: no victim holds less, so the loop stops at once or settles
    subst h0
    cases fuel with
    | zero => cases h; exact Nat.le_refl _
    | succ n =>
      rw [poolMug_succ] at h
      split at h
      · cases h; exact Nat.le_refl _
      · split at h
        · cases h; exact Nat.le_refl _
        · split at h
          · split at h
            · split at h
              · rw [if_neg (Nat.not_lt_zero _)] at h; cases h
              · cases h; exact Nat.le_refl _
              · cases h; exact Nat.le_refl _
            · cases h; exact Nat.le_refl _
          · cases h; exact Nat.le_refl _
  · exact (poolMug_rem fuel w p pl rem h0 r h).2

theorem poolTakeMug_rem {w : World} {p : Pid} {pl : Nat} {x : Pool} {rem : Nat} {pre : Bool} (hrem : 0 < rem)
    (hav : ¬ x.cap - x.inUse ≥ rem) (r : Nat) (h : (poolTakeMug w p pl x rem pre).2 = some r) : 0 < r ∧ r ≤ rem := by
  have h1 : 0 < (poolTake w p pl x rem).2 ∧ (poolTake w p pl x rem).2 ≤ rem := by
    unfold poolTake
    split
    · exact ⟨by show 0 < rem - (x.cap - x.inUse); omega, Nat.sub_le _ _⟩
    · exact ⟨hrem, Nat.le_refl _⟩
  unfold poolTakeMug at h
  split at h
  · have := poolMug_rem _ _ p pl _ h1.1 r h
    omega
  · cases h; exact h1

theorem poolLoop_frames (w : World) (p : Pid) (pl rem ini : Nat) (pre : Bool) (hrem : 0 < rem) :
    ∀ q F, ((poolLoop w p pl rem ini pre).1.proc q).blocked = some F →
      (w.proc q).blocked = some F ∨ ∃ r, 0 < r ∧ F = .pool pl r ini pre := by
  intro q F hq
  rw [poolLoop_eq] at hq
  split at hq
  · left; dsimp only at hq; rw [← (fail_same w _).blocked_eq q]; exact hq
  · rename_i x hx
    split at hq
    · left; dsimp only at hq; rw [← (poolDirect_fp w p pl rem x.guard _).blocked_eq rfl q]; exact hq
    · rename_i hav
      have hf := (poolTakeMug_fp w p pl x rem pre).blocked_eq rfl q
      split at hq
      · left; dsimp only at hq; rw [← hf]; exact hq
      · rename_i r hr
        rw [block_blocked] at hq
        split at hq
        · right
          injection hq with e
          exact ⟨r, (poolTakeMug_rem hrem hav r hr).1, e.symm⟩
        · left
          rw [← hf, ← (guardWaitEnter_same _ x.guard p (.poolAvail pl)).blocked_eq q]; exact hq

theorem FramePos.poolLoop {w : World} (p : Pid) (pl rem ini : Nat) (pre : Bool) (hrem : 0 < rem) (hf : FramePos w) :
    FramePos (poolLoop w p pl rem ini pre).1 := by
  intro q pl' rem' ini' pre' hq
  rcases poolLoop_frames w p pl rem ini pre hrem q _ hq with h | ⟨r, hr, e⟩
  · exact hf q pl' rem' ini' pre' h
  · injection e with e1 e2 e3 e4
    omega

def PoolFull (w : World) : Prop := PoolInv w ∧ FramePos w

/-- a step whose mask keeps the pools and the priorities shows the same pools and suspends nobody in a pool acquisition -/
theorem PoolFull.of_ft {m : Mask} {w w' : World} (ft : Ft m w w') (hm : m.pools = false) (hpr : m.prio = false)
    (h : PoolFull w) : PoolFull w' :=
  ⟨PoolInv.of_viewSame (ft.viewSame hm hpr) h.1, h.2.of_nnp (ft.quiet hm).2⟩

theorem PoolFull.execNonPool {w : World} (p : Pid) (c : Cmd) (hc : ∀ pl n, c ≠ .poolAcquire pl n ∧ c ≠ .poolPreempt pl n)
    (h : PoolFull w) : PoolFull (execCmd w p c).1 := by
  by_cases hm : (cmdMask c).pools = false
  · by_cases hpr : (cmdMask c).prio = false
    · exact h.of_ft (execCmd_ft w p c) hm hpr
    · cases c <;> try exact absurd rfl hpr
      case prioSet q v => exact Bool.noConfusion hm
      case recStart kind idx => exact absurd (recMask_procs kind).2.2 hpr
      case recStop kind idx => exact absurd (recMask_procs kind).2.2 hpr
  · -- the commands that reach the pools, the two acquisitions apart: none of them suspends the caller
    cases c <;> try exact absurd rfl hm
    case stop q val =>
      simp only [execCmd]
      split
      · exact ⟨h.1.finishProc _ _ _ _, h.2.of_nnp (finishProc_nnp _ _ _ _)⟩
      · split
        · exact ⟨h.1.finishProc _ _ _ _, h.2.of_nnp (finishProc_nnp _ _ _ _)⟩
        · exact h
    case exit val => simp only [execCmd]; exact ⟨h.1.finishProc _ _ _ _, h.2.of_nnp (finishProc_nnp _ _ _ _)⟩
    case prioSet q v => exact ⟨h.1.prioSet _ _ _ _, h.2.of_nnp (NNP.of_fp (execCmd_fp w p _) rfl)⟩
    case poolAcquire pl n => exact absurd rfl (hc pl n).1
    case poolPreempt pl n => exact absurd rfl (hc pl n).2
    case poolRelease pl n => exact ⟨h.1.poolRelease _ _ _ _, h.2.of_nnp (NNP.of_fp (execCmd_fp w p _) rfl)⟩
    case recStart kind idx =>
      exact ⟨PoolInv.of_viewSame (setRecording_viewSame w kind idx true) h.1,
        h.2.of_nnp (NNP.of_fp (execCmd_fp w p (.recStart kind idx)) (recMask_procs kind).2.1)⟩
    case recStop kind idx =>
      exact ⟨PoolInv.of_viewSame (setRecording_viewSame w kind idx false) h.1,
        h.2.of_nnp (NNP.of_fp (execCmd_fp w p (.recStop kind idx)) (recMask_procs kind).2.1)⟩

theorem PoolFull.poolLoop {w : World} (p : Pid) (pl rem ini : Nat) (pre : Bool) (hp : p < w.procs.size) (hrem : 0 < rem)
    (h : PoolFull w) : PoolFull (poolLoop w p pl rem ini pre).1 :=
  ⟨PoolInv.poolLoop w p pl rem ini pre h.1 hp hrem, h.2.poolLoop p pl rem ini pre hrem⟩

theorem PoolFull.preserved : Preserved PoolFull where
  same hs h := ⟨h.1.same hs, h.2.of_nnp (NNP.of_same hs)⟩
  tick _ h := ⟨PoolInv.of_viewSame ⟨rfl, fun _ => rfl, fun _ _ => Iff.rfl, rfl⟩ h.1, h.2⟩
  finish w p v st h := ⟨PoolInv.finishProc w p v st h.1, h.2.of_nnp (finishProc_nnp w p v st)⟩
  clear w p f hf hb hp h := ⟨PoolInv.of_fp (modProc_fp_blocked w p f hf hp) rfl rfl h.1, h.2.of_nnp (NNP.clear w p f hb)⟩
  exec w p c hp h := by
    cases c
    case poolAcquire pl n =>
      simp only [execCmd]
      split
      · exact h
      · split
        · exact h
        · rename_i hn
          exact h.poolLoop p pl n _ false hp (Nat.pos_of_ne_zero fun e => hn (Or.inl e))
    case poolPreempt pl n =>
      simp only [execCmd]
      split
      · exact h
      · split
        · exact h
        · rename_i hn
          exact h.poolLoop p pl n _ true hp (Nat.pos_of_ne_zero fun e => hn (Or.inl e))
    all_goals exact h.execNonPool p _ (fun pl n => ⟨nofun, nofun⟩)
  resume w p f sig hp hfr h := by
    by_cases hm : (frameMask f).pools = false
    · exact h.of_ft (resumeFrame_ft w p f sig) hm (by cases f <;> rfl)
    · cases f <;> try exact absurd rfl hm
      case pool pl rem ini pre =>
        -- the frame was stored by an earlier pass: its claim is positive
        obtain ⟨w0, h0, hb, _⟩ := hfr
        have hrem : 0 < rem := h0.2 p pl rem ini pre hb
        simp only [resumeFrame]
        split
        · exact h
        · rename_i x hx
          have h1 : PoolFull (guardWaitLeave w x.guard p sig) :=
            ⟨h.1.same (guardWaitLeave_same _ _ _ _), h.2.of_nnp (NNP.of_same (guardWaitLeave_same _ _ _ _))⟩
          have hp1 : p < (guardWaitLeave w x.guard p sig).procs.size := by
            rw [(guardWaitLeave_same w x.guard p sig).size_eq]; exact hp
          split
          · exact ⟨PoolInv.poolRollback _ _ _ _ h1.1, h1.2.of_nnp (NNP.of_fp (poolRollback_fp _ _ _ _) rfl)⟩
          · exact h1.poolLoop p pl rem ini pre hp1 hrem

end CimbaModel.Sim
