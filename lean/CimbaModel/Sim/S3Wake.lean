/-
  S3 — batches of wake-ups (`wakeEventWaiters`, `wakeWaiters`, the first fold of `condSignal`) as one
  closed-form update of the event queue, the exact effect of `evCancel`, the end of a process (`finishProc_eq`).
-/
import CimbaModel.Sim.S3Frame
import CimbaModel.Event.Lemmas

namespace CimbaModel.Sim.S3
open CimbaModel CimbaModel.Sim CimbaModel.Event CimbaModel.Generated CimbaModel.KPQ
open CimbaModel.HashHeap (HTag Item Order HH)

/-- one wake-up to be scheduled at the current time -/
structure Wake where
  act : Nat
  subj : Nat
  sig : Int
  pri : Int

/-- the pending-list segment produced by scheduling `l` in order, starting after handle `c` (latest first) -/
def wakeEvs (c : Nat) (now : Int) : List Wake → List HTag
  | [] => []
  | x :: xs => wakeEvs (c + 1) now xs ++ [mkEv (c + 1) x.act x.subj x.sig now x.pri]

/-- scheduling a batch of wake-ups at the current time -/
def pushAll (w : World) (l : List Wake) : World :=
  { w with ev := { w.ev with pending := wakeEvs w.ev.counter w.now l ++ w.ev.pending, counter := w.ev.counter + l.length } }

theorem pushAll_nil (w : World) : pushAll w [] = w := by
  simp [pushAll, wakeEvs]

theorem pushAll_cons (w : World) (x : Wake) (xs : List Wake) :
    pushAll w (x :: xs) = pushAll (pushEv w x.act x.subj x.sig w.now x.pri) xs := by
  simp only [pushAll, wakeEvs, pushEv, World.now, List.length_cons, List.append_assoc, List.singleton_append]
  congr 2
  omega

@[simp] theorem wakeEvs_length (c : Nat) (now : Int) (l : List Wake) : (wakeEvs c now l).length = l.length := by
  induction l generalizing c with
  | nil => rfl
  | cons x xs ih => simp [wakeEvs, ih]

theorem mem_wakeEvs {c : Nat} {now : Int} {l : List Wake} {e : HTag} :
    e ∈ wakeEvs c now l ↔ ∃ i, ∃ h : i < l.length, e = mkEv (c + 1 + i) l[i].act l[i].subj l[i].sig now l[i].pri := by
  induction l generalizing c with
  | nil => simp [wakeEvs]
  | cons x xs ih =>
    simp only [wakeEvs, List.mem_append, List.mem_singleton, ih, List.length_cons]
    constructor
    · rintro (⟨i, hi, rfl⟩ | rfl)
      · exact ⟨i + 1, by omega, by simp only [List.getElem_cons_succ]; congr 1; omega⟩
      · exact ⟨0, by omega, by simp⟩
    · rintro ⟨i, hi, rfl⟩
      cases i with
      | zero => right; simp
      | succ i => left; exact ⟨i, by omega, by simp only [List.getElem_cons_succ]; congr 1; omega⟩

theorem wakeEvs_props {c : Nat} {now : Int} {l : List Wake} {e : HTag} (h : e ∈ wakeEvs c now l) :
    c < e.key ∧ e.key ≤ c + l.length ∧ e.d = now ∧ e.item.d = 0 ∧
      ∃ x ∈ l, e = mkEv e.key x.act x.subj x.sig now x.pri := by
  obtain ⟨i, hi, rfl⟩ := mem_wakeEvs.1 h
  refine ⟨by simp [mkEv]; omega, by simp [mkEv]; omega, rfl, rfl, l[i], List.getElem_mem hi, rfl⟩

theorem wakeEvs_keys (c : Nat) (now : Int) (l : List Wake) :
    (wakeEvs c now l).map (·.key) = (List.range' (c + 1) l.length).reverse := by
  induction l generalizing c with
  | nil => rfl
  | cons x xs ih =>
    simp only [wakeEvs, List.map_append, ih, List.map_cons, List.map_nil, List.length_cons]
    rw [List.range'_succ, List.reverse_cons]
    rfl

theorem wakeEvs_subjs (c : Nat) (now : Int) (l : List Wake) :
    (wakeEvs c now l).map (·.item.b) = (l.map (·.subj)).reverse := by
  induction l generalizing c with
  | nil => rfl
  | cons x xs ih => simp [wakeEvs, ih, mkEv]

@[simp] theorem pushAll_evWaiters (w : World) (l : List Wake) : (pushAll w l).evWaiters = w.evWaiters := rfl
@[simp] theorem pushAll_procs (w : World) (l : List Wake) : (pushAll w l).procs = w.procs := rfl
@[simp] theorem pushAll_guards (w : World) (l : List Wake) : (pushAll w l).guards = w.guards := rfl
@[simp] theorem pushAll_res (w : World) (l : List Wake) : (pushAll w l).res = w.res := rfl
@[simp] theorem pushAll_pools (w : World) (l : List Wake) : (pushAll w l).pools = w.pools := rfl
@[simp] theorem pushAll_bufs (w : World) (l : List Wake) : (pushAll w l).bufs = w.bufs := rfl
@[simp] theorem pushAll_oqs (w : World) (l : List Wake) : (pushAll w l).oqs = w.oqs := rfl
@[simp] theorem pushAll_pqs (w : World) (l : List Wake) : (pushAll w l).pqs = w.pqs := rfl
@[simp] theorem pushAll_conds (w : World) (l : List Wake) : (pushAll w l).conds = w.conds := rfl
@[simp] theorem pushAll_flags (w : World) (l : List Wake) : (pushAll w l).flags = w.flags := rfl
@[simp] theorem pushAll_gvars (w : World) (l : List Wake) : (pushAll w l).gvars = w.gvars := rfl
@[simp] theorem pushAll_log (w : World) (l : List Wake) : (pushAll w l).log = w.log := rfl
@[simp] theorem pushAll_fault (w : World) (l : List Wake) : (pushAll w l).fault = w.fault := rfl
@[simp] theorem pushAll_dispatched (w : World) (l : List Wake) : (pushAll w l).dispatched = w.dispatched := rfl
@[simp] theorem pushAll_now (w : World) (l : List Wake) : (pushAll w l).now = w.now := rfl
@[simp] theorem pushAll_proc (w : World) (l : List Wake) (p : Pid) : (pushAll w l).proc p = w.proc p := rfl
@[simp] theorem pushAll_pending (w : World) (l : List Wake) :
    (pushAll w l).ev.pending = wakeEvs w.ev.counter w.now l ++ w.ev.pending := rfl
@[simp] theorem pushAll_counter (w : World) (l : List Wake) : (pushAll w l).ev.counter = w.ev.counter + l.length := rfl
@[simp] theorem pushAll_ev_now (w : World) (l : List Wake) : (pushAll w l).ev.now = w.ev.now := rfl
@[simp] theorem pushAll_executed (w : World) (l : List Wake) : (pushAll w l).ev.executed = w.ev.executed := rfl
@[simp] theorem pushAll_cancelled (w : World) (l : List Wake) : (pushAll w l).ev.cancelled = w.ev.cancelled := rfl
@[simp] theorem pushAll_current (w : World) (l : List Wake) : (pushAll w l).ev.current = w.ev.current := rfl

theorem pushEv_evinv {w : World} (a s : Nat) (sig t pri : Int) (ht : w.now ≤ t) (h : EvInv w.ev) :
    EvInv (pushEv w a s sig t pri).ev :=
  (schedule_inv h (schedule_ge w a s sig t pri ht)).1

theorem pushAll_evinv {w : World} (l : List Wake) (h : EvInv w.ev) : EvInv (pushAll w l).ev := by
  induction l generalizing w with
  | nil => rw [pushAll_nil]; exact h
  | cons x xs ih => rw [pushAll_cons]; exact ih (pushEv_evinv _ _ _ _ _ (Int.le_refl _) h)

/-- a fold of `sched … w.now …` whose arguments depend only on the processes is a batch -/
theorem foldl_sched_eq {α : Type} (f : World → α → Wake)
    (hf : ∀ (w : World) (a s : Nat) (sig t pri : Int) (x : α), f (pushEv w a s sig t pri) x = f w x) :
    ∀ (l : List α) (w : World),
      l.foldl (fun w x => (sched w (f w x).act (f w x).subj (f w x).sig w.now (f w x).pri).1) w =
        pushAll w (l.map (f w)) := by
  intro l
  induction l with
  | nil => intro w; simp [pushAll_nil]
  | cons x xs ih =>
    intro w
    simp only [List.foldl_cons, List.map_cons, pushAll_cons]
    rw [sched_now, ih]
    congr 1
    apply List.map_congr_left
    intro y _
    exact hf w _ _ _ _ _ y

/-- `wake_event_waiters` as a batch -/
def evWakes (w : World) (ps : List Pid) (sig : Int) : List Wake :=
  ps.map fun q => ⟨aEvent, q + 1, sig, (w.proc q).prio⟩

theorem wakeEventWaiters_eq (w : World) (ps : List Pid) (sig : Int) :
    wakeEventWaiters w ps sig = pushAll w (evWakes w ps sig) := by
  unfold wakeEventWaiters evWakes
  exact foldl_sched_eq (fun w q => ⟨aEvent, q + 1, sig, (w.proc q).prio⟩) (fun _ _ _ _ _ _ _ => rfl) ps w

/-- `wake_process_waiters` as a batch -/
def procWakes (w : World) (p : Pid) (sig : Int) : List Wake :=
  (w.proc p).waiters.map fun q => ⟨aProc, q + 1, sig, ((w.modProc p fun x => { x with waiters := [] }).proc q).prio⟩

theorem wakeWaiters_eq (w : World) (p : Pid) (sig : Int) :
    wakeWaiters w p sig = pushAll (w.modProc p fun x => { x with waiters := [] }) (procWakes w p sig) := by
  unfold wakeWaiters procWakes
  exact foldl_sched_eq (fun w q => ⟨aProc, q + 1, sig, (w.proc q).prio⟩) (fun _ _ _ _ _ _ _ => rfl) _ _

theorem procWakes_prio (w : World) (p q : Pid) :
    ((w.modProc p fun x => { x with waiters := [] }).proc q).prio = (w.proc q).prio := by
  rw [modProc_proc]; split
  · rename_i h; rw [h.1]
  · rfl

/-- event `h` leaves the queue for the cancelled ones, and its waiter list leaves the table -/
def cancelEv (w : World) (h : Nat) : World :=
  { w with ev := { w.ev with pending := KPQ.remove w.ev.pending h, cancelled := h :: w.ev.cancelled },
           evWaiters := w.evWaiters.filter (·.1 ≠ h) }

/-- `cmb_event_cancel` in closed form: a scheduled handle is removed, its waiters get (aEvent, CANCELLED) wake-ups at the
    current time; an unscheduled handle changes nothing -/
theorem evCancel_eq (w : World) (h : Nat) :
    evCancel w h =
      if h ∈ keys w.ev.pending then
        (pushAll (cancelEv w h) (evWakes w ((w.evWaiters.lookup h).getD []) sigCancelled), true)
      else (w, false) := by
  unfold evCancel cancel isScheduled
  by_cases hk : h ∈ keys w.ev.pending
  · simp only [hk, decide_true, if_true, popWaiters, wakeEventWaiters_eq]
    rfl
  · simp [hk]

theorem evCancel_snd (w : World) (h : Nat) : (evCancel w h).2 = decide (h ∈ keys w.ev.pending) := by
  rw [evCancel_eq]; split <;> simp_all

@[simp] theorem cancelEv_procs (w : World) (h : Nat) : (cancelEv w h).procs = w.procs := rfl
@[simp] theorem cancelEv_guards (w : World) (h : Nat) : (cancelEv w h).guards = w.guards := rfl
@[simp] theorem cancelEv_res (w : World) (h : Nat) : (cancelEv w h).res = w.res := rfl
@[simp] theorem cancelEv_pools (w : World) (h : Nat) : (cancelEv w h).pools = w.pools := rfl
@[simp] theorem cancelEv_bufs (w : World) (h : Nat) : (cancelEv w h).bufs = w.bufs := rfl
@[simp] theorem cancelEv_oqs (w : World) (h : Nat) : (cancelEv w h).oqs = w.oqs := rfl
@[simp] theorem cancelEv_pqs (w : World) (h : Nat) : (cancelEv w h).pqs = w.pqs := rfl
@[simp] theorem cancelEv_conds (w : World) (h : Nat) : (cancelEv w h).conds = w.conds := rfl
@[simp] theorem cancelEv_flags (w : World) (h : Nat) : (cancelEv w h).flags = w.flags := rfl
@[simp] theorem cancelEv_gvars (w : World) (h : Nat) : (cancelEv w h).gvars = w.gvars := rfl
@[simp] theorem cancelEv_log (w : World) (h : Nat) : (cancelEv w h).log = w.log := rfl
@[simp] theorem cancelEv_fault (w : World) (h : Nat) : (cancelEv w h).fault = w.fault := rfl
@[simp] theorem cancelEv_dispatched (w : World) (h : Nat) : (cancelEv w h).dispatched = w.dispatched := rfl
@[simp] theorem cancelEv_now (w : World) (h : Nat) : (cancelEv w h).now = w.now := rfl
@[simp] theorem cancelEv_proc (w : World) (h : Nat) (p : Pid) : (cancelEv w h).proc p = w.proc p := rfl
@[simp] theorem cancelEv_pending (w : World) (h : Nat) : (cancelEv w h).ev.pending = KPQ.remove w.ev.pending h := rfl
@[simp] theorem cancelEv_counter (w : World) (h : Nat) : (cancelEv w h).ev.counter = w.ev.counter := rfl
@[simp] theorem cancelEv_ev_now (w : World) (h : Nat) : (cancelEv w h).ev.now = w.ev.now := rfl
@[simp] theorem cancelEv_cancelled (w : World) (h : Nat) : (cancelEv w h).ev.cancelled = h :: w.ev.cancelled := rfl
@[simp] theorem cancelEv_executed (w : World) (h : Nat) : (cancelEv w h).ev.executed = w.ev.executed := rfl
@[simp] theorem cancelEv_current (w : World) (h : Nat) : (cancelEv w h).ev.current = w.ev.current := rfl
@[simp] theorem cancelEv_evWaiters (w : World) (h : Nat) : (cancelEv w h).evWaiters = w.evWaiters.filter (·.1 ≠ h) := rfl

theorem cancelEv_evinv {w : World} {h : Nat} (hk : h ∈ keys w.ev.pending) (hi : EvInv w.ev) : EvInv (cancelEv w h).ev := by
  have := cancel_inv hi h
  unfold cancel isScheduled at this
  simp only [hk, decide_true, if_true] at this
  exact this

/-- a successful `cmb_event_schedule` on the queue of `w` is `pushEv`, and the event is not in the past -/
theorem schedule_ok {w : World} {a b : Nat} {sig t pri : Int} {ev' : EvQ} {k : Nat}
    (he : schedule w.ev a b (encSig sig) t pri = .ok (ev', k)) :
    w.now ≤ t ∧ ({ w with ev := ev' } : World) = pushEv w a b sig t pri := by
  by_cases ht : w.now ≤ t
  · rw [schedule_ge w a b sig t pri ht] at he
    simp only [Except.ok.injEq, Prod.mk.injEq] at he
    exact ⟨ht, by rw [← he.1]; rfl⟩
  · have : t < w.ev.now := by unfold World.now at ht; omega
    simp [schedule, this] at he

theorem finishProc_eq (w : World) (p : Pid) (val : Int) (stopped : Bool) :
    finishProc w p val stopped =
      (pushAll ((finishPre w p stopped).modProc p fun x => { x with waiters := [] })
          (procWakes (finishPre w p stopped) p (if stopped then sigStopped else sigSuccess))).modProc p
        fun x => { x with status := .finished, exitVal := val, blocked := none } := by
  unfold finishProc finishPre
  cases stopped <;> simp only [wakeWaiters_eq] <;> rfl

end CimbaModel.Sim.S3
