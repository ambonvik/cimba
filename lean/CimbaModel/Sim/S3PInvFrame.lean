/-
  S3 — `PInv` does not look at the objects or the waiting lists: it is `GuardFree`, hence holds across all functions
  of the model that neither register nor deregister anything (objects, guards, signals, cancellations, recording,
  priorities).
-/
import CimbaModel.Sim.S3PInv

namespace CimbaModel.Sim.S3
open CimbaModel CimbaModel.Sim CimbaModel.Event CimbaModel.Generated CimbaModel.KPQ
open CimbaModel.HashHeap (HTag Item Order HH WF abs liveTags)

variable {ex : Pid → Prop} {fr : Pid → Option Frame}

theorem PInv.guardFree : GuardFree fun w w' => PInv ex fr w → PInv ex fr w' where
  toPath := Path.ofPred _
  same := fun hs h => h.same hs.ctl hs.evWaiters hs.ev
  evCancel := fun _ k h => h.evCancel_fst k
  sched := fun _ a s sig t pri ha h => h.sched_other a s sig t pri ⟨ha.2.1, ha.2.2.1⟩
  guards := fun _ _ h => h.same (SameCtl.refl _) rfl rfl
  wake := fun _ a s t pri ha h => h.sched_other a s sigSuccess t pri (by rcases ha with rfl | rfl <;> decide)

theorem PInv.foot : Foot fun w w' => PInv ex fr w → PInv ex fr w' := PInv.guardFree.foot

theorem PInv.guardSignal (fuel : Nat) {w : World} (h : PInv ex fr w) (g : Nat) : PInv ex fr (guardSignal fuel w g) :=
  PInv.guardFree.guardSignalF fuel false w g h

theorem PInv.signal {w : World} (h : PInv ex fr w) (g : Nat) : PInv ex fr (signal w g) := PInv.guardSignal 8 h g

end CimbaModel.Sim.S3
