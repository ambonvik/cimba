/-
  S4 — `StartInv` (a pending start event is addressed to a process that is not running, at most one per process) through
  every command and every resumed call.

  The predicate is carried in the form `StartTgt N w`: every pending start event has a subject ≥ 1 whose process satisfies
  `N`, and start events have pairwise distinct subjects.  `StartOk w = StartTgt (NotRun w) w = StartInv w ∧ StartPos w`.
  (`StartPos`: the subject of a start event is ≥ 1 — needed for inductiveness, because the subjects 0 and 1 both denote
  process 0 in `dispatch`.)
-/
import CimbaModel.Sim.S4Defs
import CimbaModel.Sim.S1DeadStep
import CimbaModel.Sim.S1Pend

namespace CimbaModel.Sim.S4
open CimbaModel CimbaModel.Sim CimbaModel.Event CimbaModel.Generated
open CimbaModel.HashHeap (HTag Item Order HH)

/-- `A` admits the nine kinds of event other than `aStart`; the instance is `notStart` -/
structure NoStart (A : Nat → Bool) : Prop where
  time : A aTime = true
  proc : A aProc = true
  event : A aEvent = true
  res : A aRes = true
  preempt : A aPreempt = true
  cond : A aCond = true
  intr : A aIntr = true
  resume : A aResume = true
  user : A aUser = true

def notStart (a : Nat) : Bool := a != aStart

theorem noStart_notStart : NoStart notStart := by constructor <;> decide

/-- `StartTgt` as a property of the list of pending events: a start event is addressed to a process ≥ 1 that satisfies `N`,
    and no two to the same one -/
structure SL (N : Pid → Prop) (l : List HTag) : Prop where
  tgt : ∀ e ∈ l, e.item.a = aStart → 1 ≤ e.item.b ∧ N (e.item.b - 1)
  uq : ∀ e1 ∈ l, ∀ e2 ∈ l, e1.item.a = aStart → e2.item.a = aStart → e1.item.b = e2.item.b → e1 = e2

theorem SL.sublist {N : Pid → Prop} {l l' : List HTag} (h : SL N l) (hs : l'.Sublist l) : SL N l' :=
  ⟨fun e he => h.tgt e (hs.subset he), fun e1 h1 e2 h2 => h.uq e1 (hs.subset h1) e2 (hs.subset h2)⟩

theorem SL.mono {N N' : Pid → Prop} {l : List HTag} (h : SL N l) (hm : ∀ q, N q → N' q) : SL N' l :=
  ⟨fun e he ha => ⟨(h.tgt e he ha).1, hm _ (h.tgt e he ha).2⟩, h.uq⟩

theorem SL.cons_other {N : Pid → Prop} {l : List HTag} (h : SL N l) (e : HTag) (he : e.item.a ≠ aStart) : SL N (e :: l) := by
  refine ⟨fun x hx ha => ?_, fun x1 h1 x2 h2 a1 a2 hb => ?_⟩
  · rcases List.mem_cons.1 hx with rfl | hx
    · exact absurd ha he
    · exact h.tgt x hx ha
  · rcases List.mem_cons.1 h1 with rfl | h1
    · exact absurd a1 he
    · rcases List.mem_cons.1 h2 with rfl | h2
      · exact absurd a2 he
      · exact h.uq x1 h1 x2 h2 a1 a2 hb

theorem SL.cons_start {N : Pid → Prop} {l : List HTag} (h : SL N l) (e : HTag) (hpos : 1 ≤ e.item.b) (hn : N (e.item.b - 1))
    (hfresh : ∀ x ∈ l, x.item.b ≠ e.item.b) : SL N (e :: l) := by
  refine ⟨fun x hx ha => ?_, fun x1 h1 x2 h2 a1 a2 hb => ?_⟩
  · rcases List.mem_cons.1 hx with rfl | hx
    · exact ⟨hpos, hn⟩
    · exact h.tgt x hx ha
  · rcases List.mem_cons.1 h1 with e1 | m1
    · rcases List.mem_cons.1 h2 with e2 | m2
      · rw [e1, e2]
      · rw [e1] at hb; exact absurd hb.symm (hfresh x2 m2)
    · rcases List.mem_cons.1 h2 with e2 | m2
      · rw [e2] at hb; exact absurd hb (hfresh x1 m1)
      · exact h.uq x1 m1 x2 m2 a1 a2 hb

theorem SL.map {N : Pid → Prop} {l : List HTag} (h : SL N l) (f : HTag → HTag) (hf : ∀ e, (f e).item = e.item) :
    SL N (l.map f) := by
  refine ⟨fun x hx ha => ?_, fun x1 h1 x2 h2 a1 a2 hb => ?_⟩
  · obtain ⟨e, he, rfl⟩ := List.mem_map.1 hx
    rw [hf] at ha ⊢; exact h.tgt e he ha
  · obtain ⟨e1, he1, rfl⟩ := List.mem_map.1 h1
    obtain ⟨e2, he2, rfl⟩ := List.mem_map.1 h2
    rw [hf] at a1 a2 hb
    rw [hf] at hb
    rw [h.uq e1 he1 e2 he2 a1 a2 hb]

def StartTgt (N : Pid → Prop) (w : World) : Prop := SL N w.ev.pending

def StartPos (w : World) : Prop := ∀ e ∈ w.ev.pending, e.item.a = aStart → 1 ≤ e.item.b

def NotRun (w : World) (q : Pid) : Prop := (w.proc q).status ≠ .running

def StartOk (w : World) : Prop := StartTgt (NotRun w) w

theorem startOk_iff {w : World} : StartOk w ↔ StartInv w ∧ StartPos w := by
  constructor
  · intro h
    exact ⟨⟨fun e he ha => (h.tgt e he ha).2, h.uq⟩, fun e he ha => (h.tgt e he ha).1⟩
  · intro h
    exact ⟨fun e he ha => ⟨h.2 e he ha, h.1.nr e he ha⟩, h.1.uq⟩

theorem StartOk.inv {w : World} (h : StartOk w) : StartInv w := (startOk_iff.1 h).1
theorem StartOk.pos {w : World} (h : StartOk w) : StartPos w := (startOk_iff.1 h).2
theorem StartOk.mk {w : World} (h : StartInv w) (hp : StartPos w) : StartOk w := startOk_iff.2 ⟨h, hp⟩

theorem startTgt_closed (N : Pid → Prop) : EvClosed notStart (StartTgt N) where
  ev_only := fun h e => by unfold StartTgt at *; rw [e]; exact h
  sub := fun w ev' hs h => SL.sublist h hs
  sched := fun w a s sig t pri ha h => by
    unfold StartTgt
    rcases sched_pending_cases w a s sig t pri with e' | e' <;> rw [e']
    · exact h
    · refine SL.cons_other h _ ?_
      simpa [notStart] using ha

theorem StartTgt.mono {N N' : Pid → Prop} {w : World} (h : StartTgt N w) (hm : ∀ q, N q → N' q) : StartTgt N' w :=
  SL.mono h hm

/-- transfer to the statuses of the new world: nobody has become running -/
theorem StartOk.of_tgt {w w' : World} (h : StartTgt (NotRun w) w')
    (hst : ∀ q, (w'.proc q).status = .running → (w.proc q).status = .running) : StartOk w' :=
  StartTgt.mono h (fun q hq hr => hq (hst q hr))

theorem StartOk.of_same {w w' : World} (h : StartOk w) (he : w'.ev = w.ev)
    (hst : ∀ q, (w'.proc q).status = (w.proc q).status) : StartOk w' :=
  StartOk.of_tgt ((startTgt_closed _).ev_only h he) (fun q hq => by rw [← hst]; exact hq)

theorem startTgt_finishProc {N : Pid → Prop} {w : World} (h : StartTgt N w) (z : Pid) (val : Int) (stopped : Bool) :
    StartTgt N (finishProc w z val stopped) :=
  ec_finishProc (startTgt_closed N) noStart_notStart.event ⟨noStart_notStart.res, noStart_notStart.cond⟩
    noStart_notStart.proc w z val stopped h

theorem finishProc_run_mono (w : World) (z : Pid) (val : Int) (stopped : Bool) (q : Pid)
    (h : ((finishProc w z val stopped).proc q).status = .running) : (w.proc q).status = .running := by
  rw [finishProc_status] at h
  split at h
  · cases h
  · exact h

theorem startOk_finishProc {w : World} (h : StartOk w) (z : Pid) (val : Int) (stopped : Bool) :
    StartOk (finishProc w z val stopped) :=
  StartOk.of_tgt (startTgt_finishProc h z val stopped) (finishProc_run_mono w z val stopped)

theorem startTgt_reprioritize {N : Pid → Prop} {w : World} (hw : StartTgt N w) {ev' : EvQ} {h : Nat} {v : Int}
    (hr : reprioritize w.ev h v = .ok ev') : StartTgt N { w with ev := ev' } := by
  unfold reprioritize at hr
  split at hr
  · cases hr
  · injection hr with hr; subst hr
    exact SL.map hw _ (fun e => by split <;> rfl)

/-- the commands that schedule no start event: everything but `start` (and `priority_set`, done separately because of
    its loops) -/
theorem startTgt_execCmd_frame {N : Pid → Prop} {w : World} (h : StartTgt N w) (p : Pid) (c : Cmd)
    (h3 : ∀ q, c ≠ .start q) (h8 : ∀ q v, c ≠ .prioSet q v) : StartTgt N (execCmd w p c).1 := by
  refine ec_execCmd (startTgt_closed N) w p c ?_ h8 h
  cases c
  case start q => exact absurd rfl (h3 q)
  all_goals rfl

theorem startTgt_prioSet {N : Pid → Prop} {w : World} (hs : StartTgt N w) (p q : Pid) (v : Int) :
    StartTgt N (execCmd w p (.prioSet q v)).1 :=
  ec_prioSet (startTgt_closed N) (fun _ _ _ _ hw hr => startTgt_reprioritize hw hr) w p q v hs

theorem start_cmd_cases (w : World) (p q : Pid) :
    (execCmd w p (.start q)).1 = w ∨
    ((w.proc q).status ≠ .running ∧ (∀ e ∈ w.ev.pending, e.item.b ≠ q + 1) ∧ q < w.procs.size ∧
      (execCmd w p (.start q)).1 = (sched w aStart (q + 1) 0 w.now (w.proc q).prio).1) := by
  simp only [execCmd]
  split
  · left; rfl
  · rename_i hc
    simp only [not_or] at hc
    obtain ⟨hnr, hcnt, hlt⟩ := hc
    right
    refine ⟨by simpa [isRunning] using hnr, ?_, Nat.lt_of_not_le hlt, rfl⟩
    intro x hx hb
    apply hcnt
    unfold pendingCountFor pendingOf
    simp only [List.length_map, gt_iff_lt]
    apply List.length_pos_of_mem (a := x)
    rw [List.mem_filter]
    exact ⟨hx, by simpa using hb⟩

theorem startTgt_start {N : Pid → Prop} {w : World} (hs : StartTgt N w) (p q : Pid)
    (hN : ¬ isRunning w q → N q) : StartTgt N (execCmd w p (.start q)).1 := by
  rcases start_cmd_cases w p q with e | ⟨hnr, hfresh, _, e⟩ <;> rw [e]
  · exact hs
  · unfold StartTgt
    rcases sched_pending_cases w aStart (q + 1) 0 w.now (w.proc q).prio with e' | e' <;> rw [e']
    · exact hs
    · exact SL.cons_start hs _ (by simp) (by simpa using hN (by simpa [isRunning] using hnr)) hfresh

theorem startTgt_execCmd {N : Pid → Prop} {w : World} (h : StartTgt N w) (p : Pid) (c : Cmd)
    (hN : ∀ q, c = .start q → ¬ isRunning w q → N q) : StartTgt N (execCmd w p c).1 := by
  by_cases h3 : ∃ q, c = .start q
  · obtain ⟨q, rfl⟩ := h3
    exact startTgt_start h p q (hN q rfl)
  by_cases h8 : ∃ q v, c = .prioSet q v
  · obtain ⟨q, v, rfl⟩ := h8
    exact startTgt_prioSet h p q v
  exact startTgt_execCmd_frame h p c (fun q e => h3 ⟨q, e⟩) (fun q v e => h8 ⟨q, v, e⟩)

theorem execCmd_run_mono (w : World) (p : Pid) (c : Cmd) (q : Pid)
    (h : ((execCmd w p c).1.proc q).status = .running) : (w.proc q).status = .running := by
  by_cases h1 : ∃ z v, c = .stop z v
  · obtain ⟨z, v, rfl⟩ := h1
    simp only [execCmd] at h
    split at h
    · exact finishProc_run_mono _ _ _ _ _ h
    · split at h
      · exact finishProc_run_mono _ _ _ _ _ h
      · exact h
  by_cases h2 : ∃ v, c = .exit v
  · obtain ⟨v, rfl⟩ := h2
    exact finishProc_run_mono _ _ _ _ _ h
  rw [execCmd_status w p c q (fun z v e => h1 ⟨z, v, e⟩) (fun v e => h2 ⟨v, e⟩)] at h
  exact h

theorem startOk_execCmd {w : World} (h : StartOk w) (p : Pid) (c : Cmd) : StartOk (execCmd w p c).1 :=
  StartOk.of_tgt (startTgt_execCmd h p c (fun q _ hq => by simpa [isRunning, NotRun] using hq))
    (execCmd_run_mono w p c)

theorem startTgt_resumeFrame {N : Pid → Prop} {w : World} (h : StartTgt N w) (p : Pid) (f : Frame) (sig : Int) :
    StartTgt N (resumeFrame w p f sig).1 :=
  ec_resumeFrame (startTgt_closed N) w p f sig (by cases f <;> rfl) h

theorem startOk_resumeFrame {w : World} (h : StartOk w) (p : Pid) (f : Frame) (sig : Int) :
    StartOk (resumeFrame w p f sig).1 :=
  StartOk.of_tgt (startTgt_resumeFrame h p f sig) (fun q hq => by rw [resumeFrame_status] at hq; exact hq)

end CimbaModel.Sim.S4
