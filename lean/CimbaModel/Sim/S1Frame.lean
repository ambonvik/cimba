/-
  S1 — frame lemmas: what each primitive of the process-layer model leaves literally unchanged.
  One block per primitive, bottom-up.  What a primitive does is walked through once, in Sim/Eff.lean (`Eff p s w w'`:
  `w'` comes from `w` by updates within the scope `s`, made on behalf of `p`).  A block names the primitive's scope
  (`f_eff : Eff p s w (f w …)`; a scope that several primitives share has a name: `cancelScope`, `signalScope`, …) and
  lets the macros of S1Base write the simp lemmas `f_field`, so that compositions reduce by `simp`; each is read off what
  lies outside the scope (`Outside`).  `sched`, `block` and `setVar` are taken with any argument, also one the library
  never passes (`sched_out`, `block_out`, `setVar_out`).  No S1 invariant reads `log`, `fault` or `dispatched`.
-/
import CimbaModel.Sim.S1Base
import CimbaModel.Sim.Basic
import CimbaModel.Sim.EffCall

namespace CimbaModel.Sim
open CimbaModel CimbaModel.Event CimbaModel.Generated
open CimbaModel.HashHeap (HTag Item Order HH)

section
variable (w : World) (m : String)
theorem fail_eff (p : Pid) : Eff p {} w (w.fail m) := Eff.refl.fail m
world_frame fail : (w.fail m) ~ w keeps ev evWaiters procs guards res pools bufs oqs pqs conds flags gvars now
  by from_eff (fail_eff w m 0).outside
theorem emit_eff (p : Pid) : Eff p {} w (w.emit m) := Eff.refl.emit m
world_frame emit : (w.emit m) ~ w keeps ev evWaiters procs guards res pools bufs oqs pqs conds flags gvars now
  by from_eff (emit_eff w m 0).outside
end

section
variable (w : World) (p : Pid) (f : Proc → Proc)
world_frame modProc : (w.modProc p f) ~ w keeps ev evWaiters guards res pools bufs oqs pqs conds flags gvars now
  by rfl
end

section
variable (w : World) (g : Nat) (q' : HH)
theorem setGuardQ_eff (p : Pid) : Eff p { guards := true } w (setGuardQ w g q') := Eff.setGuardQ .refl g q'
world_frame setGuardQ : (setGuardQ w g q') ~ w keeps ev evWaiters procs res pools bufs oqs pqs conds flags gvars now
  by from_eff (setGuardQ_eff w g q' 0).outside
end

section
variable (w : World) (pl v : Nat)
theorem setPoolInUse_eff (p : Pid) : Eff p { pools := true, avail := true } w (setPoolInUse w pl v):=
  Eff.setPoolInUse .refl pl v
world_frame setPoolInUse : (setPoolInUse w pl v) ~ w keeps ev evWaiters procs guards res bufs oqs pqs conds flags gvars now
  by from_eff (setPoolInUse_eff w pl v 0).outside
end

section
variable (w : World) (act subj : Nat) (sig t pri : Int)
/-- any call of `sched`, also one the library does not make (an `aRes` event that is not due at once) -/
theorem sched_out (p : Pid) : Outside p { push := [act] } w (sched w act subj sig t pri).1 := by
  unfold sched
  split
  · rename_i h
    exact (Outside.refl p _ w).step rfl rfl (schedule_now h) rfl rfl rfl rfl rfl rfl (fun _ => rfl) (fun _ => rfl)
      (fun _ => rfl) (fun _ => rfl) (fun e _ _ => by cases e)
  · exact (Eff.refl.fail _).outside
world_frame sched : (sched w act subj sig t pri).1 ~ w keeps evWaiters procs guards res pools bufs oqs pqs conds flags gvars
  by from_eff (sched_out w act subj sig t pri 0)
@[simp] theorem sched_now : (sched w act subj sig t pri).1.ev.now = w.ev.now := (sched_out w act subj sig t pri 0).now
end

section
variable (w : World) (ps : List Pid) (sig : Int)
theorem wakeEventWaiters_eff (p : Pid) : Eff p { push := [aEvent] } w (wakeEventWaiters w ps sig):=
  Eff.wakeEventWaiters .refl ps sig
world_frame wakeEventWaiters : (wakeEventWaiters w ps sig) ~ w keeps evWaiters procs guards res pools bufs oqs pqs conds flags gvars now
  by from_eff (wakeEventWaiters_eff w ps sig 0).outside
end

/-- what a cancellation may touch: the queue, the table of event waiters, their wake-ups -/
def cancelScope : Scope := { cancel := true, evWaiters := true, push := [aEvent] }

section
variable (w : World) (h : Nat)
theorem evCancel_eff (p : Pid) : Eff p cancelScope w (evCancel w h).1 := Eff.evCancel (s := cancelScope) .refl h
world_frame evCancel : (evCancel w h).1 ~ w keeps procs guards res pools bufs oqs pqs conds flags gvars
  by from_eff (evCancel_eff w h 0).outside
end

section
variable (w : World) (p : Pid)
theorem cancelAllFor_eff (z : Pid) : Eff z cancelScope w (cancelAllFor w p):=
  Eff.cancelAllFor (s := cancelScope) .refl p
world_frame cancelAllFor : (cancelAllFor w p) ~ w keeps procs guards res pools bufs oqs pqs conds flags gvars now
  by from_eff (cancelAllFor_eff w p 0).outside
end

section
variable (w : World) (p : Pid) (act : Nat) (sig : Option Int)
theorem cancelKindFor_eff (z : Pid) : Eff z cancelScope w (cancelKindFor w p act sig).1 :=
  Eff.cancelKindFor (s := cancelScope) .refl p act sig
world_frame cancelKindFor : (cancelKindFor w p act sig).1 ~ w keeps procs guards res pools bufs oqs pqs conds flags gvars now
  by from_eff (cancelKindFor_eff w p act sig 0).outside
end

section
variable (w : World)
theorem cancelUserAll_eff (z : Pid) : Eff z cancelScope w (cancelUserAll w).1 :=
  Eff.cancelUserAll (s := cancelScope) .refl
world_frame cancelUserAll : (cancelUserAll w).1 ~ w keeps procs guards res pools bufs oqs pqs conds flags gvars now
  by from_eff (cancelUserAll_eff w 0).outside
end

section
variable (w : World) (r : Nat)
theorem recordRes_eff (p : Pid) : Eff p { res := true } w (recordRes w r) := Eff.recordRes .refl r
world_frame recordRes : (recordRes w r) ~ w keeps ev evWaiters procs guards pools bufs oqs pqs conds flags gvars now
  by from_eff (recordRes_eff w r 0).outside
theorem recordPool_eff (p : Pid) : Eff p { pools := true } w (recordPool w r) := Eff.recordPool .refl r
world_frame recordPool : (recordPool w r) ~ w keeps ev evWaiters procs guards res bufs oqs pqs conds flags gvars now
  by from_eff (recordPool_eff w r 0).outside
theorem recordBuf_eff (p : Pid) : Eff p { bufs := true } w (recordBuf w r) := Eff.recordBuf .refl r
world_frame recordBuf : (recordBuf w r) ~ w keeps ev evWaiters procs guards res pools oqs pqs conds flags gvars now
  by from_eff (recordBuf_eff w r 0).outside
theorem recordOQ_eff (p : Pid) : Eff p { oqs := true } w (recordOQ w r) := Eff.recordOQ .refl r
world_frame recordOQ : (recordOQ w r) ~ w keeps ev evWaiters procs guards res pools bufs pqs conds flags gvars now
  by from_eff (recordOQ_eff w r 0).outside
theorem recordPQ_eff (p : Pid) : Eff p { pqs := true } w (recordPQ w r) := Eff.recordPQ .refl r
world_frame recordPQ : (recordPQ w r) ~ w keeps ev evWaiters procs guards res pools bufs oqs conds flags gvars now
  by from_eff (recordPQ_eff w r 0).outside
end

section
variable (w : World) (g : Nat) (p : Pid)
theorem guardRemove_eff (z : Pid) : Eff z { guards := true } w (guardRemove w g p).1 :=
  Eff.guardRemove .refl g p
world_frame guardRemove : (guardRemove w g p).1 ~ w keeps ev evWaiters procs res pools bufs oqs pqs conds flags gvars now
  by from_eff (guardRemove_eff w g p 0).outside
end

section
variable (w : World) (g : Nat)
theorem condSignal_eff (p : Pid) : Eff p { guards := true, push := [aCond] } w (condSignal w g).1 :=
  Eff.condSignal .refl g
world_frame condSignal : (condSignal w g).1 ~ w keeps evWaiters procs res pools bufs oqs pqs conds flags gvars now
  by from_eff (condSignal_eff w g 0).outside
end

/-- what a signal may touch: the waiting lists, grants and condition wake-ups -/
def signalScope : Scope := { guards := true, push := [aRes, aCond] }

section
variable (fwd : Bool) (fuel : Nat) (w : World) (g : Nat)
theorem guardSignalF_eff (p : Pid) : Eff p signalScope w (guardSignalF fwd fuel w g):=
  Eff.guardSignalF (s := signalScope) .refl fwd fuel g
world_frame guardSignalF : (guardSignalF fwd fuel w g) ~ w keeps evWaiters procs res pools bufs oqs pqs conds flags gvars now
  by from_eff (guardSignalF_eff fwd fuel w g 0).outside
world_frame guardSignal : (guardSignal fuel w g) ~ w keeps evWaiters procs res pools bufs oqs pqs conds flags gvars now
  by from_eff (guardSignalF_eff false fuel w g 0).outside
world_frame signal : (signal w g) ~ w keeps evWaiters procs res pools bufs oqs pqs conds flags gvars now
  by from_eff (guardSignalF_eff false 8 w g 0).outside
end

def withdrawScope : Scope := { guards := true, cancel := true, evWaiters := true, push := [aEvent, aRes, aCond] }

section
variable (w : World) (g : Nat) (p : Pid)
theorem guardWithdraw_eff (z : Pid) : Eff z withdrawScope w (guardWithdraw w g p):=
  Eff.guardWithdraw (s := withdrawScope) .refl g p
world_frame guardWithdraw : (guardWithdraw w g p) ~ w keeps procs res pools bufs oqs pqs conds flags gvars now
  by from_eff (guardWithdraw_eff w g p 0).outside
end

/-- the caller's awaited things, of any kind -/
def awaitScope : Scope := { awaitsT := .self, awaitsG := .self, awaitsP := .self, awaitsE := .self }

section
variable (w : World) (p : Pid) (a : Await)
theorem addAwait_eff : Eff p awaitScope w (addAwait w p a) :=
  Eff.addAwait (s := awaitScope) .refl p a (by cases a <;> exact rfl)
world_frame addAwait : (addAwait w p a) ~ w keeps ev evWaiters guards res pools bufs oqs pqs conds flags gvars now np
  by from_eff (addAwait_eff w p a).outside
proc_frame addAwait : (addAwait w p a) ~ w keeps prio status waiters held blocked pc script vars exitVal
  by from_eff_proc (addAwait_eff w p a).outside
theorem removeAwait_eff : Eff p awaitScope w (removeAwait w p a).1 :=
  Eff.removeAwait (s := awaitScope) .refl p a (by cases a <;> exact rfl)
world_frame removeAwait : (removeAwait w p a).1 ~ w keeps ev evWaiters guards res pools bufs oqs pqs conds flags gvars now np
  by from_eff (removeAwait_eff w p a).outside
proc_frame removeAwait : (removeAwait w p a).1 ~ w keeps prio status waiters held blocked pc script vars exitVal
  by from_eff_proc (removeAwait_eff w p a).outside
end

section
variable (w : World) (p : Pid) (isKind : Await → Bool)
theorem removeAwaitKind_eff : Eff p awaitScope w (removeAwaitKind w p isKind).1 :=
  Eff.removeAwaitKind (s := awaitScope) .refl p isKind (fun a => by cases a <;> exact rfl)
world_frame removeAwaitKind : (removeAwaitKind w p isKind).1 ~ w keeps ev evWaiters guards res pools bufs oqs pqs conds flags gvars now np
  by from_eff (removeAwaitKind_eff w p isKind).outside
proc_frame removeAwaitKind : (removeAwaitKind w p isKind).1 ~ w keeps prio status waiters held blocked pc script vars exitVal
  by from_eff_proc (removeAwaitKind_eff w p isKind).outside
end

section
variable (w : World) (p : Pid) (h : HoldRef)
theorem removeHeld_eff : Eff p { heldR := .self, heldP := .self } w (removeHeld w p h).1 :=
  Eff.removeHeld (s := { heldR := .self, heldP := .self }) .refl p h (by cases h <;> exact rfl)
world_frame removeHeld : (removeHeld w p h).1 ~ w keeps ev evWaiters guards res pools bufs oqs pqs conds flags gvars now np
  by from_eff (removeHeld_eff w p h).outside
proc_frame removeHeld : (removeHeld w p h).1 ~ w keeps prio status awaits waiters blocked pc script vars exitVal
  by from_eff_proc (removeHeld_eff w p h).outside
end

section
variable (w : World) (p : Pid) (f : Frame)
/-- any frame, also one the library does not record there (a `hold` frame without its timer) -/
theorem block_out : Outside p { blocked := .self } w (block w p f).1 :=
  (Outside.refl p _ w).modProc p _ rfl (.inr rfl) (.inr rfl) (.inr rfl) (.inr rfl) (.inr rfl) (.inr rfl) (.inr rfl)
    (.inr rfl) (.inr rfl) (.inr rfl) (.inr rfl) (.inl rfl) (.inr rfl) (.inr rfl) (.inr rfl)
world_frame block : (block w p f).1 ~ w keeps ev evWaiters guards res pools bufs oqs pqs conds flags gvars now np
  by from_eff (block_out w p f)
proc_frame block : (block w p f).1 ~ w keeps prio status awaits waiters held pc script vars exitVal
  by from_eff_proc (block_out w p f)
end

section
variable (w : World) (p : Pid) (v h : Nat)
/-- any value, also one that is not a handle just obtained -/
theorem setVar_out : Outside p { vars := .self, gvars := true, pqVars := none } w (setVar w p v h) :=
  (Eff.setVar (s := { vars := .self, gvars := true, pqVars := none }) .refl p v h rfl rfl (.inl trivial)).outside
world_frame setVar : (setVar w p v h) ~ w keeps ev evWaiters guards res pools bufs oqs pqs conds flags now np
  by from_eff (setVar_out w p v h)
proc_frame setVar : (setVar w p v h) ~ w keeps prio status awaits waiters held blocked pc script exitVal
  by from_eff_proc (setVar_out w p v h)
end

section
variable (w : World) (p : Pid) (d sig : Int)
theorem timerAdd_fst : (timerAdd w p d sig).1 =
    addAwait (sched w aTime (p + 1) sig (w.now + d) (w.proc p).prio).1 p
      (.time (sched w aTime (p + 1) sig (w.now + d) (w.proc p).prio).2) := rfl
theorem timerAdd_snd : (timerAdd w p d sig).2 = (sched w aTime (p + 1) sig (w.now + d) (w.proc p).prio).2 := rfl
theorem timerAdd_eff : Eff p { awaitsT := .self, push := [aTime] } w (timerAdd w p d sig).1 :=
  Eff.timerAdd .refl p d sig
world_frame timerAdd : (timerAdd w p d sig).1 ~ w keeps evWaiters guards res pools bufs oqs pqs conds flags gvars now np
  by from_eff (timerAdd_eff w p d sig).outside
proc_frame timerAdd : (timerAdd w p d sig).1 ~ w keeps prio status waiters held blocked pc script vars exitVal
  by from_eff_proc (timerAdd_eff w p d sig).outside
end

/-- cancelling timers of the caller: its awaited things, and what a cancellation touches -/
def untimeScope : Scope := { cancelScope with awaitsT := .self }

section
variable (w : World) (p : Pid) (h : Nat)
theorem timerCancel_fst : (timerCancel w p h).1 = (evCancel (removeAwait w p (.time h)).1 h).1 := rfl
theorem timerCancel_eff : Eff p untimeScope w (timerCancel w p h).1 :=
  Eff.timerCancel (s := untimeScope) .refl p h
world_frame timerCancel : (timerCancel w p h).1 ~ w keeps guards res pools bufs oqs pqs conds flags gvars now np
  by from_eff (timerCancel_eff w p h).outside
proc_frame timerCancel : (timerCancel w p h).1 ~ w keeps prio status waiters held blocked pc script vars exitVal
  by from_eff_proc (timerCancel_eff w p h).outside
end

section
variable (w : World) (p : Pid)
theorem timersClear_eff : Eff p untimeScope w (timersClear w p) := Eff.timersClear (s := untimeScope) .refl p
world_frame timersClear : (timersClear w p) ~ w keeps guards res pools bufs oqs pqs conds flags gvars now np
  by from_eff (timersClear_eff w p).outside
proc_frame timersClear : (timersClear w p) ~ w keeps prio status waiters held blocked pc script vars exitVal
  by from_eff_proc (timersClear_eff w p).outside
end

/-- `cancel_awaiteds`: the subject's awaited things, the waiter lists it is on, and what withdrawing from a guard touches -/
def unawaitScope : Scope :=
  { withdrawScope with awaitsT := .self, awaitsG := .self, awaitsP := .self, awaitsE := .self, waiters := .any }

section
variable (w : World) (p : Pid)
theorem cancelAwaiteds_eff : Eff p unawaitScope w (cancelAwaiteds w p):=
  Eff.cancelAwaiteds (s := unawaitScope) .refl p
world_frame cancelAwaiteds : (cancelAwaiteds w p) ~ w keeps res pools bufs oqs pqs conds flags gvars now np
  by from_eff (cancelAwaiteds_eff w p).outside
proc_frame cancelAwaiteds : (cancelAwaiteds w p) ~ w keeps prio status held blocked pc script vars exitVal
  by from_eff_proc (cancelAwaiteds_eff w p).outside
end

section
variable (w : World) (p : Pid) (sig : Int)
theorem wakeWaiters_eff : Eff p { waiters := .self, push := [aProc] } w (wakeWaiters w p sig):=
  Eff.wakeWaiters .refl p sig
world_frame wakeWaiters : (wakeWaiters w p sig) ~ w keeps evWaiters guards res pools bufs oqs pqs conds flags gvars now np
  by from_eff (wakeWaiters_eff w p sig).outside
proc_frame wakeWaiters : (wakeWaiters w p sig) ~ w keeps prio status awaits held blocked pc script vars exitVal
  by from_eff_proc (wakeWaiters_eff w p sig).outside
end

section
variable (w : World) (pl : Nat) (p : Pid)
theorem poolDropHolder_eff (z : Pid) : Eff z { signalScope with pools := true, ph := true, avail := true } w (poolDropHolder w pl p):=
  Eff.poolDropHolder (s := { signalScope with pools := true, ph := true, avail := true }) .refl pl p
world_frame poolDropHolder : (poolDropHolder w pl p) ~ w keeps evWaiters procs res bufs oqs pqs conds flags gvars now
  by from_eff (poolDropHolder_eff w pl p 0).outside
end

/-- `drop_resources`: the caller's holdings, the resources and pools, the signals to their guards -/
def dropScope : Scope :=
  { signalScope with heldR := .self, heldP := .self, res := true, pools := true, ph := true, avail := true }

section
variable (w : World) (p : Pid)
theorem dropResources_eff : Eff p dropScope w (dropResources w p) := Eff.dropResources (s := dropScope) .refl p
world_frame dropResources : (dropResources w p) ~ w keeps evWaiters bufs oqs pqs conds flags gvars now np
  by from_eff (dropResources_eff w p).outside
proc_frame dropResources : (dropResources w p) ~ w keeps prio status awaits waiters blocked pc script vars exitVal
  by from_eff_proc (dropResources_eff w p).outside
end

/-- the end of the caller -/
def endScope : Scope :=
  { unawaitScope with
    heldR := .self, heldP := .self, status := .self, blocked := .self, exitVal := .self
    res := true, pools := true, ph := true, avail := true, push := [aProc, aEvent, aRes, aCond] }

/-- the end up to the wake-up of the waiters: no process-end wake-up yet -/
def midScope : Scope := { endScope with push := [aEvent, aRes, aCond] }

section
variable (w : World) (p : Pid) (val : Int) (stopped : Bool)
theorem finishMid_eff : Eff p midScope w (finishMid w p stopped) := Eff.finishMid (s := midScope) .refl p stopped
theorem finishProc_eff : Eff p endScope w (finishProc w p val stopped):=
  Eff.finishProc (s := endScope) .refl p val stopped
world_frame finishProc : (finishProc w p val stopped) ~ w keeps bufs oqs pqs conds flags gvars now np
  by from_eff (finishProc_eff w p val stopped).outside
proc_frame finishProc : (finishProc w p val stopped) ~ w keeps prio pc script vars
  by from_eff_proc (finishProc_eff w p val stopped).outside
end

section
variable (w : World) (g : Nat) (p : Pid) (d : Demand)
theorem guardWaitEnter_eff : Eff p { guards := true, awaitsG := .self } w (guardWaitEnter w g p d):=
  Eff.guardWaitEnter .refl g p d
world_frame guardWaitEnter : (guardWaitEnter w g p d) ~ w keeps ev evWaiters res pools bufs oqs pqs conds flags gvars now np
  by from_eff (guardWaitEnter_eff w g p d).outside
proc_frame guardWaitEnter : (guardWaitEnter w g p d) ~ w keeps prio status waiters held blocked pc script vars exitVal
  by from_eff_proc (guardWaitEnter_eff w g p d).outside
end

/-- queueing up on a guard and suspending there -/
def enterScope : Scope := { guards := true, awaitsG := .self, blocked := .self }

/-- leaving a wait on a guard -/
def leaveScope : Scope := { withdrawScope with awaitsG := .self }

section
variable (w : World) (g : Nat) (p : Pid) (sig : Int)
theorem guardWaitLeave_eff : Eff p leaveScope w (guardWaitLeave w g p sig):=
  Eff.guardWaitLeave (s := leaveScope) .refl g p sig
world_frame guardWaitLeave : (guardWaitLeave w g p sig) ~ w keeps res pools bufs oqs pqs conds flags gvars now np
  by from_eff (guardWaitLeave_eff w g p sig).outside
proc_frame guardWaitLeave : (guardWaitLeave w g p sig) ~ w keeps prio status waiters held blocked pc script vars exitVal
  by from_eff_proc (guardWaitLeave_eff w g p sig).outside
end

section
variable (w : World) (r : Nat) (p : Pid)
theorem grab_eff : Eff p { res := true, avail := true, heldR := .self } w (grab w r p) := Eff.grab .refl r p
world_frame grab : (grab w r p) ~ w keeps ev evWaiters guards pools bufs oqs pqs conds flags gvars now np
  by from_eff (grab_eff w r p).outside
proc_frame grab : (grab w r p) ~ w keeps prio status awaits waiters blocked pc script vars exitVal
  by from_eff_proc (grab_eff w r p).outside
end

/-- one attempt at a resource: the caller takes it, or queues up on its guard -/
def acquireScope : Scope := { enterScope with res := true, avail := true, heldR := .self }

section
variable (w : World) (p : Pid) (r : Nat)
theorem acquireStep_eff : Eff p acquireScope w (acquireStep w p r).1 := Eff.acquireStep (s := acquireScope) .refl p r
proc_frame acquireStep : (acquireStep w p r).1 ~ w keeps prio status waiters pc script vars exitVal
  by from_eff_proc (acquireStep_eff w p r).outside
end

end CimbaModel.Sim
