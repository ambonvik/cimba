/-
  S4 — the converse `LC` where a holder list changes while a process acquires or gives back pool units: the holder
  record update (the enqueue cannot fail), the mugging of the top holder, the amount reset, the removal of a holder.
-/
import CimbaModel.Sim.S4LinkBase
import CimbaModel.Sim.S4SafePool

namespace CimbaModel.Sim.S4
open CimbaModel CimbaModel.Sim CimbaModel.Event CimbaModel.Generated CimbaModel.KPQ
open CimbaModel.HashHeap (HTag Item Order HH WF abs)

variable {w w' : World}

theorem lc_poolUpdateRecord (h : PL w) (pl : Nat) (p : Pid) (n : Nat) (hp : p < w.procs.size) :
    LC (poolUpdateRecord w pl p n) := by
  unfold poolUpdateRecord
  split
  · exact h.lc
  · rename_i x hx
    have hph0 := ph_eq w pl x hx
    have hwf := h.pinv.wf pl x.holders hph0
    have hlt := lt_size_of_getElem? hx
    dsimp only
    by_cases hk : p + 1 ∈ hkeys x.holders
    · obtain ⟨i, hi, hkey⟩ := (HashHeap.mem_keys_abs x.holders (p + 1)).1 hk
      have hfi : HashHeap.findIndex x.holders (p + 1) = .ok i := by
        rw [← hkey]; exact HashHeap.findIndex_of_mem hwf hi
      have hc : x.holders.count ≠ 0 := by have := hi.1; have := hi.2; omega
      have hi0 : i ≠ 0 := by have := hi.1; omega
      simp only [hc, if_false, hfi]
      simp only [hi0, ne_eq, not_false_eq_true, decide_true, if_true]
      obtain ⟨_, hkeys'⟩ := wf_setItem hwf holder_ignores_item i hi.1 hi.2
        { (x.holders.tag i).item with b := (x.holders.tag i).item.b + n }
      refine h.lc.set_holders pl _ (fun pl' => ph_set w pl _ pl' hlt) (fun p' pl' _ hm => hm) ?_
      intro p' hm
      have hm' := h.lc.ph (w := w) hm hph0
      rw [← hkeys'] at hm'
      exact hm'
    · have hfi : HashHeap.findIndex x.holders (p + 1) = .ok 0 := HashHeap.findIndex_of_not_mem hwf hk
      simp only [hfi, ne_eq, not_true_eq_false, decide_false, ite_self, Bool.false_eq_true, if_false]
      have hk64 : p + 1 < 2 ^ 64 :=
        Nat.lt_trans (Nat.lt_of_le_of_lt (Nat.succ_le_of_lt hp) h.psz) (by decide)
      obtain ⟨h', hrun, ins⟩ := HashHeap.enqueue_key_ok hwf ⟨p + 1, n, 0, 0⟩ 0
        ((w.modProc p fun y => { y with held := HoldRef.pool pl :: y.held }).proc p).prio
        (Nat.succ_ne_zero p) hk64 hk (room_of_keys hwf (fun k hk' => h.key_le hph0 hk') h.psz)
      have hkeys' : ∀ j, j ∈ hkeys h' ↔ j = p + 1 ∨ j ∈ hkeys x.holders := ins.keys
      simp only [hrun]
      refine h.lc.set_holders pl h'
        (fun pl' => ph_set (w.modProc p fun y => { y with held := HoldRef.pool pl :: y.held }) pl _ pl' hlt) ?_ ?_
      · intro q pl' hne hm
        exact held_cons_modProc_rev w p q (.pool pl) (.pool pl') (fun e => hne (by injection e)) hm
      · intro q hm
        rw [hkeys']
        by_cases e : q = p
        · left; rw [e]
        · right
          have hm' : HoldRef.pool pl ∈ ((w.modProc p fun y => { y with held := HoldRef.pool pl :: y.held }).proc q).held := hm
          rw [proc_modProc_ne _ _ _ _ e] at hm'
          exact h.lc.ph hm' hph0

theorem PL.poolUpdateRecord (h : PL w) (pl : Nat) (p : Pid) (n : Nat) (hp : p < w.procs.size) :
    PL (poolUpdateRecord w pl p n) :=
  ⟨pinv_poolUpdateRecord h.pinv pl p n hp, by simpa using h.psz, lc_poolUpdateRecord h pl p n hp⟩

theorem lc_mug_step (h : PL w) (pl : Nat) (x : Pool) (hx : w.pools[pl]? = some x)
    (hc : x.holders.count ≠ 0) (h' : HH) (t : HTag)
    (hdq : HashHeap.dequeue holder_queue_check x.holders = .ok (h', some t)) : LC (mugVictim w pl x h' t) := by
  refine LC.of_same ?_ (poolSame_sched _ _ _ _ _ _).ph fun p pl => ((poolSame_sched _ _ _ _ _ _).held p pl).1
  have hph0 := ph_eq w pl x hx
  have hwf := h.pinv.wf pl x.holders hph0
  have hlt := lt_size_of_getElem? hx
  obtain ⟨t', ht', _, _, htk, hkeys'⟩ := hh_dequeue_ok hwf hc hdq
  injection ht' with ht'; subst ht'
  have hpos := hkeys_pos hwf htk
  refine h.lc.set_holders pl h' ?_ ?_ ?_
  · intro pl'; rw [removeHeld_ph]; exact ph_set w pl _ pl' hlt
  · intro q pl' _ hm
    exact (removeHeld_mem_rev _ _ _ _ q hm).1
  · intro q hm
    obtain ⟨hm1, hm2⟩ := removeHeld_mem_rev _ _ _ _ q hm
    have hq : (q : Nat) ≠ t.key - 1 := by
      rcases hm2 with e | e
      · exact e
      · exact absurd rfl e
    rw [hkeys']
    refine ⟨h.lc.ph (w := w) hm1 hph0, ?_⟩
    intro e
    apply hq
    rw [← e]
    rfl

theorem lc_setHeldAmount (h : PL w) (pl : Nat) (p : Pid) (n : Nat) : LC (setHeldAmount w pl p n) := by
  unfold setHeldAmount
  split
  · rename_i x hx
    have hph0 := ph_eq w pl x hx
    have hwf := h.pinv.wf pl x.holders hph0
    have hlt := lt_size_of_getElem? hx
    split
    · rename_i i hfi
      split
      · exact (h.same (poolSame_fail w _)).lc
      · rename_i hi0
        have hk := (hh_findIndex hwf (p + 1) hfi).1 hi0
        obtain ⟨j, hj, hkey⟩ := (HashHeap.mem_keys_abs x.holders (p + 1)).1 hk
        have hfj : HashHeap.findIndex x.holders (p + 1) = .ok j := by
          rw [← hkey]; exact HashHeap.findIndex_of_mem hwf hj
        rw [hfi] at hfj; injection hfj with hfj; subst hfj
        obtain ⟨_, hkeys'⟩ := wf_setItem hwf holder_ignores_item i hj.1 hj.2
          { (x.holders.tag i).item with b := n }
        dsimp only
        refine h.lc.set_holders pl _ (fun pl' => ph_set w pl _ pl' hlt) (fun p' pl' _ hm => hm) ?_
        intro p' hm
        have hm' := h.lc.ph (w := w) hm hph0
        rw [← hkeys'] at hm'
        exact hm'
    · exact (h.same (poolSame_fail w _)).lc
  · exact h.lc

/-- taking `p` off the holder list of pool `pl`: if it was on the list, it does not list the pool afterwards; if it was
    not, it did not list it before -/
theorem lc_remove_holder (h : PL w) (pl : Nat) (hh : HH) (hph0 : w.ph pl = some hh) (p : Pid)
    (h' : HH) (r : Bool) (hrm : HashHeap.remove holder_queue_check hh (p + 1) = .ok (h', r))
    (hph : ∀ pl', w'.ph pl' = if pl' = pl then some h' else w.ph pl')
    (hheld : ∀ q b, b ∈ (w'.proc q).held → b ∈ (w.proc q).held)
    (hp : r = true → HoldRef.pool pl ∉ (w'.proc p).held) : LC w' := by
  obtain ⟨_, hkeys', hr⟩ := hh_remove_ok (h.pinv.wf pl hh hph0) (Nat.succ_ne_zero p) hrm
  refine h.lc.set_holders pl h' hph (fun q pl' _ hm => hheld q _ hm) ?_
  intro q hm
  have hk := h.lc.ph (hheld q _ hm) hph0
  rw [hkeys']
  refine ⟨hk, ?_⟩
  intro e
  have : q = p := Nat.succ.inj e
  subst this
  exact hp (by rw [hr]; exact decide_eq_true hk) hm

end CimbaModel.Sim.S4
