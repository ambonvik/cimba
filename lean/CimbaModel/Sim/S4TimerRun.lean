/-
  S4 — the strong timer invariant through activations and `dispatch`, for `TXI fr w` = `S3.TInv noEx w` ∧ `TX fr w`
  (the bundles of S4TimerAll: `TT` amounts to `TXI false`, `TTH` to `TXI true`).
-/
import CimbaModel.Sim.S4TimerCmd
import CimbaModel.Sim.S4Run
import CimbaModel.Sim.S3GInvCmd

namespace CimbaModel.Sim.S4
open CimbaModel CimbaModel.Sim CimbaModel.Sim.S3 CimbaModel.Event CimbaModel.Generated CimbaModel.KPQ
open CimbaModel.HashHeap (HTag Item Order HH WF abs liveTags)

structure TXI (fr : Bool) (w : World) : Prop where
  t : TInv noEx w
  x : TX fr w

def TProgOk (w : World) : Prop :=
  ∀ (p : Pid) (i : Nat) (c : Cmd) (t : String), (w.proc p).script[i]? = some (c, t) → CmdOk c ∧ DurOk c ∧ VarsOk c

theorem TProgOk.ofStat {w w' : World} (h : TProgOk w) (hs : Stat w w') : TProgOk w' := by
  intro p i c t hc; rw [hs.script] at hc; exact h p i c t hc

variable {fr : Bool} {w : World} {p : Pid}

theorem TXI.fail (h : TXI fr w) (m : String) : TXI fr (w.fail m) := ⟨h.t.fail m, h.x.fail m⟩
theorem TXI.emit (h : TXI fr w) (l : String) : TXI fr (w.emit l) := ⟨h.t.emit l, h.x.emit l⟩

theorem TXI.modProc_ctl (h : TXI fr w) (p : Pid) (f : Proc → Proc)
    (hf : ∀ x, (f x).awaits = x.awaits ∧ (f x).vars = x.vars ∧
      (fr = true → (f x).blocked = x.blocked ∨ (f x).blocked = none)) : TXI fr (w.modProc p f) :=
  ⟨h.t.modProc_ctl p f (fun x => (hf x).1), h.x.modProc_ctl p f hf⟩

theorem TXI.execCmd (h : TXI fr w) (hlt : p < w.procs.size) (c : Cmd) (hd : DurOk c) (hv : VarsOk c) :
    TXI fr (execCmd w p c).1 :=
  ⟨h.t.execCmd_fst hlt c, h.x.execCmd_fst (h.t.tnd p) c hd hv⟩

theorem TXI.resumeFrame (h : TXI fr w) (f : Frame) (sig : Int)
    (hh : ∀ k, f = .hold k → ∀ e ∈ w.ev.pending, e.key = k → e.item.a = aTime → e.item.b = p + 1)
    (hq : ∀ k obj pri v, f = .pqPut k obj pri v → 4 ≤ v ∧ v < 8) : TXI fr (resumeFrame w p f sig).1 :=
  ⟨h.t.resumeFrame_fst f sig, h.x.resumeFrame_fst (h.t.tnd p) f sig hh hq⟩

theorem TXI.resumeFrame_ok (h : TXI fr w) (f : Frame) (sig : Int) (hf : FrameOk w p f) :
    TXI fr (Sim.resumeFrame w p f sig).1 := by
  refine h.resumeFrame f sig ?_ ?_
  · intro k hk; subst hk; exact fun e he h1 _ => (hf.2 e he h1).2
  · intro k obj pri v hk; subst hk; exact hf

theorem TXI.finishProc (h : TXI fr w) (p : Pid) (v : Int) (s : Bool) : TXI fr (finishProc w p v s) :=
  ⟨h.t.finishProc p v s, h.x.finishProc p v s⟩

theorem TXI.removeAwaitKind_fst (h : TXI fr w) (p : Pid) (k : Await → Bool) (hk : ∀ a, k a = true → isTimeA a = false) :
    TXI fr (removeAwaitKind w p k).1 :=
  ⟨h.t.removeAwaitKind_other p k hk, h.x.removeAwaitKind_fst p k⟩

theorem TXI.cancelAwaiteds (h : TXI fr w) (p : Pid) : TXI fr (cancelAwaiteds w p) :=
  ⟨h.t.cancelAwaiteds p, h.x.cancelAwaiteds p⟩

theorem TXI.startProc (h : TXI fr w) (p : Pid) :
    TXI fr (w.modProc p fun y => { y with status := .running, pc := 0, blocked := none }) :=
  h.modProc_ctl p _ (fun _ => ⟨rfl, rfl, fun _ => Or.inr rfl⟩)

/-- the timer calls of `p`'s script are valid -/
def TScriptOk (p : Pid) (w : World) : Prop :=
  ∀ (i : Nat) (c : Cmd) (t : String), (w.proc p).script[i]? = some (c, t) → DurOk c ∧ VarsOk c

theorem TScriptOk.ofStat {w w' : World} (h : TScriptOk p w) (hs : Stat w w') : TScriptOk p w' := by
  intro i c t hc; rw [hs.script] at hc; exact h i c t hc

theorem FrameOk.ofEv {w w' : World} {p : Pid} {f : Frame} (h : FrameOk w p f) (he : w'.ev = w.ev) : FrameOk w' p f :=
  h.mono (Stb.ofEv he)

/-- one activation keeps the timer invariants: the caller's script is valid, and a resumed call finds the frame it
    recorded in order -/
theorem TXI.act : Act (TXI fr) (TXI fr) TScriptOk
    fun p _ w => (∀ f, (w.proc p).blocked = some f → FrameOk w p f) ∧ TScriptOk p w where
  emit h l := h.emit l
  fail h m := h.fail m
  pc h p n := h.modProc_ctl p _ fun _ => ⟨rfl, rfl, fun _ => Or.inl rfl⟩
  finish h p := h.finishProc p 0 false
  exec h p hc c text hs l := (h.emit l).execCmd (lt_np_of_script _ _ _ _ hs) c (hc _ c text hs).1 (hc _ c text hs).2
  next _ _ hc _ _ _ _ _ _ l n heq _ := hc.ofStat (stat_afterCmd (Stat.refl _) heq l n)
  resume {w} h p f sig hd _ hb :=
    ⟨(h.modProc_ctl p (fun y => { y with blocked := none }) fun _ => ⟨rfl, rfl, fun _ => Or.inr rfl⟩).resumeFrame_ok f sig
        ((hd.1 f hb).ofEv rfl),
      fun w1 _ _ l n heq => hd.2.ofStat (by
        have := ((Stat.refl w).modProc p (fun y => { y with blocked := none }) fun _ => rfl).step (eff_resumeFrame .refl p f sig)
        rw [heq] at this
        exact (this.emit l).modProc p _ fun _ => rfl)⟩

theorem TXI.runScript (fuel : Nat) {w : World} {p : Pid} (h : TXI fr w)
    (hprog : ∀ (i : Nat) (c : Cmd) (t : String), (w.proc p).script[i]? = some (c, t) → DurOk c ∧ VarsOk c) :
    TXI fr (runScript fuel w p) :=
  TXI.act.runScript p fuel h hprog

theorem TXI.resumeProc (h : TXI fr w) (p : Pid) (sig : Int)
    (hprog : ∀ (i : Nat) (c : Cmd) (t : String), (w.proc p).script[i]? = some (c, t) → DurOk c ∧ VarsOk c)
    (hf : ∀ f, (w.proc p).blocked = some f → FrameOk w p f) : TXI fr (resumeProc w p sig) :=
  TXI.act.resumeProc h p sig ⟨hf, hprog⟩

theorem takeNext_stb (hi : EvInv w.ev) {t : HTag} {ev' : EvQ} (hn : executeNext w.ev = some (t, ev')) :
    Stb w (takeNext w t ev') := by
  obtain ⟨_, _, hpend, hctr⟩ := executeNext_facts hi hn
  have hE := Evo.eff (eff_takeNext w t ev')
  have hc : (afterNext w ev').ev.counter = w.ev.counter := hctr
  refine ⟨by rw [← hc]; exact hE.counter, ?_⟩
  intro e' he' hk
  obtain ⟨e, he, h1, _, h3⟩ := hE.stable e' he' (by rw [hc]; exact hk)
  have : e ∈ remove w.ev.pending t.key := by rw [← hpend]; exact he
  exact ⟨e, (mem_remove.1 this).1, h1, h3⟩

theorem takeNext_gvars (w : World) (t : HTag) (ev' : EvQ) : (takeNext w t ev').gvars = w.gvars := by
  rw [takeNext_eq]; rfl

theorem TX.takeNext_other (h : TX fr w) {t : HTag} {ev' : EvQ} (hn : executeNext w.ev = some (t, ev'))
    (ha : t.item.a ≠ aTime) : TX fr (takeNext w t ev') := by
  obtain ⟨htm, hprocs, heiT, _, hstay, _, _⟩ := takeNext_facts h.ei hn
  refine h.of heiT (takeNext_stb h.ei hn) (procs_keep hprocs fr) (takeNext_gvars w t ev') ?_
  intro q k hk e he h1
  rw [proc_congr hprocs] at hk
  refine ⟨e, hstay e he (fun hkt => ?_), rfl, rfl⟩
  have : e = t := HashHeap.eq_of_key_eq h.ei.part.keysNodup he htm hkt
  subst this
  exact ha (h.tl.owner h.ei hk he h1).1

/-- the dispatched event was a timer: its registration dangles until the action removes it -/
theorem TX.takeNext_time (h : TX fr w) (hnd : ∀ q, ((timeAw w q).filter (· ≠ .time 0)).Nodup) {t : HTag} {ev' : EvQ}
    (hn : executeNext w.ev = some (t, ev')) :
    TX fr (removeAwait (takeNext w t ev') (t.item.b - 1) (.time t.key)).1 := by
  obtain ⟨htm, hprocs, heiT, _, hstay, _, _⟩ := takeNext_facts h.ei hn
  have hstb := takeNext_stb h.ei hn
  have hgv := takeNext_gvars w t ev'
  generalize takeNext w t ev' = wT at hprocs heiT hstay hstb hgv
  rw [removeAwait_fst_eq]
  have hprocT : ∀ x, wT.proc x = w.proc x := proc_congr hprocs
  have hpr : ∀ x, (wT.modProc (t.item.b - 1) fun x => { x with awaits := (removeFirst x.awaits (.time t.key)).1 }).proc x =
      if x = t.item.b - 1 ∧ t.item.b - 1 < w.procs.size then
        { w.proc x with awaits := (removeFirst (w.proc x).awaits (.time t.key)).1 }
      else w.proc x := by
    intro x; rw [modProc_proc, hprocs]; split
    · rename_i hx; rw [hx.1, hprocT]
    · rw [hprocT]
  refine h.of heiT hstb (fun q => ?_) hgv ?_
  · rw [hpr]; split
    · exact ⟨fun k hk => removeFirst_subset _ _ _ hk, rfl, fun _ => Or.inl rfl⟩
    · exact ⟨fun _ hk => hk, rfl, fun _ => Or.inl rfl⟩
  · intro q k hk e he h1
    rw [hpr] at hk
    have hold : Await.time k ∈ (w.proc q).awaits := by
      split at hk
      · exact removeFirst_subset _ _ _ hk
      · exact hk
    refine ⟨e, hstay e he (fun hkt => ?_), rfl, rfl⟩
    have het : e = t := HashHeap.eq_of_key_eq h.ei.part.keysNodup he htm hkt
    subst het
    have hb := (h.tl.owner h.ei hold he h1).2
    have hq : q = e.item.b - 1 := by rw [hb, Nat.add_sub_cancel]
    subst hq
    rw [if_pos ⟨rfl, mem_awaits_lt hold⟩, ← h1] at hk
    have hk0 : e.key ≠ 0 := by have := key_pos h.ei he; omega
    exact removeFirst_time_not_mem hk0 (hnd _) hk

theorem TXI.takeNext_other (h : TXI fr w) {t : HTag} {ev' : EvQ} (hn : executeNext w.ev = some (t, ev'))
    (ha : t.item.a ≠ aTime) : TXI fr (takeNext w t ev') :=
  ⟨TInvB.takeNext_other h.t hn ha, h.x.takeNext_other hn ha⟩

theorem TXI.takeNext_time (h : TXI fr w) {t : HTag} {ev' : EvQ} (hn : executeNext w.ev = some (t, ev'))
    (ha : t.item.a = aTime) : TXI fr (removeAwait (takeNext w t ev') (t.item.b - 1) (.time t.key)).1 :=
  ⟨TInvB.takeNext_time h.t hn ha, h.x.takeNext_time h.t.tnd hn⟩

/-- … and one dispatch, with the frames in order (`fr = true`) and every script valid.  Until the action has dropped it, the
    registration of a dispatched timer dangles: `takeNext` alone keeps the invariant for the other kinds only. -/
theorem TXI.run : Run (fun w => TXI true w ∧ TProgOk w) (fun w => TXI true w ∧ TProgOk w) TScriptOk
    fun p _ w => (∀ f, (w.proc p).blocked = some f → FrameOk w p f) ∧ TScriptOk p w := by
  have due : ∀ {w : World}, TXI true w ∧ TProgOk w → ∀ p,
      (∀ f, (w.proc p).blocked = some f → FrameOk w p f) ∧ TScriptOk p w :=
    fun h p => ⟨fun f hf => h.1.x.fi rfl p f hf, fun i c t hc => (h.2 p i c t hc).2⟩
  have taken : ∀ {w : World} {t : HTag} {ev' : EvQ}, TXI true w ∧ TProgOk w → executeNext w.ev = some (t, ev') →
      t.item.a ≠ aTime → TXI true (S3.takeNext w t ev') ∧ TProgOk (S3.takeNext w t ev') :=
    fun h hex ha => ⟨h.1.takeNext_other hex ha, h.2.ofStat (Stat.takeNext _ _ _)⟩
  refine { emit := ?_, fail := ?_, pc := ?_, finish := ?_, exec := ?_, next := ?_, resume := ?_, start := ?_, time := ?_,
           wake := ?_, grant := ?_, intr := ?_, other := ?_ }
  · exact fun h l => ⟨h.1.emit l, h.2.ofStat ((Stat.refl _).emit l)⟩
  · exact fun h m => ⟨h.1.fail m, h.2.ofStat ((Stat.refl _).fail m)⟩
  · exact fun h p n => ⟨TXI.act.pc h.1 p n, h.2.ofStat ((Stat.refl _).modProc p _ fun _ => rfl)⟩
  · exact fun h p => ⟨h.1.finishProc p 0 false, h.2.ofStat ((Stat.refl _).finishProc p 0 false)⟩
  · exact fun h p hc c text hs l =>
      ⟨TXI.act.exec h.1 p hc c text hs l, h.2.ofStat (Stat.eff (eff_execCmd (.emit .refl l) p c))⟩
  · exact fun h => TXI.act.next h.1
  · intro w h p f sig hd hr hb
    exact ⟨⟨(TXI.act.resume h.1 p f sig hd hr hb).1, h.2.ofStat (((Stat.refl w).modProc p (fun y => { y with blocked := none })
      fun _ => rfl).step (eff_resumeFrame .refl p f sig))⟩, (TXI.act.resume h.1 p f sig hd hr hb).2⟩
  · intro w h t ev' hex ha
    have hT := taken h hex (ha ▸ by decide)
    refine ⟨hT, fun _ => ?_⟩
    have h2 := And.intro (hT.1.startProc (t.item.b - 1)) (hT.2.ofStat ((Stat.refl _).modProc (t.item.b - 1)
      (fun y => { y with status := .running, pc := 0, blocked := none }) fun _ => rfl))
    exact ⟨h2, (due h2 _).2⟩
  · intro w h t ev' hex ha
    have h2 := And.intro (h.1.takeNext_time hex ha)
      (h.2.ofStat ((Stat.takeNext w t ev').step (.removeAwait .refl (t.item.b - 1) (.time t.key))))
    exact ⟨h2, due h2 _⟩
  · intro w h t ev' hex k hk
    have hT := taken h hex (by rcases hk with ⟨ha, _⟩ | ⟨ha, _⟩ | ⟨ha, _⟩ <;> rw [ha] <;> decide)
    have hk' : ∀ a, k a = true → isTimeA a = false := by
      rcases hk with ⟨_, rfl⟩ | ⟨_, rfl⟩ | ⟨_, rfl⟩ <;> intro a h <;> cases a <;> simp_all [isProcA, isEventA, isGuardA, isTimeA]
    have h2 := And.intro (hT.1.removeAwaitKind_fst (t.item.b - 1) k hk')
      (hT.2.ofStat ((Stat.refl _).step (.removeAwaitKind .refl (t.item.b - 1) k)))
    exact ⟨h2, due h2 _⟩
  · intro w h t ev' hex ha
    have hT := taken h hex (by rcases ha with ha | ha | ha <;> rw [ha] <;> decide)
    exact ⟨hT, due hT _⟩
  · intro w h t ev' hex ha
    have hT := taken h hex (ha ▸ by decide)
    have h2 := And.intro (hT.1.cancelAwaiteds (t.item.b - 1)) (hT.2.ofStat ((Stat.refl _).cancelAwaiteds (t.item.b - 1)))
    exact ⟨h2, due h2 _⟩
  · exact fun h t ev' hex ho => taken h hex (ho aTime (by decide))

theorem TXI.dispatch {w w' : World} (h : TXI true w) (hs : TProgOk w) (hd : dispatch w = some w') : TXI true w' :=
  (TXI.run.dispatch ⟨h, hs⟩ hd).1

end CimbaModel.Sim.S4
