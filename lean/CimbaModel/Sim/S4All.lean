/-
  S4 — assembly: the carried family (timers, pool holder records, priority queues), its facts, and the initial state:
  every world the scenario loader can build (`Loaded`), with a valid program (`ProgOk`) and fewer than 2³¹ processes,
  satisfies `Good`, hence no state of its run has a fault as long as every priority queue stays below the growth limit.
-/
import CimbaModel.Sim.S4Dispatch
import CimbaModel.Sim.S4TimerAll
import CimbaModel.Sim.S4LinkRun
import CimbaModel.Sim.S4Init
import CimbaModel.Props.C05
import CimbaModel.Props.C09

namespace CimbaModel.Sim.S4
open CimbaModel CimbaModel.Sim CimbaModel.Sim.S3 CimbaModel.Event CimbaModel.Generated CimbaModel.KPQ
open CimbaModel.HashHeap (HTag Item Order HH WF abs liveTags KeysBelowCounter)

theorem TTH.carry : Carry TTH where
  fail := fun m h => h.fail m
  emit := fun l h => h.emit l
  adv := fun p n h => h.adv p n
  exec := fun c h hp h1 h2 h3 => h.execCmd hp c h1 h2 h3
  resume := fun sig h hb hp => h.resume hb hp sig
  finish := fun p v s h => h.finishProc p v s
  start := fun p h => h.startProc p
  prep := fun h hn => h.prep hn

theorem PL.carry : Carry PL := by
  refine ⟨?_, ?_, ?_, ?_, ?_, ?_, ?_, ?_⟩
  · intro w m h; exact h.frame (by simp) (by simp)
  · intro w l h; exact h.emit l
  · intro w p n h; exact h.modProc_keep p (fun y => { y with pc := n }) (fun _ => rfl)
  · intro w p c h hp _ _ _; exact h.execCmd p hp c
  · intro w0 p f sig h _ hp
    exact (h.modProc_keep p (fun y => { y with blocked := none }) (fun _ => rfl)).resumeFrame p (by simpa using hp) f sig
  · intro w p v s h; exact h.finishProc p v s
  · intro w p h; exact h.modProc_keep p (fun y => { y with status := .running, pc := 0, blocked := none }) (fun _ => rfl)
  · intro w t ev' h _
    have hT : PL (S3.takeNext w t ev') := by
      unfold S3.takeNext
      apply PL.wakeEventWaiters
      exact h.frame rfl rfl
    exact prep_cases PL _ t (fun _ => hT.removeAwait_fst _ _) (fun _ => hT.removeAwaitKind_fst _ _) (hT.cancelAwaiteds _) hT

def XAll (w : World) : Prop := TTH w ∧ PL w ∧ PQS w

theorem XAll.carry : Carry XAll := TTH.carry.and (PL.carry.and PQS.carry)

theorem XAll.facts : Facts XAll where
  prio := fun h q => ⟨fun k hk => h.1.timers_scheduled q k hk, fun _ _ hm hx => h.2.1.prio_key hm hx⟩
  pq := fun h => h.2.2

theorem mkHH_pq : WF compare_func (mkHH 3) ∧ abs (mkHH 3) = [] ∧ (mkHH 3).counter = 0 := by
  obtain ⟨s, hs, hwf, habs, _⟩ := HashHeap.init_spec (lt := compare_func) 3 (by decide) (by decide)
  have : mkHH 3 = s := by unfold mkHH; rw [hs]
  refine ⟨by rw [this]; exact hwf, by rw [this]; exact habs, ?_⟩
  unfold mkHH HashHeap.init; rfl

theorem plain_lt {w : World} {g : Nat} (h : Plain w g) : g < w.guards.size := by
  obtain ⟨gd, hg, _⟩ := h; exact lt_of_getElem? hg

theorem Loaded.static {w : World} (h : Loaded w) (hsz : w.procs.size < 2 ^ 31) : StaticOk w := by
  have hl := h.linv
  refine ⟨hsz, ?_, ⟨?_, ?_, ?_, ?_, ?_, ?_⟩⟩
  · intro g gd hg o ho od hod
    obtain ⟨gd', hgd', hc⟩ := (hl.obs g gd hg).2 o ho
    rw [hod] at hgd'; cases hgd'
    exact (hl.obs o od hod).1 hc
  · exact fun r x hx => plain_lt (hl.og.1 r x hx)
  · exact fun r x hx => plain_lt (hl.og.2.1 r x hx)
  · exact fun r x hx => ⟨plain_lt (hl.og.2.2.1 r x hx).1, plain_lt (hl.og.2.2.1 r x hx).2⟩
  · exact fun r x hx => ⟨plain_lt (hl.og.2.2.2.1 r x hx).1, plain_lt (hl.og.2.2.2.1 r x hx).2⟩
  · exact fun r x hx => ⟨plain_lt (hl.og.2.2.2.2 r x hx).1, plain_lt (hl.og.2.2.2.2 r x hx).2⟩
  · intro c g hc
    obtain ⟨gd, hg, _⟩ := hl.cg c g hc; exact lt_of_getElem? hg

theorem Loaded.pqs {w : World} (h : Loaded w) : PQS w := by
  intro k x hx _
  obtain ⟨hq, hp⟩ := h.linv.kq k x hx
  obtain ⟨hwf, habs, hc⟩ := mkHH_pq
  refine ⟨by rw [hq]; exact hwf, ?_, by rw [hq, hp, hc]; rfl⟩
  intro j hj
  rw [hq, habs] at hj; cases hj

theorem Loaded.fullInv {w : World} (h : Loaded w) (hsz : w.procs.size < 2 ^ 31) : Sim.FullInv w := by
  have hl := h.linv
  have hb := h.built.binv
  have hstart : ∀ e ∈ w.ev.pending, e.item.a = aStart := fun e he => (hb.pend e he).1
  refine ⟨⟨?_, ?_, ?_, ?_⟩, ?_, ?_⟩
  · refine (CimbaModel.Props.C05.holderInv_iff w).1 (CimbaModel.Props.C05.holderInv_init w hl.rq ?_)
    intro p r hm
    rw [(hl.pr p).1] at hm; cases hm
  · refine CimbaModel.Props.C09.waitersInv_init w (fun p => (hb.pr p).2.1) ?_ ?_
    · intro q p hm
      rw [(hb.pr q).1] at hm; cases hm
    · intro e he ha
      rw [hstart e he] at ha; exact absurd ha (by decide)
  · exact CimbaModel.Props.C09.deadRec_init w (fun p _ => ⟨(hb.pr p).1, (hb.pr p).2.2, (hl.pr p).1, (hb.pr p).2.1⟩)
  · intro e he hs
    rw [hstart e he] at hs; exact absurd hs (by decide)
  · refine CimbaModel.Props.C09.poolHolderInv_init w (Nat.lt_trans hsz (by decide)) ?_
    intro pl x hx
    exact ⟨3, by decide, by decide, hl.hq pl x hx⟩
  · intro e he ha
    rw [hstart e he] at ha; exact absurd ha (by decide)

theorem Loaded.progOk {w : World} (h : Loaded w) : ProgOk w := fun p i c t hc => h.linv.ok p i c t hc

theorem Loaded.good {w : World} (h : Loaded w) (hsz : w.procs.size < 2 ^ 31) :
    Good XAll w ∧ w.fault = none := by
  have hprog := h.progOk
  have hl := h.linv
  have hb := h.built.binv
  have hstart : ∀ e ∈ w.ev.pending, e.item.a = aStart := fun e he => (hb.pend e he).1
  have hnr : ∀ q, (w.proc q).status ≠ .running := fun q => by rw [(hl.pr q).2.1]; decide
  refine ⟨⟨h.built.allInv hsz, h.fullInv hsz, ?_, RunBlocked.init hnr, h.static hsz, hprog, ?_, ?_, h.pqs⟩, hl.nf⟩
  · exact StartOk.init hnr (fun e he _ => (hl.pend e he).1) (fun e1 h1 e2 h2 _ _ hb' => hl.uq e1 h1 e2 h2 hb')
  · exact TTH.init w hb.ei (fun p => (hb.pr p).1) hstart (fun p i => (hl.pr p).2.2 i) hl.gv (fun p => (hb.pr p).2.2)
  · exact PL.init w hsz hl.hq (fun p => (hl.pr p).1)

/-- **no state of the run of a loaded world with a valid program has a fault**, as long as fewer than 2³¹ − 1 handles have
    been issued by each priority queue -/
theorem loaded_never_faults {w0 w : World} (h : Loaded w0) (hsz : w0.procs.size < 2 ^ 31)
    (hr : Reach w0 w) (hroom : PqRoom w) : w.fault = none := by
  obtain ⟨hG, hnf⟩ := h.good hsz
  exact (nf_reach XAll.carry XAll.facts hG hnf hr).2.2 hroom

theorem loaded_runAll_never_faults {w0 : World} (h : Loaded w0) (hsz : w0.procs.size < 2 ^ 31)
    (fuel : Nat) (hroom : PqRoom (runAll fuel w0)) : (runAll fuel w0).fault = none := by
  obtain ⟨hG, hnf⟩ := h.good hsz
  exact nf_runAll XAll.carry XAll.facts fuel w0 hG hnf hroom

theorem pqRoom_of_no_pq {w0 w : World} (h0 : w0.pqs = #[]) (hr : Reach w0 w) : PqRoom w := by
  have hsz : ∀ {a b : World}, Reach a b → b.pqs.size = a.pqs.size := by
    intro a b hab
    induction hab with
    | refl => rfl
    | step _ hd ih => rw [← ih]; exact size_eq_of_map_eq (Stat.dispatch hd).pqs
  intro k x hx
  have := lt_of_getElem? hx
  rw [hsz hr, h0] at this
  cases this

end CimbaModel.Sim.S4
