/-
  S1 — interrupts die with their target too (C09): every pending interrupt wake-up is addressed to a running
  process.  The two sources are the `interrupt` command (tests `isRunning`) and the mugging loop of a preempting
  pool acquisition (its victims are on a holder list, hence running by `PInv` and `DeadRec`).
-/
import CimbaModel.Sim.S1Pool
import CimbaModel.Sim.S1Silent

namespace CimbaModel.Sim
open CimbaModel CimbaModel.Event CimbaModel.Generated
open CimbaModel.HashHeap (HTag Item Order HH WF)

def TgtI (st : Pid → Status) (w : World) : Prop :=
  ∀ e ∈ w.ev.pending, e.item.a = aIntr → 1 ≤ e.item.b ∧ st (e.item.b - 1) = .running

def SilentI (w : World) : Prop := TgtI (fun q => (w.proc q).status) w

def notIntr (a : Nat) : Bool := a != aIntr

theorem allButIntr_notIntr : AllButIntr notIntr := by constructor <;> decide

theorem notIntr_ne (a : Nat) (h : notIntr a = true) : (a == aIntr) = false := by simpa [notIntr] using h

theorem tgti_closed (st : Pid → Status) : EvClosed notIntr (TgtI st) :=
  Tgt.closed (K := (· = aIntr)) (fun a ha hk => by rw [hk] at ha; exact absurd ha (by decide)) st

theorem tgti_sched_run {st : Pid → Status} {w : World} (h : TgtI st w) (a s : Nat) (sig t pri : Int)
    (hs : 1 ≤ s) (hr : st (s - 1) = .running) : TgtI st (sched w a s sig t pri).1 :=
  Tgt.sched_run (K := (· = aIntr)) (st := st) h a s sig t pri hs hr

theorem tgti_mono {st st' : Pid → Status} {w : World} (h : TgtI st w) (hm : ∀ q, st q = .running → st' q = .running) :
    TgtI st' w :=
  Tgt.mono (K := (· = aIntr)) (st := st) h hm

theorem tgti_reprioritize {st : Pid → Status} {w : World} (hw : TgtI st w) {ev' : EvQ} {h : Nat} {v : Int}
    (hr : reprioritize w.ev h v = .ok ev') : TgtI st { w with ev := ev' } :=
  Tgt.reprioritize (K := (· = aIntr)) (st := st) hw hr

theorem SilentI.of_tgt {w w' : World} (h : TgtI (fun q => (w.proc q).status) w')
    (hst : ∀ q, (w'.proc q).status = (w.proc q).status) : SilentI w' := by
  unfold SilentI
  exact tgti_mono h (fun q hq => by rw [hst]; exact hq)

theorem silentI_of_same {w w' : World} (h : SilentI w) (he : w'.ev = w.ev)
    (hst : ∀ q, (w'.proc q).status = (w.proc q).status) : SilentI w' :=
  SilentI.of_tgt ((tgti_closed _).ev_only h he) hst

theorem SilentI.none_for {w : World} (h : SilentI w) (p : Pid) (hp : (w.proc p).status ≠ .running) :
    ∀ e ∈ w.ev.pending, e.item.b = p + 1 → e.item.a ≠ aIntr :=
  Tgt.none_for (K := (· = aIntr)) h p hp

theorem silentI_finishProc {w : World} (hs : SilentI w) (z : Pid) (val : Int) (stopped : Bool) :
    SilentI (finishProc w z val stopped) := by
  have hA := allButIntr_notIntr
  have htw : TgtI (fun q => (w.proc q).status)
      (wakeWaiters (finishMid w z stopped) z (if stopped then sigStopped else sigSuccess)) := by
    apply ec_wakeWaiters (tgti_closed _) hA.proc
    exact ec_finishMid (tgti_closed _) hA.event ⟨hA.res, hA.cond⟩ _ _ _ hs
  have hcw : cnt (isFor (· == aIntr) z) (wakeWaiters (finishMid w z stopped) z (if stopped then sigStopped else sigSuccess)) = 0 := by
    have h1 := finishMid_for notIntr_ne ⟨hA.res, hA.cond⟩ rfl w z stopped
    have := ec_wakeWaiters (forLe_closed notIntr_ne z (finishMid w z stopped)) hA.proc (finishMid w z stopped) z
      (if stopped then sigStopped else sigSuccess) (Nat.le_refl _)
    omega
  rw [finishProc_eq]
  intro e he hi
  obtain ⟨h1, h2⟩ := htw e he hi
  refine ⟨h1, ?_⟩
  have hne : e.item.b - 1 ≠ z := by
    intro hz
    have : 0 < cnt (isFor (· == aIntr) z) (wakeWaiters (finishMid w z stopped) z (if stopped then sigStopped else sigSuccess)) := by
      rw [cnt_pos_iff]
      refine ⟨e, he, ?_⟩
      unfold isFor
      simp [hi]; omega
    omega
  dsimp only
  rw [proc_modProc_ne _ _ _ _ hne, wakeWaiters_status, finishMid_status]
  exact h2

/-- what travels through the pool loops with `TgtI st`: a victim of the mugging loop is on a holder list, hence running
    by `PInv` and `DeadRec`, so its interrupt is addressed to a running process (`p` is the caller) -/
def MugInv (st : Pid → Status) (p : Pid) (w : World) : Prop :=
  TgtI st w ∧ (PInv w ∧ p < w.procs.size) ∧ DeadRecA p w ∧ ∀ q, (w.proc q).status = st q

theorem MugInv.of_procs {st : Pid → Status} {p : Pid} {w w' : World} (h : MugInv st p w) (ht : TgtI st w')
    (r : PoolSame w w') (e : w'.procs = w.procs) : MugInv st p w' :=
  ⟨ht, PInv.carried.same_lt h.2.1 r, dra_of_procs h.2.2.1 e, fun q => by rw [proc_congr e]; exact h.2.2.2 q⟩

theorem MugInv.credit {st : Pid → Status} {p : Pid} {w : World} (h : MugInv st p w) (pl n : Nat) :
    MugInv st p (poolUpdateRecord w pl p n) :=
  ⟨ec_poolUpdateRecord (tgti_closed st) _ _ _ _ h.1, PInv.carried.credit_lt h.2.1 pl n, dra_poolUpdateRecord h.2.2.1 pl n,
    fun q => by rw [← h.2.2.2 q]; simp⟩

theorem tgti_poolMug {st : Pid → Status} (p : Pid) (pl : Nat) :
    ∀ (fuel : Nat) (w : World) (rem : Nat), MugInv st p w → MugInv st p (poolMug fuel w p pl rem).1 := by
  have hA := allButIntr_notIntr
  refine poolMug_rel (Path.ofPred (MugInv st p)) p pl ?_ ?_ ?_ ?_
  · intro w _ _ m _ _ _ h
    exact h.of_procs (ec_fail (tgti_closed st) _ _ h.1) (poolSame_fail w m) (by simp)
  · intro w x top h' t hx hc _ _ hdq h
    have hwf := h.2.1.1.wf pl x.holders (ph_eq w pl x hx)
    obtain ⟨t', ht', _, _, htk, _⟩ := hh_dequeue_ok hwf hc hdq
    injection ht' with ht'; subst ht'
    have hpos := hkeys_pos hwf htk
    have hvr : st (t.key - 1) = .running := by
      rw [← h.2.2.2]
      apply Classical.byContradiction
      intro hnr
      exact h.2.1.1.not_running h.2.2.1.1 (t.key - 1) hnr pl (by
        rw [hk_eq w pl x hx, show t.key - 1 + 1 = t.key by omega]; exact htk)
    refine ⟨?_, ⟨PInv.carried.victim h.2.1.1 pl x hx hc h' t hdq, by simpa [mugVictim] using h.2.1.2⟩, ?_, ?_⟩
    · exact tgti_sched_run ((tgti_closed st).ev_only h.1 (by simp)) aIntr _ _ _ _ (by omega) (by simpa using hvr)
    · dsimp only [mugVictim]
      apply dra_sched
      apply dra_removeHeld
      exact dra_of_procs h.2.2.1 rfl
    · intro q; rw [← h.2.2.2 q]; simp [mugVictim]
  · intro w n h; exact h.credit pl n
  · intro w x rem surplus h
    exact (h.credit pl rem).of_procs
      (ec_signal (tgti_closed st) ⟨hA.res, hA.cond⟩ _ _ (ec_recordPool (tgti_closed st) _ _
        (ec_setPoolInUse (tgti_closed st) _ _ _ (h.credit pl rem).1)))
      (.after (poolSame_signal _ _) (poolSame_charge _ pl _))
      ((signal_procs ..).trans ((recordPool_procs ..).trans (setPoolInUse_procs ..)))

theorem tgti_poolLoop {st : Pid → Status} {w : World} (h : TgtI st w) (hp : PInv w) (p : Pid) (hd : DeadRecA p w)
    (hst : ∀ q, (w.proc q).status = st q) (pl rem initially : Nat) (preempt : Bool) :
    TgtI st (poolLoop w p pl rem initially preempt).1 := by
  have hA := allButIntr_notIntr
  refine (poolLoop_rel (Path.ofPred (MugInv st p)) p pl initially preempt ?_ ?_ ?_ ?_ ?_ ?_ w rem
    ⟨h, ⟨hp, lt_np_of_status w p (by rw [hd.2]; decide)⟩, hd, hst⟩).1
  · intro w m _ h
    exact h.of_procs (ec_fail (tgti_closed st) _ _ h.1) (poolSame_fail w m) (by simp)
  · intro w v h
    exact h.of_procs (ec_recordPool (tgti_closed st) _ _ (ec_setPoolInUse (tgti_closed st) _ _ _ h.1))
      (poolSame_charge w pl v) ((recordPool_procs ..).trans (setPoolInUse_procs ..))
  · intro w n h; exact h.credit pl n
  · intro w g h
    exact h.of_procs (ec_signal (tgti_closed st) ⟨hA.res, hA.cond⟩ _ _ h.1) (poolSame_signal w g) (signal_procs ..)
  · intro _ fuel w rem h; exact tgti_poolMug p pl fuel w rem h
  · intro w g rem' h
    exact ⟨ec_wait (tgti_closed st) _ _ _ _ _ h.1,
      PInv.carried.same_lt h.2.1 (.after (poolSame_block _ _ _) (poolSame_guardWaitEnter w _ _ _)),
      dra_of_local h.2.2.1 (fun q hq => by rw [block_proc_ne _ _ _ hq, guardWaitEnter_proc_ne _ _ _ hq])
        ((block_status ..).trans (guardWaitEnter_status ..)),
      fun q => by rw [← h.2.2.2 q]; simp⟩

/-- `interrupt` tests that its target is running, a preempting pool acquisition
    interrupts holders only, the other commands schedule no interrupt -/
theorem silentI_execCmd {w : World} (hs : SilentI w) (hp : PInv w) (hd : DeadRec w) (p : Pid)
    (hrun : (w.proc p).status = .running) (c : Cmd) : SilentI (execCmd w p c).1 := by
  by_cases h1 : ∃ z v, c = .stop z v
  · obtain ⟨z, v, rfl⟩ := h1
    simp only [execCmd]
    split
    · exact silentI_finishProc hs p v true
    · split
      · exact silentI_finishProc hs z v true
      · exact hs
  by_cases h2 : ∃ v, c = .exit v
  · obtain ⟨v, rfl⟩ := h2
    exact silentI_finishProc hs p v false
  refine SilentI.of_tgt ?_ (fun q => execCmd_status w p c q (fun z v e => h1 ⟨z, v, e⟩) (fun v e => h2 ⟨v, e⟩))
  have hs : TgtI (fun q => (w.proc q).status) w := hs
  cases c
  case stop z v => exact absurd ⟨z, v, rfl⟩ h1
  case exit v => exact absurd ⟨v, rfl⟩ h2
  case interrupt q s pri =>
    simp only [execCmd]
    split
    · exact hs
    · rename_i hc
      have hq : (w.proc q).status = .running := by
        simp only [not_or, Classical.not_not] at hc
        have := hc.1; unfold isRunning at this; simpa using this
      exact tgti_sched_run hs aIntr (q + 1) s _ _ (by omega) (by simpa using hq)
  case poolPreempt pl n =>
    simp only [execCmd]
    split
    · exact hs
    · split
      · exact hs
      · exact tgti_poolLoop hs hp p ⟨hd, hrun⟩ (fun _ => rfl) _ _ _ _
  case prioSet q v =>
    exact ec_prioSet (tgti_closed _) (fun _ _ _ _ hw hr => tgti_reprioritize hw hr) w p q v hs
  all_goals exact ec_execCmd (tgti_closed _) w p _ rfl nofun hs

end CimbaModel.Sim
