/-
  S2 — recorded histories (C14): histories only grow, by samples taken at the current time.
  `GrowArr R now a a'`: every object of `a` is still there in `a'` (same index) and its history in `a'` is its history in
  `a` followed by samples whose time is `now`.  Inside one dispatched event (after the clock tick) `now` is constant, so
  this relation composes over everything the event does.
  `RecStep`: what both this and the invariant of S2Hist are carried through — an array changes by updates each of which
  is followed by its sample.
-/
import CimbaModel.Sim.S2Hist

namespace CimbaModel.Sim
open CimbaModel CimbaModel.Event CimbaModel.Generated

variable {α : Type} (R : RecOps α)

def Extends (now : Int) (h h' : Array (Int × Int)) : Prop :=
  ∃ ext : List (Int × Int), h'.toList = h.toList ++ ext ∧ ∀ s ∈ ext, s.2 = now

theorem Extends.refl (now : Int) (h : Array (Int × Int)) : Extends now h h := ⟨[], by simp, by simp⟩

theorem Extends.trans {now : Int} {a b c : Array (Int × Int)} (h1 : Extends now a b) (h2 : Extends now b c) :
    Extends now a c := by
  obtain ⟨e1, p1, q1⟩ := h1
  obtain ⟨e2, p2, q2⟩ := h2
  refine ⟨e1 ++ e2, by rw [p2, p1, List.append_assoc], ?_⟩
  intro s hs
  rcases List.mem_append.1 hs with h | h
  · exact q1 s h
  · exact q2 s h

theorem Extends.push (now : Int) (h : Array (Int × Int)) (v : Int) : Extends now h (h.push (v, now)) :=
  ⟨[(v, now)], by simp, by simp⟩

def GrowArr (now : Int) (a a' : Array α) : Prop :=
  ∀ (i : Nat) (x : α), a[i]? = some x → ∃ x', a'[i]? = some x' ∧ Extends now (R.hist x) (R.hist x')

theorem GrowArr.refl (now : Int) (a : Array α) : GrowArr R now a a :=
  fun _ x hx => ⟨x, hx, Extends.refl _ _⟩

theorem GrowArr.of_eq {now : Int} {a a' : Array α} (h : a' = a) : GrowArr R now a a' := by
  rw [h]; exact GrowArr.refl R now a

theorem GrowArr.trans {now : Int} {a b c : Array α} (h1 : GrowArr R now a b) (h2 : GrowArr R now b c) : GrowArr R now a c := by
  intro i x hx
  obtain ⟨y, hy, e1⟩ := h1 i x hx
  obtain ⟨z, hz, e2⟩ := h2 i y hy
  exact ⟨z, hz, e1.trans e2⟩

theorem GrowArr.set {now : Int} {a e : Array α} (h : GrowArr R now a e) {i : Nat} {x : α} (hx : e[i]? = some x) {y : α}
    (hh : R.hist y = R.hist x) : GrowArr R now a (e.setIfInBounds i y) := by
  intro j z hz
  obtain ⟨z', hz', ez⟩ := h j z hz
  by_cases hji : i = j
  · subst hji
    refine ⟨y, ?_, ?_⟩
    · rw [Array.getElem?_setIfInBounds, if_pos rfl, if_pos (Array.getElem?_eq_some_iff.1 hx).1]
    · rw [hx] at hz'; cases hz'; rw [hh]; exact ez
  · exact ⟨z', by rw [Array.getElem?_setIfInBounds, if_neg hji]; exact hz', ez⟩

theorem GrowArr.modify {now : Int} {a e : Array α} (h : GrowArr R now a e) (i : Nat) {f : α → α}
    (hh : ∀ x, R.hist (f x) = R.hist x) : GrowArr R now a (e.modify i f) := by
  intro j z hz
  obtain ⟨z', hz', ez⟩ := h j z hz
  by_cases hji : i = j
  · subst hji
    exact ⟨f z', by rw [Array.getElem?_modify, if_pos rfl, hz']; rfl, by rw [hh]; exact ez⟩
  · exact ⟨z', by rw [Array.getElem?_modify, if_neg hji]; exact hz', ez⟩

theorem GrowArr.genRecord {now : Int} {a e : Array α} (h : GrowArr R now a e) (i : Nat) :
    GrowArr R now a (genRecord R e i now) := by
  unfold Sim.genRecord
  cases hx : e[i]? with
  | none => exact h
  | some x =>
    dsimp only
    split
    · intro j z hz
      obtain ⟨z', hz', ez⟩ := h j z hz
      by_cases hji : i = j
      · subst hji
        rw [hx] at hz'; cases hz'
        refine ⟨R.push x (R.val x, now), ?_, ?_⟩
        · rw [Array.set!_eq_setIfInBounds, Array.getElem?_setIfInBounds, if_pos rfl, if_pos (Array.getElem?_eq_some_iff.1 hx).1]
        · rw [R.push_hist]; exact ez.trans (Extends.push _ _ _)
      · exact ⟨z', by rw [Array.set!_eq_setIfInBounds, Array.getElem?_setIfInBounds, if_neg hji]; exact hz', ez⟩
    · exact h

structure RecStep (now : Int) (a a' : Array α) : Prop where
  ok : ArrAll (RecOK R now) a → ArrAll (RecOK R now) a'
  grow : GrowArr R now a a'

theorem RecStep.refl (now : Int) (a : Array α) : RecStep R now a a := ⟨id, GrowArr.refl R now a⟩

theorem RecStep.of_eq {now : Int} {a a' : Array α} (h : a' = a) : RecStep R now a a' := by
  rw [h]; exact RecStep.refl R now a

variable {R}

theorem RecStep.trans {now : Int} {a b c : Array α} (h1 : RecStep R now a b) (h2 : RecStep R now b c) : RecStep R now a c :=
  ⟨fun h => h2.ok (h1.ok h), h1.grow.trans R h2.grow⟩

theorem RecStep.upd {now : Int} {a : Array α} {i : Nat} {x y : α} (hx : a[i]? = some x) (hh : R.hist y = R.hist x) :
    RecStep R now a (setRecord R a i y now) :=
  ⟨fun h => genRecord_restores R (OKexc.set R (OKexc.of_all R h i) hx hh),
    GrowArr.genRecord R (GrowArr.set R (GrowArr.refl R now a) hx hh) i⟩

theorem RecStep.modify {now : Int} {a : Array α} (i : Nat) {f : α → α} (hh : ∀ x, R.hist (f x) = R.hist x) :
    RecStep R now a (genRecord R (a.modify i f) i now) :=
  ⟨fun h => genRecord_restores R (OKexc.modify_flag R h hh),
    GrowArr.genRecord R (GrowArr.modify R (GrowArr.refl R now a) i hh) i⟩

theorem RecStep.record {now : Int} (a : Array α) (i : Nat) : RecStep R now a (genRecord R a i now) :=
  ⟨fun h => genRecord_ok R h i, GrowArr.genRecord R (GrowArr.refl R now a) i⟩

theorem RecStep.same {now : Int} {a : Array α} {i : Nat} {x y : α} (hx : a[i]? = some x)
    (hr : R.recording y = R.recording x) (hh : R.hist y = R.hist x) (hv : R.val y = R.val x) :
    RecStep R now a (a.setIfInBounds i y) :=
  ⟨fun h => RecOK.set_same R h hx hr hh hv, GrowArr.set R (GrowArr.refl R now a) hx hh⟩

theorem RecStep.modify_same {now : Int} {a : Array α} (i : Nat) {f : α → α} (hr : ∀ x, R.recording (f x) = R.recording x)
    (hh : ∀ x, R.hist (f x) = R.hist x) (hv : ∀ x, R.val (f x) = R.val x) : RecStep R now a (a.modify i f) :=
  ⟨fun h => RecOK.modify_same R h hr hh hv, GrowArr.modify R (GrowArr.refl R now a) i hh⟩

theorem RecStep.off {now : Int} {a : Array α} (i : Nat) {f : α → α} (hr : ∀ x, R.recording (f x) = false)
    (hh : ∀ x, R.hist (f x) = R.hist x) : RecStep R now a ((genRecord R a i now).modify i f) :=
  ⟨fun h => RecOK.modify_off R (genRecord_ok R h i) hr hh,
    GrowArr.modify R (GrowArr.genRecord R (GrowArr.refl R now a) i) i hh⟩

end CimbaModel.Sim
