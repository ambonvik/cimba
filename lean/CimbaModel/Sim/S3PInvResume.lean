/-
  S3 — `PInv`: continuing a suspended `wait_process` / `wait_event` (recorded frame cleared, then the epilogue).
-/
import CimbaModel.Sim.S3PInvEx

namespace CimbaModel.Sim.S3
open CimbaModel CimbaModel.Sim CimbaModel.Event CimbaModel.Generated CimbaModel.KPQ
open CimbaModel.HashHeap (HTag Item Order HH WF abs liveTags)

variable {ex : Pid → Prop} {fr : Pid → Option Frame}

/-- `p` is resumed from its wait for `a`: the recorded frame is cleared and the awaitable taken off in one update -/
def clearedWorld (w : World) (p : Pid) (a : Await) : World :=
  w.modProc p fun x => { x with blocked := none, awaits := (removeFirst x.awaits a).1 }

theorem removeAwait_cleared (w : World) (p : Pid) (a : Await) :
    removeAwait (w.modProc p fun y => { y with blocked := none }) p a =
      (clearedWorld w p a, decide (a ∈ (w.proc p).awaits)) := by
  have h1 : (removeAwait (w.modProc p fun y => { y with blocked := none }) p a).1 = clearedWorld w p a := by
    rw [removeAwait_fst_eq, modProc_modProc]; rfl
  have h2 : (removeAwait (w.modProc p fun y => { y with blocked := none }) p a).2 = decide (a ∈ (w.proc p).awaits) := by
    simp only [removeAwait]
    rw [removeFirst_snd]
    rw [modProc_proc]; split
    · rename_i h; rfl
    · rfl
  exact Prod.ext h1 h2

theorem clearedWorld_frame (w : World) (p : Pid) (a : Await) :
    (clearedWorld w p a).ev = w.ev ∧ (clearedWorld w p a).evWaiters = w.evWaiters ∧
    (∀ x, ((clearedWorld w p a).proc x).waiters = (w.proc x).waiters) := by
  refine ⟨rfl, rfl, ?_⟩
  intro x; unfold clearedWorld; rw [modProc_proc]; split
  · rename_i h; rw [h.1]
  · rfl

theorem clearedWorld_nil {w w' : World} {p : Pid} {a : Await}
    (h1 : ((removeFirst (w.proc p).awaits a).1).filter isProcA = []) (h2 : ((removeFirst (w.proc p).awaits a).1).filter isEventA = [])
    (hw' : (w'.proc p).awaits = ((clearedWorld w p a).proc p).awaits) : procAw w' p = [] ∧ evAw w' p = [] := by
  unfold procAw evAw
  rw [hw']
  unfold clearedWorld
  rcases modProc_self_or w p fun x => { x with blocked := none, awaits := (removeFirst x.awaits a).1 } with h | h <;> rw [h]
  · exact ⟨h1, h2⟩
  · exact ⟨rfl, rfl⟩

theorem PInv.waitProc_facts {w : World} (hp : PInv ex fr w) {p q : Pid} (hfr : fr p = some (.waitProc q)) (hxp : ¬ ex p) :
    evAw w p = [] ∧ (procAw w p = [] ∨ procAw w p = [.proc q]) ∧
    (∀ e ∈ w.ev.pending, e.item.a = aEvent → e.item.b ≠ p + 1) ∧
    (∀ h l, (h, l) ∈ w.evWaiters → p ∉ l) ∧
    (∀ x, p ∈ (w.proc x).waiters → x = q ∧ Await.proc q ∈ (w.proc p).awaits) ∧
    (∀ e ∈ w.ev.pending, e.item.a = aProc → e.item.b = p + 1 → Await.proc q ∈ (w.proc p).awaits ∧ p ∉ (w.proc q).waiters) := by
  obtain ⟨i1, i2, i3⟩ := hp.events.idle hxp fun f a hf hon => by rw [hfr] at hf; cases hf; cases hon
  obtain ⟨j1, j2, j3⟩ := hp.procs.here hxp hfr fun b hb => (Frame.waitProc.inj hb).symm
  refine ⟨i1, j1, i3, fun k l hm hpl => i2 k ?_, j2, j3⟩
  show p ∈ evWaitersOf w k
  unfold evWaitersOf; rw [lookup_of_mem_nodup hp.en.1 hm]; exact hpl

/-- `wait_process q` continued (with whatever signal): the invariant holds again, with `p` not suspended -/
theorem PInv.resume_waitProc {w : World} (hp : PInv ex fr w) {p q : Pid} (hfr : fr p = some (.waitProc q)) (hxp : ¬ ex p)
    (sig : Int) :
    PInv ex (setFrame fr p none) (resumeFrame (w.modProc p fun y => { y with blocked := none }) p (.waitProc q) sig).1 := by
  obtain ⟨hev, hpa, hnoE, hnoW, hwt, hop⟩ := hp.waitProc_facts hfr hxp
  obtain ⟨hcev, hcew, hcw⟩ := clearedWorld_frame w p (.proc q)
  have hfil1 : ((removeFirst (w.proc p).awaits (Await.proc q)).1).filter isProcA = [] := by
    rw [removeFirst_filter_self _ _ _ rfl]
    have : (w.proc p).awaits.filter isProcA = procAw w p := rfl
    rw [this]
    rcases hpa with h | h <;> rw [h] <;> simp [removeFirst]
  have hfil2 : ((removeFirst (w.proc p).awaits (Await.proc q)).1).filter isEventA = [] := by
    rw [removeFirst_filter_ne _ _ _ rfl]; exact hev
  have hB : PInv (exAdd ex p) fr (clearedWorld w p (.proc q)) :=
    (hp.exempt p).modProcEx _ rfl rfl hfil1 hfil2
  simp only [resumeFrame, removeAwait_cleared]
  by_cases hstill : Await.proc q ∈ (w.proc p).awaits
  · simp only [hstill, decide_true, if_true]
    have hwq : ((clearedWorld w p (.proc q)).proc q).waiters = (w.proc q).waiters := hcw q
    rw [hwq]
    by_cases hwas : p ∈ (w.proc q).waiters
    · have hs : (removeFirst (w.proc q).waiters p).2 = true := by rw [removeFirst_snd]; simp [hwas]
      simp only [hs, if_true]
      have heq : ((clearedWorld w p (.proc q)).modProc q fun y => { y with waiters := (removeFirst (w.proc q).waiters p).1 }) =
          ((clearedWorld w p (.proc q)).modProc q fun y => { y with waiters := (removeFirst y.waiters p).1 }) := by
        apply modProc_congr; rw [hwq]
      rw [heq]
      have hC := hB.shrinkWaiters q (fun l => (removeFirst l p).1) (fun l x hx => removeFirst_subset l p x hx)
        (fun l hl => (removeFirst_nodup l p hl).1)
      refine hC.settle none (clearedWorld_nil hfil1 hfil2 (by rw [modProc_keep Proc.awaits])) ?_ ?_ ?_
      · intro e he hk hb
        rcases hk with hk | hk
        · exact (hop e he hk hb).2 hwas
        · exact hnoE e he hk hb
      · intro x hx
        rw [modProc_proc] at hx
        split at hx
        · rename_i h
          have := (removeFirst_nodup ((clearedWorld w p (.proc q)).proc q).waiters p (by rw [hwq]; exact hp.wn q)).2
          exact this hx
        · rename_i h
          rw [hcw x] at hx
          have := (hwt x hx).1
          subst this
          have hq : x < w.procs.size := by
            rcases Nat.lt_or_ge x w.procs.size with h' | h'
            · exact h'
            · rw [proc_oob w h'] at hx; simp at hx
          exact h ⟨rfl, by simpa [clearedWorld] using hq⟩
      · intro h l hm; exact hnoW h l hm
    · have hs : (removeFirst (w.proc q).waiters p).2 = false := by rw [removeFirst_snd]; simp [hwas]
      simp only [hs, Bool.false_eq_true, if_false]
      -- the wake-up is already pending: cancel it
      have hD := PInv.foot.cancelKindFor _ p aProc none hB
      obtain ⟨hrel, hgone, _, _⟩ := cancelKindFor_spec (clearedWorld w p (.proc q)) p aProc none hp.ei
      refine hD.settle none (clearedWorld_nil hfil1 hfil2 (by rw [hrel.proc p])) ?_ ?_ ?_
      · intro e he hk hb
        rcases hrel.pend e he with hold | ⟨hc, h', l, x, hm, hx, heq⟩
        · rcases hk with hk | hk
          · have hle := EvInv.key_le hp.ei (show e ∈ w.ev.pending from hold)
            have := hgone e he hle
            simp [kindMatch, hb, hk] at this
          · exact hnoE e hold hk hb
        · rw [heq] at hb
          simp only [mkEv] at hb
          have : x = p := Nat.add_right_cancel hb
          subst this
          exact hnoW h' l hm hx
      · intro x hx
        rw [hrel.proc x, hcw x] at hx
        have := (hwt x hx).1
        subst this; exact hwas hx
      · intro h l hm; exact hnoW h l (hrel.evWaiters _ hm)
  · simp only [hstill, decide_false, Bool.false_eq_true, if_false]
    refine hB.settle none (clearedWorld_nil hfil1 hfil2 rfl) ?_ ?_ ?_
    · intro e he hk hb
      rcases hk with hk | hk
      · exact hstill (hop e he hk hb).1
      · exact hnoE e he hk hb
    · intro x hx; rw [hcw x] at hx; exact hstill (hwt x hx).2
    · intro h l hm; exact hnoW h l hm


/-- `p` is taken off the waiter list of event `h` (the `.event` step of `cancelStep`, Shape.lean) -/
def dropEvWaiter (ws : List (Nat × List Pid)) (h : Nat) (p : Pid) : List (Nat × List Pid) :=
  ws.map fun (k, l) => if k = h then (k, (removeFirst l p).1) else (k, l)

theorem dropEvWaiter_keys (ws : List (Nat × List Pid)) (h : Nat) (p : Pid) :
    (dropEvWaiter ws h p).map (·.1) = ws.map (·.1) := by
  unfold dropEvWaiter
  rw [List.map_map]
  apply List.map_congr_left
  intro x _
  rcases x with ⟨k, l⟩
  simp only [Function.comp]
  split <;> rfl

theorem dropEvWaiter_mem {ws : List (Nat × List Pid)} {h : Nat} {p : Pid} {k : Nat} {l' : List Pid}
    (hm : (k, l') ∈ dropEvWaiter ws h p) :
    ∃ l, (k, l) ∈ ws ∧ l' = if k = h then (removeFirst l p).1 else l := by
  unfold dropEvWaiter at hm
  obtain ⟨⟨k0, l0⟩, hx, heq⟩ := List.mem_map.1 hm
  simp only at heq
  split at heq
  · rename_i hk
    have h1 : k0 = k := congrArg Prod.fst heq
    have h2 : (removeFirst l0 p).1 = l' := congrArg Prod.snd heq
    subst h1; exact ⟨l0, hx, by rw [if_pos hk, h2]⟩
  · rename_i hk
    have h1 : k0 = k := congrArg Prod.fst heq
    have h2 : l0 = l' := congrArg Prod.snd heq
    subst h1; exact ⟨l0, hx, by rw [if_neg hk, h2]⟩

theorem dropEvWaiter_lookup (ws : List (Nat × List Pid)) (h : Nat) (p : Pid) (k : Nat) :
    (dropEvWaiter ws h p).lookup k = (ws.lookup k).map fun l => if k = h then (removeFirst l p).1 else l := by
  induction ws with
  | nil => rfl
  | cons x xs ih =>
    rcases x with ⟨k0, l0⟩
    unfold dropEvWaiter at ih ⊢
    simp only [List.map_cons]
    by_cases hk0 : k0 = h
    · simp only [hk0, if_true, List.lookup_cons]
      by_cases hk : k = h
      · subst hk; simp
      · have : (k == h) = false := by simpa using hk
        simp only [this]; exact ih
    · simp only [hk0, if_false, List.lookup_cons]
      by_cases hk : k = k0
      · subst hk; simp [hk0]
      · have : (k == k0) = false := by simpa using hk
        simp only [this]; exact ih

theorem PInv.dropEvWaiter {w : World} (hp : PInv ex fr w) (h : Nat) (p : Pid) :
    PInv ex fr { w with evWaiters := dropEvWaiter w.evWaiters h p } := by
  have hsubW : ∀ k x, x ∈ evWaitersOf { w with evWaiters := S3.dropEvWaiter w.evWaiters h p } k → x ∈ evWaitersOf w k := by
    intro k x hx
    unfold evWaitersOf at hx ⊢
    simp only [dropEvWaiter_lookup] at hx
    cases hl : w.evWaiters.lookup k with
    | none => rw [hl] at hx; simp at hx
    | some l =>
      rw [hl] at hx
      simp only [Option.map_some, Option.getD_some] at hx ⊢
      split at hx
      · exact removeFirst_subset l p x hx
      · exact hx
  refine { hp with e1 := ?_, en := ?_, es := ?_, oe := ?_ }
  · intro k l' q hm hq hx
    obtain ⟨l, hl, heq⟩ := dropEvWaiter_mem hm
    refine hp.e1 k l q hl ?_ hx
    rw [heq] at hq; split at hq
    · exact removeFirst_subset l p q hq
    · exact hq
  · refine ⟨by simp only [dropEvWaiter_keys]; exact hp.en.1, ?_⟩
    intro k l' hm
    obtain ⟨l, hl, heq⟩ := dropEvWaiter_mem hm
    rw [heq]; split
    · exact (removeFirst_nodup l p (hp.en.2 k l hl)).1
    · exact hp.en.2 k l hl
  · intro k l' hm
    obtain ⟨l, hl, _⟩ := dropEvWaiter_mem hm
    exact hp.es k l hl
  · intro e he ha x hb hx
    obtain ⟨h', h1, h2⟩ := hp.oe e he ha x hb hx
    exact ⟨h', h1, fun hm => h2 (hsubW h' x hm)⟩

theorem PInv.waitEvent_facts {w : World} (hp : PInv ex fr w) {p : Pid} {h : Nat} (hfr : fr p = some (.waitEvent h)) (hxp : ¬ ex p) :
    procAw w p = [] ∧ (evAw w p = [] ∨ evAw w p = [.event h]) ∧
    (∀ e ∈ w.ev.pending, e.item.a = aProc → e.item.b ≠ p + 1) ∧
    (∀ x, p ∉ (w.proc x).waiters) ∧
    (∀ k l, (k, l) ∈ w.evWaiters → p ∈ l → k = h ∧ Await.event h ∈ (w.proc p).awaits) ∧
    (∀ e ∈ w.ev.pending, e.item.a = aEvent → e.item.b = p + 1 →
      Await.event h ∈ (w.proc p).awaits ∧ p ∉ evWaitersOf w h ∧ h ∉ keys w.ev.pending) := by
  obtain ⟨i1, i2, i3⟩ := hp.procs.idle hxp fun f a hf hon => by rw [hfr] at hf; cases hf; cases hon
  obtain ⟨j1, j2, j3⟩ := hp.events.here hxp hfr fun b hb => (Frame.waitEvent.inj hb).symm
  refine ⟨i1, j1, i3, i2, fun k l hm hpl => j2 k ?_, fun e he ha hb => ?_⟩
  · show p ∈ evWaitersOf w k
    unfold evWaitersOf; rw [lookup_of_mem_nodup hp.en.1 hm]; exact hpl
  · obtain ⟨a1, a2⟩ := j3 e he ha hb
    exact ⟨a1, a2, (hp.oh e he ha p hb hxp h a1).1⟩

/-- `wait_event h` continued (with whatever signal): the invariant holds again, with `p` not suspended -/
theorem PInv.resume_waitEvent {w : World} (hp : PInv ex fr w) {p : Pid} {h : Nat} (hfr : fr p = some (.waitEvent h))
    (hxp : ¬ ex p) (sig : Int) :
    PInv ex (setFrame fr p none) (resumeFrame (w.modProc p fun y => { y with blocked := none }) p (.waitEvent h) sig).1 := by
  obtain ⟨hpa, hea, hnoP, hnoW, hwt, hoe⟩ := hp.waitEvent_facts hfr hxp
  obtain ⟨hcev, hcew, hcw⟩ := clearedWorld_frame w p (.event h)
  have hfil1 : ((removeFirst (w.proc p).awaits (Await.event h)).1).filter isProcA = [] := by
    rw [removeFirst_filter_ne _ _ _ rfl]; exact hpa
  have hfil2 : ((removeFirst (w.proc p).awaits (Await.event h)).1).filter isEventA = [] := by
    rw [removeFirst_filter_self _ _ _ rfl]
    have : (w.proc p).awaits.filter isEventA = evAw w p := rfl
    rw [this]
    rcases hea with h' | h' <;> rw [h'] <;> simp [removeFirst]
  have hB : PInv (exAdd ex p) fr (clearedWorld w p (.event h)) :=
    (hp.exempt p).modProcEx _ rfl rfl hfil1 hfil2
  simp only [resumeFrame, removeAwait_cleared]
  by_cases hstill : Await.event h ∈ (w.proc p).awaits
  · simp only [hstill, decide_true, if_true]
    by_cases hsch : isScheduled (clearedWorld w p (.event h)).ev h = true
    · simp only [hsch, if_true]
      have hC := hB.dropEvWaiter h p
      refine hC.settle none (clearedWorld_nil hfil1 hfil2 rfl) ?_ ?_ ?_
      · intro e he hk hb
        rcases hk with hk | hk
        · exact hnoP e he hk hb
        · have := (hoe e he hk hb).2.2
          apply this
          have : (clearedWorld w p (.event h)).ev = w.ev := rfl
          rw [this] at hsch
          simpa [isScheduled] using hsch
      · intro x hx; exact hnoW x (by rw [← hcw x]; exact hx)
      · intro k l' hm hpl
        obtain ⟨l, hl, heq⟩ := dropEvWaiter_mem hm
        rw [heq] at hpl
        split at hpl
        · exact (removeFirst_nodup l p (hp.en.2 k l hl)).2 hpl
        · rename_i hk; exact hk (hwt k l hl hpl).1
    · simp only [hsch, Bool.false_eq_true, if_false]
      have hD := PInv.foot.cancelKindFor _ p aEvent none hB
      obtain ⟨hrel, hgone, _, _⟩ := cancelKindFor_spec (clearedWorld w p (.event h)) p aEvent none hp.ei
      -- h is not scheduled, so nobody is registered with it; p is registered with nothing else
      have hnoreg : ∀ k l, (k, l) ∈ w.evWaiters → p ∉ l := by
        intro k l hm hpl
        have hk := (hwt k l hm hpl).1
        subst hk
        have := hp.es k l hm
        apply hsch
        have he : (clearedWorld w p (.event k)).ev = w.ev := rfl
        rw [he]
        simpa [isScheduled] using this
      refine hD.settle none (clearedWorld_nil hfil1 hfil2 (by rw [hrel.proc p])) ?_ ?_ ?_
      · intro e he hk hb
        rcases hrel.pend e he with hold | ⟨hc, h', l, x, hm, hx, heq⟩
        · rcases hk with hk | hk
          · exact hnoP e hold hk hb
          · have hle := EvInv.key_le hp.ei (show e ∈ w.ev.pending from hold)
            have := hgone e he hle
            simp [kindMatch, hb, hk] at this
        · rw [heq] at hb
          simp only [mkEv] at hb
          have : x = p := Nat.add_right_cancel hb
          subst this
          exact hnoreg h' l hm hx
      · intro x hx
        rw [hrel.proc x, hcw x] at hx
        exact hnoW x hx
      · intro k l hm; exact hnoreg k l (hrel.evWaiters _ hm)
  · simp only [hstill, decide_false, Bool.false_eq_true, if_false]
    refine hB.settle none (clearedWorld_nil hfil1 hfil2 rfl) ?_ ?_ ?_
    · intro e he hk hb
      rcases hk with hk | hk
      · exact hnoP e he hk hb
      · exact hstill (hoe e he hk hb).1
    · intro x hx; rw [hcw x] at hx; exact hnoW x hx
    · intro k l hm hpl; exact hstill (hwt k l hm hpl).2

end CimbaModel.Sim.S3
