/-
  S2 — kinds of recordable objects that have an invariant of their own (buffers, object queues, priority queues).
  A `Kind` is the `RecOps` of the objects together with the transitions `T` the library performs on one of them; the
  premises of `T` are the tests the code makes before it changes the object.  `ObjStep K now a a'`: the array changes by
  such transitions, each followed by its sample unless it leaves the recorded value alone, by samples, and by switching
  the recording on or off.  It is read two ways: a predicate on single objects that the kind's steps keep is kept
  (`ObjStep.all`), and the histories change as `RecStep` says (`ObjStep.recStep`).  `Rec`, `Obj`: the same between worlds.
-/
import CimbaModel.Sim.S2Grow
import CimbaModel.Sim.S2Dispatch

namespace CimbaModel.Sim
open CimbaModel CimbaModel.Event CimbaModel.Generated
open CimbaModel.HashHeap (HTag Item Order HH)

structure Kind (α : Type) extends RecOps α where
  /-- what the library does to one object, sampling and the recording switch apart -/
  T : α → α → Prop
  T_hist : ∀ {x y}, T x y → hist y = hist x
  T_rec : ∀ {x y}, T x y → recording y = recording x
  flag : α → Bool → α
  flag_rec : ∀ x b, recording (flag x b) = b
  flag_hist : ∀ x b, hist (flag x b) = hist x

variable {α : Type}

inductive ObjStep (K : Kind α) (now : Int) : Array α → Array α → Prop
  | refl (a) : ObjStep K now a a
  | trans {a b c} : ObjStep K now a b → ObjStep K now b c → ObjStep K now a c
  /-- a change of the object, then its sample -/
  | upd {a i x y} : a[i]? = some x → K.T x y → ObjStep K now a (setRecord K.toRecOps a i y now)
  /-- a change that leaves the recorded value alone needs no sample -/
  | quiet {a i x y} : a[i]? = some x → K.T x y → K.val y = K.val x → ObjStep K now a (a.setIfInBounds i y)
  | record (a i) : ObjStep K now a (genRecord K.toRecOps a i now)
  | on (a i) : ObjStep K now a (genRecord K.toRecOps (a.modify i fun x => K.flag x true) i now)
  | off (a i) : ObjStep K now a ((genRecord K.toRecOps a i now).modify i fun x => K.flag x false)

theorem ObjStep.of_eq {K : Kind α} {now : Int} {a a' : Array α} (h : a' = a) : ObjStep K now a a' := by
  rw [h]; exact .refl a

/-- a predicate on single objects that the steps of the kind keep -/
structure Kind.Stable (K : Kind α) (P : α → Prop) : Prop where
  T : ∀ {x y}, K.T x y → P x → P y
  push : ∀ x s, P x → P (K.push x s)
  flag : ∀ x b, P x → P (K.flag x b)

theorem ObjStep.all {K : Kind α} {P : α → Prop} (hP : K.Stable P) {now : Int} {a a' : Array α}
    (h : ObjStep K now a a') : ArrAll P a → ArrAll P a' := by
  induction h with
  | refl => exact id
  | trans _ _ ih1 ih2 => exact fun h => ih2 (ih1 h)
  | upd hx t => exact fun h => setRecord_all _ hP.push h _ (hP.T t (h.get hx)) _
  | quiet hx t _ => exact fun h => h.set _ (hP.T t (h.get hx))
  | record a i => exact fun h => genRecord_all _ hP.push h i _
  | on a i => exact fun h => genRecord_all _ hP.push (h.modify i fun x _ => hP.flag x true) i _
  | off a i => exact fun h => (genRecord_all _ hP.push h i _).modify i fun x _ => hP.flag x false

theorem ObjStep.recStep {K : Kind α} {now : Int} {a a' : Array α} (h : ObjStep K now a a') : RecStep K.toRecOps now a a' := by
  induction h with
  | refl a => exact RecStep.refl _ _ a
  | trans _ _ ih1 ih2 => exact ih1.trans ih2
  | upd hx t => exact RecStep.upd hx (K.T_hist t)
  | quiet hx t hv => exact RecStep.same hx (K.T_rec t) (K.T_hist t) hv
  | record a i => exact RecStep.record a i
  | on a i => exact RecStep.modify i fun x => K.flag_hist x true
  | off a i => exact RecStep.off i (fun x => K.flag_rec x false) fun x => K.flag_hist x false

def Rec (R : RecOps α) (sel : World → Array α) (w w' : World) : Prop :=
  w'.now = w.now ∧ RecStep R w.now (sel w) (sel w')

section
variable {R : RecOps α} {sel : World → Array α}

theorem Rec.of_eq {w w' : World} (h : sel w' = sel w) (hn : w'.now = w.now) : Rec R sel w w' := ⟨hn, RecStep.of_eq R h⟩

theorem Rec.hist {w w' : World} (h : Rec R sel w w') (hi : ArrAll (RecOK R w.now) (sel w)) :
    ArrAll (RecOK R w'.now) (sel w') := by
  rw [h.1]; exact h.2.ok hi

theorem Rec.grow {wb w w' : World} (h : Rec R sel w w') (hg : w.now = wb.now ∧ GrowArr R wb.now (sel wb) (sel w)) :
    w'.now = wb.now ∧ GrowArr R wb.now (sel wb) (sel w') :=
  ⟨h.1.trans hg.1, GrowArr.trans R hg.2 (hg.1 ▸ h.2.grow)⟩

end

def Obj (K : Kind α) (sel : World → Array α) (w w' : World) : Prop :=
  w'.now = w.now ∧ ObjStep K w.now (sel w) (sel w')

section
variable {K : Kind α} {sel : World → Array α}

theorem Obj.rec {w w' : World} (h : Obj K sel w w') : Rec K.toRecOps sel w w' := ⟨h.1, h.2.recStep⟩

/-- the walk of one kind through the library -/
structure ObjKind (K : Kind α) (sel : World → Array α) : Prop where
  same : ∀ {w w' : World}, Same w w' → sel w' = sel w
  tick : ∀ (w : World) (ev' : EvQ) (n : Nat), sel { w with ev := ev', dispatched := n } = sel w
  clear : ∀ (w : World) (p : Pid) (f : Proc → Proc), sel (w.modProc p f) = sel w
  exec : ∀ w p c, Obj K sel w (execCmd w p c).1
  resume : ∀ w p f sig, Obj K sel w (resumeFrame w p f sig).1
  finish : ∀ w p v st, Obj K sel w (finishProc w p v st)

/-- … then every stable predicate holds of every object of the kind in every reachable state -/
theorem ObjKind.preserved (k : ObjKind K sel) {P : α → Prop} (hP : K.Stable P) :
    Preserved fun w => ArrAll P (sel w) where
  same hs h := by rw [k.same hs]; exact h
  tick _ h := by rw [k.tick]; exact h
  clear w p f _ _ _ h := by rw [k.clear]; exact h
  exec w p c _ h := (k.exec w p c).2.all hP h
  resume w p f sig _ _ h := (k.resume w p f sig).2.all hP h
  finish w p v st h := (k.finish w p v st).2.all hP h

end

/-- `cmb_buffer_get` / `_put` move `n` units out of / into the buffer: no more than is there / than there is room for -/
inductive BufT : Buf → Buf → Prop
  | get (x : Buf) (n : Nat) : n ≤ x.level → BufT x { x with level := x.level - n, getTotal := x.getTotal + n }
  | put (x : Buf) (n : Nat) : n ≤ x.cap - x.level → BufT x { x with level := x.level + n, putTotal := x.putTotal + n }

def bufK : Kind Buf where
  toRecOps := bufOps
  T := BufT
  T_hist t := by cases t <;> rfl
  T_rec t := by cases t <;> rfl
  flag x b := { x with recording := b }
  flag_rec _ _ := rfl
  flag_hist _ _ := rfl

inductive OQT : OQ → OQ → Prop
  | get (x : OQ) {o : Nat} {rest : List Nat} : x.items = o :: rest → OQT x { x with items := rest, gotLog := x.gotLog ++ [o] }
  | put (x : OQ) (obj : Nat) : x.items.length < x.cap →
      OQT x { x with items := x.items ++ [obj], putLog := x.putLog ++ [obj] }

def oqK : Kind OQ where
  toRecOps := oqOps
  T := OQT
  T_hist t := by cases t <;> rfl
  T_rec t := by cases t <;> rfl
  flag x b := { x with recording := b }
  flag_rec _ _ := rfl
  flag_hist _ _ := rfl

/-- `cmb_priorityqueue_get`, `_put`, `_cancel`, `_reprioritize`; the last two take no sample when nothing was removed /
    never, the number of entries being what it was -/
inductive PQT : PQ → PQ → Prop
  | get (x : PQ) {q' : HH} {t : HTag} : x.queue.count > 0 → HashHeap.dequeue compare_func x.queue = .ok (q', some t) →
      PQT x { x with queue := q', gotLog := x.gotLog ++ [t.key] }
  | put (x : PQ) {obj : Nat} {pri : Int} {q' : HH} {h : Nat} : x.queue.count < x.cap →
      HashHeap.enqueue compare_func x.queue ⟨obj, 0, 0, 0⟩ 0 0 pri = .ok (q', h) →
      PQT x { x with queue := q', putLog := x.putLog ++ [h] }
  | cancel (x : PQ) {h : Nat} {q' : HH} {r : Bool} : h ≠ 0 → HashHeap.remove compare_func x.queue h = .ok (q', r) →
      PQT x { x with queue := q', cancelLog := if r then x.cancelLog ++ [h] else x.cancelLog }
  | reprio (x : PQ) {h : Nat} {pri : Int} {q' : HH} : pqPosition x h ≠ 0 →
      HashHeap.reprioritize compare_func x.queue h 0 pri = .ok q' → PQT x { x with queue := q' }

def pqK : Kind PQ where
  toRecOps := pqOps
  T := PQT
  T_hist t := by cases t <;> rfl
  T_rec t := by cases t <;> rfl
  flag x b := { x with recording := b }
  flag_rec _ _ := rfl
  flag_hist _ _ := rfl

end CimbaModel.Sim
