/-
  S1 — `end_silences` at full strength (C09): the S1 invariants (`FullInv`) combined with the ownership invariants of
  S3 (`S3.AllInv`: event waits, guard waits, inertness of processes that are not running).
-/
import CimbaModel.Sim.S1SilentIRun
import CimbaModel.Sim.S3All

namespace CimbaModel.Sim
open CimbaModel CimbaModel.Event CimbaModel.Generated CimbaModel.KPQ
open CimbaModel.HashHeap (HTag Item Order HH WF abs)

/-- what `end_silences` needs of a state: the six S1 invariants and, of S3, the process/event registry invariant, the
    guard ownership invariant and the inertness of processes that are not running -/
structure EndInv (w : World) : Prop where
  full : FullInv w
  p : S3.PInvB w
  g : S3.GInvB w
  nr : S3.NRInv w

theorem EndInv.of {w : World} (hf : FullInv w) (ha : S3.AllInv w) : EndInv w := ⟨hf, ha.p, ha.g, ha.nr⟩

structure InitAll (w : World) : Prop where
  full : FullInv w
  ok : S3.InitOkG w
  side : S3.SideOk w

theorem reach_all {w0 w : World} (hi : InitAll w0) (hr : S3.Reach w0 w) : FullInv w ∧ S3.AllInv w := by
  induction hr with
  | refl => exact ⟨hi.full, hi.ok.all hi.side⟩
  | step _ hd ih => exact ⟨fullinv_dispatch ih.1 hd, ih.2.dispatch hd⟩

theorem reach_endInv {w0 w : World} (hi : InitAll w0) (hr : S3.Reach w0 w) : EndInv w :=
  EndInv.of (reach_all hi hr).1 (reach_all hi hr).2

theorem runAll_endInv {w0 : World} (hi : InitAll w0) (fuel : Nat) : EndInv (runAll fuel w0) :=
  EndInv.of (fullinv_runAll fuel hi.full) ((hi.ok.all hi.side).runAll fuel w0)

/-- the end of a process keeps the combined invariant (also in the middle of a dispatch, at a command boundary) -/
theorem EndInv.finishProc {w : World} (h : EndInv w) (z : Pid) (val : Int) (stopped : Bool) :
    EndInv (Sim.finishProc w z val stopped) :=
  ⟨fullinv_finishProc h.full z val stopped,
   (S3.PInv.finishProc h.p z val stopped (S3.noEx_not z)).toB,
   (S3.GInv.finishProc h.g z val stopped (S3.noEx_not z)).toB,
   h.nr.finishProc z val stopped⟩

section
variable {w : World} (h : EndInv w) (p : Pid) (hp : (w.proc p).status ≠ .running)
include h hp

theorem EndInv.inert : (w.proc p).awaits = [] ∧ (w.proc p).blocked = none ∧ (w.proc p).held = [] :=
  ⟨(h.nr p hp).1, (h.nr p hp).2, (h.full.all.dead p hp).2.2.1⟩

theorem EndInv.no_wakeup (e : HTag) (he : e ∈ w.ev.pending) (hb : e.item.b = p + 1) :
    e.item.a ≠ aTime ∧ e.item.a ≠ aProc ∧ e.item.a ≠ aPreempt ∧ e.item.a ≠ aResume ∧ e.item.a ≠ aIntr ∧
    e.item.a ≠ aEvent ∧ e.item.a ≠ aCond ∧ ¬ (e.item.a = aRes ∧ e.item.c = 0) := by
  have hbl := (h.nr p hp).2
  have hs : e.item.a ≠ aTime ∧ e.item.a ≠ aProc ∧ e.item.a ≠ aPreempt ∧ e.item.a ≠ aResume := by
    have := h.full.all.silent.none_for p hp e he hb
    unfold silentAct at this
    simp at this
    exact ⟨this.1.1.1, this.1.1.2, this.1.2, this.2⟩
  have hgr : ¬ S3.isGrant e := by
    intro hg
    obtain ⟨p', g, f, hb', hf, _⟩ := h.g.grant_owned he hg
    have : p' = p := by omega
    subst this
    rw [hbl] at hf; cases hf
  refine ⟨hs.1, hs.2.1, hs.2.2.1, hs.2.2.2, h.full.intr.none_for p hp e he hb, ?_, fun hc => hgr (Or.inr hc),
    fun hc => hgr (Or.inl hc)⟩
  intro ha
  obtain ⟨p', k, hb', hf, _⟩ := h.p.eventWake_owned he ha
  have : p' = p := by omega
  subst this
  rw [hbl] at hf; cases hf

theorem EndInv.not_queued (g : Nat) : ¬ S3.queued w g (p + 1) := by
  intro hq
  obtain ⟨p', f, hk, _, _, _, hf, _⟩ := h.g.queued_means hq
  have : p' = p := by omega
  subst this
  rw [(h.nr p' hp).2] at hf; cases hf

theorem EndInv.guardEnqueued_false (g : Nat) : guardEnqueued w g p = false := by
  unfold guardEnqueued
  cases hg : w.guards[g]? with
  | none => rfl
  | some gd =>
    dsimp only
    rw [HashHeap.isEnqueued_spec (h.g.gw g gd hg) (p + 1) (Nat.succ_ne_zero p)]
    have : p + 1 ∉ keys (abs gd.q) := fun hm => h.not_queued p hp g ⟨gd, hg, hm⟩
    simp [this]

theorem EndInv.not_waiter (q : Pid) : p ∉ (w.proc q).waiters := by
  intro hm
  have := h.full.all.wait.reg p q hm
  unfold World.pa at this
  rw [(h.nr p hp).1] at this
  cases this

theorem EndInv.not_event_waiter (k : Nat) (l : List Pid) (hm : (k, l) ∈ w.evWaiters) : p ∉ l := by
  intro hq
  have := h.p.e1 k l p hm hq (S3.noEx_not p)
  rw [(h.nr p hp).1] at this
  cases this

theorem EndInv.not_holder (r : Nat) (x : Res) (hx : w.res[r]? = some x) : x.holder ≠ some p := by
  intro hh
  have := (h.full.all.hold.mem_iff r p).2 (by rw [holder_eq w r x hx, hh])
  rw [(h.full.all.dead p hp).2.2.1] at this
  cases this

theorem EndInv.not_pool_holder (pl : Nat) (x : Pool) (hx : w.pools[pl]? = some x) :
    p + 1 ∉ keys (abs x.holders) := by
  have := h.full.pool.not_running h.full.all.dead p hp pl
  rw [hk_eq w pl x hx] at this
  exact this

theorem EndInv.heldAmount_zero (pl : Nat) : heldAmount w pl p = 0 := by
  unfold heldAmount
  cases hx : w.pools[pl]? with
  | none => rfl
  | some x =>
    dsimp only
    split
    · rfl
    · have hwf := h.full.pool.wf pl x.holders (ph_eq w pl x hx)
      rw [HashHeap.findIndex_of_not_mem hwf (h.not_pool_holder p hp pl x hx)]
      rfl

end

/-- every command of a running, unsuspended process keeps the combined invariant: it also holds at every command
    boundary inside a dispatch (in particular right before a `stop`) -/
theorem EndInv.execCmd {w : World} (h : EndInv w) (hside : S3.SideOk w) (p : Pid) (hp : p < w.procs.size)
    (hrun : (w.proc p).status = .running) (hb : (w.proc p).blocked = none) (c : Cmd) (hok : S3.CmdOk c) :
    EndInv (Sim.execCmd w p c).1 := by
  have hpa : w.pa p = [] := by
    rcases h.full.all.wait.frame p with e | ⟨q, _, b⟩
    · exact e
    · rw [hb] at b; cases b
  obtain ⟨fr1, h1⟩ := S3.PInv.execCmd_ex (p := p) h.p hb hrun c
  obtain ⟨fr2, h2⟩ := S3.GInv.execCmd_ex (p := p) h.g hb hp hside.sep c hok
  exact ⟨fullinv_execCmd h.full p hp hrun hpa c, h1.toB, h2.toB, (S3.NRr.execCmd ⟨h.nr, hrun⟩ c).1⟩

end CimbaModel.Sim
