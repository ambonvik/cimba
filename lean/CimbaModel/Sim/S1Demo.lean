/-
  S1 — a small concrete world for the non-vacuity examples of C05 / C09:
  three running processes (priorities 0, 5 and 0), one resource with its guard.
-/
import CimbaModel.Sim.Run

namespace CimbaModel.Sim
open CimbaModel CimbaModel.Event CimbaModel.Generated

def demoWorld : World :=
  { procs := #[{ status := .running }, { status := .running, prio := 5 }, { status := .running }],
    guards := #[{ q := mkHH 3 }],
    res := #[{ guard := 0 }] }

/-- process 0 has acquired the resource -/
def demoHeld : World := (execCmd demoWorld 0 (.acquire 0)).1

/-- … and process 2 waits for process 0 -/
def demoWaiting : World := (execCmd demoHeld 2 (.waitProc 0)).1

/-- a complete scenario: three processes contend for one resource (process 1, of higher priority, preempts process 0
    at t = 1); process 2 first waits for the end of process 0; start events for all three are pending at t = 0 -/
def scenWorld : World :=
  let w : World :=
    { procs := #[
        { script := #[(.acquire 0, "a"), (.hold 5, "h"), (.release 0, "r")] },
        { prio := 5, script := #[(.hold 1, "h"), (.preempt 0, "p"), (.hold 2, "h"), (.release 0, "r")] },
        { script := #[(.waitProc 0, "w"), (.acquire 0, "a"), (.exit 3, "x")] }],
      guards := #[{ q := mkHH 3 }],
      res := #[{ guard := 0 }] }
  let w := (sched w aStart 1 0 0 0).1
  let w := (sched w aStart 2 0 0 0).1
  (sched w aStart 3 0 0 0).1

end CimbaModel.Sim
