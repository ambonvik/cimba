/-
  S1 — `DeadRec` (the record of a finished process stays empty) is preserved by every command,
  every resumption and every dispatched event; a running process stays running until it ends.
-/
import CimbaModel.Sim.S1Dead

namespace CimbaModel.Sim
open CimbaModel CimbaModel.Event CimbaModel.Generated
open CimbaModel.HashHeap (HTag Item Order HH)

theorem finishProc_status (w : World) (z : Pid) (val : Int) (stopped : Bool) (q : Pid) :
    ((finishProc w z val stopped).proc q).status = if q = z ∧ z < w.procs.size then .finished else (w.proc q).status := by
  rw [finishProc_eq, proc_modProc]
  have hsz : (wakeWaiters (finishMid w z stopped) z (if stopped then sigStopped else sigSuccess)).procs.size = w.procs.size := by
    unfold finishMid; split <;> simp
  rw [hsz]
  split
  · rfl
  · unfold finishMid; split <;> simp

/-- only the end of a process changes a status -/
theorem cmdScope_status (c : Cmd) (h1 : ∀ z v, c ≠ .stop z v) (h2 : ∀ v, c ≠ .exit v) : (cmdScope c).status = .no := by
  cases c
  case stop z v => exact absurd rfl (h1 z v)
  case exit v => exact absurd rfl (h2 v)
  case recStart kind _ => match kind with | 0 | 1 | 2 | 3 | _ + 4 => rfl
  case recStop kind _ => match kind with | 0 | 1 | 2 | 3 | _ + 4 => rfl
  all_goals rfl

theorem execCmd_status (w : World) (p : Pid) (c : Cmd) (q : Pid)
    (h1 : ∀ z v, c ≠ .stop z v) (h2 : ∀ v, c ≠ .exit v) :
    ((execCmd w p c).1.proc q).status = (w.proc q).status :=
  (Eff.execCmd w p c).outside.status q (.inl (cmdScope_status c h1 h2))

/-- no continuation of a suspended call touches these -/
theorem frameScope_keeps (f : Frame) :
    (frameScope f).prio = .no ∧ (frameScope f).status = .no ∧ (frameScope f).pc = .no ∧ (frameScope f).exitVal = .no := by
  cases f <;> exact ⟨rfl, rfl, rfl, rfl⟩

theorem resumeFrame_keeps (w : World) (p : Pid) (f : Frame) (sig : Int) (q : Pid) :
    ((resumeFrame w p f sig).1.proc q).prio = (w.proc q).prio ∧
    ((resumeFrame w p f sig).1.proc q).status = (w.proc q).status ∧
    ((resumeFrame w p f sig).1.proc q).pc = (w.proc q).pc ∧
    ((resumeFrame w p f sig).1.proc q).script = (w.proc q).script ∧
    ((resumeFrame w p f sig).1.proc q).exitVal = (w.proc q).exitVal :=
  have o := (Eff.resumeFrame w p f sig).outside
  have k := frameScope_keeps f
  ⟨o.prio q (.inl k.1), o.status q (.inl k.2.1), o.pc q (.inl k.2.2.1), o.script q, o.exitVal q (.inl k.2.2.2)⟩

section
variable (w : World) (p : Pid) (f : Frame) (sig : Int) (q : Pid)
@[simp] theorem resumeFrame_prio : ((resumeFrame w p f sig).1.proc q).prio = (w.proc q).prio :=
  (resumeFrame_keeps w p f sig q).1
@[simp] theorem resumeFrame_status : ((resumeFrame w p f sig).1.proc q).status = (w.proc q).status :=
  (resumeFrame_keeps w p f sig q).2.1
@[simp] theorem resumeFrame_pc : ((resumeFrame w p f sig).1.proc q).pc = (w.proc q).pc :=
  (resumeFrame_keeps w p f sig q).2.2.1
@[simp] theorem resumeFrame_script : ((resumeFrame w p f sig).1.proc q).script = (w.proc q).script :=
  (resumeFrame_keeps w p f sig q).2.2.2.1
@[simp] theorem resumeFrame_exitVal : ((resumeFrame w p f sig).1.proc q).exitVal = (w.proc q).exitVal :=
  (resumeFrame_keeps w p f sig q).2.2.2.2
end

theorem running_ne_finished {x : Proc} (h : x.status = .running) : x.status ≠ .finished := by
  rw [h]; decide

/-- every command other than `stop` / `exit` keeps `DeadRec` and the caller alive: most commands touch no record
    but the caller's; the others act on a running process, or take away from the record of a process -/
theorem dra_execCmd {p : Pid} {w : World} (h : DeadRecA p w) (c : Cmd)
    (h1 : ∀ z v, c ≠ .stop z v) (h2 : ∀ v, c ≠ .exit v) : DeadRecA p (execCmd w p c).1 := by
  cases hc : c.isLocal
  case true => exact dra_of_local h (execCmd_proc_ne w p c hc) (execCmd_status w p c p h1 h2)
  cases c
  all_goals try (cases hc; done)
  case stop z v => exact absurd rfl (h1 z v)
  case exit v => exact absurd rfl (h2 v)
  case timersClearOf z =>
    simp only [execCmd]
    split
    · exact h
    · exact ⟨dr_timersClear h.1 z, (timersClear_status ..).trans h.2⟩
  case timerAddOf z d sig =>
    simp only [execCmd]
    split
    · exact h
    · rename_i hz
      exact ⟨dr_timerAdd h.1 z d sig (by simpa [isRunning] using hz), (timerAdd_status ..).trans h.2⟩
  case prioSet z v =>
    have o := (Eff.execCmd w p (.prioSet z v)).outside
    exact ⟨h.1.of_out o rfl, (o.status p (.inl rfl)).trans h.2⟩
  case waitProc z =>
    simp only [execCmd]
    split
    · exact h
    · split
      · exact h
      · rename_i hz
        have ha : DeadRecA p (addAwait w p (.proc z)) :=
          dra_of_local h (fun q hq => addAwait_proc_ne w p q hq _) (addAwait_status ..)
        have hw : DeadRecA p ((addAwait w p (.proc z)).modProc z fun y => { y with waiters := p :: y.waiters }) :=
          ⟨dr_modProc_waiters ha.1 z _ (by simpa using hz) (fun _ => ⟨rfl, rfl, rfl, rfl⟩),
           (modProc_status_keep _ _ _ _ (by intro; rfl)).trans ha.2⟩
        exact dra_of_local hw (fun q hq => block_proc_ne _ p q hq _) (block_status ..)
  case preempt r =>
    have hgrab : ∀ {w : World}, DeadRecA p w → DeadRecA p (grab w r p) :=
      fun h => dra_of_local h (fun q hq => grab_proc_ne _ p q hq r) (grab_status ..)
    simp only [execCmd]
    split
    · exact h
    · split
      · exact h
      · split
        · exact dra_of_procs (hgrab h) (recordRes_procs ..)
        · rename_i victim _
          split
          · dsimp only
            apply hgrab
            exact dra_of_procs (dra_cancelAwaiteds (dra_removeHeld h victim (.res r)) victim) (sched_procs ..)
          · exact dra_of_local h (fun q hq => acquireStep_proc_ne w p q hq r) (acquireStep_status ..)
  case poolPreempt pl n =>
    simp only [execCmd]
    split
    · exact h
    · split
      · exact h
      · exact dra_poolLoop h ..

theorem dr_execCmd {w : World} (h : DeadRec w) (p : Pid) (hrun : (w.proc p).status = .running) (c : Cmd) :
    DeadRec (execCmd w p c).1 := by
  by_cases h1 : ∃ z v, c = .stop z v
  · obtain ⟨z, v, rfl⟩ := h1
    simp only [execCmd]
    split
    · exact dr_finishProc h p v true
    · split
      · exact dr_finishProc h z v true
      · exact h
  · by_cases h2 : ∃ v, c = .exit v
    · obtain ⟨v, rfl⟩ := h2
      exact dr_finishProc h p v false
    · exact (dra_execCmd ⟨h, hrun⟩ c (fun z v e => h1 ⟨z, v, e⟩) (fun v e => h2 ⟨v, e⟩)).1

theorem execCmd_running (w : World) (p : Pid) (hrun : (w.proc p).status = .running) (c : Cmd)
    (hne : ∀ w', execCmd w p c ≠ (w', .ended)) : ((execCmd w p c).1.proc p).status = .running := by
  by_cases h1 : ∃ z v, c = .stop z v
  · obtain ⟨z, v, rfl⟩ := h1
    by_cases hz : z = p
    · subst hz
      exact absurd (by simp only [execCmd, if_true]) (hne (finishProc w z v true))
    · simp only [execCmd, hz, if_false]
      split
      · rw [finishProc_status]
        have : ¬ p = z := fun e => hz e.symm
        simp [this, hrun]
      · exact hrun
  · by_cases h2 : ∃ v, c = .exit v
    · obtain ⟨v, rfl⟩ := h2
      exact absurd (by simp only [execCmd]) (hne (finishProc w p v false))
    · rw [execCmd_status w p c p (fun z v e => h1 ⟨z, v, e⟩) (fun v e => h2 ⟨v, e⟩)]; exact hrun

theorem dra_resumeFrame {p : Pid} {w : World} (h : DeadRecA p w) (f : Frame) (sig : Int) :
    DeadRecA p (resumeFrame w p f sig).1 := by
  cases hf : f.isLocal
  case true => exact dra_of_local h (resumeFrame_proc_ne w p f sig hf) (resumeFrame_status ..)
  cases f
  all_goals try (cases hf; done)
  case waitProc z =>
    simp only [resumeFrame]
    have hr : DeadRecA p (removeAwait w p (.proc z)).1 :=
      dra_of_local h (fun q hq => removeAwait_proc_ne w p q hq _) (removeAwait_status ..)
    split
    · split
      · refine ⟨dr_modProc_shrink hr.1 z _ ⟨rfl, fun e => e, fun e => e, ?_, fun e => e⟩,
          (modProc_status_keep _ _ _ _ (by intro; rfl)).trans hr.2⟩
        intro e; dsimp only; rw [e]; rfl
      · dsimp only; exact dra_of_procs hr (cancelKindFor_procs ..)
    · exact hr
  case pool pl rem initially preempt =>
    simp only [resumeFrame]
    split
    · exact h
    · rename_i x _
      have hl := dra_guardWaitLeave h x.guard p sig
      split
      · exact dra_of_local hl (fun q hq => poolRollback_proc_ne _ p q hq ..) (poolRollback_status ..)
      · exact dra_poolLoop hl ..

theorem dr_kept : Kept DeadRec fun p w => p < w.procs.size → (w.proc p).status = .running where
  emit {w} h l := h.of_procs (emit_procs w l)
  fail {w} h m := h.of_procs (fail_procs w m)
  pc h p _ := dr_modProc_shrink h p _ ⟨rfl, fun e => e, fun e => e, fun e => e, fun e => e⟩
  finish h p := dr_finishProc h p 0 false
  exec {w} h p hc c _ hs l :=
    dr_execCmd (h.of_procs (emit_procs w l)) p ((emit_proc ..).symm ▸ hc (lt_np_of_script w p _ _ hs)) c
  next {w} _ p hc c _ hs l0 w1 o l _ heq ho _ := by
    have hr : ((w.emit l0).proc p).status = .running := (emit_proc ..).symm ▸ hc (lt_np_of_script w p _ _ hs)
    have h3 := execCmd_running _ p hr c (by rw [heq]; rintro w' ⟨⟩; rcases ho with ⟨_, _, e⟩ | e <;> cases e)
    rw [heq] at h3
    rw [modProc_status_keep _ _ _ _ (by intro; rfl), emit_proc]; exact h3
  resume {w} h p f hrun _ sig := by
    have key : DeadRecA p (resumeFrame (w.modProc p fun y => { y with blocked := none }) p f sig).1 :=
      dra_resumeFrame ⟨dr_modProc_shrink h p _ ⟨rfl, fun e => e, fun e => e, fun e => e, fun _ => rfl⟩,
        (modProc_status_keep _ _ _ _ (by intro; rfl)).trans hrun⟩ f sig
    refine ⟨key.1, fun w1 v extra l n heq _ => ?_⟩
    rw [heq] at key
    rw [modProc_status_keep _ _ _ _ (by intro; rfl), emit_proc]; exact key.2
  pop {w} h t ev' _ := show DeadRec (afterPop w t ev') from h.of_proc (afterPop_proc w t ev')
  start h z _ :=
    ⟨dr_modProc_alive h _ _ rfl, fun hlt => by rw [proc_modProc_self _ _ _ (by simpa using hlt)]⟩
  untime h _ _ := dr_removeAwait h _ _
  unawaitKind {w} h t ev' _ k _ :=
    show DeadRec (removeAwaitKind (afterPop w t ev') (t.item.b - 1) k).1 from
      dr_removeAwaitKind (h.of_proc (afterPop_proc w t ev')) _ _
  cancel h _ := dr_cancelAwaiteds h _

theorem dr_dispatch {w w' : World} (h : DeadRec w) (hd : dispatch w = some w') : DeadRec w' := dr_kept.dispatch h hd

theorem dr_runAll (fuel : Nat) {w : World} (h : DeadRec w) : DeadRec (runAll fuel w) := dr_kept.runAll fuel h

/-- **a finished process never executes**: the interpreter only runs a process through `resumeProc`, which refuses a
    process that is not running (it records a fault and changes nothing else), or through a start event -/
theorem resumeProc_not_running (w : World) (p : Pid) (sig : Int) (h : (w.proc p).status ≠ .running) :
    resumeProc w p sig = w.fail s!"resume of a process that is not running: {p}" := by
  unfold resumeProc; simp [h]

end CimbaModel.Sim
