/-
  S2 — object queues (C12, FIFO part): `putLog = gotLog ++ items` and `items.length ≤ cap` in every reachable state.
-/
import CimbaModel.Sim.S2Cmd

namespace CimbaModel.Sim
open CimbaModel CimbaModel.Event CimbaModel.Generated
open CimbaModel.HashHeap (HTag Item Order HH)

structure OQOK (x : OQ) : Prop where
  /-- FIFO and exactly-once in one equation: what was delivered, followed by what is queued, is what was put, in put order -/
  fifo : x.putLog = x.gotLog ++ x.items
  inCap : x.items.length ≤ x.cap

def OQInv (w : World) : Prop := ArrAll OQOK w.oqs

theorem OQOK.stable : oqK.Stable OQOK where
  T t ok := by
    have c := ok.fifo
    have l := ok.inCap
    cases t with
    | get hit => exact ⟨by simp [c, hit], by simp [hit] at l ⊢; omega⟩
    | put _ hroom => exact ⟨by simp [c], by simp; omega⟩
  push _ _ ok := ⟨ok.fifo, ok.inCap⟩
  flag _ _ ok := ⟨ok.fifo, ok.inCap⟩

theorem objOQ : ObjKind oqK World.oqs where
  same hs := hs.oqs_eq
  tick _ _ _ := rfl
  clear _ _ _ := rfl
  exec w p c := (execCmd_ft w p c).toObjOQ
  resume w p f sig := (resumeFrame_ft w p f sig).toObjOQ
  finish w p v st := (finishProc_ft w p v st).toObjOQ

theorem OQInv.preserved : Preserved OQInv := objOQ.preserved OQOK.stable

end CimbaModel.Sim
