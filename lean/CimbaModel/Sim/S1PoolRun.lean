/-
  S1 — the invariants of the holder lists through every command, resumption, dispatch and the run loop: once for any
  `PoolCarried` invariant, then for `PInv`.
-/
import CimbaModel.Sim.S1Pool

namespace CimbaModel.Sim
open CimbaModel CimbaModel.Event CimbaModel.Generated
open CimbaModel.HashHeap (HTag Item Order HH WF)

/-- all commands leave the pool view alone but the six that end a process (it drops everything), re-sort the holder
    records, or move pool units -/
theorem poolSame_execCmd (w : World) (p : Pid) (c : Cmd) :
    match c with
    | .stop .. | .exit _ | .prioSet .. | .poolAcquire .. | .poolPreempt .. | .poolRelease .. => True
    | _ => PoolSame w (execCmd w p c).1 := by
  cases c
  case stop | exit | prioSet | poolAcquire | poolPreempt | poolRelease => trivial
  case recStart kind _ => match kind with | 0 | 1 | 2 | 3 | _ + 4 => exact .of_out (Eff.execCmd w p _).outside
  case recStop kind _ => match kind with | 0 | 1 | 2 | 3 | _ + 4 => exact .of_out (Eff.execCmd w p _).outside
  all_goals exact .of_out (Eff.execCmd w p _).outside

theorem poolSame_resumeFrame (w : World) (p : Pid) (f : Frame) (sig : Int) :
    match f with
    | .pool .. => True
    | _ => PoolSame w (resumeFrame w p f sig).1 := by
  cases f
  case pool => trivial
  all_goals exact .of_out (Eff.resumeFrame w p _ sig).outside

namespace PoolCarried
variable {P : World → Prop} (hP : PoolCarried P)
include hP

theorem execCmd {w : World} (h : P w) (p : Pid) (hp : p < w.procs.size) (c : Cmd) : P (execCmd w p c).1 := by
  have hs := poolSame_execCmd w p c
  cases c
  case stop q v =>
    simp only [Sim.execCmd]
    split
    · exact hP.finishProc h p v true
    · split
      · exact hP.finishProc h q v true
      · exact h
  case exit v => exact hP.finishProc h p v false
  case prioSet q v => exact hP.prioSet h p q v
  case poolAcquire pl n =>
    simp only [Sim.execCmd]
    split; exact h; split; exact h; exact hP.poolLoop h p hp pl n _ false
  case poolPreempt pl n =>
    simp only [Sim.execCmd]
    split; exact h; split; exact h; exact hP.poolLoop h p hp pl n _ true
  case poolRelease pl n => exact hP.poolRelease h p pl n
  all_goals exact hP.same h hs

theorem resumeFrame {w : World} (h : P w) (p : Pid) (hp : p < w.procs.size) (f : Frame) (sig : Int) :
    P (resumeFrame w p f sig).1 := by
  have hs := poolSame_resumeFrame w p f sig
  cases f
  case pool pl rem initially preempt =>
    simp only [Sim.resumeFrame]
    split
    · exact h
    · rename_i x _
      have h1 := hP.same h (poolSame_guardWaitLeave w x.guard p sig)
      split
      · dsimp only; exact hP.poolRollback h1 p pl initially
      · exact hP.poolLoop h1 p (by simpa using hp) pl rem initially preempt
  all_goals exact hP.same h hs

theorem kept : Kept P fun _ _ => True where
  emit {w} h l := hP.same h (poolSame_emit w l)
  fail {w} h m := hP.same h (poolSame_fail w m)
  pc {w} h p _ := hP.same h (poolSame_modProc w p _ fun _ => rfl)
  finish h p := hP.finishProc h p 0 false
  exec {w} h p _ c _ hs l :=
    hP.execCmd (hP.same h (poolSame_emit w l)) p (by simpa using lt_np_of_script w p _ _ hs) c
  next _ _ _ _ _ _ _ _ _ _ _ _ _ := trivial
  resume {w} h p f hr _ sig :=
    ⟨hP.resumeFrame (hP.same h (poolSame_modProc w p (fun y => { y with blocked := none }) fun _ => rfl)) p
      (by simpa using lt_np_of_status w p (by rw [hr]; decide)) f sig, fun _ _ _ _ _ _ => trivial⟩
  pop {w} h t ev' _ :=
    show P (afterPop w t ev') from hP.same h (.after (poolSame_wakeEventWaiters _ _ _) poolSame_mk)
  start {w} h z _ := ⟨hP.same h (poolSame_modProc w z _ fun _ => rfl), trivial⟩
  untime {w} h z k := hP.same h (poolSame_removeAwait w z _)
  unawaitKind {w} h t ev' _ k _ :=
    show P (removeAwaitKind (afterPop w t ev') (t.item.b - 1) k).1 from
      hP.same (hP.same h (.after (poolSame_wakeEventWaiters _ _ _) poolSame_mk)) (poolSame_removeAwaitKind _ _ k)
  cancel {w} h z := hP.same h (poolSame_cancelAwaiteds w z)

theorem runScript (fuel : Nat) {w : World} (h : P w) (p : Pid) : P (runScript fuel w p) := hP.kept.runScript p fuel h trivial

theorem resumeProc {w : World} (h : P w) (p : Pid) (sig : Int) : P (resumeProc w p sig) := hP.kept.resumeProc h p sig

theorem dispatch {w w' : World} (h : P w) (hd : dispatch w = some w') : P w' := hP.kept.dispatch h hd

theorem runAll (fuel : Nat) {w : World} (h : P w) : P (runAll fuel w) := hP.kept.runAll fuel h

end PoolCarried

theorem pinv_execCmd {w : World} (h : PInv w) (p : Pid) (hp : p < w.procs.size) (c : Cmd) : PInv (execCmd w p c).1 :=
  PInv.carried.execCmd h p hp c

theorem pinv_resumeFrame {w : World} (h : PInv w) (p : Pid) (hp : p < w.procs.size) (f : Frame) (sig : Int) :
    PInv (resumeFrame w p f sig).1 := PInv.carried.resumeFrame h p hp f sig

theorem pinv_dispatch {w w' : World} (h : PInv w) (hd : dispatch w = some w') : PInv w' := PInv.carried.dispatch h hd

theorem pinv_runAll : ∀ (fuel : Nat) {w : World}, PInv w → PInv (runAll fuel w) := PInv.carried.runAll
