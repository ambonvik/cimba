/-
  S3 — the grant invariant: what a signal does to it.
  A complete signal of `g` never hurts (`GI` is monotone under signals) and repairs a deficit of one at `g`'s object end.
-/
import CimbaModel.Sim.S3GrantBase
import CimbaModel.Sim.S3Grant

namespace CimbaModel.Sim.S3
open CimbaModel CimbaModel.Sim CimbaModel.Event CimbaModel.Generated CimbaModel.KPQ
open CimbaModel.HashHeap (HTag Item Order HH WF abs liveTags)

/-- what the signal lemmas need to know about the waiting lists -/
structure QI (ex : Pid → Prop) (w : World) : Prop where
  ei : EvInv w.ev
  gwf : AllGWF w
  gk : ∀ g k, queued w g k → k ≠ 0 ∧ (¬ ex (k - 1) → Await.guard g ∈ (w.proc (k - 1)).awaits)
  hg : HG w

theorem GInv.toQI {ex : Pid → Prop} {fr : Pid → Option Frame} {w : World} (h : GInv ex fr w) (hg : HG w) : QI ex w :=
  ⟨h.ei, h.gw, fun g k hq => ⟨(h.gk g k hq).1, (h.gk g k hq).2.2⟩, hg⟩

theorem gOf_congr {w w' : World} (hr : w'.res = w.res) (hpl : w'.pools = w.pools) (hb : w'.bufs = w.bufs)
    (ho : w'.oqs = w.oqs) (hq : w'.pqs = w.pqs) (d : Demand) : gOf w' d = gOf w d := by
  cases d <;> simp only [gOf, hr, hpl, hb, ho, hq]

theorem need_congr {w w' : World} (hr : w'.res = w.res) (hpl : w'.pools = w.pools) (hb : w'.bufs = w.bufs)
    (ho : w'.oqs = w.oqs) (hq : w'.pqs = w.pqs) (d : Demand) : need w' d = need w d := by
  cases d <;> simp only [need, hr, hpl, hb, ho, hq]

theorem grantOf_congr {w w' : World} (hp : ∀ x, (w'.proc x).awaits = (w.proc x).awaits) (g : Nat) (e : HTag) :
    grantOf w' g e ↔ grantOf w g e := by
  unfold grantOf; rw [hp]

theorem sigRel_queued {w w' : World} (hrel : SigRel w w') {g k : Nat} (hq : queued w' g k) : queued w g k := by
  obtain ⟨gd', hg', hk⟩ := hq
  have hsz : g < w.guards.size := by
    rw [← hrel.gsize]; exact lt_of_getElem? hg'
  obtain ⟨gd'', hg'', _, _, _, _, hsub⟩ := hrel.guards g _ (Array.getElem?_eq_getElem hsz)
  rw [hg'] at hg''; cases hg''
  exact ⟨_, Array.getElem?_eq_getElem hsz, keys_subset_of_subset hsub hk⟩

theorem QI.ofSigRel {ex : Pid → Prop} {w w' : World} (hq : QI ex w) (hrel : SigRel w w') : QI ex w' := by
  refine ⟨hrel.evinv hq.ei, hrel.wf, ?_, ?_⟩
  · intro g k hk
    have := hq.gk g k (sigRel_queued hrel hk)
    rw [hrel.proc]; exact this
  · intro d g hd gd' hg' k hk
    rw [gOf_congr hrel.res hrel.pools hrel.bufs hrel.oqs hrel.pqs] at hd
    have hsz : g < w.guards.size := by rw [← hrel.gsize]; exact lt_of_getElem? hg'
    obtain ⟨gd'', hg'', _, hdem, _, _, hsub⟩ := hrel.guards g _ (Array.getElem?_eq_getElem hsz)
    rw [hg'] at hg''; cases hg''
    have := hq.hg d g hd _ (Array.getElem?_eq_getElem hsz) k (keys_subset_of_subset hsub hk)
    unfold demandOf at this ⊢
    rw [hdem]; exact this

/-- under a signal nothing is lost: queues shrink, grants are only added -/
theorem sigRel_G_le {w w' : World} (hi : EvInv w.ev) (hrel : SigRel w w') (g : Nat) : G w g ≤ G w' g := by
  refine G_le_of_keep hi g ?_
  intro e he hg
  obtain ⟨new, hp, _, _⟩ := hrel.pending
  refine ⟨e, by rw [hp]; exact List.mem_append_right _ he, rfl, ?_⟩
  exact (grantOf_congr (fun x => by rw [hrel.proc]) g e).2 hg

/-- `GI` under a complete signal of `g`: the deficit at `g`'s object end shrinks by one, nothing else changes -/
theorem GI.guardSignal {ex : Pid → Prop} {w : World} {df df' : Demand → Nat} (hq : QI ex w) (hgi : GI df w) (fuel : Nat) (g : Nat)
    (hex : ∀ k, queued w g k → ¬ ex (k - 1))
    (h1 : ∀ d, gOf w d = some g → df d ≤ df' d + 1) (h2 : ∀ d, gOf w d ≠ some g → df d ≤ df' d) :
    GI df' (guardSignal (fuel + 1) w g) := by
  have hrel := guardSignal_rel (fuel + 1) w g hq.gwf
  intro d g' hd hqne
  rw [gOf_congr hrel.res hrel.pools hrel.bufs hrel.oqs hrel.pqs] at hd
  rw [need_congr hrel.res hrel.pools hrel.bufs hrel.oqs hrel.pqs]
  obtain ⟨k', hk'⟩ := hqne
  have hqw : Qne w g' := ⟨k', sigRel_queued hrel hk'⟩
  have hold := hgi d g' hd hqw
  have hmono := sigRel_G_le hq.ei hrel g'
  by_cases hgg : g' = g
  · subst hgg
    have hdf := h1 d hd
    obtain ⟨gd, hg, hkq⟩ := sigRel_queued hrel hk'
    have hwf := hq.gwf g' gd hg
    have hpos : 0 < gd.q.count := by
      rw [← HashHeap.abs_length gd.q]
      obtain ⟨e, he, _⟩ := Event.mem_keys.1 hkq
      exact List.length_pos_of_mem he
    have hfront : (gd.q.tag 1).key ∈ keys (abs gd.q) :=
      Event.mem_keys.2 ⟨_, ((frontStep_spec w g' gd hwf).2 hpos).1.1, rfl⟩
    have hdem := hq.hg d g' hd gd hg _ hfront
    cases hev : evalDemand w d with
    | false =>
      have : need w d = 0 := by
        have h3 := evalDemand_need w d (gOf_not_cond hd)
        rw [hev] at h3
        rcases Nat.eq_zero_or_pos (need w d) with h | h
        · exact h
        · exact absurd (h3.2 h) (by decide)
      omega
    | true =>
      rw [← hdem] at hev
      obtain ⟨_, hmem, _, _⟩ := guardSignal_grants (fuel := fuel) hg hq.gwf hpos hev
      have hfq : queued w g' (gd.q.tag 1).key := ⟨gd, hg, hfront⟩
      obtain ⟨hk0, haw⟩ := hq.gk g' _ hfq
      have hnew : G w g' + 1 ≤ G (Sim.guardSignal (fuel + 1) w g') g' := by
        refine G_succ_le_of_new hq.ei g' hmem ?_ ?_ ?_
        · refine ⟨⟨rfl, by simp [mkEv, encSig, sigSuccess]⟩, ?_⟩
          rw [hrel.proc]; exact haw (hex _ hfq)
        · intro e he hk
          have := S3.EvInv.key_le hq.ei he
          rw [hk] at this
          simp only [mkEv] at this
          omega
        · intro e he hgr
          obtain ⟨new, hp, _, _⟩ := hrel.pending
          exact ⟨e, by rw [hp]; exact List.mem_append_right _ he, rfl,
            (grantOf_congr (fun x => by rw [hrel.proc]) g' e).2 hgr⟩
      omega
  · have := h2 d (fun h => hgg (Option.some.inj (hd.symm.trans h)))
    omega

theorem GI.signal {ex : Pid → Prop} {w : World} {df df' : Demand → Nat} (hq : QI ex w) (hgi : GI df w) (g : Nat)
    (hex : ∀ k, queued w g k → ¬ ex (k - 1))
    (h1 : ∀ d, gOf w d = some g → df d ≤ df' d + 1) (h2 : ∀ d, gOf w d ≠ some g → df d ≤ df' d) :
    GI df' (signal w g) := GI.guardSignal hq hgi 7 g hex h1 h2

theorem QI.signal {ex : Pid → Prop} {w : World} (hq : QI ex w) (g : Nat) : QI ex (signal w g) :=
  hq.ofSigRel (signal_rel w g hq.gwf)

end CimbaModel.Sim.S3
