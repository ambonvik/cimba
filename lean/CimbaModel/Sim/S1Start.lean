/-
  S1 — (re)starting a process (C09): the dispatch of a start event.
-/
import CimbaModel.Sim.S1Dead

namespace CimbaModel.Sim
open CimbaModel CimbaModel.Event CimbaModel.Generated
open CimbaModel.HashHeap (HTag Item Order HH)

def startWorld (w : World) (t : HTag) (ev' : EvQ) : World :=
  (afterPop w t ev').modProc (t.item.b - 1) fun y => { y with status := .running, pc := 0, blocked := none }

/-- **dispatching a start event** for a process that is not running runs its script from `startWorld` -/
theorem dispatch_start (w : World) (t : HTag) (ev' : EvQ) (hex : executeNext w.ev = some (t, ev'))
    (ha : t.item.a = aStart) (hnr : (w.proc (t.item.b - 1)).status ≠ .running) :
    dispatch w = some (runScript ((w.proc (t.item.b - 1)).script.size + 2) (startWorld w t ev') (t.item.b - 1)) := by
  unfold dispatch
  simp only [hex, ha, if_true]
  have e : (afterPop w t ev').proc (t.item.b - 1) = w.proc (t.item.b - 1) := afterPop_proc w t ev' _
  unfold afterPop at e
  simp only [e, hnr, if_false]
  have e2 : ((startWorld w t ev').proc (t.item.b - 1)).script = (w.proc (t.item.b - 1)).script := by
    unfold startWorld
    refine (modProc_field Proc.script _ _ _ ?_ _).trans (by rw [afterPop_proc])
    intro; rfl
  unfold startWorld afterPop at e2
  rw [e2]
  rfl

/-- **a (re)started process begins at the start of its function**, running, not suspended, with the awaits and
    holdings it had before — which are empty for a process that had finished (`DeadRec`) -/
theorem startWorld_record (w : World) (t : HTag) (ev' : EvQ) (hp : t.item.b - 1 < w.procs.size) :
    ((startWorld w t ev').proc (t.item.b - 1)).status = .running ∧
    ((startWorld w t ev').proc (t.item.b - 1)).pc = 0 ∧
    ((startWorld w t ev').proc (t.item.b - 1)).blocked = none ∧
    ((startWorld w t ev').proc (t.item.b - 1)).awaits = (w.proc (t.item.b - 1)).awaits ∧
    ((startWorld w t ev').proc (t.item.b - 1)).held = (w.proc (t.item.b - 1)).held ∧
    ((startWorld w t ev').proc (t.item.b - 1)).waiters = (w.proc (t.item.b - 1)).waiters := by
  unfold startWorld
  rw [proc_modProc_self _ _ _ (by simpa using hp), afterPop_proc]
  exact ⟨rfl, rfl, rfl, rfl, rfl, rfl⟩

theorem restart_clean {w : World} (h : DeadRec w) (t : HTag) (ev' : EvQ) (hp : t.item.b - 1 < w.procs.size)
    (hfin : (w.proc (t.item.b - 1)).status = .finished) :
    ((startWorld w t ev').proc (t.item.b - 1)).status = .running ∧
    ((startWorld w t ev').proc (t.item.b - 1)).pc = 0 ∧
    ((startWorld w t ev').proc (t.item.b - 1)).blocked = none ∧
    ((startWorld w t ev').proc (t.item.b - 1)).awaits = [] ∧
    ((startWorld w t ev').proc (t.item.b - 1)).held = [] ∧
    ((startWorld w t ev').proc (t.item.b - 1)).waiters = [] := by
  obtain ⟨a, b, c, d, e, f⟩ := startWorld_record w t ev' hp
  obtain ⟨h1, h2, h3, _⟩ := h.clean _ hfin
  exact ⟨a, b, c, d.trans h2, e.trans h1, f.trans h3⟩

end CimbaModel.Sim
