/-
  S3 — `PInv`: what does not touch the process / event registrations: changing the other awaits of a process (timers,
  guard waits), the logical frames, recording a frame and suspending.
-/
import CimbaModel.Sim.S3PInvFrame

namespace CimbaModel.Sim.S3
open CimbaModel CimbaModel.Sim CimbaModel.Event CimbaModel.Generated CimbaModel.KPQ
open CimbaModel.HashHeap (HTag Item Order HH WF abs liveTags)

variable {ex : Pid → Prop} {fr : Pid → Option Frame}

theorem mem_awaits_proc {w : World} {x q : Pid} : Await.proc q ∈ (w.proc x).awaits ↔ Await.proc q ∈ procAw w x := by
  unfold procAw; simp [List.mem_filter, isProcA]
theorem mem_awaits_event {w : World} {x : Pid} {h : Nat} : Await.event h ∈ (w.proc x).awaits ↔ Await.event h ∈ evAw w x := by
  unfold evAw; simp [List.mem_filter, isEventA]

/-- the process / event registrations, waiter lists and status are the same (other awaitables and the recorded frames
    may differ) -/
def SameReg (w w' : World) : Prop :=
  ∀ x, procAw w' x = procAw w x ∧ evAw w' x = evAw w x ∧ (w'.proc x).waiters = (w.proc x).waiters ∧
    (w'.proc x).status = (w.proc x).status

theorem PInv.congrReg {w w' : World} (hp : PInv ex fr w) (hc : SameReg w w')
    (hfb : ∀ x, ¬ ex x → (w'.proc x).blocked ≠ fr x → procAw w x = [] ∧ evAw w x = [])
    (hw : w'.evWaiters = w.evWaiters) (hev : w'.ev = w.ev) : PInv ex fr w' where
  ei := by rw [hev]; exact hp.ei
  sb := by rw [hev]; exact hp.sb
  es := by rw [hev, hw]; exact hp.es
  oh := by
    intro e he ha p hb hx h hh
    rw [hev] at he ⊢
    exact hp.oh e he ha p hb hx h (by rw [mem_awaits_event, ← (hc p).2.1, ← mem_awaits_event]; exact hh)
  ap := fun p => by rw [(hc p).1]; exact hp.ap p
  ae := fun p => by rw [(hc p).2.1]; exact hp.ae p
  ar := fun p h => by rw [(hc p).1, (hc p).2.1]; exact hp.ar p (by rw [← (hc p).2.2.2]; exact h)
  fb := fun p hx h => by rw [(hc p).1, (hc p).2.1]; exact hfb p hx h
  w1 := fun p q h hx => by
    rw [mem_awaits_proc, (hc q).1, ← mem_awaits_proc]; exact hp.w1 p q (by rw [← (hc p).2.2.1]; exact h) hx
  wn := fun p => by rw [(hc p).2.2.1]; exact hp.wn p
  e1 := fun h l q hm hq hx => by
    rw [mem_awaits_event, (hc q).2.1, ← mem_awaits_event]; exact hp.e1 h l q (by rw [← hw]; exact hm) hq hx
  en := by rw [hw]; exact hp.en
  op := by
    intro e he' ha p hb hx
    rw [hev] at he'
    obtain ⟨q, h1, h2⟩ := hp.op e he' ha p hb hx
    exact ⟨q, by rw [mem_awaits_proc, (hc p).1, ← mem_awaits_proc]; exact h1, by rw [(hc q).2.2.1]; exact h2⟩
  oe := by
    intro e he' ha p hb hx
    rw [hev] at he'
    obtain ⟨h, h1, h2⟩ := hp.oe e he' ha p hb hx
    exact ⟨h, by rw [mem_awaits_event, (hc p).2.1, ← mem_awaits_event]; exact h1,
      by unfold evWaitersOf at *; rw [hw]; exact h2⟩
  up := by
    rw [hev]; exact hp.up
  ue := by
    rw [hev]; exact hp.ue

theorem PInv.setFr {w : World} (hp : PInv ex fr w) (fr' : Pid → Option Frame)
    (hd : ∀ x, fr' x ≠ fr x → procAw w x = [] ∧ evAw w x = [])
    (hb : ∀ x, ¬ ex x → (w.proc x).blocked ≠ fr' x → procAw w x = [] ∧ evAw w x = []) : PInv ex fr' w :=
  { hp with
    ap := fun x => by
      by_cases h : fr' x = fr x
      · rw [h]; exact hp.ap x
      · exact Or.inl (hd x h).1
    ae := fun x => by
      by_cases h : fr' x = fr x
      · rw [h]; exact hp.ae x
      · exact Or.inl (hd x h).2
    fb := hb }

theorem PInv.toBlocked {w : World} (hp : PInv ex fr w) (hne : ∀ x, ¬ ex x) : PInv ex (blockedOf w) w :=
  hp.setFr (blockedOf w) (fun x h => hp.fb x (hne x) h) (fun _ _ h => absurd rfl h)

theorem PInv.mapAwaits {w : World} (hp : PInv ex fr w) (p : Pid) (g : List Await → List Await)
    (hgp : ∀ l, (g l).filter isProcA = l.filter isProcA) (hge : ∀ l, (g l).filter isEventA = l.filter isEventA) :
    PInv ex fr (w.modProc p fun x => { x with awaits := g x.awaits }) := by
  refine hp.congrReg ?_ ?_ rfl rfl
  · intro x
    unfold procAw evAw
    rw [modProc_proc]
    split
    · rename_i h; rw [h.1]; exact ⟨hgp _, hge _, rfl, rfl⟩
    · exact ⟨rfl, rfl, rfl, rfl⟩
  · intro x
    rw [modProc_proc]
    split
    · rename_i h; rw [h.1]; exact hp.fb _
    · exact hp.fb x

theorem PInv.addAwait_time {w : World} (hp : PInv ex fr w) (p : Pid) (h : Nat) : PInv ex fr (addAwait w p (.time h)) :=
  hp.mapAwaits p (fun l => .time h :: l) (fun _ => rfl) (fun _ => rfl)

theorem PInv.addAwait_guard {w : World} (hp : PInv ex fr w) (p : Pid) (g : Nat) : PInv ex fr (addAwait w p (.guard g)) :=
  hp.mapAwaits p (fun l => .guard g :: l) (fun _ => rfl) (fun _ => rfl)

theorem PInv.removeAwait_time {w : World} (hp : PInv ex fr w) (p : Pid) (h : Nat) : PInv ex fr (removeAwait w p (.time h)).1 := by
  rw [removeAwait_fst_eq]
  exact hp.mapAwaits p (fun l => (removeFirst l (.time h)).1) (fun l => removeFirst_filter_ne l _ _ rfl)
    (fun l => removeFirst_filter_ne l _ _ rfl)

theorem PInv.removeAwait_guard {w : World} (hp : PInv ex fr w) (p : Pid) (g : Nat) : PInv ex fr (removeAwait w p (.guard g)).1 := by
  rw [removeAwait_fst_eq]
  exact hp.mapAwaits p (fun l => (removeFirst l (.guard g)).1) (fun l => removeFirst_filter_ne l _ _ rfl)
    (fun l => removeFirst_filter_ne l _ _ rfl)


theorem PInv.removeAwaitKind_guard {w : World} (hp : PInv ex fr w) (p : Pid) : PInv ex fr (removeAwaitKind w p isGuardA).1 := by
  rw [removeAwaitKind_fst_eq]
  exact hp.mapAwaits p (fun l => (removeAwaitKind.go isGuardA l).1) (rak_go_filter _ _ isGuardA_not_proc)
    (rak_go_filter _ _ isGuardA_not_event)

theorem PInv.timerAdd_fst {w : World} (hp : PInv ex fr w) (p : Pid) (d sig : Int) : PInv ex fr (timerAdd w p d sig).1 :=
  (hp.sched_other aTime (p + 1) sig (w.now + d) (w.proc p).prio (by decide)).addAwait_time p _

theorem PInv.timerCancel_fst {w : World} (hp : PInv ex fr w) (p : Pid) (h : Nat) : PInv ex fr (timerCancel w p h).1 :=
  (hp.removeAwait_time p h).evCancel_fst h

theorem PInv.timersClear {w : World} (hp : PInv ex fr w) (p : Pid) : PInv ex fr (timersClear w p) := by
  unfold Sim.timersClear
  refine (Path.ofPred (PInv ex fr)).foldl (fun _ k h => h.evCancel_fst k) _ _ ?_
  refine hp.mapAwaits p (fun l => l.filter fun a => match a with | .time _ => false | _ => true) ?_ ?_
  · intro l; rw [List.filter_filter]; apply List.filter_congr; intro a _; cases a <;> rfl
  · intro l; rw [List.filter_filter]; apply List.filter_congr; intro a _; cases a <;> rfl

theorem PInv.guardWaitEnter {w : World} (hp : PInv ex fr w) (g : Nat) (p : Pid) (d : Demand) :
    PInv ex fr (guardWaitEnter w g p d) := by
  unfold Sim.guardWaitEnter
  split
  · exact hp.fail _
  · split
    · exact (PInv.guardFree.guards w _ hp).addAwait_guard p g
    · exact hp.fail _

theorem PInv.guardWaitLeave {w : World} (hp : PInv ex fr w) (g : Nat) (p : Pid) (sig : Int) :
    PInv ex fr (guardWaitLeave w g p sig) := by
  unfold Sim.guardWaitLeave
  apply PInv.removeAwait_guard
  split
  · exact PInv.foot.guardWithdraw w g p hp
  · exact hp

theorem PInv.nil_of_fr_none {w : World} (hp : PInv ex fr w) {p : Pid} (hfr : fr p = none) :
    procAw w p = [] ∧ evAw w p = [] := by
  constructor
  · rcases hp.ap p with h | ⟨q, h, _⟩
    · exact h
    · rw [hfr] at h; cases h
  · rcases hp.ae p with h | ⟨q, h, _⟩
    · exact h
    · rw [hfr] at h; cases h

theorem PInv.modBlocked {w : World} (hp : PInv ex fr w) (p : Pid) (b : Option Frame)
    (hnil : procAw w p = [] ∧ evAw w p = []) :
    PInv ex fr (w.modProc p fun x => { x with blocked := b }) := by
  have hsr : SameReg w (w.modProc p fun x => { x with blocked := b }) := by
    intro x
    unfold procAw evAw
    rw [modProc_proc]; split
    · rename_i h; rw [h.1]; exact ⟨rfl, rfl, rfl, rfl⟩
    · exact ⟨rfl, rfl, rfl, rfl⟩
  refine hp.congrReg hsr ?_ rfl rfl
  intro x
  rw [modProc_proc]
  split
  · rename_i h; rw [h.1]; exact fun _ _ => hnil
  · exact hp.fb x

theorem PInv.block_fst {w : World} (hp : PInv ex fr w) (p : Pid) (f : Frame) (hfr : fr p = none) :
    PInv ex (setFrame fr p (some f)) (block w p f).1 := by
  have hnil := hp.nil_of_fr_none hfr
  have haw : ∀ x, ((block w p f).1.proc x).awaits = (w.proc x).awaits := modProc_keep Proc.awaits _ _
  have hwt : ∀ x, ((block w p f).1.proc x).waiters = (w.proc x).waiters := modProc_keep Proc.waiters _ _
  have hst : ∀ x, ((block w p f).1.proc x).status = (w.proc x).status := modProc_keep Proc.status _ _
  have hbl : ∀ y, y ≠ p → ((block w p f).1.proc y).blocked = (w.proc y).blocked := fun y hy => by
    show ((w.modProc p _).proc y).blocked = _; rw [modProc_proc_ne _ _ hy]
  refine PInv.join
    (hp.procs.reframe _ hnil.1 (fun y => by unfold Kind.aw; rw [haw]) hbl (fun _ _ => Iff.rfl)
      (fun b y => by show y ∈ _ ↔ y ∈ _; rw [hwt]) fun _ he _ => he)
    (hp.events.reframe _ hnil.2 (fun y => by unfold Kind.aw; rw [haw]) hbl (fun _ _ => Iff.rfl) (fun _ _ => Iff.rfl)
      fun _ he _ => he)
    hp.ei (fun x hx => ?_) (fun x => by rw [hwt]; exact hp.wn x) hp.en hp.es
    fun e he ha x hb hx h hh => hp.oh e he ha x hb hx h (by rwa [haw] at hh)
  unfold procAw evAw; rw [haw]
  exact hp.ar x (by rwa [hst] at hx)

end CimbaModel.Sim.S3
