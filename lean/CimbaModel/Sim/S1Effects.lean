/-
  S1 — what some functions of the model do exactly, where a frame lemma does not say enough: the holdings after
  `dropResources`, the awaited things after `cancelAwaiteds`, the waiter list and the event queue after `wakeWaiters`,
  `finishProc` as its three steps and the record it leaves, the world in which `preempt` takes the resource.  No
  invariant is mentioned here; the three families `HInv`, `DeadRec`, `WInv` start from this file side by side.
-/
import CimbaModel.Sim.S1Frame

namespace CimbaModel.Sim
open CimbaModel CimbaModel.Event CimbaModel.Generated
open CimbaModel.HashHeap (HTag Item Order HH)

/-- one step of the loop of `cmi_process_drop_resources` -/
def dropStep (p : Pid) (w : World) (h : HoldRef) : World :=
  match h with
  | .res r =>
    match w.res[r]? with
    | some x =>
      let w := { w with res := w.res.set! r { x with holder := none } }
      let w := recordRes w r
      signal w x.guard
    | none => w
  | .pool pl => poolDropHolder w pl p

theorem dropResources_eq (w : World) (p : Pid) :
    dropResources w p = (w.proc p).held.foldl (dropStep p) (w.modProc p fun x => { x with held := [] }) := rfl

theorem dropStep_eq : @dropStep = @S3.dropStep := rfl

theorem dropResources_held (w : World) (p : Pid) (q : Pid) :
    ((dropResources w p).proc q).held = if q = p then [] else (w.proc q).held := by
  have hstep : ∀ w h, ((dropStep p w h).proc q).held = (w.proc q).held := by
    intro w h; unfold dropStep; splits_simp
  rw [dropResources_eq, foldl_keeps_proc Proc.held q _ hstep, proc_modProc]
  by_cases hq : q = p
  · subst hq
    by_cases hp : q < w.procs.size
    · simp [hp]
    · simp [hp, proc_oob w q hp]
  · simp [hq]

theorem cancelAwaiteds_awaits (w : World) (p q : Pid) :
    ((cancelAwaiteds w p).proc q).awaits = if q = p then [] else (w.proc q).awaits := by
  unfold cancelAwaiteds
  dsimp only
  rw [cancelAllFor_proc]
  fold_proc
  rw [proc_modProc]
  by_cases hq : q = p
  · subst hq
    by_cases hp : q < w.procs.size
    · simp [hp]
    · simp [hp, proc_oob w q hp]
  · simp [hq]

theorem wakeWaiters_waiters (w : World) (p : Pid) (sig : Int) (q : Pid) :
    ((wakeWaiters w p sig).proc q).waiters = if q = p then [] else (w.proc q).waiters := by
  unfold wakeWaiters
  dsimp only
  fold_proc
  rw [proc_modProc]
  by_cases hq : q = p
  · subst hq
    by_cases hp : q < w.procs.size
    · simp [hp]
    · simp [hp, proc_oob w q hp]
  · simp [hq]

theorem finishProc_eq (w : World) (p : Pid) (val : Int) (stopped : Bool) :
    finishProc w p val stopped =
      (wakeWaiters (finishMid w p stopped) p (if stopped then sigStopped else sigSuccess)).modProc p
        fun x => { x with status := .finished, exitVal := val, blocked := none } := by
  unfold finishProc finishMid
  cases stopped <;> rfl

/-- **the record of a process after its end** (return, exit: `stopped = false`; stop: `stopped = true`) -/
theorem finishProc_record (w : World) (p : Pid) (hp : p < w.procs.size) (val : Int) (stopped : Bool) :
    ((finishProc w p val stopped).proc p).held = [] ∧
    ((finishProc w p val stopped).proc p).awaits = [] ∧
    ((finishProc w p val stopped).proc p).waiters = [] ∧
    ((finishProc w p val stopped).proc p).status = .finished ∧
    ((finishProc w p val stopped).proc p).exitVal = val ∧
    ((finishProc w p val stopped).proc p).blocked = none := by
  rw [finishProc_eq]
  have hsz : p < (wakeWaiters (finishMid w p stopped) p (if stopped then sigStopped else sigSuccess)).procs.size := by
    unfold finishMid; split <;> simpa using hp
  rw [proc_modProc_self _ _ _ hsz]
  dsimp only
  refine ⟨?_, ?_, ?_, rfl, rfl, rfl⟩
  · rw [wakeWaiters_held]; unfold finishMid; split
    · rw [dropResources_held]; simp
    · rw [cancelAwaiteds_held, dropResources_held]; simp
  · rw [wakeWaiters_awaits]; unfold finishMid; split
    · rw [dropResources_awaits, cancelAwaiteds_awaits]; simp
    · rw [cancelAwaiteds_awaits]; simp
  · rw [wakeWaiters_waiters]; simp

/-- the events one wake-up loop creates for the processes `ws` (first woken first): consecutive handles after `c` -/
def wakeTags (act : Nat) (sig : Int) (now : Int) (prio : Pid → Int) : Nat → List Pid → List HTag
  | _, [] => []
  | c, q :: qs => { key := c + 1, item := ⟨act, q + 1, encSig sig, 0⟩, d := now, i := prio q } :: wakeTags act sig now prio (c + 1) qs

theorem wakeTags_length (act : Nat) (sig : Int) (now : Int) (prio : Pid → Int) (c : Nat) (ws : List Pid) :
    (wakeTags act sig now prio c ws).length = ws.length := by
  induction ws generalizing c with
  | nil => rfl
  | cons q qs ih => simp [wakeTags, ih]

theorem wakeTags_subjects (act : Nat) (sig : Int) (now : Int) (prio : Pid → Int) (c : Nat) (ws : List Pid) :
    (wakeTags act sig now prio c ws).map (·.item.b) = ws.map (· + 1) := by
  induction ws generalizing c with
  | nil => rfl
  | cons q qs ih => simp [wakeTags, ih]

theorem mem_wakeTags {act : Nat} {sig : Int} {now : Int} {prio : Pid → Int} {c : Nat} {ws : List Pid} {e : HTag}
    (he : e ∈ wakeTags act sig now prio c ws) :
    e.item.a = act ∧ e.item.c = encSig sig ∧ e.d = now ∧ c < e.key ∧ e.key ≤ c + ws.length ∧
      ∃ q ∈ ws, e.item.b = q + 1 ∧ e.i = prio q := by
  induction ws generalizing c with
  | nil => simp [wakeTags] at he
  | cons q qs ih =>
    simp only [wakeTags, List.mem_cons] at he
    rcases he with rfl | he
    · exact ⟨rfl, rfl, rfl, by simp, by simp, q, List.mem_cons_self, rfl, rfl⟩
    · obtain ⟨a, b, c', d, e', q', hq', f⟩ := ih he
      exact ⟨a, b, c', by omega, by simp; omega, q', List.mem_cons_of_mem _ hq', f⟩

theorem foldl_sched_pending (act : Nat) (sig : Int) (ws : List Pid) (w : World) :
    (ws.foldl (fun w q => (sched w act (q + 1) sig w.now (w.proc q).prio).1) w).ev.pending =
      (wakeTags act sig w.now (fun q => (w.proc q).prio) w.ev.counter ws).reverse ++ w.ev.pending ∧
    (ws.foldl (fun w q => (sched w act (q + 1) sig w.now (w.proc q).prio).1) w).ev.counter = w.ev.counter + ws.length := by
  induction ws generalizing w with
  | nil => simp [wakeTags]
  | cons q qs ih =>
    rw [List.foldl_cons]
    have hs := sched_ok w act (q + 1) sig w.now (w.proc q).prio (Int.le_refl _)
    have hc : (sched w act (q + 1) sig w.now (w.proc q).prio).1.ev.counter = w.ev.counter + 1 := by
      unfold sched schedule
      simp
    obtain ⟨ih1, ih2⟩ := ih (sched w act (q + 1) sig w.now (w.proc q).prio).1
    have hnow : (sched w act (q + 1) sig w.now (w.proc q).prio).1.now = w.now := hs.2.2.1
    have hpr : (fun q' => ((sched w act (q + 1) sig w.now (w.proc q).prio).1.proc q').prio) = fun q' => (w.proc q').prio := by
      funext q'; simp
    constructor
    · rw [ih1, hs.2.1, hc, hnow, hpr]
      simp [wakeTags]
    · rw [ih2, hc]; simp; omega

/-- **`wake_process_waiters`**: exactly one new event per registered waiter, in registration-list order, at the
    current time, with the waiter's priority and the given signal; the event queue is otherwise unchanged -/
theorem wakeWaiters_pending (w : World) (p : Pid) (sig : Int) :
    (wakeWaiters w p sig).ev.pending =
      (wakeTags aProc sig w.now (fun q => (w.proc q).prio) w.ev.counter (w.proc p).waiters).reverse ++ w.ev.pending := by
  unfold wakeWaiters
  dsimp only
  rw [(foldl_sched_pending aProc sig (w.proc p).waiters _).1]
  have hpr : (fun q => ((w.modProc p fun x => { x with waiters := [] }).proc q).prio) = fun q => (w.proc q).prio := by
    funext q; apply modProc_field; intro; rfl
  rw [hpr]
  rfl

theorem wakeEventWaiters_pending (w : World) (ps : List Pid) (sig : Int) :
    (wakeEventWaiters w ps sig).ev.pending =
      (wakeTags aEvent sig w.now (fun q => (w.proc q).prio) w.ev.counter ps).reverse ++ w.ev.pending := by
  unfold wakeEventWaiters
  exact (foldl_sched_pending aEvent sig ps w).1

theorem sched_pending_mono (w : World) (a s : Nat) (sig t pri : Int) (e : HTag) (he : e ∈ w.ev.pending) :
    e ∈ (sched w a s sig t pri).1.ev.pending := by
  unfold sched
  split
  · rename_i ev' h heq
    unfold schedule at heq
    split at heq
    · cases heq
    · injection heq with heq
      injection heq with h1 _
      subst h1
      simp [KPQ.insert, he]
  · simpa using he

/-- the world in which the `preempt` branch calls `grab`: the victim has been relieved first -/
def preemptMid (w : World) (r : Nat) (victim : Pid) : World :=
  let w := (removeHeld w victim (.res r)).1
  let w := cancelAwaiteds w victim
  let w := { w with res := w.res.modify r fun y => { y with holder := none } }
  (sched w aPreempt (victim + 1) sigPreempted w.now (w.proc victim).prio).1

theorem preempt_victim_eq (w : World) (p victim : Pid) (r : Nat) (x : Res) (hx : w.res[r]? = some x)
    (hv : x.holder = some victim) (hne : victim ≠ p) (hpri : (w.proc p).prio ≥ (w.proc victim).prio) :
    execCmd w p (.preempt r) = (grab (preemptMid w r victim) r p, .ret sigSuccess "") := by
  have : ¬ some victim = some p := fun e => hne (Option.some.inj e)
  simp only [execCmd, hx, hv, this, if_false, hpri, if_true]
  rfl

/-- … and in that world the resource is free: the `grab` of the preempt branch is a grab of a free resource -/
theorem preemptMid_free (w : World) (r : Nat) (victim : Pid) (x : Res) (hx : w.res[r]? = some x) :
    (preemptMid w r victim).res[r]? = some { x with holder := none } := by
  unfold preemptMid
  simp [Array.getElem?_modify, hx]

end CimbaModel.Sim
