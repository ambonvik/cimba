/-
  S3 — no lost wake-ups (C08), the per-primitive part: what a complete signal (observers included) guarantees for the
  front waiter, and how a grant whose waiter left for another reason is passed on.
-/
import CimbaModel.Sim.S3Cond

namespace CimbaModel.Sim.S3
open CimbaModel CimbaModel.Sim CimbaModel.Event CimbaModel.Generated CimbaModel.KPQ
open CimbaModel.HashHeap (HTag Item Order HH WF abs liveTags)

/-- post-condition of a complete signal of `g` (front step, then all observers, recursively) when the front waiter's
    demand holds: that waiter is no longer queued on `g`, and its wake-up (aRes, SUCCESS, at the current time, with its
    current priority) is pending; the clock has not moved -/
theorem guardSignal_grants {fuel : Nat} {w : World} {g : Nat} {gd : Guard} (hg : w.guards[g]? = some gd) (hall : AllGWF w)
    (hpos : 0 < gd.q.count) (hd : evalDemand w (demandOf gd (gd.q.tag 1).key) = true) :
    let w' := guardSignal (fuel + 1) w g
    (∃ gd', w'.guards[g]? = some gd' ∧ (gd.q.tag 1).key ∉ keys (abs gd'.q) ∧
        ∀ x ∈ abs gd'.q, x ∈ abs gd.q) ∧
    mkEv (w.ev.counter + 1) aRes (gd.q.tag 1).key sigSuccess w.now (w.proc ((gd.q.tag 1).key - 1)).prio ∈ w'.ev.pending ∧
    w'.now = w.now ∧ SigRel w w' := by
  intro w'
  have hwf := hall g gd hg
  obtain ⟨hmin, _, htrue⟩ := (frontStep_spec w g gd hwf).2 hpos
  obtain ⟨q', _, hwf', hperm, heq⟩ := htrue hd
  have hrel1 := frontStep_rel hg hall
  have hw' : w' = gd.observers.foldl (fun w o => fwdSignal fuel w o) (frontStep w g gd) := by
    show guardSignal (fuel + 1) w g = _
    rw [guardSignal_succ, hg]
  have hrel2 : SigRel (frontStep w g gd) w' := by
    rw [hw']
    exact SigRel.path.foldl (fun w o hw => guardSignalF_rel fuel true w o hw) _ _ hrel1.wf
  have hg1 : (frontStep w g gd).guards[g]? = some { gd with q := q' } := by
    rw [heq]; simp [grant, setGuardQ_guards_get, hg]
  obtain ⟨gd', hg', _, _, _, _, hsub⟩ := hrel2.guards g _ hg1
  have hnd : (keys (abs gd.q)).Nodup := hwf.keys_nodup
  have hkp : (keys (abs gd.q)).Perm ((gd.q.tag 1).key :: keys (abs q')) := by
    have := hperm.map (·.key); simpa [keys, norm] using this
  have hnotin : (gd.q.tag 1).key ∉ keys (abs q') := (List.nodup_cons.1 (hkp.nodup_iff.1 hnd)).1
  refine ⟨⟨gd', hg', fun hk => hnotin (keys_subset_of_subset hsub hk), ?_⟩, ?_, ?_, hrel1.trans hrel2⟩
  · intro x hx
    exact hperm.mem_iff.2 (List.mem_cons_of_mem _ (hsub x hx))
  · obtain ⟨new, hp, _, _⟩ := hrel2.pending
    rw [hp, heq]
    apply List.mem_append_right
    simp [grant]
  · exact (hrel1.trans hrel2).now

theorem guardSignal_no_grant {fuel : Nat} {w : World} {g : Nat} {gd : Guard} (hg : w.guards[g]? = some gd) (hwf : GWF gd.q)
    (h : gd.q.count = 0 ∨ evalDemand w (demandOf gd (gd.q.tag 1).key) = false) :
    guardSignal (fuel + 1) w g = gd.observers.foldl (fun w o => fwdSignal fuel w o) w := by
  rw [guardSignal_succ, hg]
  simp only
  have hs := frontStep_spec w g gd hwf
  rcases h with h0 | hd
  · rw [hs.1 h0]
  · rcases Nat.eq_zero_or_pos gd.q.count with h0 | hpos
    · rw [hs.1 h0]
    · rw [(hs.2 hpos).2.1 hd]

/-- a grant made to a waiter that has left its wait for another reason: the pending grant(s) of `p` are cancelled and the
    guard is signalled again in the same step -/
theorem guardWithdraw_passes_on {w : World} {g : Nat} {gd : Guard} (hg : w.guards[g]? = some gd) (hwf : GWF gd.q) {p : Pid}
    (hp : p + 1 ∉ keys (abs gd.q)) (hi : EvInv w.ev)
    (hgrant : ∃ e ∈ w.ev.pending, kindMatch p aRes (some sigSuccess) e = true) :
    let w1 := (cancelKindFor w p aRes (some sigSuccess)).1
    guardWithdraw w g p = signal w1 g ∧ CanRel w w1 ∧
    (∀ e ∈ w1.ev.pending, e.key ≤ w.ev.counter → kindMatch p aRes (some sigSuccess) e = false) ∧
    (∀ e ∈ w.ev.pending, kindMatch p aRes (some sigSuccess) e = false → e ∈ w1.ev.pending) := by
  intro w1
  obtain ⟨hrel, hgone, hstay, hn⟩ := cancelKindFor_spec w p aRes (some sigSuccess) hi
  refine ⟨?_, hrel, hgone, hstay⟩
  rw [guardWithdraw_granted hg hwf hp]
  have : (cancelKindFor w p aRes (some sigSuccess)).2 > 0 := by
    rw [hn]
    obtain ⟨e, he, hm⟩ := hgrant
    exact List.length_pos_of_mem (List.mem_filter.2 ⟨he, hm⟩)
  simp [this, w1]

/-- the two together: if the front waiter of `g` can be served, it is served in the very step in which the late grant
    is withdrawn -/
theorem guardWithdraw_serves_next {w : World} {g : Nat} {gd : Guard} (hg : w.guards[g]? = some gd) (hall : AllGWF w) {p : Pid}
    (hp : p + 1 ∉ keys (abs gd.q)) (hi : EvInv w.ev)
    (hgrant : ∃ e ∈ w.ev.pending, kindMatch p aRes (some sigSuccess) e = true)
    (hpos : 0 < gd.q.count) (hd : evalDemand w (demandOf gd (gd.q.tag 1).key) = true) :
    let w' := guardWithdraw w g p
    (∃ gd', w'.guards[g]? = some gd' ∧ (gd.q.tag 1).key ∉ keys (abs gd'.q)) ∧
    (∃ e ∈ w'.ev.pending, e.item.a = aRes ∧ e.item.b = (gd.q.tag 1).key ∧ e.item.c = encSig sigSuccess ∧ e.d = w.now ∧
      e.i = (w.proc ((gd.q.tag 1).key - 1)).prio) ∧
    w'.now = w.now := by
  intro w'
  obtain ⟨heq, hrel, _, _⟩ := guardWithdraw_passes_on hg (hall g gd hg) hp hi hgrant
  have hg1 : (cancelKindFor w p aRes (some sigSuccess)).1.guards[g]? = some gd := by rw [hrel.guards]; exact hg
  have hall1 : AllGWF (cancelKindFor w p aRes (some sigSuccess)).1 := by
    intro g' gd' h'; rw [hrel.guards] at h'; exact hall g' gd' h'
  have hd1 : evalDemand (cancelKindFor w p aRes (some sigSuccess)).1 (demandOf gd (gd.q.tag 1).key) = true := by
    rw [evalDemand_congr hrel.res hrel.pools hrel.bufs hrel.oqs hrel.pqs hrel.flags]; exact hd
  -- `guardWithdraw` calls `signal`, which is `guardSignal 8`
  obtain ⟨⟨gd', hg', hnot, _⟩, hev, hnow, _⟩ := guardSignal_grants (fuel := 7) hg1 hall1 hpos hd1
  have hw' : w' = guardSignal (7 + 1) (cancelKindFor w p aRes (some sigSuccess)).1 g := heq
  rw [hw']
  refine ⟨⟨gd', hg', hnot⟩, ⟨_, hev, rfl, rfl, rfl, ?_, ?_⟩, ?_⟩
  · simp [mkEv, hrel.now]
  · simp [mkEv, hrel.proc]
  · rw [hnow, hrel.now]

/-- `I_grant`: whenever the front waiter of a (non-condition) guard could be served, a grant is pending at the current
    time (so that the waiter, or whoever the grant is passed on to, runs within this instant) -/
def GrantInv (w : World) : Prop :=
  ∀ (g : Nat) (gd : Guard), w.guards[g]? = some gd → gd.isCond = false → 0 < gd.q.count →
    evalDemand w (demandOf gd (gd.q.tag 1).key) = true →
    ∃ e ∈ w.ev.pending, e.item.a = aRes ∧ e.item.c = encSig sigSuccess ∧ e.d = w.now

theorem dispatch_none_iff (w : World) : dispatch w = none ↔ w.ev.pending = [] := by
  unfold dispatch executeNext
  cases h : minTag heap_order_check w.ev.pending with
  | none => simp [Event.minTag_none.1 h]
  | some e =>
    have : w.ev.pending ≠ [] := fun hn => by rw [hn] at h; simp [minTag] at h
    simp [this]

theorem quiescent_of_grantInv {w : World} (hgi : GrantInv w) (hq : dispatch w = none) (g : Nat) (gd : Guard)
    (hg : w.guards[g]? = some gd) (hc : gd.isCond = false) (hpos : 0 < gd.q.count) :
    evalDemand w (demandOf gd (gd.q.tag 1).key) = false := by
  cases hd : evalDemand w (demandOf gd (gd.q.tag 1).key) with
  | false => rfl
  | true =>
    obtain ⟨e, he, _⟩ := hgi g gd hg hc hpos hd
    rw [(dispatch_none_iff w).1 hq] at he
    cases he

end CimbaModel.Sim.S3
