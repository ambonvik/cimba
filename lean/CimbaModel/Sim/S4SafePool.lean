/-
  S4 — `Safe` through the primitives that touch holder lists (pools), `grab`, the end of a process, and the
  enqueue of a waiter (`guardWaitEnter`, which only has to stay fault-free: the command ends there).
-/
import CimbaModel.Sim.S4Safe
import CimbaModel.Sim.S1HH

namespace CimbaModel.Sim.S4
open CimbaModel CimbaModel.Sim CimbaModel.Sim.S3 CimbaModel.Event CimbaModel.Generated CimbaModel.KPQ
open CimbaModel.HashHeap (HTag Item Order HH WF abs liveTags)

variable {ex : Nat → Prop} {w : World}

theorem room_of_keys {lt : Order} {s : HH} {n : Nat} (h : WF lt s) (hk : ∀ k ∈ keys (abs s), k ≤ n) (hn : n < 2 ^ 31) :
    s.count < 2 ^ s.exp ∨ s.exp < 31 := h.room_of_keys hk hn

theorem findIndex_total {lt : Order} {s : HH} (h : WF lt s) (k : Nat) : ∃ i, HashHeap.findIndex s k = .ok i := by
  by_cases hk : k ∈ keys (abs s)
  · obtain ⟨i, _, _, _, hf⟩ := HashHeap.findIndex_mem h hk; exact ⟨i, hf⟩
  · exact ⟨0, HashHeap.findIndex_of_not_mem h hk⟩

theorem keys_sub_of_remove {q q' : KPQ} {k : Nat} (hperm : q'.Perm (KPQ.remove q k)) {j : Nat} (hj : j ∈ keys q') : j ∈ keys q :=
  ((HashHeap.keys_remove q k j).1 ((HashHeap.keys_perm hperm j).1 hj)).1

theorem heldAmount_pos {pl : Nat} {p : Pid} {x : Pool} (hx : w.pools[pl]? = some x) (hwf : HWF x.holders)
    (hpos : 0 < heldAmount w pl p) : p + 1 ∈ keys (abs x.holders) := by
  unfold heldAmount at hpos
  rw [hx] at hpos
  simp only at hpos
  split at hpos
  · omega
  · obtain ⟨i, hi⟩ := findIndex_total hwf (p + 1)
    rw [hi] at hpos
    have : i ≠ 0 := by
      intro e; subst e; simp at hpos
    exact (hh_findIndex hwf (p + 1) hi).1 this

theorem Safe.setHolders (h : Safe ex w) (pl : Nat) (x : Pool) (hx : w.pools[pl]? = some x) (y : Pool)
    (hs : poolStat y = poolStat x) (hwf : HWF y.holders) (hk : ∀ k ∈ keys (abs y.holders), k ≤ w.procs.size) :
    Safe ex { w with pools := w.pools.set! pl y } :=
  h.setPoolsSet pl y (fun x' hx' => by rw [hx] at hx'; cases hx'; exact hs) ⟨hwf, hk⟩

theorem Safe.poolDropHolder (h : Safe ex w) (pl : Nat) (p : Pid) : Safe ex (Sim.poolDropHolder w pl p) := by
  unfold Sim.poolDropHolder
  split
  · exact h
  · rename_i x hx
    obtain ⟨hwf, hkb⟩ := h.hq pl x hx
    obtain ⟨i, hi⟩ := findIndex_total hwf (p + 1)
    rw [hi]
    obtain ⟨h', hrun, rm⟩ := HashHeap.remove_abs hwf _ (Nat.succ_ne_zero p)
    split
    · exact h
    · rename_i i' hne heq
      simp only [hrun]
      apply Safe.signal
      apply Safe.recordPool
      exact h.setHolders pl x hx _ rfl rm.wf (fun k hk => hkb k ((rm.keys k).1 hk).1)
    · rename_i heq; cases heq

theorem Safe.dropResources (h : Safe ex w) (p : Pid) : Safe ex (Sim.dropResources w p) := by
  unfold Sim.dropResources
  refine Safe.foldl (fun w a h => ?_) _ (h.modProc p (fun x => { x with held := [] }) fun _ => rfl)
  split
  · split
    · rename_i x hx
      exact ((h.setResSet _ _ fun y hy => by rw [hx] at hy; cases hy; rfl).recordRes _).signal _
    · exact h
  · exact h.poolDropHolder _ p

theorem Safe.finishProc (h : Safe ex w) (p : Pid) (v : Int) (s : Bool) : Safe ex (Sim.finishProc w p v s) := by
  unfold Sim.finishProc
  refine Safe.modProc (Safe.wakeWaiters ?_ p _) p _ fun _ => rfl
  split
  · exact (h.cancelAwaiteds p).dropResources p
  · exact (h.dropResources p).cancelAwaiteds p

theorem Safe.grab (h : Safe ex w) (r : Nat) (p : Pid) (hfree : ∀ x, w.res[r]? = some x → x.holder = none) :
    Safe ex (Sim.grab w r p) := by
  unfold Sim.grab
  split
  · rename_i x hx
    have : x.holder.isSome = false := by rw [hfree x hx]; rfl
    simp only [this, Bool.false_eq_true, if_false]
    exact (h.setResSet r _ fun y hy => by rw [hx] at hy; cases hy; rfl).modProc p _ fun _ => rfl
  · exact h

theorem Safe.setHeldAmount (h : Safe ex w) (pl : Nat) (p : Pid) (a : Nat)
    (hpres : ∀ x, w.pools[pl]? = some x → p + 1 ∈ keys (abs x.holders)) : Safe ex (Sim.setHeldAmount w pl p a) := by
  unfold Sim.setHeldAmount
  split
  · rename_i x hx
    obtain ⟨hwf, hkb⟩ := h.hq pl x hx
    obtain ⟨i, hi1, hi2, _, hfi⟩ := HashHeap.findIndex_mem hwf (hpres x hx)
    rw [hfi]
    have hi0 : ¬ i = 0 := by omega
    simp only [hi0, if_false]
    obtain ⟨hwf', hk'⟩ := wf_setItem hwf (fun a b x y => HashHeap.IgnoresItem.eq a b x y) i hi1 hi2
      { (x.holders.tag i).item with b := a }
    unfold hkeys at hk'
    refine h.setHolders pl x hx _ rfl hwf' (fun k hk => hkb k ?_)
    rw [← hk']; exact hk
  · exact h

theorem Safe.poolUpdateRecord (h : Safe ex w) (pl : Nat) (p : Pid) (a : Nat) (hp : p < w.procs.size) :
    Safe ex (Sim.poolUpdateRecord w pl p a) := by
  unfold Sim.poolUpdateRecord
  split
  · exact h
  · rename_i x hx
    obtain ⟨hwf, hkb⟩ := h.hq pl x hx
    by_cases hk : p + 1 ∈ keys (abs x.holders)
    · obtain ⟨i, hi1, hi2, _, hfi⟩ := HashHeap.findIndex_mem hwf hk
      have hc : ¬ x.holders.count = 0 := by omega
      have hi0 : i ≠ 0 := by omega
      simp only [hc, if_false, hfi, ne_eq, hi0, not_false_eq_true, decide_true, if_true]
      obtain ⟨hwf', hk'⟩ := wf_setItem hwf (fun a b x y => HashHeap.IgnoresItem.eq a b x y) i hi1 hi2
        { (x.holders.tag i).item with b := (x.holders.tag i).item.b + a }
      unfold hkeys at hk'
      refine h.setHolders pl x hx _ rfl hwf' (fun k hk2 => hkb k ?_)
      rw [← hk']; exact hk2
    · have hfi := HashHeap.findIndex_of_not_mem hwf hk
      rw [hfi]
      simp only [ne_eq, not_true_eq_false, decide_false, ite_self, Bool.false_eq_true, if_false]
      have hpsz := h.st.psz
      have h64 : p + 1 < 2 ^ 64 :=
        Nat.lt_trans (Nat.lt_of_le_of_lt (Nat.succ_le_of_lt hp) hpsz) (by decide)
      obtain ⟨h', hrun, ins⟩ := HashHeap.enqueue_key_ok hwf ⟨p + 1, a, 0, 0⟩ 0
        ((w.modProc p fun y => { y with held := HoldRef.pool pl :: y.held }).proc p).prio
        (Nat.succ_ne_zero p) h64 hk (room_of_keys hwf hkb hpsz)
      simp only [hrun]
      have h1 : Safe ex (w.modProc p fun y => { y with held := HoldRef.pool pl :: y.held }) := h.modProc p _ fun _ => rfl
      have hx1 : (w.modProc p fun y => { y with held := HoldRef.pool pl :: y.held }).pools[pl]? = some x := hx
      refine h1.setHolders pl x hx1 { x with holders := h' } rfl ins.wf (fun k hk2 => ?_)
      rcases (ins.keys k).1 hk2 with rfl | hm
      · simp only [modProc_procs_size]; exact Nat.succ_le_of_lt hp
      · simp only [modProc_procs_size]; exact hkb k hm

end CimbaModel.Sim.S4
