/-
  S1 — every world the scenario loader can build (`S3.Built`) satisfies the S1 invariants (`FullInv`), hence the
  combined initial conditions `InitAll`.
-/
import CimbaModel.Sim.S1EndAll
import CimbaModel.Sim.S3Built

namespace CimbaModel.Sim
open CimbaModel CimbaModel.Event CimbaModel.Generated CimbaModel.KPQ
open CimbaModel.HashHeap (HTag Item Order HH WF abs)
open CimbaModel.Sim.S3 (Built addRes addPool addBuf addOQ addPQ addCond addProc subscribe autostart newGuardW)

/-- what the construction steps keep, beyond `S3.BInv`: nothing is held, nobody has started, the pools' holder lists are
    freshly initialised -/
structure BInv1 (w : World) : Prop where
  pr : ∀ p, (w.proc p).held = [] ∧ (w.proc p).status = .created
  res : ∀ (r : Nat) (x : Res), w.res[r]? = some x → x.holder = none
  pools : ∀ (pl : Nat) (x : Pool), w.pools[pl]? = some x → x.holders = mkHH 3

theorem BInv1.of_same {w w' : World} (h : BInv1 w) (hp : w'.procs = w.procs) (hr : w'.res = w.res)
    (hpl : w'.pools = w.pools) : BInv1 w' :=
  ⟨fun p => by rw [proc_congr hp]; exact h.pr p, fun r x hx => h.res r x (by rw [← hr]; exact hx),
   fun pl x hx => h.pools pl x (by rw [← hpl]; exact hx)⟩

theorem getElem?_push_cases {α : Type _} (a : Array α) (x y : α) (i : Nat) (h : (a.push x)[i]? = some y) :
    a[i]? = some y ∨ y = x := by
  rw [Array.getElem?_push] at h
  split at h
  · right; injection h with h; exact h.symm
  · left; exact h

theorem built_binv1 {w : World} (h : Built w) : BInv1 w := by
  induction h with
  | empty =>
    refine ⟨fun p => ?_, fun r x hx => ?_, fun pl x hx => ?_⟩
    · simp [World.proc]
    · simp at hx
    · simp at hx
  | res _ ih =>
    refine ⟨fun p => ih.pr p, fun r x hx => ?_, fun pl x hx => ih.pools pl x hx⟩
    rcases getElem?_push_cases _ _ _ _ hx with h1 | h1
    · exact ih.res r x h1
    · rw [h1]
  | pool cap _ ih =>
    refine ⟨fun p => ih.pr p, fun r x hx => ih.res r x hx, fun pl x hx => ?_⟩
    rcases getElem?_push_cases _ _ _ _ hx with h1 | h1
    · exact ih.pools pl x h1
    · rw [h1]
  | buf cap _ ih => exact ih.of_same rfl rfl rfl
  | oq cap _ ih => exact ih.of_same rfl rfl rfl
  | pq cap _ ih => exact ih.of_same rfl rfl rfl
  | cond _ ih => exact ih.of_same rfl rfl rfl
  | proc pr cmds _ _ ih =>
    refine ⟨fun p => ?_, fun r x hx => ih.res r x hx, fun pl x hx => ih.pools pl x hx⟩
    unfold World.proc addProc
    simp only [Array.getD_eq_getD_getElem?]
    cases hx : (_ : Array Proc)[p]? with
    | none => exact ⟨rfl, rfl⟩
    | some y =>
      rcases getElem?_push_cases _ _ _ _ hx with h1 | h1
      · have := ih.pr p
        unfold World.proc at this
        simp only [Array.getD_eq_getD_getElem?, h1] at this
        exact this
      · rw [h1]; exact ⟨rfl, rfl⟩
  | sub g cg _ ih => exact ih.of_same rfl rfl rfl
  | start p _ ih => exact ih.of_same (by unfold autostart; simp) (by unfold autostart; simp) (by unfold autostart; simp)

theorem mkHH_holder_spec : WF holder_queue_check (mkHH 3) ∧ abs (mkHH 3) = [] := by
  obtain ⟨s, hs, hwf, habs, _⟩ := HashHeap.init_spec (lt := holder_queue_check) 3 (by decide) (by decide)
  have : mkHH 3 = s := by unfold mkHH; rw [hs]
  rw [this]; exact ⟨hwf, habs⟩

theorem fullInv_of_binv {w : World} (h1 : BInv1 w) (h2 : S3.BInv w) (hsz : w.procs.size < 2 ^ 31) : FullInv w := by
  have hstart : ∀ e ∈ w.ev.pending, e.item.a = aStart := fun e he => (h2.pend e he).1
  have hpa : ∀ q, w.pa q = [] := fun q => by unfold World.pa; rw [(h2.pr q).1]; rfl
  have hnp : ∀ q, np w q = 0 := by
    intro q
    unfold np
    rw [cnt_zero_iff]
    intro e hem
    unfold isAProc
    rw [hstart e hem]; rfl
  refine ⟨⟨?_, ?_, ?_, ?_⟩, ?_, ?_⟩
  · intro r p
    have hc : w.hcount p r = 0 := by unfold World.hcount; rw [(h1.pr p).1]; rfl
    have hh : w.holder r = none := by
      cases hx : w.res[r]? with
      | none => exact holder_none_of_no_res w r hx
      | some x => rw [holder_eq w r x hx]; exact h1.res r x hx
    rw [hc, hh]; rfl
  · refine ⟨?_, ?_, fun p => Or.inl (hpa p), ?_, ?_, ?_⟩
    · intro p q hm; rw [(h2.pr q).2.1] at hm; cases hm
    · intro q; rw [(h2.pr q).2.1]; exact List.nodup_nil
    · intro p; rw [hnp]; omega
    · intro p hp; rw [hnp] at hp; omega
    · intro e hem ha; rw [hstart e hem] at ha; exact absurd ha (by decide)
  · intro p _
    exact ⟨(h2.pr p).1, (h2.pr p).2.2, (h1.pr p).1, fun _ => (h2.pr p).2.1⟩
  · intro e he hs; rw [hstart e he] at hs; exact absurd hs (by decide)
  · refine ⟨Nat.lt_trans hsz (by decide), ?_, ?_⟩
    · intro pl hh hph
      unfold World.ph at hph
      cases hx : w.pools[pl]? with
      | none => rw [hx] at hph; cases hph
      | some x =>
        rw [hx] at hph; injection hph with hph; subst hph
        show WF holder_queue_check x.holders
        rw [h1.pools pl x hx]; exact mkHH_holder_spec.1
    · intro pl p hk
      unfold World.hk World.ph at hk
      cases hx : w.pools[pl]? with
      | none => rw [hx] at hk; cases hk
      | some x =>
        rw [hx] at hk
        have hk : p + 1 ∈ hkeys x.holders := hk
        unfold hkeys at hk
        rw [h1.pools pl x hx, mkHH_holder_spec.2] at hk
        cases hk
  · intro e he hi; rw [hstart e he] at hi; exact absurd hi (by decide)

/-- **every world the scenario loader can build satisfies the combined initial conditions** -/
theorem built_initAll {w : World} (h : Built w) (hsz : w.procs.size < 2 ^ 31) : InitAll w :=
  ⟨fullInv_of_binv (built_binv1 h) h.binv hsz, (h.binv.initOk hsz).1, (h.binv.initOk hsz).2⟩

/-- a loader-built scenario for the non-vacuity examples of `end_silences`: process 0 takes the resource and holds 5;
    process 1 queues up on the resource's guard at t = 1; process 2 waits for the end of process 1 from t = 2;
    at t = 5 process 0 stops process 1 (value 7) — which ends while queued on a guard and while being waited for -/
def endScen : World :=
  autostart (autostart (autostart
    (addProc (addProc (addProc (addRes {}) 0
      #[(.acquire 0, "acquire"), (.hold 5, "hold"), (.stop 1 7, "stop"), (.release 0, "release")]) 0
      #[(.hold 1, "hold"), (.acquire 0, "acquire"), (.exit 0, "exit")]) 0
      #[(.hold 2, "hold"), (.waitProc 1, "wait"), (.exit 4, "exit")]) 0) 1) 2

theorem endScen_built : Built endScen := by
  unfold endScen
  refine Built.start _ (Built.start _ (Built.start _ (Built.proc _ _ (Built.proc _ _ (Built.proc _ _
    (Built.res Built.empty) ?_) ?_) ?_)))
  all_goals
    intro i c t h
    match i with
    | 0 => simp at h; rw [← h.1]; trivial
    | 1 => simp at h; rw [← h.1]; trivial
    | 2 => simp at h; rw [← h.1]; trivial
    | 3 => simp at h; try (rw [← h.1]; trivial)
    | n + 4 => simp at h

end CimbaModel.Sim
