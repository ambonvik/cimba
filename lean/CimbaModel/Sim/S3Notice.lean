/-
  S3 — cancellation notices (`cmb_condition_cancel`: an aRes event with a non-SUCCESS code) are addressed to running
  processes.  `NI` is a predicate on worlds; it survives whatever the library does within a scope that neither ends a
  process nor schedules a notice (`NI.ofEff`, an induction over the atoms of `Eff`); the end of a process (`NI.finishEnd`) and `condCancel`
  (in `NI.execCmd_fst`) are the two places with a reason of their own.
-/
import CimbaModel.Sim.S3GrantFinish
import CimbaModel.Sim.S3NR

namespace CimbaModel.Sim.S3
open CimbaModel CimbaModel.Sim CimbaModel.Event CimbaModel.Generated CimbaModel.KPQ
open CimbaModel.HashHeap (HTag Item Order HH WF abs liveTags)

def isNotice (e : HTag) : Prop := e.item.a = aRes ∧ e.item.c ≠ 0

def NI (w : World) : Prop := ∀ e ∈ w.ev.pending, isNotice e → 1 ≤ e.item.b ∧ (w.proc (e.item.b - 1)).status = .running

theorem NI.step {w w' : World} (h : NI w) (hs : ∀ x, (w'.proc x).status = (w.proc x).status)
    (he : ∀ e' ∈ w'.ev.pending, isNotice e' → ∃ e ∈ w.ev.pending, e.item = e'.item) : NI w' := by
  intro e' he' hn
  obtain ⟨e, hm, hi⟩ := he e' he' hn
  have := h e hm (by unfold isNotice at *; rw [hi]; exact hn)
  rw [hi] at this; rw [hs]; exact this

theorem NI.same {w w' : World} (h : NI w) (hev : w'.ev = w.ev) (hp : w'.procs = w.procs) : NI w' :=
  h.step (fun x => by unfold World.proc; rw [hp]) (by rw [hev]; exact fun e he _ => ⟨e, he, rfl⟩)

theorem NI.fail {w : World} (h : NI w) (m : String) : NI (w.fail m) := h.same (by simp) (by simp)

theorem NI.emit {w : World} (h : NI w) (l : String) : NI (w.emit l) := h.same rfl rfl

theorem NI.modProc {w : World} (h : NI w) (p : Pid) (f : Proc → Proc)
    (hf : ∀ x, (f x).status = x.status ∨ (f x).status = .running) : NI (w.modProc p f) := by
  intro e he hn
  obtain ⟨h1, h2⟩ := h e he hn
  refine ⟨h1, ?_⟩
  rw [modProc_proc]; split
  · rename_i hq
    rcases hf (w.proc p) with e' | e'
    · rw [e', ← hq.1]; exact h2
    · exact e'
  · exact h2

theorem NI.pushEv {w : World} (h : NI w) (a s : Nat) (sig t pri : Int)
    (hs : a = aRes → encSig sig ≠ 0 → 1 ≤ s ∧ (w.proc (s - 1)).status = .running) : NI (pushEv w a s sig t pri) := by
  intro e he hn
  simp only [pushEv_pending, List.mem_cons] at he
  rcases he with rfl | he
  · exact hs hn.1 hn.2
  · exact h e he hn

theorem NI.sched_fst {w : World} (h : NI w) (a s : Nat) (sig t pri : Int)
    (hs : a = aRes → encSig sig ≠ 0 → 1 ≤ s ∧ (w.proc (s - 1)).status = .running) : NI (sched w a s sig t pri).1 := by
  rcases sched_cases w a s sig t pri with ⟨ht, he⟩ | ⟨_, m, he⟩
  · rw [he]; exact h.pushEv a s sig t pri hs
  · rw [he]; exact h.fail m

theorem NI.reprioEv {w : World} (h : NI w) {k : Nat} {v : Int} {ev' : EvQ} (hr : reprioritize w.ev k v = .ok ev') :
    NI { w with ev := ev' } := by
  refine h.step (fun _ => rfl) (fun e' he' _ => ?_)
  obtain ⟨e, he, _, hi⟩ := (reprioritize_pending hr).2.2.1 e' he'
  exact ⟨e, he, hi⟩

theorem NI.setVar {w : World} (h : NI w) (p : Pid) (v x : Nat) : NI (setVar w p v x) := by
  unfold Sim.setVar
  split
  · exact h.same rfl rfl
  · exact h.modProc p _ (fun _ => Or.inl rfl)

/-- `NI` across whatever the library does without ending a process and without scheduling a notice -/
theorem NI.ofEff {p : Pid} {s : Scope} {w0 w : World} (hf : s.exitVal = .no) (hn : s.notice = false) (h : Eff p s w0 w) :
    NI w0 → NI w := by
  induction h with
  | refl => exact id
  | fail _ msg ih => exact fun h => (ih h).fail msg
  | emit _ l ih => exact fun h => (ih h).emit l
  | modProc _ q f hq ih => exact fun h => (ih h).modProc q f (fun x => Or.inl (hq.keeps x).2.1)
  | block _ q fr _ _ _ ih => exact fun h => (ih h).modProc q _ (fun _ => Or.inl rfl)
  | unblock _ q _ ih => exact fun h => (ih h).modProc q _ (fun _ => Or.inl rfl)
  | setVar _ q v x _ _ _ ih => exact fun h => (ih h).setVar q v x
  | ended _ q v _ _ he _ => rw [hf] at he; exact he.elim
  | started _ q _ _ _ ih => exact fun h => (ih h).modProc q _ (fun _ => Or.inr rfl)
  | evWaiters _ _ x ih => exact fun h => (ih h).same rfl rfl
  | guards _ _ a _ ih => exact fun h => (ih h).same rfl rfl
  | res _ _ a _ _ ih => exact fun h => (ih h).same rfl rfl
  | pools _ _ a _ _ _ ih => exact fun h => (ih h).same rfl rfl
  | bufs _ _ a _ _ ih => exact fun h => (ih h).same rfl rfl
  | oqs _ _ a _ _ ih => exact fun h => (ih h).same rfl rfl
  | pqs _ _ a _ _ _ ih => exact fun h => (ih h).same rfl rfl
  | flags _ _ x ih => exact fun h => (ih h).same rfl rfl
  | push _ _ he _ hn' ih =>
    intro h
    rw [(schedule_ok he).2]
    exact (ih h).pushEv _ _ _ _ _ (fun ha hs => absurd (hn' hn ha) hs)
  | cancel _ _ k ih =>
    refine fun h => (ih h).step (fun x => by rw [(CanRel.ofCancel _ k).proc]) fun e he hno => ?_
    rcases (CanRel.ofCancel _ k).pend e he with hold | ⟨_, _, _, _, _, _, heq⟩
    · exact ⟨e, hold, rfl⟩
    · rw [heq] at hno; exact absurd hno.1 (by show aEvent ≠ aRes; decide)
  | reprio _ _ he ih => exact fun h => (ih h).reprioEv he

/-- the largest scope `NI` tolerates: no process ends, no notice is scheduled -/
def NI.scope : Scope := { Scope.top with status := .no, exitVal := .no, notice := false }

theorem NI.lib {w w' : World} (h : NI w) (he : Eff 0 NI.scope w w') : NI w' := NI.ofEff rfl rfl he h


theorem NI.wakeEventWaiters {w : World} (h : NI w) (ps : List Pid) (sig : Int) :
    NI (wakeEventWaiters w ps sig) :=
  h.lib (Eff.wakeEventWaiters .refl ps sig)

theorem NI.guardSignal (fuel : Nat) {w : World} (h : NI w) (g : Nat) : NI (guardSignal fuel w g) :=
  h.lib (Eff.guardSignal .refl fuel g)

theorem NI.signal {w : World} (h : NI w) (g : Nat) : NI (signal w g) :=
  h.lib (Eff.signal .refl g)

theorem NI.removeAwait_fst {w : World} (h : NI w) (p : Pid) (a : Await) : NI (removeAwait w p a).1 :=
  h.lib (Eff.removeAwait .refl p a)

theorem NI.removeAwaitKind_fst {w : World} (h : NI w) (p : Pid) (k : Await → Bool) :
    NI (removeAwaitKind w p k).1 :=
  h.lib (Eff.removeAwaitKind .refl p k)

theorem NI.cancelAwaiteds {w : World} (h : NI w) (p : Pid) : NI (cancelAwaiteds w p) :=
  h.lib (Eff.cancelAwaiteds .refl p)

theorem NI.wakeWaiters {w : World} (h : NI w) (p : Pid) (sig : Int) : NI (wakeWaiters w p sig) :=
  h.lib (Eff.wakeWaiters .refl p sig)

theorem NI.guardWaitEnter {w : World} (h : NI w) (g : Nat) (p : Pid) (d : Demand) :
    NI (guardWaitEnter w g p d) :=
  h.lib (Eff.guardWaitEnter .refl g p d)

def NQ (q : Pid) (w : World) : Prop := ∀ e ∈ w.ev.pending, isNotice e → e.item.b ≠ q + 1

/-- a process for which no notice is pending has none after whatever schedules no notice -/
theorem NQ.ofEff {p : Pid} {s : Scope} {w0 w : World} {q : Pid} (hn : s.notice = false) (h : Eff p s w0 w) : NQ q w0 → NQ q w := by
  have same : ∀ {w w' : World}, w'.ev = w.ev → NQ q w → NQ q w' := fun hev h => by unfold NQ; rw [hev]; exact h
  induction h with
  | refl => exact id
  | fail _ msg ih => exact fun h => same (fail_ev _ msg) (ih h)
  | emit _ l ih => exact ih
  | modProc _ z f _ ih => exact ih
  | block _ z fr _ _ _ ih => exact ih
  | unblock _ z _ ih => exact ih
  | setVar _ z v x _ _ _ ih => exact fun h => same (by unfold Sim.setVar; split <;> rfl) (ih h)
  | ended _ z v _ _ _ ih => exact ih
  | started _ z _ _ _ ih => exact ih
  | evWaiters _ _ x ih => exact ih
  | guards _ _ a _ ih => exact ih
  | res _ _ a _ _ ih => exact ih
  | pools _ _ a _ _ _ ih => exact ih
  | bufs _ _ a _ _ ih => exact ih
  | oqs _ _ a _ _ ih => exact ih
  | pqs _ _ a _ _ _ ih => exact ih
  | flags _ _ x ih => exact ih
  | push _ _ he _ hn' ih =>
    intro h e hm hno
    rw [(schedule_ok he).2] at hm
    simp only [pushEv_pending, List.mem_cons] at hm
    rcases hm with rfl | hm
    · exact absurd (hn' hn hno.1) hno.2
    · exact ih h e hm hno
  | cancel _ _ k ih =>
    intro h e hm hno
    rcases (CanRel.ofCancel _ k).pend e hm with hold | ⟨_, _, _, _, _, _, heq⟩
    · exact ih h e hold hno
    · rw [heq] at hno; exact absurd hno.1 (by show aEvent ≠ aRes; decide)
  | reprio _ _ he ih =>
    intro h e' he' hno hb
    obtain ⟨e, hm, _, hi⟩ := (reprioritize_pending he).2.2.1 e' he'
    exact ih h e hm (by unfold isNotice at *; rw [hi]; exact hno) (by rw [hi]; exact hb)


theorem NQ.cancelAwaiteds {w : World} (hi : EvInv w.ev) (q : Pid) : NQ q (cancelAwaiteds w q) := by
  rw [cancelAwaiteds_eq]
  have hi3 : EvInv ((w.proc q).awaits.foldl (Sim.cancelStep q) (w.modProc q fun x => { x with awaits := [] })).ev :=
    (((Evo.refl w).modProc q _).caFold q _).evinv hi
  generalize ((w.proc q).awaits.foldl (Sim.cancelStep q) (w.modProc q fun x => { x with awaits := [] })) = w1 at hi3
  obtain ⟨hrel, hgone, _⟩ := cancelAllFor_spec w1 q hi3
  intro e he hn hb
  rcases hrel.pend e he with hold | ⟨_, _, _, _, _, _, heq⟩
  · exact hgone e he (EvInv.key_le hi3 hold) hb
  · rw [heq] at hn; exact absurd hn.1 (by show aEvent ≠ aRes; decide)

/-- the end of a process: `cancel_awaiteds` leaves no event for it, a notice included, and nothing after that schedules
    one, so its status may change -/
theorem NI.finishEnd {w : World} (h : NI w) (hi : EvInv w.ev) (q : Pid) (v : Int) (s : Bool) : NI (finishProc w q v s) := by
  have hmid : NQ q (finishMid w q s) := by
    unfold Sim.finishMid
    split
    · exact NQ.ofEff rfl (Eff.dropResources (p := 0) (s := NI.scope) .refl q) (NQ.cancelAwaiteds hi q)
    · exact NQ.cancelAwaiteds ((Evo.eff (Eff.dropResources .refl q)).evinv hi) q
  have h2 := h.lib (Eff.wakeWaiters (Eff.finishMid .refl q s) q (if s then sigStopped else sigSuccess))
  have hq2 := NQ.ofEff rfl (Eff.wakeWaiters (p := 0) (s := NI.scope) .refl q (if s then sigStopped else sigSuccess)) hmid
  show NI ((Sim.wakeWaiters (finishMid w q s) q (if s then sigStopped else sigSuccess)).modProc q _)
  intro e he hn
  obtain ⟨hb1, hst⟩ := h2 e he hn
  refine ⟨hb1, ?_⟩
  have hne : e.item.b - 1 ≠ q := by have := hq2 e he hn; omega
  rw [modProc_proc_ne _ _ hne]; exact hst

theorem NI.finishProc {fr : Pid → Option Frame} {w : World} (h : NI w) (hp : GInv noEx fr w) (q : Pid) (v : Int) (s : Bool) :
    NI (finishProc w q v s) :=
  h.finishEnd hp.ei q v s

theorem NI.execCmd_fst {fr : Pid → Option Frame} {w : World} (h : NI w) (hp : GInv noEx fr w) (hnr : NRInv w) (p : Pid) (c : Cmd) :
    NI (execCmd w p c).1 := by
  cases c
  case stop q v =>
    simp only [execCmd]
    split
    · exact h.finishProc hp p v true
    · split
      · exact h.finishProc hp q v true
      · exact h
  case exit v => exact h.finishProc hp p v false
  -- the notice is scheduled only if `q` was on the waiting list: it awaits the guard, so it is running
  case condCancel c q =>
    simp only [execCmd]
    split
    · exact h
    · rename_i g hc
      split
      · exact h
      · cases hg : w.guards[g]? with
        | none => rw [guardRemove_none hg]; exact h
        | some gd =>
          obtain ⟨q', _, _, _, heq⟩ := guardRemove_spec hg (hp.gw g gd hg) q
          rw [heq]
          dsimp only
          split
          · rename_i hwas
            have hk : q + 1 ∈ keys (abs gd.q) := by simpa using hwas
            have haw := (hp.gk g _ ⟨gd, hg, hk⟩).2.2 (noEx_not _)
            rw [Nat.add_sub_cancel] at haw
            refine NI.sched_fst (h.same (w' := setGuardQ w g q') rfl rfl) _ _ _ _ _ (fun _ _ => ⟨Nat.succ_le_succ (Nat.zero_le _), ?_⟩)
            rw [Nat.add_sub_cancel]
            show (w.proc q).status = .running
            apply Classical.byContradiction
            intro hs
            rw [(hnr q hs).1] at haw; cases haw
          · exact h.same rfl rfl
  case recStart kind idx => match kind with | 0 | 1 | 2 | 3 | _ + 4 => exact NI.ofEff rfl rfl (Eff.execCmd w p _) h
  case recStop kind idx => match kind with | 0 | 1 | 2 | 3 | _ + 4 => exact NI.ofEff rfl rfl (Eff.execCmd w p _) h
  all_goals exact NI.ofEff rfl rfl (Eff.execCmd w p _) h

theorem NI.resumeFrame_fst {w : World} (h : NI w) (p : Pid) (f : Frame) (sig : Int) :
    NI (resumeFrame w p f sig).1 := by
  cases f <;> exact NI.ofEff rfl rfl (Eff.resumeFrame w p _ sig) h

end CimbaModel.Sim.S3
