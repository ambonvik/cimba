/-
  S4 — every continuation of a suspended call keeps `Safe` (or records no fault when it suspends again):
  `SafeR.resumeFrame`.  `ResumePre`: where the resumed process may still be queued — nowhere after a SUCCESS wake-up,
  at most in the waiting list of the guard its frame waits on otherwise (it is withdrawn by the epilogue).
-/
import CimbaModel.Sim.S4SafeCmd
import CimbaModel.Sim.S3GInvLeave

namespace CimbaModel.Sim.S4
open CimbaModel CimbaModel.Sim CimbaModel.Sim.S3 CimbaModel.Event CimbaModel.Generated CimbaModel.KPQ
open CimbaModel.HashHeap (HTag Item Order HH WF abs liveTags KeysBelowCounter)

variable {ex : Nat → Prop} {w : World} {p : Pid}

def ResumePre (w : World) (p : Pid) (f : Frame) (sig : Int) : Prop :=
  ∀ g, queued w g (p + 1) → sig ≠ sigSuccess ∧ FrameOn w f g

/-- `CmdPre` for a continuation: the hashheap of the queue that a `pqGet` / `pqPut` frame goes back to -/
def FramePre (w : World) : Frame → Prop
  | .pqGet k => ∀ x, w.pqs[k]? = some x → WF compare_func x.queue
  | .pqPut k _ _ _ => ∀ x, w.pqs[k]? = some x → PQRoom x
  | _ => True

theorem Safe.withdraw (h : Safe noKey w) (g : Nat) (hq : ∀ g', queued w g' (p + 1) → g' = g) :
    Safe (isKey p) (Sim.guardWithdraw w g p) := by
  have hrest : (∀ g', ¬ queued w g' (p + 1)) → Safe (isKey p)
      (if (cancelKindFor w p aRes (some sigSuccess)).2 > 0 then Sim.signal (cancelKindFor w p aRes (some sigSuccess)).1 g
       else (cancelKindFor w p aRes (some sigSuccess)).1) := by
    intro hn
    have h1 := (h.toKey p hn).cancelKindFor_fst p aRes (some sigSuccess)
    split
    · exact h1.signal g
    · exact h1
  cases hg : w.guards[g]? with
  | none =>
    rw [guardWithdraw_noguard hg]
    apply hrest
    intro g' hq'
    have := hq g' hq'
    subst this
    obtain ⟨gd, hgd, _⟩ := hq'
    rw [hg] at hgd; cases hgd
  | some gd =>
    obtain ⟨hwf, hk⟩ := h.gq g gd hg
    by_cases hm : p + 1 ∈ keys (abs gd.q)
    · obtain ⟨q', hwf', hperm, heq⟩ := guardWithdraw_queued hg hwf hm
      rw [heq]
      have h1 : Safe noKey (Sim.setGuardQ w g q') := h.setQ hg hwf' fun k hk' => keys_sub_of_remove hperm hk'
      refine h1.toKey p ?_
      intro g' ⟨gd', hgd', hk'⟩
      rw [setGuardQ_guards_get] at hgd'
      split at hgd'
      · rename_i e; subst e
        rw [hg] at hgd'
        simp only [Option.map_some, Option.some.injEq] at hgd'
        subst hgd'
        obtain ⟨e, he, hke⟩ := Event.mem_keys.1 ((HashHeap.keys_perm hperm _).1 hk')
        exact (S3.mem_remove.1 he).2 hke
      · rename_i hne
        exact hne (hq g' ⟨gd', hgd', hk'⟩)
    · rw [guardWithdraw_granted hg hwf hm]
      apply hrest
      intro g' hq'
      have := hq g' hq'
      subst this
      obtain ⟨gd', hgd', hk'⟩ := hq'
      rw [hg] at hgd'; cases hgd'
      exact hm hk'

theorem Safe.leave (h : Safe noKey w) (g : Nat) (sig : Int) (hq : ∀ g', queued w g' (p + 1) → sig ≠ sigSuccess ∧ g' = g) :
    Safe (isKey p) (Sim.guardWaitLeave w g p sig) := by
  unfold Sim.guardWaitLeave
  apply Safe.removeAwait_fst
  split
  · exact h.withdraw g (fun g' hq' => (hq g' hq').2)
  · rename_i hs
    exact h.toKey p (fun g' hq' => (hq g' hq').1 (Decidable.not_not.1 hs))

theorem Safe.resumed_free {f : Frame} {sig : Int} (h : Safe noKey w) (hq : ResumePre w p f sig) (hf : ∀ g, ¬ FrameOn w f g) :
    Safe (isKey p) w :=
  h.toKey p fun g hqq => hf g (hq g hqq).2

theorem Safe.resumed_leave {f : Frame} {sig : Int} (h : Safe noKey w) (hq : ResumePre w p f sig) (g : Nat)
    (hf : ∀ g', FrameOn w f g' → g = g') : Safe (isKey p) (Sim.guardWaitLeave w g p sig) :=
  h.leave g sig fun g' hq' => ⟨(hq g' hq').1, (hf g' (hq g' hq').2).symm⟩

theorem lt_of_map {α β : Type} {a : Array α} {i : Nat} {st : α → β} {g : β} (h : (a[i]?).map st = some g) : i < a.size :=
  have ⟨_, hx, _⟩ := Option.map_eq_some_iff.1 h
  lt_of_getElem? hx

theorem FramePre.of_pqs {w' : World} (e : w'.pqs = w.pqs) {f : Frame} (h : FramePre w f) : FramePre w' f := by
  cases f with
  | pqGet k => exact fun x hx => h x (by rw [← e]; exact hx)
  | pqPut k obj pri v => exact fun x hx => h x (by rw [← e]; exact hx)
  | _ => trivial

/-- the call a wait on a guard goes back to: the loop for the object its frame names, which exists -/
theorem SafeR.retry (h : Safe (isKey p) w) (hp : p < w.procs.size) {f : Frame} {g : Nat} (hon : FrameOn w f g)
    (hpre : FramePre w f) : SafeR (isKey p) (retry f w p) := by
  cases f with
  | acquire r => exact SafeR.acquireStep h hp r (lt_of_map hon)
  | pool pl rem ini pre => exact SafeR.poolLoop h hp pl rem ini pre (lt_of_map hon)
  | bufGet b rem got => exact SafeR.bufGetLoop h hp b rem got (lt_of_map hon)
  | bufPut b rem left => exact SafeR.bufPutLoop h hp b rem left (lt_of_map hon)
  | oqGet q => exact SafeR.oqGetLoop h hp q (lt_of_map hon)
  | oqPut q obj => exact SafeR.oqPutLoop h hp q obj (lt_of_map hon)
  | pqGet k => exact SafeR.pqGetLoop h hp k (lt_of_map hon) hpre
  | pqPut k obj pri v => exact SafeR.pqPutLoop h hp k obj pri v (lt_of_map hon) hpre
  | condWait c => exact SafeR.ret h _ _
  | _ => exact hon.elim

theorem Safe.giveUp (h : Safe ex w) (f : Frame) (p : Pid) : Safe ex (giveUp f w p) := by
  cases f with
  | pool pl rem ini pre => exact h.poolRollback p pl ini
  | condWait c => exact h.cancelKindFor_fst p aCond none
  | _ => exact h

theorem SafeR.resumeFrame (h : Safe noKey w) (hp : p < w.procs.size) (f : Frame) (sig : Int) (hq : ResumePre w p f sig)
    (hpre : FramePre w f) : SafeR (isKey p) (Sim.resumeFrame w p f sig) := by
  by_cases hf : isGuardFrame f = true
  · -- a wait on a guard: the process leaves the waiting list of that guard and no other, then retries or gives up
    have leave : ∀ g, FrameOn w f g → Safe (isKey p) (Sim.guardWaitLeave w g p sig) :=
      fun g hon => h.resumed_leave hq g fun g' hon' => frameOn_fun hon hon'
    refine resumeFrame_wait_out _ hf p sig (fun hoff => SafeR.ret (h.resumed_free hq hoff) _ _) (fun g hon _ => ?_)
      (fun g hon _ => SafeR.ret ((leave g hon).giveUp f p) _ _)
    exact SafeR.retry (leave g hon) (by simpa using hp)
      ((frameOn_of_stat (Stat.eff (.guardWaitLeave .refl g p sig)) f g).2 hon) (hpre.of_pqs (by simp))
  · have h1 := h.resumed_free hq (f := f) (sig := sig)
    cases f with
    | hold k =>
      have h1 := h1 fun g hg => hg
      simp only [Sim.resumeFrame]
      split
      · exact SafeR.ret ((h1.timerCancel_fst _ _).removeAwait_fst _ _) _ _
      · exact SafeR.ret h1 _ _
    | yield => exact SafeR.ret (h1 fun g hg => hg) _ _
    | waitProc q =>
      have h1 := (h1 fun g hg => hg).removeAwait_fst p (.proc q)
      simp only [Sim.resumeFrame]
      split
      · split
        · refine SafeR.ret ?_ _ _
          exact h1.modProc q _ fun _ => rfl
        · exact SafeR.ret (h1.cancelKindFor_fst p aProc none) _ _
      · exact SafeR.ret h1 _ _
    | waitEvent k =>
      have h1 := (h1 fun g hg => hg).removeAwait_fst p (.event k)
      simp only [Sim.resumeFrame]
      split
      · split
        · exact SafeR.ret (h1.setEvWaiters _) _ _
        · exact SafeR.ret (h1.cancelKindFor_fst p aEvent none) _ _
      · exact SafeR.ret h1 _ _
    | _ => exact absurd rfl hf

end CimbaModel.Sim.S4
