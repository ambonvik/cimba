/-
  S3 — the grant invariant: the run loop of a process and the resumption of a suspended one.
-/
import CimbaModel.Sim.S3GrantCmd2
import CimbaModel.Sim.S3GInvDispatch
import CimbaModel.Sim.S3GrantK2

namespace CimbaModel.Sim.S3
open CimbaModel CimbaModel.Sim CimbaModel.Event CimbaModel.Generated CimbaModel.KPQ
open CimbaModel.HashHeap (HTag Item Order HH WF abs liveTags)

/-- `S` contains every variable that some command of some script cancels by value -/
def CvOk (S : Nat → Prop) (w : World) : Prop :=
  ∀ (p : Pid) (i : Nat) (c : Cmd) (t : String), (w.proc p).script[i]? = some (c, t) →
    ∀ v, (c = .cancelUser v ∨ c = .timerCancel v) → S v

theorem CvOk.ofStat {S : Nat → Prop} {w w' : World} (h : CvOk S w) (hs : Stat w w') : CvOk S w' := by
  intro p i c t hc; rw [hs.script] at hc; exact h p i c t hc

/-- what holds whenever a process is about to execute a command or to be resumed; `df` is the deficit of the grant
    invariant (non-zero only right after the process's own grant has been taken off the event queue) -/
structure RunInv (S : Nat → Prop) (df : Demand → Nat) (w : World) : Prop where
  g : GInvB w
  t : TInvB w
  k : KInv S w
  side : SideOk w
  es : EndSep w
  kok : KOk S w
  cv : CvOk S w
  /-- once a fault is recorded (a corrupt holder list or object heap: the model notes it and carries on) nothing is
      claimed about grants -/
  gh : w.fault = none → GH df w

variable {S : Nat → Prop} {df : Demand → Nat}

theorem RunInv.gs {w : World} (h : RunInv S df w) (hf : w.fault = none) : GS (blockedOf w) df w :=
  ⟨h.g, (h.gh hf).1, (h.gh hf).2⟩

theorem RunInv.advance {w : World} (h : RunInv S df w) (p : Pid) (l : String) (pc' : Nat) :
    RunInv S df ((w.emit l).modProc p fun y => { y with pc := pc' }) := by
  have hi : Inert w ((w.emit l).modProc p fun y => { y with pc := pc' }) := ((Inert.refl w).emit l).modProc p _ (fun _ => rfl)
  have hst : Stat w ((w.emit l).modProc p fun y => { y with pc := pc' }) := ((Stat.refl w).emit l).modProc p _ fun _ => rfl
  have hk : KRel S w ((w.emit l).modProc p fun y => { y with pc := pc' }) :=
    ((KRel.refl w).emit l).modProc p _ (fun _ => ⟨Or.inl rfl, rfl⟩)
  refine ⟨h.g.advance p l pc', (TInv.modProc_ctl (TInv.emit h.t l) p _ (fun _ => rfl)), h.k.ofKRel hk, h.side.ofStat hst,
    h.es.ofStat hst, h.kok.ofStat hst, h.cv.ofStat hst, ?_⟩
  intro hf
  have hf' : w.fault = none := hk.evo.fault hf
  exact (h.gh hf').inert h.g.ei hi

theorem RunInv.emit {w : World} (h : RunInv S df w) (l : String) : RunInv S df (w.emit l) := by
  have hi : Inert w (w.emit l) := (Inert.refl w).emit l
  have hst : Stat w (w.emit l) := (Stat.refl w).emit l
  have hk : KRel S w (w.emit l) := (KRel.refl w).emit l
  exact ⟨(GInv.emit h.g l).toB, TInv.emit h.t l, h.k.ofKRel hk, h.side.ofStat hst, h.es.ofStat hst, h.kok.ofStat hst,
    h.cv.ofStat hst, fun hf => (h.gh hf).inert h.g.ei hi⟩

theorem RunInv.hcv {w : World} (h : RunInv S df w) {p : Pid} {i : Nat} {c : Cmd} {t : String}
    (hs : (w.proc p).script[i]? = some (c, t)) : ∀ v, (c = .cancelUser v ∨ c = .timerCancel v) → NG w (getVar w p v) :=
  fun v hv => (h.k.cv v (h.cv p i c t hs v hv) p).2

theorem RunInv.execCmd {w : World} (h : RunInv S (fun _ => 0) w) {p : Pid} {i : Nat} {c : Cmd} {text : String}
    (hb : (w.proc p).blocked = none) (hs : (w.proc p).script[i]? = some (c, text)) :
    RunInv S (fun _ => 0) (Sim.execCmd w p c).1 := by
  have hlt : p < w.procs.size := by
    rcases Nat.lt_or_ge p w.procs.size with h' | h'
    · exact h'
    · rw [script_none_of_oob h'] at hs; cases hs
  obtain ⟨fr', hx⟩ := GInv.execCmd_ex (p := p) h.g hb hlt h.side.sep c (h.side.ok p _ c text hs)
  have hst : Stat w (Sim.execCmd w p c).1 := Stat.ofEff (Eff.execCmd w p c)
  refine ⟨hx.toB, TInv.execCmd_fst h.t hlt c, h.k.ofKRel (KRel.execCmd_fst (KRel.refl _) h.g.ei p c (h.kok p _ c text hs)),
    h.side.ofStat hst, h.es.ofStat hst, h.kok.ofStat hst, h.cv.ofStat hst, fun hf => ?_⟩
  exact gs_execCmd (h.gs ((Evo.ofEff (Eff.execCmd w p c)).fault hf)) h.es h.side.sep (TInv.timersOk h.t) hb hlt c (h.hcv hs) hf

theorem gs_runScript (fuel : Nat) {w : World} {p : Pid} (h : RunInv S (fun _ => 0) w) (hb : (w.proc p).blocked = none) :
    (runScript fuel w p).fault = none → GH (fun _ => 0) (runScript fuel w p) := by
  refine runScript_induct p (fun w => RunInv S (fun _ => 0) w ∧ (w.proc p).blocked = none)
    (fun W => W.fault = none → GH (fun _ => 0) W) ?_ ?_ ?_ ?_ ?_ fuel w ⟨h, hb⟩
  · intro w m _ hf
    exact (fail_fault_none hf).elim
  · intro w l ⟨h, _⟩ _ hf
    have he := h.emit l
    exact ((he.gs (((Evo.refl (w.emit l)).finishProc p 0 false).fault hf)).finishProc p 0 false (TInv.timersOk he.t p)).gh
  · intro w c text l0 w1 o l ⟨h, hb⟩ hs heq ho
    have hR := (h.emit l0).execCmd (p := p) hb hs
    have hk := ContKeep.execCmd (w.emit l0) p c
    rw [heq] at hR hk
    refine ⟨hR.advance p l _, (advance_proc w1 p l _).1.trans ((hk ?_).1.trans hb)⟩
    rcases ho with ⟨v, extra, rfl⟩ | rfl <;> rfl
  · intro w c text l0 w1 ⟨h, hb⟩ hs heq
    have hR := (h.emit l0).execCmd (p := p) hb hs
    rw [heq] at hR
    exact hR.gh
  · intro w c text l0 w1 l ⟨h, hb⟩ hs heq
    have hR := (h.emit l0).execCmd (p := p) hb hs
    rw [heq] at hR
    exact (hR.emit l).gh

theorem RunInv.resumeFrame {w : World} {p : Pid} {sig : Int} {df : Demand → Nat} {f : Frame} (h : RunInv S df w)
    (hbf : (w.proc p).blocked = some f) (hq : sig = sigSuccess → Quiet w p)
    (hdf : (∀ d, frameDemand f ≠ some d → df d = 0) ∧ (∀ d, frameDemand f = some d → df d ≤ 1) ∧
      (sig ≠ sigSuccess → ∀ d, df d = 0)) :
    RunInv S (fun _ => 0) (Sim.resumeFrame (w.modProc p fun y => { y with blocked := none }) p f sig).1 := by
  have hfr : blockedOf w p = some f := hbf
  have hlt : p < w.procs.size := by
    rcases Nat.lt_or_ge p w.procs.size with h' | h'
    · exact h'
    · rw [proc_oob w h'] at hbf; cases hbf
  obtain ⟨d1, d2, d3⟩ := hdf
  obtain ⟨fr', hx⟩ := GInv.resume_ex h.g hfr hlt h.side.sep sig hq
  have hst : Stat w (Sim.resumeFrame (w.modProc p fun y => { y with blocked := none }) p f sig).1 :=
    ((Stat.refl w).modProc p (fun y => { y with blocked := none }) fun _ => rfl).trans (Stat.ofEff (Eff.resumeFrame _ p f sig))
  have hK : KRel S w (Sim.resumeFrame (w.modProc p fun y => { y with blocked := none }) p f sig).1 := by
    refine KRel.resumeFrame_fst ((KRel.refl w).modProc p (fun y => { y with blocked := none }) (fun _ => ⟨Or.inr rfl, rfl⟩)) p f sig ?_
    intro k o pri v hfe
    have := h.k.fo p f hbf
    rw [hfe] at this; exact this
  refine ⟨hx.toB, TInv.resumeFrame_fst (p := p) (TInv.modProc_ctl h.t p (fun y => { y with blocked := none }) (fun _ => rfl)) f sig,
    h.k.ofKRel hK, h.side.ofStat hst, h.es.ofStat hst, h.kok.ofStat hst, h.cv.ofStat hst, fun hf => ?_⟩
  refine gs_resumeFrame (df' := fun _ => 0) (h.gs (hK.evo.fault hf)) h.es h.side.sep f hfr hlt sig hq ?_
    (fun d hd => by rw [d1 d hd]; exact Nat.le_refl _) (fun d hd => d2 d hd)
    (fun hs d => by rw [d3 hs d]; exact Nat.le_refl _) hf
  intro k hk
  have := h.k.fo p f hbf
  rw [hk] at this; exact this.2

/-- resuming a suspended process: a deficit may be booked only at the object end its frame waits on, and only when it
    is resumed with SUCCESS (by its own grant) -/
theorem gs_resumeProc {w : World} {p : Pid} {sig : Int} (h : RunInv S df w)
    (hq : ∀ f, (w.proc p).blocked = some f → sig = sigSuccess → Quiet w p)
    (hdf : ∀ f, (w.proc p).blocked = some f → (∀ d, frameDemand f ≠ some d → df d = 0) ∧
      (∀ d, frameDemand f = some d → df d ≤ 1) ∧ (sig ≠ sigSuccess → ∀ d, df d = 0)) :
    (resumeProc w p sig).fault = none → GH (fun _ => 0) (resumeProc w p sig) := by
  refine resumeProc_cases (fun W => W.fault = none → GH (fun _ => 0) W) w p sig
    (fun _ m hf => (fail_fault_none hf).elim) ?_ ?_
  · intro f w1 o _ hbf heq _
    have hR := h.resumeFrame hbf (hq f hbf) (hdf f hbf)
    rw [heq] at hR
    exact hR.gh
  · intro f w1 v extra l _ hbf heq
    have hR := h.resumeFrame hbf (hq f hbf) (hdf f hbf)
    have hk := ContKeep.resumeFrame (w.modProc p fun y => { y with blocked := none }) p f sig
    rw [heq] at hR hk
    refine gs_runScript _ (hR.advance p l _) ((advance_proc w1 p l _).1.trans ((hk rfl).1.trans ?_))
    rw [modProc_proc]; split
    · rfl
    · rename_i hn
      rw [proc_oob w (Nat.le_of_not_lt fun hlt => hn ⟨rfl, hlt⟩)]

end CimbaModel.Sim.S3
