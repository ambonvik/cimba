/-
  S4 — `PL` (holder lists ⇔ `.pool` holdings, S4LinkBase) through every command, resumption, dispatch and the run loop;
  it holds in the initial world.  Consequence `PL.prio_key`: the key that the holder re-sorting loop of
  `cmb_process_priority_set` passes to `HashHeap.reprioritize` is on the list.
-/
import CimbaModel.Sim.S4LinkEnd
import CimbaModel.HashHeap.RefinePattern
import CimbaModel.Sim.S1PoolRun

namespace CimbaModel.Sim.S4
open CimbaModel CimbaModel.Sim CimbaModel.Event CimbaModel.Generated CimbaModel.KPQ
open CimbaModel.HashHeap (HTag Item Order HH WF abs)

variable {w w' : World}

theorem PL.execCmd (h : PL w) (p : Pid) (hp : p < w.procs.size) (c : Cmd) : PL (execCmd w p c).1 :=
  PL.carried.execCmd h p hp c

theorem PL.resumeFrame (h : PL w) (p : Pid) (hp : p < w.procs.size) (f : Frame) (sig : Int) :
    PL (resumeFrame w p f sig).1 := PL.carried.resumeFrame h p hp f sig

theorem PL.runScript (h : PL w) (fuel : Nat) (p : Pid) : PL (runScript fuel w p) := PL.carried.runScript fuel h p

theorem PL.resumeProc (h : PL w) (p : Pid) (sig : Int) : PL (resumeProc w p sig) := PL.carried.resumeProc h p sig

theorem PL.dispatch (h : PL w) (hd : dispatch w = some w') : PL w' := PL.carried.dispatch h hd

theorem PL.runAll (h : PL w) (fuel : Nat) : PL (runAll fuel w) := PL.carried.runAll fuel h

theorem PL.init (w : World) (hsz : w.procs.size < 2 ^ 31)
    (hh : ∀ (pl : Nat) (x : Pool), w.pools[pl]? = some x → x.holders = mkHH 3) (hheld : ∀ p, (w.proc p).held = []) : PL w := by
  obtain ⟨s, hi, hwf, habs, _⟩ := HashHeap.init_spec (lt := holder_queue_check) 3 (by decide) (by decide)
  have hmk : mkHH 3 = s := by unfold mkHH; rw [hi]
  have hph : ∀ pl h, w.ph pl = some h → h = s := by
    intro pl h hph
    unfold World.ph at hph
    cases hx : w.pools[pl]? with
    | none => rw [hx] at hph; cases hph
    | some x =>
      rw [hx] at hph
      injection hph with hph
      rw [← hph]
      show x.holders = s
      rw [hh pl x hx, hmk]
  refine ⟨⟨Nat.lt_trans hsz (by decide), ?_, ?_⟩, hsz, ?_⟩
  · intro pl h hp
    rw [hph pl h hp]; exact hwf
  · intro pl p hm
    unfold World.hk at hm
    cases hp : w.ph pl with
    | none => rw [hp] at hm; cases hm
    | some h =>
      rw [hp] at hm
      dsimp only at hm
      rw [hph pl h hp] at hm
      unfold hkeys at hm
      rw [habs] at hm
      cases hm
  · intro q pl hm
    rw [hheld q] at hm
    cases hm

end CimbaModel.Sim.S4
