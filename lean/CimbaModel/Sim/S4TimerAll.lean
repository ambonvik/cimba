/-
  S4 — the strong timer invariant: the bundles.

  * `TT w`  = I_timers (`S3.TInv noEx`) ∧ `TL` (every TIME awaitable has its pending timer: no "or was cancelled"
    escape) ∧ `VarInv` (what the handle variables can name).
  * `TTH w` = `TT w` ∧ `FrInv w` (the handle recorded in a suspended `hold` names — if anything pending — the timer of
    that process and is not from the future; the variable recorded in a suspended `priority_queue_put` is a
    priority-queue variable).  `TTH` is the self-contained invariant: it is preserved by `dispatch` for every program
    that satisfies `DurOk` and `VarsOk`.
-/
import CimbaModel.Sim.S4TimerRun

namespace CimbaModel.Sim.S4
open CimbaModel CimbaModel.Sim CimbaModel.Sim.S3 CimbaModel.Event CimbaModel.Generated CimbaModel.KPQ
open CimbaModel.HashHeap (HTag Item Order HH WF abs liveTags)

structure TT (w : World) : Prop where
  t : S3.TInv S3.noEx w
  tl : TL w
  vi : VarInv w

structure TTH (w : World) : Prop where
  tt : TT w
  hold : FrInv w

variable {fr : Bool} {w : World} {p : Pid}

theorem TT.toX (h : TT w) : TXI false w := ⟨h.t, ⟨h.t.ei, h.tl, h.vi, fun h => by cases h⟩⟩
theorem TXI.toTT (h : TXI fr w) : TT w := ⟨h.t, h.x.tl, h.x.vi⟩
theorem TTH.toX (h : TTH w) : TXI true w := ⟨h.tt.t, ⟨h.tt.t.ei, h.tt.tl, h.tt.vi, fun _ => h.hold⟩⟩
theorem TXI.toTTH (h : TXI true w) : TTH w := ⟨h.toTT, h.x.fi rfl⟩

theorem TT.fail (h : TT w) (m : String) : TT (w.fail m) := (h.toX.fail m).toTT
theorem TT.emit (h : TT w) (l : String) : TT (w.emit l) := (h.toX.emit l).toTT

theorem TT.modProc_ctl (h : TT w) (p : Pid) (f : Proc → Proc) (hf : ∀ x, (f x).awaits = x.awaits ∧ (f x).vars = x.vars) :
    TT (w.modProc p f) :=
  (h.toX.modProc_ctl p f (fun x => ⟨(hf x).1, (hf x).2, fun h => by cases h⟩)).toTT

theorem TT.execCmd (h : TT w) (hlt : p < w.procs.size) (c : Cmd) (_hok : S3.CmdOk c) (hd : DurOk c) (hv : VarsOk c) :
    TT (Sim.execCmd w p c).1 :=
  (h.toX.execCmd hlt c hd hv).toTT

theorem TT.resumeFrame (h : TT w) (f : Frame) (sig : Int)
    (hh : ∀ k, f = .hold k → ∀ e ∈ w.ev.pending, e.key = k → e.item.a = aTime → e.item.b = p + 1)
    (hq : ∀ k obj pri v, f = .pqPut k obj pri v → 4 ≤ v ∧ v < 8) : TT (Sim.resumeFrame w p f sig).1 :=
  (h.toX.resumeFrame f sig hh hq).toTT

theorem TT.finishProc (h : TT w) (p : Pid) (v : Int) (s : Bool) : TT (Sim.finishProc w p v s) :=
  (h.toX.finishProc p v s).toTT

theorem TT.takeNext_other (h : TT w) {t : HTag} {ev' : EvQ} (hn : executeNext w.ev = some (t, ev'))
    (ha : t.item.a ≠ aTime) : TT (S3.takeNext w t ev') :=
  (h.toX.takeNext_other hn ha).toTT

theorem TT.takeNext_time (h : TT w) {t : HTag} {ev' : EvQ} (hn : executeNext w.ev = some (t, ev'))
    (ha : t.item.a = aTime) : TT (Sim.removeAwait (S3.takeNext w t ev') (t.item.b - 1) (.time t.key)).1 :=
  (h.toX.takeNext_time hn ha).toTT

theorem TT.removeAwaitKind_fst (h : TT w) (p : Pid) (k : Await → Bool) (hk : ∀ a, k a = true → S3.isTimeA a = false) :
    TT (Sim.removeAwaitKind w p k).1 :=
  (h.toX.removeAwaitKind_fst p k hk).toTT

theorem TT.cancelAwaiteds (h : TT w) (p : Pid) : TT (Sim.cancelAwaiteds w p) := (h.toX.cancelAwaiteds p).toTT

theorem TT.startProc (h : TT w) (p : Pid) :
    TT (w.modProc p fun y => { y with status := .running, pc := 0, blocked := none }) := (h.toX.startProc p).toTT

theorem TT.runScript (h : TT w) (fuel : Nat)
    (hprog : ∀ (i : Nat) (c : Cmd) (t : String), (w.proc p).script[i]? = some (c, t) → DurOk c ∧ VarsOk c) :
    TT (Sim.runScript fuel w p) :=
  (TXI.runScript fuel h.toX hprog).toTT

theorem TT.resumeProc (h : TT w) (p : Pid) (sig : Int)
    (hprog : ∀ (i : Nat) (c : Cmd) (t : String), (w.proc p).script[i]? = some (c, t) → DurOk c ∧ VarsOk c)
    (hf : ∀ f, (w.proc p).blocked = some f → FrameOk w p f) : TT (Sim.resumeProc w p sig) :=
  (h.toX.resumeProc p sig hprog hf).toTT

theorem TT.dispatch {w' : World} (h : TT w) (hf : FrInv w)
    (hs : ∀ (p : Pid) (i : Nat) (c : Cmd) (t : String), (w.proc p).script[i]? = some (c, t) → S3.CmdOk c ∧ DurOk c ∧ VarsOk c)
    (hd : Sim.dispatch w = some w') : TT w' :=
  (TXI.dispatch (TTH.toX ⟨h, hf⟩) hs hd).toTT

theorem TT.init (w : World) (hei : EvInv w.ev) (haw : ∀ p, (w.proc p).awaits = [])
    (hnt : ∀ e ∈ w.ev.pending, e.item.a = aStart) (hv : ∀ p i, (w.proc p).vars.getD i 0 = 0)
    (hg : ∀ i, w.gvars.getD i 0 = 0) : TT w where
  t := {
    ei := hei
    t1 := fun p k _ hk => by rw [haw] at hk; cases hk
    t2 := fun e he ha => by rw [hnt e he] at ha; exact absurd ha (by decide)
    tle := fun p k hk => by rw [haw] at hk; cases hk
    tnd := fun p => by unfold timeAw; rw [haw]; exact List.nodup_nil
    tb := fun e he ha => by rw [hnt e he] at ha; exact absurd ha (by decide) }
  tl := fun q k hk => by rw [haw] at hk; cases hk
  vi := {
    tv := fun p i _ => by
      rw [hv]
      exact ⟨Nat.zero_le _, fun e he hk => by have := key_pos hei he; omega⟩
    uv := fun i _ => by
      rw [hg]
      exact ⟨Nat.zero_le _, fun e he hk => by have := key_pos hei he; omega⟩ }

/-- what the invariant is for: every armed timer is scheduled, so the `reprioritize` of `priority_set` cannot fail -/
theorem TT.timers_scheduled (h : TT w) (q : Pid) (k : Nat) (hk : Await.time k ∈ (w.proc q).awaits) :
    isScheduled w.ev k = true := by
  obtain ⟨e, he, h1, _, _⟩ := h.tl q k hk
  unfold isScheduled
  exact decide_eq_true (Event.mem_keys.2 ⟨e, he, h1⟩)

theorem TTH.fail (h : TTH w) (m : String) : TTH (w.fail m) := (h.toX.fail m).toTTH
theorem TTH.emit (h : TTH w) (l : String) : TTH (w.emit l) := (h.toX.emit l).toTTH

theorem TTH.modProc_ctl (h : TTH w) (p : Pid) (f : Proc → Proc)
    (hf : ∀ x, (f x).awaits = x.awaits ∧ (f x).vars = x.vars ∧ ((f x).blocked = x.blocked ∨ (f x).blocked = none)) :
    TTH (w.modProc p f) :=
  (h.toX.modProc_ctl p f (fun x => ⟨(hf x).1, (hf x).2.1, fun _ => (hf x).2.2⟩)).toTTH

theorem TTH.execCmd (h : TTH w) (hlt : p < w.procs.size) (c : Cmd) (_hok : S3.CmdOk c) (hd : DurOk c) (hv : VarsOk c) :
    TTH (Sim.execCmd w p c).1 :=
  (h.toX.execCmd hlt c hd hv).toTTH

theorem TTH.finishProc (h : TTH w) (p : Pid) (v : Int) (s : Bool) : TTH (Sim.finishProc w p v s) :=
  (h.toX.finishProc p v s).toTTH

theorem TTH.takeNext_other (h : TTH w) {t : HTag} {ev' : EvQ} (hn : executeNext w.ev = some (t, ev'))
    (ha : t.item.a ≠ aTime) : TTH (S3.takeNext w t ev') :=
  (h.toX.takeNext_other hn ha).toTTH

theorem TTH.takeNext_time (h : TTH w) {t : HTag} {ev' : EvQ} (hn : executeNext w.ev = some (t, ev'))
    (ha : t.item.a = aTime) : TTH (Sim.removeAwait (S3.takeNext w t ev') (t.item.b - 1) (.time t.key)).1 :=
  (h.toX.takeNext_time hn ha).toTTH

theorem TTH.removeAwaitKind_fst (h : TTH w) (p : Pid) (k : Await → Bool) (hk : ∀ a, k a = true → S3.isTimeA a = false) :
    TTH (Sim.removeAwaitKind w p k).1 :=
  (h.toX.removeAwaitKind_fst p k hk).toTTH

theorem TTH.cancelAwaiteds (h : TTH w) (p : Pid) : TTH (Sim.cancelAwaiteds w p) := (h.toX.cancelAwaiteds p).toTTH

theorem TTH.adv (h : TTH w) (p : Pid) (n : Nat) : TTH (w.modProc p fun y => { y with pc := n }) :=
  h.modProc_ctl p _ (fun _ => ⟨rfl, rfl, Or.inl rfl⟩)

/-- the world is `prep (S3.takeNext w t ev') t` (S4Carry), written out -/
theorem TTH.prep (h : TTH w) {t : HTag} {ev' : EvQ} (hn : executeNext w.ev = some (t, ev')) :
    TTH (if t.item.a = aTime then (Sim.removeAwait (S3.takeNext w t ev') (t.item.b - 1) (.time t.key)).1
      else if t.item.a = aProc then (Sim.removeAwaitKind (S3.takeNext w t ev') (t.item.b - 1) isProcA).1
      else if t.item.a = aEvent then (Sim.removeAwaitKind (S3.takeNext w t ev') (t.item.b - 1) isEventA).1
      else if t.item.a = aCond then (Sim.removeAwaitKind (S3.takeNext w t ev') (t.item.b - 1) isGuardA).1
      else if t.item.a = aIntr then Sim.cancelAwaiteds (S3.takeNext w t ev') (t.item.b - 1)
      else S3.takeNext w t ev') := by
  by_cases h2 : t.item.a = aTime
  · rw [if_pos h2]; exact h.takeNext_time hn h2
  · rw [if_neg h2]
    have hT := h.takeNext_other hn h2
    split
    · exact hT.removeAwaitKind_fst _ _ (fun a h => by cases a <;> simp_all [isProcA, isTimeA])
    · split
      · exact hT.removeAwaitKind_fst _ _ (fun a h => by cases a <;> simp_all [isEventA, isTimeA])
      · split
        · exact hT.removeAwaitKind_fst _ _ (fun a h => by cases a <;> simp_all [isGuardA, isTimeA])
        · split
          · exact hT.cancelAwaiteds _
          · exact hT

theorem TTH.startProc (h : TTH w) (p : Pid) :
    TTH (w.modProc p fun y => { y with status := .running, pc := 0, blocked := none }) := (h.toX.startProc p).toTTH

/-- continuing the call a process is suspended in (the recorded frame is cleared first, as in `resumeProc`) -/
theorem TTH.resume {w0 : World} {f : Frame} (h : TTH w0) (hb : (w0.proc p).blocked = some f) (_hlt : p < w0.procs.size)
    (sig : Int) : TTH (Sim.resumeFrame (w0.modProc p fun y => { y with blocked := none }) p f sig).1 :=
  ((h.toX.modProc_ctl p (fun y => { y with blocked := none }) (fun _ => ⟨rfl, rfl, fun _ => Or.inr rfl⟩)).resumeFrame_ok
    (p := p) f sig ((h.hold p f hb).ofEv rfl)).toTTH

theorem TTH.runScript (h : TTH w) (fuel : Nat)
    (hprog : ∀ (i : Nat) (c : Cmd) (t : String), (w.proc p).script[i]? = some (c, t) → DurOk c ∧ VarsOk c) :
    TTH (Sim.runScript fuel w p) :=
  (TXI.runScript fuel h.toX hprog).toTTH

theorem TTH.resumeProc (h : TTH w) (p : Pid) (sig : Int)
    (hprog : ∀ (i : Nat) (c : Cmd) (t : String), (w.proc p).script[i]? = some (c, t) → DurOk c ∧ VarsOk c) :
    TTH (Sim.resumeProc w p sig) :=
  (h.toX.resumeProc p sig hprog (fun f hf => h.hold p f hf)).toTTH

theorem TTH.dispatch {w' : World} (h : TTH w)
    (hs : ∀ (p : Pid) (i : Nat) (c : Cmd) (t : String), (w.proc p).script[i]? = some (c, t) → S3.CmdOk c ∧ DurOk c ∧ VarsOk c)
    (hd : Sim.dispatch w = some w') : TTH w' :=
  (TXI.dispatch h.toX hs hd).toTTH

theorem TTH.init (w : World) (hei : EvInv w.ev) (haw : ∀ p, (w.proc p).awaits = [])
    (hnt : ∀ e ∈ w.ev.pending, e.item.a = aStart) (hv : ∀ p i, (w.proc p).vars.getD i 0 = 0)
    (hg : ∀ i, w.gvars.getD i 0 = 0) (hb : ∀ p, (w.proc p).blocked = none) : TTH w :=
  ⟨TT.init w hei haw hnt hv hg, fun p f hf => by rw [hb] at hf; cases hf⟩

theorem TTH.timers_scheduled (h : TTH w) (q : Pid) (k : Nat) (hk : Await.time k ∈ (w.proc q).awaits) :
    isScheduled w.ev k = true := h.tt.timers_scheduled q k hk

theorem TTH.reach {w w' : World} (hr : Reach w w') (h : TTH w) (hs : TProgOk w) : TTH w' ∧ TProgOk w' :=
  hr.keeps (I := fun w => TTH w ∧ TProgOk w) (fun h hd => ⟨h.1.dispatch h.2 hd, h.2.ofStat (Stat.dispatch hd)⟩) ⟨h, hs⟩

end CimbaModel.Sim.S4
