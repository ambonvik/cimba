/-
  S1 — frame lemmas, second part: pools, buffers, object queues, priority queues, in blocks as in S1Frame.
  Before them, the two views the holder invariant reads, under any effect: holder and guard of a resource (`World.rv`:
  `Eff.rv`; no step of the library writes a guard, `Eff.resGuard`) and how often a process lists a resource among its
  holdings (`World.hcount`: `Outside.hcount`).
-/
import CimbaModel.Sim.S1Frame

namespace CimbaModel.Sim
open CimbaModel CimbaModel.Event CimbaModel.Generated
open CimbaModel.HashHeap (HTag Item Order HH)

/-- the guard of a resource is written by no step of the library -/
theorem Eff.resGuard {p : Pid} {s : Scope} {w0 w : World} (h : Eff p s w0 w) (i : Nat) :
    (w.res[i]?).map Res.guard = (w0.res[i]?).map Res.guard := by
  induction h with
  | refl => rfl
  | @fail w _ msg ih => rcases fail_eq w msg with e | e <;> rw [e] <;> exact ih
  | setVar _ q v x _ _ _ ih => rw [setVar_res]; exact ih
  | res _ _ a ha _ ih => exact (ha i).trans ih
  | _ => rename_i ih; exact ih

/-- holder and guard of every resource stand under a step that writes no resource, or not what a demand reads of one -/
theorem Eff.rv {p : Pid} {s : Scope} {w0 w : World} (h : Eff p s w0 w) (ha : s.res = false ∨ s.avail = false) (r : Nat) :
    w.rv r = w0.rv r := by
  rcases ha with ha | ha
  · exact rv_congr (h.outside.res ha) r
  · have h1 := h.outside.holder ha r
    have h2 := h.resGuard r
    unfold World.rv
    cases hx : w.res[r]? <;> cases hy : w0.res[r]? <;> simp_all

theorem Outside.hcount {p : Pid} {s : Scope} {w0 w : World} (o : Outside p s w0 w) (q : Pid) (r : Nat)
    (h : s.heldR.Out p q) : w.hcount q r = w0.hcount q r := by
  unfold World.hcount
  rw [← List.count_filter (p := isResH) (l := (w.proc q).held) rfl, o.heldR q h, List.count_filter rfl]

@[simp] theorem recordRes_rv (w : World) (r r' : Nat) : (recordRes w r).rv r' = w.rv r' :=
  (recordRes_eff w r 0).rv (.inr rfl) r'

section
variable (w : World) (pl : Nat) (p : Pid) (n : Nat)
theorem setHeldAmount_eff (z : Pid) : Eff z { pools := true, ph := true } w (setHeldAmount w pl p n):=
  Eff.setHeldAmount .refl pl p n
world_frame setHeldAmount : (setHeldAmount w pl p n) ~ w keeps ev evWaiters procs guards res bufs oqs pqs conds flags gvars now
  by from_eff (setHeldAmount_eff w pl p n 0).outside
theorem poolUpdateRecord_eff : Eff p { pools := true, ph := true, heldP := .self } w (poolUpdateRecord w pl p n):=
  Eff.poolUpdateRecord .refl pl p n
world_frame poolUpdateRecord : (poolUpdateRecord w pl p n) ~ w keeps ev evWaiters guards res bufs oqs pqs conds flags gvars now np
  by from_eff (poolUpdateRecord_eff w pl p n).outside
proc_frame poolUpdateRecord : (poolUpdateRecord w pl p n) ~ w keeps prio status awaits waiters blocked pc script vars exitVal
  by from_eff_proc (poolUpdateRecord_eff w pl p n).outside
end

theorem hcount_modProc (w : World) (p : Pid) (f : Proc → Proc) (q : Pid) (r : Nat) :
    (w.modProc p f).hcount q r =
      if q = p ∧ p < w.procs.size then (f (w.proc p)).held.count (.res r) else w.hcount q r := by
  unfold World.hcount; rw [proc_modProc]; split <;> rfl

@[simp] theorem removeHeld_hcount (w : World) (p : Pid) (h : HoldRef) (q : Pid) (r : Nat) :
    (removeHeld w p h).1.hcount q r = if q = p ∧ h = .res r then 0 else w.hcount q r := by
  unfold removeHeld
  simp only [hcount_modProc]
  by_cases hq : q = p
  · subst hq
    by_cases hp : q < w.procs.size
    · simp only [hp, and_self, if_true, true_and]
      split
      · rename_i he; subst he
        simp [List.count_eq_zero]
      · rename_i he
        unfold World.hcount
        rw [List.count_filter]
        simp only [ne_eq, decide_not, Bool.not_eq_eq_eq_not, Bool.not_true, decide_eq_false_iff_not]
        exact fun e => he e.symm
    · simp only [hp, and_false, if_false, true_and]
      split
      · unfold World.hcount; rw [proc_oob w q hp]; rfl
      · rfl
  · simp [hq]

/-- the victim loop of a preempting acquisition: anybody's holdings, the pool, the signal to its guard, the interrupts -/
def mugScope : Scope :=
  { signalScope with pools := true, ph := true, avail := true, heldP := .any, push := [aIntr, aRes, aCond] }

section
variable (fuel : Nat) (w : World) (p : Pid) (pl rem : Nat)
theorem poolMug_eff : Eff p mugScope w (poolMug fuel w p pl rem).1 := Eff.poolMug (s := mugScope) .refl fuel p pl rem
proc_frame poolMug : (poolMug fuel w p pl rem).1 ~ w keeps prio status awaits waiters blocked pc script vars exitVal
  by from_eff_proc (poolMug_eff fuel w p pl rem).outside
end

/-- one pass of a pool acquisition, preempting or not -/
def poolScope : Scope := { mugScope with awaitsG := .self, blocked := .self }

section
variable (w : World) (p : Pid) (pl rem initially : Nat) (preempt : Bool)
theorem poolLoop_eff : Eff p poolScope w (poolLoop w p pl rem initially preempt).1 :=
  Eff.poolLoop (s := poolScope) .refl p pl rem initially preempt
world_frame poolLoop : (poolLoop w p pl rem initially preempt).1 ~ w keeps evWaiters res bufs oqs pqs conds flags gvars now np
  by from_eff (poolLoop_eff w p pl rem initially preempt).outside
proc_frame poolLoop : (poolLoop w p pl rem initially preempt).1 ~ w keeps prio status waiters pc script vars exitVal
  by from_eff_proc (poolLoop_eff w p pl rem initially preempt).outside
/-- without preemption: the caller's own pool holdings, no interrupt -/
def poolPlainScope : Scope :=
  { signalScope with pools := true, ph := true, avail := true, heldP := .self, awaitsG := .self, blocked := .self }
theorem poolLoop_plain_eff : Eff p poolPlainScope w (poolLoop w p pl rem initially false).1 :=
  Eff.poolLoop (s := poolPlainScope) .refl p pl rem initially false
@[simp] theorem poolLoop_hcount (q : Pid) (r : Nat) : (poolLoop w p pl rem initially preempt).1.hcount q r = w.hcount q r :=
  (poolLoop_eff w p pl rem initially preempt).outside.hcount q r (.inl rfl)
theorem poolRollback_eff : Eff p { signalScope with pools := true, ph := true, avail := true, heldP := .self } w (poolRollback w p pl initially):=
  Eff.poolRollback (s := { signalScope with pools := true, ph := true, avail := true, heldP := .self }) .refl p pl initially
world_frame poolRollback : (poolRollback w p pl initially) ~ w keeps evWaiters res bufs oqs pqs conds flags gvars now np
  by from_eff (poolRollback_eff w p pl initially).outside
proc_frame poolRollback : (poolRollback w p pl initially) ~ w keeps prio status awaits waiters blocked pc script vars exitVal
  by from_eff_proc (poolRollback_eff w p pl initially).outside
@[simp] theorem poolRollback_hcount (q : Pid) (r : Nat) : (poolRollback w p pl initially).hcount q r = w.hcount q r :=
  (poolRollback_eff w p pl initially).outside.hcount q r (.inl rfl)
end

/-- a call that signals guards and may end in a wait on one -/
def waitScope : Scope := { signalScope with awaitsG := .self, blocked := .self, avail := true }

section
variable (w : World) (p : Pid) (b rem got : Nat)
theorem bufGetLoop_eff : Eff p { waitScope with bufs := true } w (bufGetLoop w p b rem got).1 :=
  Eff.bufGetLoop (s := { waitScope with bufs := true }) .refl p b rem got
world_frame bufGetLoop : (bufGetLoop w p b rem got).1 ~ w keeps evWaiters res pools oqs pqs conds flags gvars now np
  by from_eff (bufGetLoop_eff w p b rem got).outside
proc_frame bufGetLoop : (bufGetLoop w p b rem got).1 ~ w keeps prio status waiters held pc script vars exitVal
  by from_eff_proc (bufGetLoop_eff w p b rem got).outside
theorem bufPutLoop_eff : Eff p { waitScope with bufs := true } w (bufPutLoop w p b rem got).1 :=
  Eff.bufPutLoop (s := { waitScope with bufs := true }) .refl p b rem got
world_frame bufPutLoop : (bufPutLoop w p b rem got).1 ~ w keeps evWaiters res pools oqs pqs conds flags gvars now np
  by from_eff (bufPutLoop_eff w p b rem got).outside
proc_frame bufPutLoop : (bufPutLoop w p b rem got).1 ~ w keeps prio status waiters held pc script vars exitVal
  by from_eff_proc (bufPutLoop_eff w p b rem got).outside
end

section
variable (w : World) (p : Pid) (k obj : Nat) (pri : Int) (v : Nat)
theorem oqGetLoop_eff : Eff p { waitScope with oqs := true } w (oqGetLoop w p k).1 :=
  Eff.oqGetLoop (s := { waitScope with oqs := true }) .refl p k
world_frame oqGetLoop : (oqGetLoop w p k).1 ~ w keeps evWaiters res pools bufs pqs conds flags gvars now np
  by from_eff (oqGetLoop_eff w p k).outside
proc_frame oqGetLoop : (oqGetLoop w p k).1 ~ w keeps prio status waiters held pc script vars exitVal
  by from_eff_proc (oqGetLoop_eff w p k).outside
theorem oqPutLoop_eff : Eff p { waitScope with oqs := true } w (oqPutLoop w p k obj).1 :=
  Eff.oqPutLoop (s := { waitScope with oqs := true }) .refl p k obj
world_frame oqPutLoop : (oqPutLoop w p k obj).1 ~ w keeps evWaiters res pools bufs pqs conds flags gvars now np
  by from_eff (oqPutLoop_eff w p k obj).outside
proc_frame oqPutLoop : (oqPutLoop w p k obj).1 ~ w keeps prio status waiters held pc script vars exitVal
  by from_eff_proc (oqPutLoop_eff w p k obj).outside
theorem pqGetLoop_eff : Eff p { waitScope with pqs := true } w (pqGetLoop w p k).1 :=
  Eff.pqGetLoop (s := { waitScope with pqs := true }) .refl p k
world_frame pqGetLoop : (pqGetLoop w p k).1 ~ w keeps evWaiters res pools bufs oqs conds flags gvars now np
  by from_eff (pqGetLoop_eff w p k).outside
proc_frame pqGetLoop : (pqGetLoop w p k).1 ~ w keeps prio status waiters held pc script vars exitVal
  by from_eff_proc (pqGetLoop_eff w p k).outside
/-- the put also writes the handle of the queued object into a variable -/
def pqPutScope : Scope := { waitScope with pqs := true, vars := .self, gvars := true, pqVars := none }
theorem pqPutLoop_eff : Eff p pqPutScope w (pqPutLoop w p k obj pri v).1 :=
  Eff.pqPutLoop (s := pqPutScope) .refl p k obj pri v
world_frame pqPutLoop : (pqPutLoop w p k obj pri v).1 ~ w keeps evWaiters res pools bufs oqs conds flags now np
  by from_eff (pqPutLoop_eff w p k obj pri v).outside
proc_frame pqPutLoop : (pqPutLoop w p k obj pri v).1 ~ w keeps prio status waiters held pc script exitVal
  by from_eff_proc (pqPutLoop_eff w p k obj pri v).outside
end

end CimbaModel.Sim
