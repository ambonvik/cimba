/-
  S3 — every state change that can satisfy a waiter's demand signals the right guard in the same step.
  Each statement is an equation: the step = `signal (the updated, recorded state) guard`.
-/
import CimbaModel.Sim.S3Frame
import CimbaModel.HashHeap.Inv

namespace CimbaModel.Sim.S3
open CimbaModel CimbaModel.Sim CimbaModel.Event CimbaModel.Generated CimbaModel.KPQ
open CimbaModel.HashHeap (HTag Item Order HH WF abs liveTags)

/-- `cmb_resource_release` by the holder: holder := none, record, signal the resource's guard -/
theorem release_signals {w : World} {p : Pid} {r : Nat} {x : Res} (hx : w.res[r]? = some x) (hh : x.holder = some p) :
    execCmd w p (.release r) =
      (signal (recordRes { (removeHeld w p (.res r)).1 with
        res := (removeHeld w p (.res r)).1.res.set! r { x with holder := none } } r) x.guard, .ret 0 "") := by
  simp only [execCmd, hx, hh]
  simp

/-- a resource dropped at the end of a process (or on a stop): holder := none, record, signal -/
theorem dropStep_res_signals {w : World} (p : Pid) {r : Nat} {x : Res} (hx : w.res[r]? = some x) :
    dropStep p w (.res r) = signal (recordRes { w with res := w.res.set! r { x with holder := none } } r) x.guard := by
  simp only [dropStep, hx]

theorem dropStep_pool (w : World) (p : Pid) (pl : Nat) : dropStep p w (.pool pl) = poolDropHolder w pl p := rfl

/-- a holder record dropped: the units go back, record, signal the pool's guard -/
theorem poolDropHolder_signals {w : World} {pl : Nat} {p : Pid} {x : Pool} {i : Nat} {h' : HH} {b : Bool}
    (hx : w.pools[pl]? = some x) (hi : HashHeap.findIndex x.holders (p + 1) = .ok (i + 1))
    (hr : HashHeap.remove holder_queue_check x.holders (p + 1) = .ok (h', b)) :
    poolDropHolder w pl p =
      signal (recordPool { w with pools := w.pools.set! pl { x with inUse := x.inUse - (x.holders.heap.getD (i + 1) {}).item.b, holders := h' } } pl) x.guard := by
  simp only [poolDropHolder, hx, hi, hr]

/-- not a holder: nothing happens (and nothing needs to be signalled) -/
theorem poolDropHolder_absent {w : World} {pl : Nat} {p : Pid} {x : Pool}
    (hx : w.pools[pl]? = some x) (hi : HashHeap.findIndex x.holders (p + 1) = .ok 0) :
    poolDropHolder w pl p = w := by
  simp only [poolDropHolder, hx, hi]

/-- `cmb_resourcepool_release` of `n ≤ held` units: in_use -= n, record, signal -/
theorem poolRelease_signals {w : World} {p : Pid} {pl n : Nat} {x : Pool} (hx : w.pools[pl]? = some x)
    (hn : ¬ (n = 0 ∨ n > heldAmount w pl p)) :
    ∃ w1 : World, execCmd w p (.poolRelease pl n) =
      (signal (recordPool (setPoolInUse w1 pl (x.inUse - n)) pl) x.guard, .ret 0 "") := by
  simp only [execCmd, hx, hn, if_false]
  exact ⟨_, rfl⟩

/-- rollback of a partly fulfilled acquisition that started from nothing: the units go back, signal -/
theorem poolRollback_zero_signals {w : World} {p : Pid} {pl : Nat} {x : Pool} {h' : HH} {found : Bool}
    (hx : w.pools[pl]? = some x)
    (hr : HashHeap.remove holder_queue_check x.holders (p + 1) = .ok (h', found)) :
    ∃ w1 : World, poolRollback w p pl 0 = signal w1 x.guard ∧
      w1.pools = (recordPool (setPoolInUse w pl (x.inUse - heldAmount w pl p)) pl).pools.modify pl
        (fun y => { y with holders := h' }) := by
  simp only [poolRollback, hx, hr, Nat.lt_irrefl, if_false]
  refine ⟨_, rfl, ?_⟩
  split <;> simp [removeHeld]

/-- rollback to what was held initially when more is held now: the surplus goes back, signal -/
theorem poolRollback_surplus_signals {w : World} {p : Pid} {pl initially : Nat} {x : Pool}
    (hx : w.pools[pl]? = some x) (h0 : initially > 0) (hs : heldAmount w pl p > initially) :
    poolRollback w p pl initially =
      signal (recordPool (setPoolInUse (setHeldAmount w pl p initially) pl
        (x.inUse - (heldAmount w pl p - initially))) pl) x.guard := by
  simp only [poolRollback, hx, h0, hs, if_true]

/-- an acquisition that can be completed from the free units: take them, record, update the holder record, signal
    (what is left may satisfy the next waiter) -/
theorem poolLoop_done_signals {w : World} {p : Pid} {pl rem initially : Nat} {preempt : Bool} {x : Pool}
    (hx : w.pools[pl]? = some x) (ha : x.cap - x.inUse ≥ rem) :
    poolLoop w p pl rem initially preempt =
      (signal (poolUpdateRecord (recordPool (setPoolInUse w pl (x.inUse + rem)) pl) pl p rem) x.guard,
       .ret sigSuccess "") := by
  simp only [poolLoop, hx, ha, if_true]

/-- a get that can be completed: level -= n, record, signal the putters' guard, and the getters' guard if something
    is left -/
theorem bufGet_done_signals {w : World} {p : Pid} {b rem got : Nat} {x : Buf} (hx : w.bufs[b]? = some x)
    (hl : x.level ≥ rem) :
    (bufGetLoop w p b rem got).1 =
      (let w1 := signal (recordBuf { w with bufs := w.bufs.set! b { x with level := x.level - rem, getTotal := x.getTotal + rem } } b) x.rear
       if x.level - rem > 0 then signal w1 x.front else w1) := by
  simp only [bufGetLoop, hx, hl, if_true]

/-- a get that takes what is there and then waits: level := 0, record, signal the putters' guard (twice, as the C code
    does), then enter the wait on the getters' guard -/
theorem bufGet_partial_signals {w : World} {p : Pid} {b rem got : Nat} {x : Buf} (hx : w.bufs[b]? = some x)
    (hl : ¬ x.level ≥ rem) (hpos : x.level > 0) :
    (bufGetLoop w p b rem got).1 =
      (guardWaitEnter (signal (signal (recordBuf { w with bufs := w.bufs.set! b { x with level := 0, getTotal := x.getTotal + x.level } } b) x.rear) x.rear) x.front p (.bufContent b)).modProc p
        (fun y => { y with blocked := some (.bufGet b (rem - x.level) (got + x.level)) }) := by
  simp only [bufGetLoop, hx, hl, hpos, if_true, if_false, block]

/-- a put that can be completed: level += n, record, signal the getters' guard, and the putters' guard if space is left -/
theorem bufPut_done_signals {w : World} {p : Pid} {b rem left : Nat} {x : Buf} (hx : w.bufs[b]? = some x)
    (hl : x.cap - x.level ≥ rem) :
    (bufPutLoop w p b rem left).1 =
      (let w1 := signal (recordBuf { w with bufs := w.bufs.set! b { x with level := x.level + rem, putTotal := x.putTotal + rem } } b) x.front
       if x.level + rem < x.cap then signal w1 x.rear else w1) := by
  simp only [bufPutLoop, hx, hl, if_true]

theorem bufPut_partial_signals {w : World} {p : Pid} {b rem left : Nat} {x : Buf} (hx : w.bufs[b]? = some x)
    (hl : ¬ x.cap - x.level ≥ rem) (hpos : x.level < x.cap) :
    (bufPutLoop w p b rem left).1 =
      (guardWaitEnter (signal (signal (recordBuf { w with bufs := w.bufs.set! b { x with level := x.cap, putTotal := x.putTotal + (x.cap - x.level) } } b) x.front) x.front) x.rear p (.bufSpace b)).modProc p
        (fun y => { y with blocked := some (.bufPut b (rem - (x.cap - x.level)) (left - (x.cap - x.level))) }) := by
  simp only [bufPutLoop, hx, hl, hpos, if_true, if_false, block]

theorem oqGet_signals {w : World} {p : Pid} {q : Nat} {x : OQ} {o : Nat} {rest : List Nat} (hx : w.oqs[q]? = some x)
    (hi : x.items = o :: rest) :
    (oqGetLoop w p q).1 =
      signal (recordOQ { w with oqs := w.oqs.set! q { x with items := rest, gotLog := x.gotLog ++ [o] } } q) x.rear := by
  simp only [oqGetLoop, hx, hi]

theorem oqPut_signals {w : World} {p : Pid} {q obj : Nat} {x : OQ} (hx : w.oqs[q]? = some x)
    (hl : x.items.length < x.cap) :
    (oqPutLoop w p q obj).1 =
      signal (recordOQ { w with oqs := w.oqs.set! q { x with items := x.items ++ [obj], putLog := x.putLog ++ [obj] } } q)
        x.front := by
  simp only [oqPutLoop, hx, hl, if_true]

theorem pqGet_signals {w : World} {p : Pid} {k : Nat} {x : PQ} {q' : HH} {t : HTag} (hx : w.pqs[k]? = some x)
    (hc : x.queue.count > 0) (hd : HashHeap.dequeue compare_func x.queue = .ok (q', some t)) :
    (pqGetLoop w p k).1 =
      signal (recordPQ { w with pqs := w.pqs.set! k { x with queue := q', gotLog := x.gotLog ++ [t.key] } } k) x.rear := by
  simp only [pqGetLoop, hx, hc, if_true, hd]

theorem pqPut_signals {w : World} {p : Pid} {k obj v : Nat} {pri : Int} {x : PQ} {q' : HH} {h : Nat}
    (hx : w.pqs[k]? = some x) (hc : x.queue.count < x.cap)
    (he : HashHeap.enqueue compare_func x.queue ⟨obj, 0, 0, 0⟩ 0 0 pri = .ok (q', h)) :
    (pqPutLoop w p k obj pri v).1 =
      signal (recordPQ (setVar { w with pqs := w.pqs.set! k { x with queue := q', putLog := x.putLog ++ [h] } } p v h) k)
        x.front := by
  simp only [pqPutLoop, hx, hc, if_true, he]

/-- cancelling a queued object frees a slot: record, signal the putters' guard -/
theorem pqCancel_signals {w : World} {p : Pid} {k v : Nat} {x : PQ} {q' : HH} (hx : w.pqs[k]? = some x)
    (hv : getVar w p v ≠ 0) (hr : HashHeap.remove compare_func x.queue (getVar w p v) = .ok (q', true)) :
    (execCmd w p (.pqCancel k v)).1 =
      signal (recordPQ { w with pqs := w.pqs.set! k { x with queue := q', cancelLog := x.cancelLog ++ [getVar w p v] } } k) x.rear := by
  simp only [execCmd, hx, hv, if_false, hr, if_true]

end CimbaModel.Sim.S3
