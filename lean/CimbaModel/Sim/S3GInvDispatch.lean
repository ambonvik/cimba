/-
  S3 — `GInv`: `GInvB` and the static side conditions `SideOk`; an activation (`GInvB.act`; `Due`: a resumption with
  SUCCESS must be legitimate), what is left right after an event has been taken (`Took`), one dispatch (`GInvB.run`, relying
  on `GRely`: the ownership of the event taken makes the resumption legitimate).
-/
import CimbaModel.Sim.S3GInvCmd
import CimbaModel.Sim.S3NR
import CimbaModel.Sim.S3PInvCor

namespace CimbaModel.Sim.S3
open CimbaModel CimbaModel.Sim CimbaModel.Event CimbaModel.Generated CimbaModel.KPQ
open CimbaModel.HashHeap (HTag Item Order HH WF abs liveTags)

/-- the stable form of `GInv` between dispatches: nobody exempt, logical frame = recorded frame -/
def GInvB (w : World) : Prop := GInv noEx (blockedOf w) w

theorem GInv.toB {fr : Pid → Option Frame} {w : World} (h : GInv noEx fr w) : GInvB w := h.toBlocked noEx_not

/-- the static side conditions: conditions have guards of their own; timer / resume / interrupt signals are not SUCCESS -/
structure SideOk (w : World) : Prop where
  sep : CondSep w
  ok : ScriptsOk w

theorem SideOk.ofStat {w w' : World} (h : SideOk w) (hs : Stat w w') : SideOk w' := ⟨h.sep.ofStat hs, h.ok.ofStat hs⟩

theorem GInvB.advance {w : World} (h : GInvB w) (p : Pid) (l : String) (pc' : Nat) :
    GInvB ((w.emit l).modProc p fun y => { y with pc := pc' }) :=
  (GInv.modProc_ctl (GInv.emit h l) p (fun y => { y with pc := pc' }) (fun _ => ⟨rfl, rfl⟩)).toB

/-- a property of the static data is kept by the run -/
theorem run_ofStat {P : World → Prop} (hP : ∀ {w w'}, P w → Stat w w' → P w') : Run P P Caller fun _ _ _ => True where
  emit h l := hP h ((Stat.refl _).emit l)
  fail h m := hP h ((Stat.refl _).fail m)
  pc h p n := hP h ((Stat.refl _).modProc p _ fun _ => rfl)
  finish h p := hP h ((Stat.refl _).finishProc p 0 false)
  exec h p _ c _ _ l := hP h (Stat.eff (eff_execCmd (.emit .refl l) p c))
  next _ _ hc _ _ hs _ _ _ l n heq ho := hc.next hs heq ho l n
  resume h p f sig _ hrun _ :=
    ⟨hP h (((Stat.refl _).modProc p (fun y => { y with blocked := none }) fun _ => rfl).step (eff_resumeFrame .refl p f sig)), fun _ _ _ l n heq => Caller.resumed hrun heq l n⟩
  start h t ev' _ _ :=
    have hT := hP h (Stat.takeNext _ t ev')
    ⟨hT, fun _ => ⟨hP hT ((Stat.refl _).modProc _ _ fun _ => rfl), Caller.started _ _⟩⟩
  time h t ev' _ _ := ⟨hP h ((Stat.takeNext _ t ev').step (.removeAwait .refl _ _)), trivial⟩
  wake h t ev' _ k _ := ⟨hP h ((Stat.takeNext _ t ev').step (.removeAwaitKind .refl _ k)), trivial⟩
  grant h t ev' _ _ := ⟨hP h (Stat.takeNext _ t ev'), trivial⟩
  intr h t ev' _ _ := ⟨hP h ((Stat.takeNext _ t ev').cancelAwaiteds _), trivial⟩
  other h t ev' _ _ := hP h (Stat.takeNext _ t ev')

/-- a resumption of `p` with `sig` is legitimate: one with SUCCESS finds nothing of `p`'s pending or queued -/
def Due (p : Pid) (sig : Int) (w : World) : Prop := ∀ f, (w.proc p).blocked = some f → sig = sigSuccess → Quiet w p

/-- one activation keeps `GInvB` under the static side conditions alone -/
theorem GInvB.act : Act (fun w => GInvB w ∧ SideOk w) GInvB Caller Due where
  emit h l := (GInv.emit h.1 l).toB
  fail h m := (GInv.fail h.1 m).toB
  pc h p n := (GInv.modProc_ctl h.1 p (fun y => { y with pc := n }) fun _ => ⟨rfl, rfl⟩).toB
  finish h p := (GInv.finishProc h.1 p 0 false (noEx_not p)).toB
  exec h p hc c text hs l :=
    ((GInv.emit h.1 l).execCmd_ex (p := p) hc.1 (lt_np_of_script _ _ _ _ hs) h.2.sep c (h.2.ok p _ c text hs)).elim fun _ hx => hx.toB
  next _ _ hc _ _ hs _ _ _ l n heq ho := hc.next hs heq ho l n
  resume h p f sig hd hrun hbf :=
    ⟨(GInv.resume_ex h.1 (fr := blockedOf _) hbf (lt_of_running hrun) h.2.sep sig (hd f hbf)).elim fun _ hx => hx.toB,
      fun _ _ _ l n heq => Caller.resumed hrun heq l n⟩

/-- resuming a suspended process; a SUCCESS resumption must be legitimate (`Quiet`) -/
theorem GInvB.resumeProc {w : World} (h : GInvB w) (hside : SideOk w) (p : Pid) (sig : Int)
    (hq : ∀ f, (w.proc p).blocked = some f → sig = sigSuccess → Quiet w p) : GInvB (resumeProc w p sig) :=
  ((GInvB.act.and ((run_ofStat SideOk.ofStat).toAct.mono And.right id id)).resumeProc (I := fun w => GInvB w ∧ SideOk w)
    ⟨h, hside⟩ p sig ⟨hq, trivial⟩).1

theorem GInv.wakeEventWaiters {ex : Pid → Prop} {fr : Pid → Option Frame} {w : World} (hp : GInv ex fr w) (ps : List Pid) :
    GInv ex fr (Sim.wakeEventWaiters w ps sigSuccess) := by
  unfold Sim.wakeEventWaiters
  refine (Path.ofPred (GInv ex fr)).foldl (fun w q h => ?_) _ _ hp
  exact h.sched_harmless aEvent (q + 1) sigSuccess w.now (w.proc q).prio (by decide)

/-- what is left of `w` right after the event `t` has been taken (and possibly some awaitables removed) -/
structure Took (w : World) (t : HTag) (w' : World) : Prop where
  pend : ∀ e ∈ w'.ev.pending, (e ∈ w.ev.pending ∧ e.key ≠ t.key) ∨ e.item.a = aEvent
  aw : ∀ x a, a ∈ (w'.proc x).awaits → a ∈ (w.proc x).awaits
  bl : ∀ x, (w'.proc x).blocked = (w.proc x).blocked
  guards : w'.guards = w.guards

theorem took_takeNext {w : World} {t : HTag} {ev' : EvQ} (hi : EvInv w.ev) (hn : executeNext w.ev = some (t, ev')) :
    Took w t (takeNext w t ev') :=
  ⟨fun e he => (takeNext_pending hi hn e he).imp id And.left, fun x _ h => by rw [takeNext_proc] at h; exact h,
    fun x => by rw [takeNext_proc], by rw [takeNext_eq]; rfl⟩

theorem GInvB.takeNext {w : World} (hp : GInvB w) {t : HTag} {ev' : EvQ} (hn : executeNext w.ev = some (t, ev')) :
    GInvB (takeNext w t ev') := by
  obtain ⟨hei', _, hpend, _⟩ := executeNext_facts hp.ei hn
  unfold S3.takeNext
  refine (GInv.wakeEventWaiters (fr := blockedOf w) ?_ _).toB
  refine hp.congr (fun _ => rfl) (fun _ => rfl) rfl rfl rfl (fun _ _ => Iff.rfl) hei' ?_
  intro e he
  have : e ∈ remove w.ev.pending t.key := by rw [← hpend]; exact he
  exact Or.inl ⟨e, (mem_remove.1 this).1, rfl, rfl⟩

theorem Took.removeAwait {w w' : World} {t : HTag} (h : Took w t w') (p : Pid) (a : Await) : Took w t (removeAwait w' p a).1 := by
  rw [removeAwait_fst_eq]
  refine ⟨h.pend, ?_, ?_, h.guards⟩
  · intro x b hb
    rw [modProc_proc] at hb
    split at hb
    · rename_i hq; rw [hq.1]; exact h.aw p b ((removeFirst_sublist _ _).subset hb)
    · exact h.aw x b hb
  · intro x; rw [modProc_proc]; split
    · rename_i hq; rw [hq.1]; exact h.bl p
    · exact h.bl x

theorem Took.removeAwaitKind {w w' : World} {t : HTag} (h : Took w t w') (p : Pid) (k : Await → Bool) :
    Took w t (removeAwaitKind w' p k).1 := by
  rw [removeAwaitKind_fst_eq]
  refine ⟨h.pend, ?_, ?_, h.guards⟩
  · intro x b hb
    rw [modProc_proc] at hb
    split at hb
    · rename_i hq; rw [hq.1]; exact h.aw p b ((rak_go_sublist _ _).subset hb)
    · exact h.aw x b hb
  · intro x; rw [modProc_proc]; split
    · rename_i hq; rw [hq.1]; exact h.bl p
    · exact h.bl x

variable {fr : Pid → Option Frame} {w w' : World} {t : HTag} {p : Pid}

/-- a process suspended in a call that is not a guard wait: nothing of `GInv`'s concern is pending for it, except
    possibly the timer of its hold -/
theorem Took.quiet_frame (hk : Took w t w') (hp : GInv noEx fr w) {f : Frame} (hfr : fr p = some f)
    (hno : ∀ g, ¬ FrameOn w f g)
    (hnt : ∀ e ∈ w.ev.pending, e.key ≠ t.key → e.item.a = aTime → e.item.c = 0 → e.item.b ≠ p + 1) : Quiet w' p := by
  have hnil : ∀ g, Await.guard g ∉ (w.proc p).awaits := by
    intro g hg
    rw [mem_awaits_guard] at hg
    rcases hp.ga p with h | ⟨g', f', h1, h2, _⟩
    · rw [h] at hg; cases hg
    · rw [hfr] at h1; cases h1; exact hno g' h2
  refine ⟨?_, ?_, ?_⟩
  · intro e he hgr hb
    rcases hk.pend e he with ⟨hm, _⟩ | ha
    · obtain ⟨_, h2⟩ := hp.gr e hm hgr
      obtain ⟨g, h3, _⟩ := h2 (noEx_not _)
      rw [hb, Nat.add_sub_cancel] at h3
      exact hnil g h3
    · rcases hgr with ⟨h, _⟩ | h <;> rw [ha] at h <;> exact absurd h (by decide)
  · intro e he hea hec
    rcases hk.pend e he with ⟨hm, hne⟩ | ha
    · exact hnt e hm hne hea hec
    · rw [ha] at hea; exact absurd hea (by decide)
  · intro g hg
    exact absurd (hk.aw p _ hg) (hnil g)

theorem Took.quiet_grant (hk : Took w t w') (hp : GInv noEx fr w) (ht : t ∈ w.ev.pending) (hg : isGrant t)
    (hb : t.item.b = p + 1) : Quiet w' p := by
  obtain ⟨_, h2⟩ := hp.gr t ht hg
  obtain ⟨g, hga, hnq⟩ := h2 (noEx_not _)
  rw [hb] at hnq
  rw [hb, Nat.add_sub_cancel] at hga
  have hga' := mem_awaits_guard.1 hga
  obtain ⟨f, hfr, hon, haw⟩ : ∃ f, fr p = some f ∧ FrameOn w f g ∧ guardAw w p = [.guard g] := by
    rcases hp.ga p with h | ⟨g', f', h1, h2, h3⟩
    · rw [h] at hga'; cases hga'
    · rw [h3] at hga'
      have : g = g' := by simpa using hga'
      subst this
      exact ⟨f', h1, h2, h3⟩
  refine ⟨?_, ?_, ?_⟩
  · intro e he hgr hbe
    rcases hk.pend e he with ⟨hm, hne⟩ | ha
    · have := hp.gu e hm t ht hgr hg (hbe.trans hb.symm) (noEx_not _)
      exact hne (by rw [this])
    · rcases hgr with ⟨h, _⟩ | h <;> rw [ha] at h <;> exact absurd h (by decide)
  · intro e he hea hec hbe
    rcases hk.pend e he with ⟨hm, _⟩ | ha
    · have := (hp.oth e hm hea hec).2 (noEx_not _)
      rw [hbe, Nat.add_sub_cancel, hfr] at this
      cases this
      exact hon
    · rw [ha] at hea; exact absurd hea (by decide)
  · intro g' hg' hq
    have h1 := mem_awaits_guard.1 (hk.aw p _ hg')
    rw [haw] at h1
    have : g' = g := by simpa using h1
    subst this
    exact hnq ((queued_congr hk.guards _ _).1 hq)

/-- a condition wake-up: the dispatcher removes the RESOURCE awaitable before it resumes the process -/
theorem GInv.dropGuardAwaits (hp : GInv noEx fr w) (p : Pid) (hq : Quiet w p) :
    GInv noEx fr (removeAwaitKind w p isGuardA).1 := by
  rw [removeAwaitKind_fst_eq]
  have htail : ((removeAwaitKind.go isGuardA (w.proc p).awaits).1).filter isGuardA = [] := by
    rw [rak_go_filter_self]
    have : (w.proc p).awaits.filter isGuardA = guardAw w p := rfl
    rw [this]
    rcases hp.ga p with h | ⟨g, _, _, _, h⟩ <;> rw [h] <;> rfl
  have hnq : ∀ g, ¬ queued w g (p + 1) := by
    intro g hqq
    have := (hp.gk g _ hqq).2.2 (noEx_not _)
    rw [Nat.add_sub_cancel] at this
    exact hq.nq g this hqq
  have hE := (hp.exempt p).setAwaitsEx (fun l => (removeAwaitKind.go isGuardA l).1) htail
  have hbl : ((w.modProc p fun x => { x with awaits := (removeAwaitKind.go isGuardA x.awaits).1 }).proc p).blocked =
      (w.proc p).blocked := by
    rw [modProc_proc]; split <;> rfl
  refine hE.unexempt ?_ ?_ ?_ ?_ ?_ ?_ ?_
  · intro g hqq; exact absurd hqq (hnq g)
  · intro hb
    rw [hbl] at hb
    refine ⟨?_, (hp.gfb p (noEx_not p) hb).2⟩
    unfold guardAw
    by_cases hsz : p < w.procs.size
    · rw [modProc_proc_self w _ hsz]; exact htail
    · rw [modProc_proc]; simp only [hsz, and_false, if_false]
      rw [proc_oob _ (Nat.le_of_not_lt hsz)]; rfl
  · intro e he hgr hb; exact absurd hb (hq.ng e he hgr)
  · intro a ha _ _ h1 _ hba _; exact absurd hba (hq.ng a ha h1)
  · intro e he hea hb; exact absurd hb (hq.ng e he (Or.inr hea))
  · intro _ g _ hqq; exact absurd hqq (hnq g)
  · intro e he hea hec hb
    have := (hp.oth e he hea hec).2 (noEx_not _)
    rw [hb, Nat.add_sub_cancel] at this
    exact this

/-- what `GInv` relies on at a dispatch: the owner of a process-end / event-done wake-up (`PInvB`), the inertness of a
    process that is not running (`NRInv`), the static side conditions -/
structure GRely (w : World) : Prop where
  g : GInvB w
  p : PInvB w
  nr : NRInv w
  side : SideOk w

/-- right after the event `t` has been taken -/
structure Taken (w : World) (t : HTag) (wT : World) : Prop where
  g : GInvB wT
  took : Took w t wT
  mem : t ∈ w.ev.pending
  proc : ∀ x, wT.proc x = w.proc x
  sig0 : decSig t.item.c = sigSuccess → t.item.c = 0

theorem GRely.taken {w : World} (h : GRely w) {t : HTag} {ev' : EvQ} (hn : executeNext w.ev = some (t, ev')) :
    Taken w t (S3.takeNext w t ev') :=
  ⟨h.g.takeNext hn, took_takeNext h.g.ei hn, (executeNext_facts h.g.ei hn).2.1, takeNext_proc w t ev',
    (decSig_eq_zero (h.g.cl t (executeNext_facts h.g.ei hn).2.1)).1⟩

theorem GRely.quietF {w W : World} (h : GRely w) {t : HTag} {f : Frame} {p : Pid} (hkW : Took w t W) (hfr : (w.proc p).blocked = some f)
    (hno : ∀ g, ¬ FrameOn w f g) (hnh : ∀ k, f ≠ .hold k) : Quiet W p := by
  refine hkW.quiet_frame h.g (p := p) hfr hno ?_
  intro e he _ hea hec hbe
  have := (h.g.oth e he hea hec).2 (noEx_not _)
  rw [hbe, Nat.add_sub_cancel] at this
  exact hnh e.key (Option.some.inj (hfr.symm.trans this))

theorem GInvB.run : Run GRely GInvB Caller Due where
  toAct := GInvB.act.mono (fun h => ⟨h.g, h.side⟩) id id
  start {w} h t ev' hn _ := by
    have hT := h.taken hn
    generalize S3.takeNext w t ev' = wT at hT
    refine ⟨hT.g, fun hs => ⟨?_, Caller.started _ _⟩⟩
    have hin : (wT.proc (t.item.b - 1)).awaits = [] ∧ (wT.proc (t.item.b - 1)).blocked = none := by
      rw [hT.proc]; rw [hT.proc] at hs; exact h.nr _ hs
    refine (GInv.same (w' := wT.modProc (t.item.b - 1) fun y => { y with status := .running, pc := 0, blocked := none })
      hT.g (fun q => ?_) (fun q => ?_) rfl (by simp) rfl (fun _ _ => Iff.rfl) rfl).toB
    · rw [modProc_proc]; split
      · rename_i hq; rw [hq.1]
      · rfl
    · rw [modProc_proc]; split
      · rename_i hq; rw [hq.1]; exact hin.2.symm
      · rfl
  time {w} h t ev' hn ha := by
    have hT := h.taken hn
    generalize S3.takeNext w t ev' = wT at hT
    refine ⟨(hT.g.removeAwait_other _ (.time t.key) rfl).toB, fun f _ hs => ?_⟩
    have hc0 := hT.sig0 hs
    have hfr' := (h.g.oth t hT.mem ha hc0).2 (noEx_not _)
    refine (hT.took.removeAwait _ _).quiet_frame h.g hfr' (fun g h => h) ?_
    intro e he hne hea hec hbe
    have := (h.g.oth e he hea hec).2 (noEx_not _)
    rw [hbe, Nat.add_sub_cancel, hfr'] at this
    exact hne (Frame.hold.inj (Option.some.inj this)).symm
  wake {w} h t ev' hn k hkk := by
    have hT := h.taken hn
    generalize S3.takeNext w t ev' = wT at hT
    rcases hkk with ⟨ha, rfl⟩ | ⟨ha, rfl⟩ | ⟨ha, rfl⟩
    · refine ⟨(hT.g.removeAwaitKind_other _ _ isProcA_not_guard).toB, fun f _ _ => ?_⟩
      obtain ⟨p', q, hb, hbl, _⟩ := h.p.procWake_owned hT.mem ha
      have hpp : p' = t.item.b - 1 := by omega
      subst hpp
      exact h.quietF (hT.took.removeAwaitKind _ _) hbl (fun g h => h) (fun h hh => by cases hh)
    · refine ⟨(hT.g.removeAwaitKind_other _ _ isEventA_not_guard).toB, fun f _ _ => ?_⟩
      obtain ⟨p', q, hb, hbl, _⟩ := h.p.eventWake_owned hT.mem ha
      have hpp : p' = t.item.b - 1 := by omega
      subst hpp
      exact h.quietF (hT.took.removeAwaitKind _ _) hbl (fun g h => h) (fun h hh => by cases hh)
    · have hg : isGrant t := Or.inr ha
      have hb0 := (h.g.gr t hT.mem hg).1
      have hb : t.item.b = (t.item.b - 1) + 1 := by omega
      exact ⟨(hT.g.dropGuardAwaits _ (hT.took.quiet_grant h.g hT.mem hg hb)).toB,
        fun f _ _ => (hT.took.removeAwaitKind _ _).quiet_grant h.g hT.mem hg hb⟩
  grant {w} h t ev' hn ha := by
    have hT := h.taken hn
    generalize S3.takeNext w t ev' = wT at hT
    refine ⟨hT.g, fun f _ hs => ?_⟩
    have hc0 := hT.sig0 hs
    have hnz := h.g.nz t hT.mem hc0
    have hg : isGrant t := by
      rcases ha with h | h | h
      · exact Or.inl ⟨h, hc0⟩
      · exact absurd h hnz.2.2
      · exact absurd h hnz.2.1
    have hb0 := (h.g.gr t hT.mem hg).1
    exact hT.took.quiet_grant h.g hT.mem hg (by omega)
  intr {w} h t ev' hn ha := by
    have hT := h.taken hn
    generalize S3.takeNext w t ev' = wT at hT
    exact ⟨(GInv.cancelAwaiteds hT.g _ (noEx_not _)).1.toB, fun f _ hs => absurd ha (h.g.nz t hT.mem (hT.sig0 hs)).1⟩
  other h _ _ hn _ := (h.taken hn).g

theorem GRely.run : Run GRely GRely Caller Due :=
  (((GInvB.run.and (PInvB.kept.run.mono GRely.p id Iff.rfl)).and (NRInv.kept.run.mono GRely.nr id Iff.rfl)).and
    ((run_ofStat SideOk.ofStat).mono GRely.side id Iff.rfl)).mono id (fun h => ⟨h.1.1.1, h.1.1.2, h.1.2, h.2⟩)
    ⟨fun h => ⟨⟨⟨h, trivial⟩, trivial⟩, trivial⟩, fun h => h.1.1.1⟩

/-- `GInv` is preserved by `dispatch` (together with `PInvB`, `NRInv` and the static side conditions) -/
theorem GInvB.dispatch {w w' : World} (hp : GInvB w) (hP : PInvB w) (hnr : NRInv w) (hside : SideOk w)
    (hd : dispatch w = some w') : GInvB w' := (GRely.run.dispatch ⟨hp, hP, hnr, hside⟩ hd).g

end CimbaModel.Sim.S3
