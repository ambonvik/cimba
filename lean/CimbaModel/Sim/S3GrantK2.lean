/-
  S3 — the grant invariant: `KRel` across `execCmd`, `resumeFrame` and the run loop; `KInv` (handles cancelled
  by value never name a grant) is preserved by `dispatch`.
-/
import CimbaModel.Sim.S3GrantK
import CimbaModel.Sim.S3Keep

namespace CimbaModel.Sim.S3
open CimbaModel CimbaModel.Sim CimbaModel.Event CimbaModel.Generated CimbaModel.KPQ
open CimbaModel.HashHeap (HTag Item Order HH WF abs liveTags)

variable {S : Nat → Prop}

/-- only `pqPut … v` stores the handle of a queued object, in `v` -/
theorem cmdScope_pqVar {c : Cmd} {v : Nat} (h : (cmdScope c).PqVar v) : ∃ k o pri, c = .pqPut k o pri v := by
  cases c
  case pqPut k o pri v' => cases h with | head => exact ⟨k, o, pri, rfl⟩ | tail _ h' => cases h'
  case recStart kind idx => match kind with | 0 | 1 | 2 | 3 | _ + 4 => cases h
  case recStop kind idx => match kind with | 0 | 1 | 2 | 3 | _ + 4 => cases h
  all_goals cases h

theorem frameScope_pqVar {f : Frame} {v : Nat} (h : (frameScope f).PqVar v) : ∃ k o pri, f = .pqPut k o pri v := by
  cases f
  case pqPut k o pri v' => cases h with | head => exact ⟨k, o, pri, rfl⟩ | tail _ h' => cases h'
  case pool pl rem ini pre => cases pre <;> cases h
  all_goals cases h

/-- no continuation records a handle -/
theorem frameScope_handles (f : Frame) : (frameScope f).handles ≠ true := by
  cases f
  case pool pl rem ini pre => cases pre <;> exact Bool.noConfusion
  all_goals exact Bool.noConfusion

/-- static typing of a command: `pqPut` does not write a variable that is read by `cancelUser` / `timerCancel` -/
def CmdK (S : Nat → Prop) : Cmd → Prop
  | .pqPut _ _ _ v => ¬ S v
  | _ => True

theorem KRel.execCmd_fst {w0 w : World} (h : KRel S w0 w) (hi : EvInv w.ev) (p : Pid) (c : Cmd) (hc : CmdK S c) :
    KRel S w0 (execCmd w p c).1 :=
  h.trans (KRel.ofEff (fun _ hv => by obtain ⟨_, _, _, rfl⟩ := cmdScope_pqVar hv; exact hc) (fun _ => hi) (Eff.execCmd w p c))

theorem KRel.resumeFrame_fst {w0 w : World} (h : KRel S w0 w) (p : Pid) (f : Frame) (sig : Int)
    (hf : ∀ k o pri v, f = .pqPut k o pri v → ¬ S v) : KRel S w0 (resumeFrame w p f sig).1 :=
  h.trans (KRel.ofEff (fun _ hv => by obtain ⟨_, _, _, rfl⟩ := frameScope_pqVar hv; exact hf _ _ _ _ rfl)
    (fun e => absurd e (frameScope_handles f)) (Eff.resumeFrame w p f sig))

def KOk (S : Nat → Prop) (w : World) : Prop := ∀ (p : Pid) (i : Nat) (c : Cmd) (t : String), (w.proc p).script[i]? = some (c, t) → CmdK S c

theorem KOk.ofStat {w w' : World} (h : KOk S w) (hs : Stat w w') : KOk S w' := by
  intro p i c t hc; rw [hs.script] at hc; exact h p i c t hc

structure KInv (S : Nat → Prop) (w : World) : Prop where
  fo : ∀ p f, (w.proc p).blocked = some f → FrameOk S w f
  cv : ∀ v, S v → ∀ p, NGc w (getVar w p v)

theorem KInv.ofKRel {w w' : World} (hk : KInv S w) (h : KRel S w w') : KInv S w' := by
  refine ⟨?_, ?_⟩
  · intro p f hb
    rcases h.fo p f hb with h1 | h1
    · exact (hk.fo p f h1).ofEvo h.evo
    · exact h1
  · intro v hv p
    rcases h.cv v hv p with h1 | h1
    · rw [h1]; exact (hk.cv v hv p).ofEvo h.evo
    · exact h1

/-- `KRel` from `w0` on, with what it relies on along the way: the variables and frames are well-typed now (`KInv`), the
    kernel invariant, the static typing of the programs -/
def KRun (S : Nat → Prop) (w0 w : World) : Prop := KRel S w0 w ∧ KInv S w ∧ EvInv w.ev ∧ KOk S w

theorem KRun.step {w0 w w' : World} (h : KRun S w0 w) (hk : KRel S w w') (hs : Stat w w') : KRun S w0 w' :=
  ⟨h.1.trans hk, h.2.1.ofKRel hk, hk.evo.evinv h.2.2.1, h.2.2.2.ofStat hs⟩

theorem KRun.act (w0 : World) : Act (KRun S w0) (KRun S w0) Caller fun _ _ _ => True where
  emit h l := h.step ((KRel.refl _).emit l) ((Stat.refl _).emit l)
  fail h m := h.step ((KRel.refl _).fail m) ((Stat.refl _).fail m)
  pc h p _ := h.step ((KRel.refl _).modProc p _ fun _ => ⟨Or.inl rfl, rfl⟩) ((Stat.refl _).modProc p _ fun _ => rfl)
  finish h p := h.step ((KRel.refl _).finishProc p 0 false) ((Stat.refl _).finishProc p 0 false)
  exec {w} h p _ c text hs l :=
    h.step (((KRel.refl w).emit l).execCmd_fst h.2.2.1 p c (h.2.2.2 p _ c text hs)) (((Stat.refl w).emit l).trans (Stat.ofEff (Eff.execCmd _ p c)))
  next _ _ hc _ _ hs _ _ _ l n heq ho := hc.next hs heq ho l n
  resume {w} h p f sig _ hrun hb :=
    ⟨h.step (((KRel.refl w).modProc p (fun y => { y with blocked := none }) fun _ => ⟨Or.inr rfl, rfl⟩).resumeFrame_fst p f sig
        fun k o pri v e => by have := h.2.1.fo p f hb; rw [e] at this; exact this)
      (((Stat.refl w).modProc p (fun y => { y with blocked := none }) fun _ => rfl).trans (Stat.ofEff (Eff.resumeFrame _ p f sig))),
     fun _ _ _ l n heq => Caller.resumed hrun heq l n⟩

theorem KRel.resumeProc {w0 w : World} (h : KRel S w0 w) (hk : KInv S w) (hi : EvInv w.ev) (hok : KOk S w) (p : Pid) (sig : Int) :
    KRel S w0 (resumeProc w p sig) :=
  ((KRun.act w0).resumeProc ⟨h, hk, hi, hok⟩ p sig trivial).1

/-- taking the dispatched event off the queue issues no handle, so a handle that names no grant still names none; waking
    the event's waiters records no frame and writes no variable -/
theorem KInv.takeNext {w : World} (hk : KInv S w) (hi : EvInv w.ev) {t : HTag} {ev' : EvQ}
    (hn : executeNext w.ev = some (t, ev')) : KInv S (takeNext w t ev') := by
  obtain ⟨_, _, hpend, hctr⟩ := executeNext_facts hi hn
  have hng : ∀ h, NGc w h → NGc (afterNext w ev') h := by
    intro h hn'
    refine ⟨by show h ≤ ev'.counter; rw [hctr]; exact hn'.1, ?_⟩
    intro e he hke
    have : e ∈ remove w.ev.pending t.key := by rw [← hpend]; exact he
    exact hn'.2 e (mem_remove.1 this).1 hke
  have hkA : KInv S (afterNext w ev') := by
    refine ⟨?_, fun v hv p => hng _ (hk.cv v hv p)⟩
    intro p f hb
    have := hk.fo p f hb
    cases f <;> first | exact this | exact hng _ this
  exact hkA.ofKRel (((KRel.refl (afterNext w ev')).setEvWaiters _).wakeEventWaiters _ _)

/-- one dispatch keeps `KInv` with the kernel invariant and the static typing -/
theorem KInv.run : Run (fun w => KInv S w ∧ EvInv w.ev ∧ KOk S w) (fun w => KInv S w ∧ EvInv w.ev ∧ KOk S w) Caller
    fun _ _ _ => True :=
  have taken : ∀ {w : World} {t : HTag} {ev' : EvQ}, KInv S w ∧ EvInv w.ev ∧ KOk S w → executeNext w.ev = some (t, ev') →
      KRun S (S3.takeNext w t ev') (S3.takeNext w t ev') := fun h hex =>
    ⟨KRel.refl _, h.1.takeNext h.2.1 hex, (Evo.eff (eff_takeNext _ _ _)).evinv (executeNext_inv h.2.1 hex).1,
      h.2.2.ofStat (Stat.takeNext _ _ _)⟩
  { toAct := ⟨fun h l => ((KRun.act _).emit ⟨KRel.refl _, h⟩ l).2, fun h m => ((KRun.act _).fail ⟨KRel.refl _, h⟩ m).2,
      fun h p n => ((KRun.act _).pc ⟨KRel.refl _, h⟩ p n).2, fun h p => ((KRun.act _).finish ⟨KRel.refl _, h⟩ p).2,
      fun h p hc c text hs l => ((KRun.act _).exec ⟨KRel.refl _, h⟩ p hc c text hs l).2,
      fun _ _ hc _ _ hs _ _ _ l n heq ho => hc.next hs heq ho l n,
      fun h p f sig hd hrun hb => ⟨((KRun.act _).resume ⟨KRel.refl _, h⟩ p f sig hd hrun hb).1.2,
        ((KRun.act _).resume ⟨KRel.refl _, h⟩ p f sig hd hrun hb).2⟩⟩
    start := fun h t _ hex _ => ⟨(taken h hex).2, fun _ =>
      ⟨((taken h hex).step
          ((KRel.refl _).modProc (t.item.b - 1) (fun y => { y with status := .running, pc := 0, blocked := none }) fun _ => ⟨Or.inr rfl, rfl⟩)
          ((Stat.refl _).modProc _ _ fun _ => rfl)).2,
        Caller.started _ _⟩⟩
    time := fun h _ _ hex _ =>
      ⟨((taken h hex).step ((KRel.refl _).removeAwait_fst _ _) (Stat.eff (Eff.removeAwait .refl _ _))).2, trivial⟩
    wake := fun h _ _ hex k _ =>
      ⟨((taken h hex).step ((KRel.refl _).removeAwaitKind_fst _ k) (Stat.eff (Eff.removeAwaitKind .refl _ k))).2, trivial⟩
    grant := fun h _ _ hex _ => ⟨(taken h hex).2, trivial⟩
    intr := fun h _ _ hex _ => ⟨((taken h hex).step ((KRel.refl _).cancelAwaiteds _) ((Stat.refl _).cancelAwaiteds _)).2, trivial⟩
    other := fun h _ _ hex _ => (taken h hex).2 }

theorem KInv.dispatch {w w' : World} (hk : KInv S w) (hi : EvInv w.ev) (hok : KOk S w) (hd : dispatch w = some w') : KInv S w' :=
  (KInv.run.dispatch ⟨hk, hi, hok⟩ hd).1

end CimbaModel.Sim.S3
