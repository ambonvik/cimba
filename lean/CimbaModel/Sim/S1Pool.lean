/-
  S1 — the holder lists of the resource pools (C09 "everything it held is released"):
  every process on a pool's holder list lists that pool among its holdings; the holder lists stay well-formed
  hashheaps.  Consequence: a process that is not running is on no holder list.
  `PoolSame` (a step that leaves the holder lists and the pool holdings alone) and `PoolCarried` (what an invariant
  of the holder lists provides where a list changes; `unholdWorld` is the change when a holder is taken off) serve this
  invariant and its converse in S4LinkBase alike.
-/
import CimbaModel.Sim.S1HH
import CimbaModel.Sim.S1Dead
import CimbaModel.Sim.S1Holder
import CimbaModel.HashHeap.Orders

namespace CimbaModel.Sim
open CimbaModel CimbaModel.Event CimbaModel.Generated
open CimbaModel.HashHeap (HTag Item Order HH WF)
open CimbaModel.HashHeap.Orders

def World.ph (w : World) (pl : Nat) : Option HH := w.pools[pl]?.map (·.holders)

/-- the keys (process index + 1) on the holder list of pool `pl` -/
def World.hk (w : World) (pl : Nat) : List Nat := match w.ph pl with | some h => hkeys h | none => []

structure PInv (w : World) : Prop where
  /-- process indices fit the 64-bit keys of the holder lists -/
  small : w.procs.size < 2 ^ 64
  wf : ∀ pl h, w.ph pl = some h → WF holder_queue_check h
  listed : ∀ pl p, p + 1 ∈ w.hk pl → HoldRef.pool pl ∈ (w.proc p).held

theorem ph_congr {w w' : World} (h : w'.pools = w.pools) (pl : Nat) : w'.ph pl = w.ph pl := by
  unfold World.ph; rw [h]

theorem hk_congr {w w' : World} (h : ∀ pl, w'.ph pl = w.ph pl) (pl : Nat) : w'.hk pl = w.hk pl := by
  unfold World.hk; rw [h]

theorem PInv.of_same {w w' : World} (h : PInv w) (hph : ∀ pl, w'.ph pl = w.ph pl)
    (hheld : ∀ p pl, HoldRef.pool pl ∈ (w.proc p).held → HoldRef.pool pl ∈ (w'.proc p).held)
    (hsz : w'.procs.size = w.procs.size := by simp) : PInv w' :=
  ⟨by rw [hsz]; exact h.small, fun pl x hx => h.wf pl x (by rw [← hph]; exact hx),
   fun pl p hm => hheld p pl (h.listed pl p (by rw [← hk_congr hph]; exact hm))⟩

/-- `w'` shows the same pools as `w`: the same holder lists, the same processes listing the same pools.  The invariants
    of the holder lists (`PInv`, and its converse in S4LinkBase) see nothing else of a world. -/
structure PoolSame (w w' : World) : Prop where
  ph : ∀ pl, w'.ph pl = w.ph pl
  held : ∀ q pl, HoldRef.pool pl ∈ (w'.proc q).held ↔ HoldRef.pool pl ∈ (w.proc q).held
  size : w'.procs.size = w.procs.size

/-- transitivity with the outer step first: the order in which a goal `PoolSame w (f (g w))` is taken apart, each step
    fixed by the world to its right before the next is looked at -/
theorem PoolSame.after {a b c : World} (h2 : PoolSame b c) (h1 : PoolSame a b) : PoolSame a c :=
  ⟨fun pl => (h2.ph pl).trans (h1.ph pl), fun q pl => (h2.held q pl).trans (h1.held q pl), h2.size.trans h1.size⟩

/-- from the frame lemmas of the function: they give the three equations by `simp` -/
theorem PoolSame.of_eq {w w' : World} (hp : w'.pools = w.pools := by simp)
    (hh : ∀ q, (w'.proc q).held = (w.proc q).held := by simp)
    (hs : w'.procs.size = w.procs.size := by simp) : PoolSame w w' :=
  ⟨ph_congr hp, fun q pl => by rw [hh], hs⟩

theorem PoolSame.frame {w w' : World} (hp : w'.pools = w.pools) (hprocs : w'.procs = w.procs) : PoolSame w w' :=
  .of_eq hp (fun q => by rw [proc_congr hprocs]) (by rw [hprocs])

/-- a world built from `w` with its process and pool tables (any goal of this form unifies: structure eta) -/
theorem poolSame_mk {w : World} {ev : EvQ} {evW : List (Nat × List Pid)} {guards : Array Guard} {res : Array Res}
    {bufs : Array Buf} {oqs : Array OQ} {pqs : Array PQ} {conds : Array Nat} {flags : Array Int} {gvars : Array Nat}
    {log : Array String} {fault : Option String} {d : Nat} :
    PoolSame w ⟨ev, evW, w.procs, guards, res, w.pools, bufs, oqs, pqs, conds, flags, gvars, log, fault, d⟩ :=
  .frame rfl rfl

theorem mem_pool_filter (l : List HoldRef) (pl : Nat) : HoldRef.pool pl ∈ l.filter isPoolH ↔ HoldRef.pool pl ∈ l := by
  rw [List.mem_filter]; exact ⟨fun h => h.1, fun h => ⟨h, rfl⟩⟩

/-- a step whose scope holds neither the holder lists nor anybody's pool holdings -/
theorem PoolSame.of_out {p : Pid} {s : Scope} {w w' : World} (o : Outside p s w w') (h1 : s.ph = false := by rfl)
    (h2 : s.heldP = .no := by rfl) : PoolSame w w' :=
  ⟨fun pl => o.holders h1 pl, fun q pl => by rw [← mem_pool_filter, o.heldP q (.inl h2), mem_pool_filter], o.psize⟩

theorem PInv.same {w w' : World} (h : PInv w) (r : PoolSame w w') : PInv w' :=
  h.of_same r.ph (fun p pl => (r.held p pl).2) r.size

/-- **a process that is not running is on no pool's holder list** -/
theorem PInv.not_running {w : World} (h : PInv w) (hd : DeadRec w) (p : Pid) (hp : (w.proc p).status ≠ .running)
    (pl : Nat) : p + 1 ∉ w.hk pl := by
  intro hm
  have := h.listed pl p hm
  rw [(hd p hp).2.2.1] at this
  cases this

theorem ph_set (w : World) (pl : Nat) (y : Pool) (pl' : Nat) (hlt : pl < w.pools.size) :
    World.ph { w with pools := w.pools.set! pl y } pl' = if pl' = pl then some y.holders else w.ph pl' := by
  unfold World.ph
  simp only [Array.set!_eq_setIfInBounds, Array.getElem?_setIfInBounds]
  by_cases e : pl = pl'
  · subst e; simp [hlt]
  · have : ¬ pl' = pl := fun h => e h.symm
    simp [e, this]

theorem ph_modify (w : World) (pl : Nat) (f : Pool → Pool) (pl' : Nat) :
    World.ph { w with pools := w.pools.modify pl f } pl' =
      if pl' = pl then (w.pools[pl']?.map fun x => (f x).holders) else w.ph pl' := by
  unfold World.ph
  simp only [Array.getElem?_modify]
  by_cases e : pl = pl'
  · subst e; simp; rfl
  · have : ¬ pl' = pl := fun h => e h.symm
    simp [e, this]

@[simp] theorem setPoolInUse_ph (w : World) (pl v : Nat) (pl' : Nat) : (setPoolInUse w pl v).ph pl' = w.ph pl' :=
  (setPoolInUse_eff w pl v 0).outside.holders rfl pl'

@[simp] theorem signal_ph (w : World) (g : Nat) (pl : Nat) : (signal w g).ph pl = w.ph pl := ph_congr (by simp) pl

@[simp] theorem recordPool_ph (w : World) (pl : Nat) (pl' : Nat) : (recordPool w pl).ph pl' = w.ph pl' :=
  (recordPool_eff w pl 0).outside.holders rfl pl'

theorem ph_setRecording (w : World) (kind idx : Nat) (on : Bool) (pl : Nat) :
    (setRecording w kind idx on).ph pl = w.ph pl :=
  (setRecording_eff w kind idx on 0).outside.holders rfl pl

theorem holder_ignores_item (a b : HTag) (x y : Item) :
    holder_queue_check { a with item := x } { b with item := y } = holder_queue_check a b := rfl

theorem hk_eq (w : World) (pl : Nat) (x : Pool) (hx : w.pools[pl]? = some x) : w.hk pl = hkeys x.holders := by
  simp [World.hk, World.ph, hx]

theorem ph_eq (w : World) (pl : Nat) (x : Pool) (hx : w.pools[pl]? = some x) : w.ph pl = some x.holders := by
  simp [World.ph, hx]

theorem ph_modify_set (w : World) (pl : Nat) (h' hh : HH) (hph0 : w.ph pl = some hh) (pl' : Nat) :
    World.ph { w with pools := w.pools.modify pl fun y => { y with holders := h' } } pl' =
      if pl' = pl then some h' else w.ph pl' := by
  rw [ph_modify]
  split
  · rename_i e; subst e
    unfold World.ph at hph0
    cases hx : w.pools[pl']? with
    | none => rw [hx] at hph0; cases hph0
    | some x => rfl
  · rfl

theorem removeHeld_mem (w : World) (z : Pid) (a b : HoldRef) (q : Pid) (hm : b ∈ (w.proc q).held)
    (hne : q ≠ z ∨ b ≠ a) : b ∈ ((removeHeld w z a).1.proc q).held := by
  unfold removeHeld; dsimp only
  rw [proc_modProc]; split
  · rename_i e; obtain ⟨rfl, _⟩ := e
    dsimp only
    rw [List.mem_filter]
    refine ⟨hm, ?_⟩
    rcases hne with x | x
    · exact absurd rfl x
    · simpa using x
  · exact hm

theorem removeHeld_mem_rev (w : World) (z : Pid) (a b : HoldRef) (q : Pid)
    (hm : b ∈ ((removeHeld w z a).1.proc q).held) : b ∈ (w.proc q).held ∧ (q ≠ z ∨ b ≠ a) := by
  unfold removeHeld at hm; dsimp only at hm
  rw [proc_modProc] at hm; split at hm
  · rename_i e; obtain ⟨rfl, _⟩ := e
    dsimp only at hm
    rw [List.mem_filter] at hm
    exact ⟨hm.1, Or.inr (by simpa using hm.2)⟩
  · rename_i hne
    refine ⟨hm, Or.inl ?_⟩
    intro e
    exact hne ⟨e, e ▸ lt_np_of_held w q b hm⟩

@[simp] theorem removeHeld_ph (w : World) (z : Pid) (a : HoldRef) (pl : Nat) : (removeHeld w z a).1.ph pl = w.ph pl :=
  ph_congr (by simp) pl

theorem held_mem_cons_modProc (W : World) (p q : Pid) (a b : HoldRef) (hm : b ∈ (W.proc q).held) :
    b ∈ ((W.modProc p fun y => { y with held := a :: y.held }).proc q).held := by
  rw [proc_modProc]
  split
  · rename_i e; rw [e.1] at hm; exact List.mem_cons_of_mem _ hm
  · exact hm

theorem held_cons_modProc_rev (W : World) (p q : Pid) (a b : HoldRef) (hne : b ≠ a)
    (hm : b ∈ ((W.modProc p fun y => { y with held := a :: y.held }).proc q).held) : b ∈ (W.proc q).held := by
  rw [proc_modProc] at hm
  split at hm
  · rename_i e
    rcases List.mem_cons.1 hm with e' | e'
    · exact absurd e' hne
    · rw [e.1]; exact e'
  · exact hm

theorem grab_held_mem (w : World) (r : Nat) (p : Pid) (q : Pid) (b : HoldRef) (hm : b ∈ (w.proc q).held) :
    b ∈ ((grab w r p).proc q).held := by
  unfold grab
  cases hx : w.res[r]? with
  | none => exact hm
  | some x =>
    dsimp only
    apply held_mem_cons_modProc
    split <;> simpa using hm

section
variable (w : World)

theorem poolSame_fail (m : String) : PoolSame w (w.fail m) := .of_out (fail_eff w m 0).outside
theorem poolSame_emit (m : String) : PoolSame w (w.emit m) := .of_out (emit_eff w m 0).outside
theorem poolSame_modProc (z : Pid) (f : Proc → Proc) (hf : ∀ x, (f x).held = x.held) : PoolSame w (w.modProc z f) :=
  .of_eq rfl (fun q => modProc_held_keep w z f q hf)
theorem poolSame_sched (a s : Nat) (sig t pri : Int) : PoolSame w (sched w a s sig t pri).1 :=
  .of_out (sched_out w a s sig t pri 0)
theorem poolSame_signal (g : Nat) : PoolSame w (signal w g) := .of_out (guardSignalF_eff false 8 w g 0).outside
theorem poolSame_block (p : Pid) (f : Frame) : PoolSame w (block w p f).1 := .of_out (block_out w p f)
theorem poolSame_wakeEventWaiters (ps : List Pid) (sig : Int) : PoolSame w (wakeEventWaiters w ps sig) :=
  .of_out (wakeEventWaiters_eff w ps sig 0).outside
theorem poolSame_guardWaitEnter (g : Nat) (p : Pid) (d : Demand) : PoolSame w (guardWaitEnter w g p d) :=
  .of_out (guardWaitEnter_eff w g p d).outside
theorem poolSame_guardWaitLeave (g : Nat) (z : Pid) (sig : Int) : PoolSame w (guardWaitLeave w g z sig) :=
  .of_out (guardWaitLeave_eff w g z sig).outside
theorem poolSame_removeAwait (z : Pid) (a : Await) : PoolSame w (removeAwait w z a).1 := .of_out (removeAwait_eff w z a).outside
theorem poolSame_removeAwaitKind (z : Pid) (k : Await → Bool) : PoolSame w (removeAwaitKind w z k).1 :=
  .of_out (removeAwaitKind_eff w z k).outside
theorem poolSame_timerCancel (z : Pid) (x : Nat) : PoolSame w (timerCancel w z x).1 := .of_out (timerCancel_eff w z x).outside
theorem poolSame_cancelAwaiteds (z : Pid) : PoolSame w (cancelAwaiteds w z) := .of_out (cancelAwaiteds_eff w z).outside

/-- the pool table changes, the holder lists do not -/
theorem poolSame_setPoolInUse (pl v : Nat) : PoolSame w (setPoolInUse w pl v) := .of_out (setPoolInUse_eff w pl v 0).outside
theorem poolSame_recordPool (pl : Nat) : PoolSame w (recordPool w pl) := .of_out (recordPool_eff w pl 0).outside
theorem poolSame_charge (pl v : Nat) : PoolSame w (recordPool (setPoolInUse w pl v) pl) :=
  .after (poolSame_recordPool _ pl) (poolSame_setPoolInUse w pl v)

end

/-- the step shared by the rollback of an acquisition (`found` as reported by the removal from the holder list) and a
    full release (`found = true`) -/
def unholdWorld (w : World) (pl : Nat) (h' : HH) (p : Pid) (found : Bool) : World :=
  let w := { w with pools := w.pools.modify pl fun y => { y with holders := h' } }
  if found then (removeHeld w p (.pool pl)).1 else w

theorem unholdWorld_ph {w : World} {pl : Nat} {hh : HH} (hph0 : w.ph pl = some hh) (h' : HH) (p : Pid) (found : Bool)
    (pl' : Nat) : (unholdWorld w pl h' p found).ph pl' = if pl' = pl then some h' else w.ph pl' := by
  unfold unholdWorld; dsimp only
  split
  · rw [removeHeld_ph]; exact ph_modify_set w pl h' hh hph0 pl'
  · exact ph_modify_set w pl h' hh hph0 pl'

theorem unholdWorld_mem (w : World) (pl : Nat) (h' : HH) (p : Pid) (found : Bool) (q : Pid) (b : HoldRef)
    (hm : b ∈ (w.proc q).held) (hne : q ≠ p ∨ b ≠ .pool pl) : b ∈ ((unholdWorld w pl h' p found).proc q).held := by
  unfold unholdWorld; dsimp only
  split
  · exact removeHeld_mem _ _ _ _ q hm hne
  · exact hm

theorem unholdWorld_mem_rev (w : World) (pl : Nat) (h' : HH) (p : Pid) (found : Bool) (q : Pid) (b : HoldRef)
    (hm : b ∈ ((unholdWorld w pl h' p found).proc q).held) : b ∈ (w.proc q).held := by
  unfold unholdWorld at hm; dsimp only at hm
  split at hm
  · exact (removeHeld_mem_rev _ _ _ _ q hm).1
  · exact hm

theorem unholdWorld_not_mem (w : World) (pl : Nat) (h' : HH) (p : Pid) :
    HoldRef.pool pl ∉ ((unholdWorld w pl h' p true).proc p).held := fun hm =>
  (removeHeld_mem_rev _ p (.pool pl) _ p hm).2.elim (· rfl) (· rfl)

@[simp] theorem unholdWorld_np (w : World) (pl : Nat) (h' : HH) (p : Pid) (found : Bool) :
    (unholdWorld w pl h' p found).procs.size = w.procs.size := by
  unfold unholdWorld; dsimp only; split <;> simp

/-- in a release the pool record is replaced, not modified: the same pool view -/
theorem poolSame_unhold_set {w : World} {pl : Nat} {x : Pool} (hx : w.pools[pl]? = some x) (h' : HH) (p : Pid) :
    PoolSame (unholdWorld w pl h' p true)
      (removeHeld { w with pools := w.pools.set! pl { x with holders := h' } } p (.pool pl)).1 :=
  ⟨fun pl' => by
      rw [removeHeld_ph, ph_set w pl _ pl' (lt_size_of_getElem? hx), unholdWorld_ph (ph_eq w pl x hx)],
    fun q pl' => Iff.rfl, by simp⟩

/-- what an invariant `P` of the holder lists has to say for itself: it sees only the pool view, and it survives the
    places where a holder list changes (a holder record is written or grows, the top holder is mugged, an amount is
    reset, a holder is taken off, the records are re-sorted, a process drops everything).  The composite operations,
    every command and the run loop then keep `P` (below and in S1PoolRun); `PInv` is one such invariant, `PL`
    (S4LinkBase) another. -/
structure PoolCarried (P : World → Prop) : Prop where
  same : ∀ {w w'}, P w → PoolSame w w' → P w'
  credit : ∀ {w}, P w → ∀ pl p n, p < w.procs.size → P (poolUpdateRecord w pl p n)
  victim : ∀ {w}, P w → ∀ pl x, w.pools[pl]? = some x → x.holders.count ≠ 0 → ∀ h' t,
    HashHeap.dequeue holder_queue_check x.holders = .ok (h', some t) → P (mugVictim w pl x h' t)
  setHeld : ∀ {w}, P w → ∀ pl p n, P (setHeldAmount w pl p n)
  unhold : ∀ {w}, P w → ∀ pl hh, w.ph pl = some hh → ∀ p h' r found,
    HashHeap.remove holder_queue_check hh (p + 1) = .ok (h', r) → (r = true → found = true) →
    P (unholdWorld w pl h' p found)
  reprio : ∀ {w}, P w → ∀ pl x, w.pools[pl]? = some x → ∀ q v h',
    HashHeap.reprioritize holder_queue_check x.holders (q + 1) 0 v = .ok h' →
    P { w with pools := w.pools.set! pl { x with holders := h' } }
  drop : ∀ {w}, P w → ∀ z, P (dropResources w z)

namespace PoolCarried
variable {P : World → Prop} (hP : PoolCarried P)
include hP

/-- `credit` needs the crediting process to exist: through the loops the invariant travels with that fact -/
theorem same_lt {w w' : World} {p : Pid} (h : P w ∧ p < w.procs.size) (r : PoolSame w w') :
    P w' ∧ p < w'.procs.size := ⟨hP.same h.1 r, r.size ▸ h.2⟩

theorem credit_lt {w : World} {p : Pid} (h : P w ∧ p < w.procs.size) (pl n : Nat) :
    P (poolUpdateRecord w pl p n) ∧ p < (poolUpdateRecord w pl p n).procs.size :=
  ⟨hP.credit h.1 pl p n h.2, by simpa using h.2⟩

theorem poolMug_lt (p : Pid) (pl : Nat) : ∀ (fuel : Nat) (w : World) (rem : Nat), P w ∧ p < w.procs.size →
    P (poolMug fuel w p pl rem).1 ∧ p < (poolMug fuel w p pl rem).1.procs.size := by
  refine poolMug_rel (Path.ofPred fun w => P w ∧ p < w.procs.size) p pl ?_ ?_ ?_ ?_
  · intro w _ _ m _ _ _ h; exact hP.same_lt h (poolSame_fail w m)
  · intro w x top h' t hx hc _ _ hdq h
    exact ⟨hP.victim h.1 pl x hx hc h' t hdq, by simpa [mugVictim] using h.2⟩
  · intro w n h; exact hP.credit_lt h pl n
  · intro w x rem surplus h
    exact hP.same_lt (hP.credit_lt h pl rem) (.after (poolSame_signal _ _) (poolSame_charge _ pl _))

theorem poolMug (fuel : Nat) {w : World} (h : P w) (p : Pid) (hp : p < w.procs.size) (pl rem : Nat) :
    P (poolMug fuel w p pl rem).1 := (hP.poolMug_lt p pl fuel w rem ⟨h, hp⟩).1

theorem poolLoop {w : World} (h : P w) (p : Pid) (hp : p < w.procs.size) (pl rem initially : Nat) (preempt : Bool) :
    P (poolLoop w p pl rem initially preempt).1 := by
  refine (poolLoop_rel (Path.ofPred fun w => P w ∧ p < w.procs.size) p pl initially preempt ?_ ?_ ?_ ?_ ?_ ?_
    w rem ⟨h, hp⟩).1
  · intro w m _ h; exact hP.same_lt h (poolSame_fail w m)
  · intro w v h; exact hP.same_lt h (poolSame_charge w pl v)
  · intro w n h; exact hP.credit_lt h pl n
  · intro w g h; exact hP.same_lt h (poolSame_signal w g)
  · intro _ fuel w rem h; exact hP.poolMug_lt p pl fuel w rem h
  · intro w g rem' h; exact hP.same_lt h (.after (poolSame_block _ _ _) (poolSame_guardWaitEnter w _ _ _))

theorem poolRollback {w : World} (h : P w) (p : Pid) (pl initially : Nat) : P (poolRollback w p pl initially) := by
  unfold Sim.poolRollback
  split
  · exact h
  · rename_i x hx
    split
    · dsimp only
      split
      · exact hP.same (hP.setHeld h _ _ _) (.after (poolSame_signal _ _) (poolSame_charge _ pl _))
      · exact h
    · dsimp only
      have h2 := hP.same h (poolSame_charge w pl (x.inUse - heldAmount w pl p))
      have hph2 : (recordPool (setPoolInUse w pl (x.inUse - heldAmount w pl p)) pl).ph pl = some x.holders := by
        rw [recordPool_ph, setPoolInUse_ph]; exact ph_eq w pl x hx
      generalize recordPool (setPoolInUse w pl (x.inUse - heldAmount w pl p)) pl = W at h2 hph2 ⊢
      split
      · rename_i h' found hrm
        exact hP.same (hP.unhold h2 pl x.holders hph2 p h' found found hrm id) (poolSame_signal _ _)
      · exact hP.same h2 (poolSame_fail _ _)

theorem poolRelease {w : World} (h : P w) (p : Pid) (pl n : Nat) : P (execCmd w p (.poolRelease pl n)).1 := by
  simp only [execCmd]
  split
  · exact h
  · rename_i x hx
    split
    · exact h
    · dsimp only
      refine hP.same ?_ (.after (poolSame_signal _ _) (poolSame_charge _ pl _))
      split
      · split
        · rename_i h' r hrm
          exact hP.same (hP.unhold h pl x.holders (ph_eq w pl x hx) p h' r true hrm fun _ => rfl)
            (poolSame_unhold_set hx h' p)
        · exact hP.same h (poolSame_fail w _)
      · exact hP.setHeld h _ _ _

/-- the end of a process, by the two orders of the C code -/
theorem finishProc {w : World} (h : P w) (z : Pid) (val : Int) (stopped : Bool) : P (finishProc w z val stopped) := by
  have hmid : P (finishMid w z stopped) := by
    unfold finishMid; split
    · exact hP.drop (hP.same h (poolSame_cancelAwaiteds w z)) z
    · exact hP.same (hP.drop h z) (poolSame_cancelAwaiteds _ z)
  rw [finishProc_eq]
  exact hP.same hmid (.after (poolSame_modProc _ z _ fun _ => rfl) .of_eq)

/-- `priority_set`: the first loop re-sorts timers and guard entries, the second the holder records -/
theorem prioSet {w : World} (h : P w) (p q : Pid) (v : Int) : P (execCmd w p (.prioSet q v)).1 :=
  prioSet_rel (Path.ofPred P) q v (fun w h => hP.same h (poolSame_modProc w q _ fun _ => rfl))
    (fun w m h => hP.same h (poolSame_fail w m)) (fun _ _ _ _ h => hP.same h poolSame_mk)
    (fun _ _ _ h => hP.same h .of_eq) (fun w pl x h' hx hr h => hP.reprio h pl x hx q v h' hr) w p h

end PoolCarried

theorem PInv.set_holders {w w' : World} (h : PInv w) (pl : Nat) (h' : HH)
    (hph : ∀ pl', w'.ph pl' = if pl' = pl then some h' else w.ph pl')
    (hwf : WF holder_queue_check h')
    (hheld : ∀ p pl', pl' ≠ pl → HoldRef.pool pl' ∈ (w.proc p).held → HoldRef.pool pl' ∈ (w'.proc p).held)
    (hl : ∀ p, p + 1 ∈ hkeys h' → HoldRef.pool pl ∈ (w'.proc p).held)
    (hsz : w'.procs.size = w.procs.size := by simp) : PInv w' := by
  refine ⟨by rw [hsz]; exact h.small, ?_, ?_⟩
  · intro pl' x hx
    rw [hph] at hx
    split at hx
    · injection hx with hx; subst hx; exact hwf
    · exact h.wf pl' x hx
  · intro pl' p hm
    unfold World.hk at hm
    rw [hph] at hm
    by_cases e : pl' = pl
    · subst e; simp only [if_true] at hm; exact hl p hm
    · simp only [e, if_false] at hm
      exact hheld p pl' e (h.listed pl' p hm)

theorem pinv_poolUpdateRecord {w : World} (h : PInv w) (pl : Nat) (p : Pid) (n : Nat) (hp : p < w.procs.size) :
    PInv (poolUpdateRecord w pl p n) := by
  unfold poolUpdateRecord
  split
  · exact h
  · rename_i x hx
    have hwf := h.wf pl x.holders (ph_eq w pl x hx)
    have hlt := lt_size_of_getElem? hx
    dsimp only
    by_cases hk : p + 1 ∈ hkeys x.holders
    · obtain ⟨i, hi, hkey⟩ := (HashHeap.mem_keys_abs x.holders (p + 1)).1 hk
      have hfi : HashHeap.findIndex x.holders (p + 1) = .ok i := by
        rw [← hkey]; exact HashHeap.findIndex_of_mem hwf hi
      have hc : x.holders.count ≠ 0 := by have := hi.1; have := hi.2; omega
      have hi0 : i ≠ 0 := by have := hi.1; omega
      simp only [hc, if_false, hfi]
      simp only [hi0, ne_eq, not_false_eq_true, decide_true, if_true]
      obtain ⟨hwf', hkeys'⟩ := wf_setItem hwf holder_ignores_item i hi.1 hi.2
        { (x.holders.tag i).item with b := (x.holders.tag i).item.b + n }
      refine h.set_holders pl _ (fun pl' => ph_set w pl _ pl' hlt) hwf' (fun p' pl' _ hm => hm) ?_
      intro p' hm
      have hm' : p' + 1 ∈ hkeys x.holders := by rw [← hkeys']; exact hm
      exact h.listed pl p' (by rw [hk_eq w pl x hx]; exact hm')
    · have hfi : HashHeap.findIndex x.holders (p + 1) = .ok 0 := HashHeap.findIndex_of_not_mem hwf hk
      simp only [hfi, ne_eq, not_true_eq_false, decide_false, ite_self, Bool.false_eq_true, if_false]
      have hmod : PInv (w.modProc p fun y => { y with held := .pool pl :: y.held }) :=
        h.of_same (fun pl' => rfl) (fun p' pl' hm => held_mem_cons_modProc w p p' _ _ hm)
      split
      · rename_i h' k' henq
        have hk64 : p + 1 < 2 ^ 64 := Nat.lt_of_le_of_lt (Nat.succ_le_of_lt hp) h.small
        obtain ⟨_, hwf', hkeys'⟩ := hh_enqueue_ok hwf (Nat.succ_ne_zero p) hk64 hk henq
        refine hmod.set_holders pl h' (fun pl' => ph_set _ pl _ pl' hlt) hwf' (fun p' pl' _ hm => hm) ?_
        intro q hq
        rcases (hkeys' _).1 hq with e | e
        · have : q = p := Nat.succ.inj e
          subst this
          show HoldRef.pool pl ∈ ((w.modProc q fun y => { y with held := .pool pl :: y.held }).proc q).held
          rw [proc_modProc_self _ _ _ hp]; exact List.mem_cons_self
        · exact hmod.listed pl q (by rw [hk_eq _ pl x (by simpa using hx)]; exact e)
      · exact hmod.same (poolSame_fail _ _)

theorem pinv_mug_step {w : World} (h : PInv w) (pl : Nat) (x : Pool) (hx : w.pools[pl]? = some x)
    (hc : x.holders.count ≠ 0) (h' : HH) (t : HTag)
    (hdq : HashHeap.dequeue holder_queue_check x.holders = .ok (h', some t)) : PInv (mugVictim w pl x h' t) := by
  refine PInv.same ?_ (poolSame_sched _ _ _ _ _ _)
  have hwf := h.wf pl x.holders (ph_eq w pl x hx)
  have hlt := lt_size_of_getElem? hx
  obtain ⟨t', ht', _, hwf', htk, hkeys'⟩ := hh_dequeue_ok hwf hc hdq
  injection ht' with ht'; subst ht'
  have hpos := hkeys_pos hwf htk
  refine h.set_holders pl h' ?_ hwf' ?_ ?_
  · intro pl'; rw [removeHeld_ph]; exact ph_set w pl _ pl' hlt
  · intro q pl' hne hm
    exact removeHeld_mem _ _ _ _ q hm (Or.inr (fun e => hne (by injection e)))
  · intro q hq
    obtain ⟨hq1, hq2⟩ := (hkeys' _).1 hq
    have hqv : q ≠ t.key - 1 := by
      intro e; apply hq2; rw [e]; omega
    exact removeHeld_mem _ _ _ _ q (h.listed pl q (by rw [hk_eq w pl x hx]; exact hq1)) (Or.inl hqv)

theorem pinv_setHeldAmount {w : World} (h : PInv w) (pl : Nat) (p : Pid) (n : Nat) : PInv (setHeldAmount w pl p n) := by
  unfold setHeldAmount
  split
  · rename_i x hx
    have hwf := h.wf pl x.holders (ph_eq w pl x hx)
    have hlt := lt_size_of_getElem? hx
    split
    · rename_i i hfi
      split
      · exact h.same (poolSame_fail w _)
      · rename_i hi0
        have hk := (hh_findIndex hwf (p + 1) hfi).1 hi0
        obtain ⟨j, hj, hkey⟩ := (HashHeap.mem_keys_abs x.holders (p + 1)).1 hk
        have hfj : HashHeap.findIndex x.holders (p + 1) = .ok j := by
          rw [← hkey]; exact HashHeap.findIndex_of_mem hwf hj
        rw [hfi] at hfj; injection hfj with hfj; subst hfj
        obtain ⟨hwf', hkeys'⟩ := wf_setItem hwf holder_ignores_item i hj.1 hj.2
          { (x.holders.tag i).item with b := n }
        dsimp only
        refine h.set_holders pl _ (fun pl' => ph_set w pl _ pl' hlt) hwf' (fun p' pl' _ hm => hm) ?_
        intro p' hm
        have hm' : p' + 1 ∈ hkeys x.holders := by rw [← hkeys']; exact hm
        exact h.listed pl p' (by rw [hk_eq w pl x hx]; exact hm')
    · exact h.same (poolSame_fail w _)
  · exact h

theorem pinv_remove_holder {w : World} (h : PInv w) (pl : Nat) (hh : HH) (hph0 : w.ph pl = some hh) (p : Pid)
    (h' : HH) (r : Bool) (hrm : HashHeap.remove holder_queue_check hh (p + 1) = .ok (h', r))
    {w' : World} (hph : ∀ pl', w'.ph pl' = if pl' = pl then some h' else w.ph pl')
    (hheld : ∀ q b, b ∈ (w.proc q).held → (q ≠ p ∨ b ≠ .pool pl) → b ∈ (w'.proc q).held)
    (hsz : w'.procs.size = w.procs.size) : PInv w' := by
  have hwf := h.wf pl hh hph0
  obtain ⟨hwf', hkeys', _⟩ := hh_remove_ok hwf (Nat.succ_ne_zero p) hrm
  refine h.set_holders pl h' hph hwf' ?_ ?_ hsz
  · intro q pl' hne hm
    exact hheld q _ hm (Or.inr (fun e => hne (by injection e)))
  · intro q hq
    obtain ⟨hq1, hq2⟩ := (hkeys' _).1 hq
    have hqp : q ≠ p := fun e => hq2 (by rw [e])
    exact hheld q _ (h.listed pl q (by unfold World.hk; rw [hph0]; exact hq1)) (Or.inl hqp)

theorem pinv_poolDropHolder {w : World} (h : PInv w) (pl : Nat) (p : Pid) : PInv (poolDropHolder w pl p) := by
  unfold poolDropHolder
  split
  · exact h
  · rename_i x hx
    have hlt := lt_size_of_getElem? hx
    split
    · exact h
    · split
      · rename_i h' r hrm
        refine PInv.same ?_ (.after (poolSame_signal _ _) (poolSame_recordPool _ pl))
        refine pinv_remove_holder h pl x.holders (ph_eq w pl x hx) p h' r hrm ?_ ?_ rfl
        · intro pl'; exact ph_set w pl _ pl' hlt
        · intro q b hm _; exact hm
      · exact h.same (poolSame_fail w _)
    · exact h.same (poolSame_fail w _)

/-- the invariant while `z` is being taken off the holder lists: `z` may still be on the list of a pool that is in
    the remainder `L` of its former holdings -/
structure PInvX (z : Pid) (L : List HoldRef) (w : World) : Prop where
  small : w.procs.size < 2 ^ 64
  wf : ∀ pl h, w.ph pl = some h → WF holder_queue_check h
  listed : ∀ pl q, q + 1 ∈ w.hk pl → if q = z then HoldRef.pool pl ∈ L else HoldRef.pool pl ∈ (w.proc q).held

theorem PInvX.of_same {z : Pid} {L L' : List HoldRef} {w w' : World} (h : PInvX z L w)
    (hph : ∀ pl, w'.ph pl = w.ph pl) (hprocs : w'.procs = w.procs)
    (hL : ∀ pl, z + 1 ∈ w.hk pl → HoldRef.pool pl ∈ L → HoldRef.pool pl ∈ L') : PInvX z L' w' := by
  refine ⟨by rw [hprocs]; exact h.small, fun pl x hx => h.wf pl x (by rw [← hph]; exact hx), ?_⟩
  intro pl q hm
  have hm' : q + 1 ∈ w.hk pl := by rw [← hk_congr hph]; exact hm
  have := h.listed pl q hm'
  by_cases e : q = z
  · subst e; simp only [if_true] at this ⊢; exact hL pl hm' this
  · simp only [e, if_false] at this ⊢; rw [proc_congr hprocs]; exact this

theorem pinvx_dropStep {z : Pid} {a : HoldRef} {L : List HoldRef} {w : World} (h : PInvX z (a :: L) w) :
    PInvX z L (dropStep z w a) := by
  unfold dropStep
  split
  · -- a resource: the pools are untouched
    rename_i r
    have hne : ∀ pl, HoldRef.pool pl ∈ HoldRef.res r :: L → HoldRef.pool pl ∈ L := by
      intro pl hm
      rcases List.mem_cons.1 hm with e | e
      · cases e
      · exact e
    split
    · exact h.of_same (fun pl => ph_congr (by simp) pl) (by simp) (fun pl _ => hne pl)
    · exact h.of_same (fun pl => rfl) rfl (fun pl _ => hne pl)
  · -- a pool: `z` leaves its holder list
    rename_i pl0
    have hne : ∀ pl, pl ≠ pl0 → HoldRef.pool pl ∈ HoldRef.pool pl0 :: L → HoldRef.pool pl ∈ L := by
      intro pl hpl hm
      rcases List.mem_cons.1 hm with e | e
      · injection e with e; exact absurd e hpl
      · exact e
    unfold poolDropHolder
    split
    · rename_i hx
      refine h.of_same (fun pl => rfl) rfl ?_
      intro pl hm
      by_cases e : pl = pl0
      · subst e; simp [World.hk, World.ph, hx] at hm
      · exact hne pl e
    · rename_i x hx
      have hwf := h.wf pl0 x.holders (ph_eq w pl0 x hx)
      have hlt := lt_size_of_getElem? hx
      -- whatever the branch, the new holder list of `pl0` is well-formed, does not contain `z`, and is a sublist
      have key : ∀ (h1 : HH) (w' : World), WF holder_queue_check h1 → z + 1 ∉ hkeys h1 →
          (∀ k, k ∈ hkeys h1 → k ∈ hkeys x.holders) →
          (∀ pl, w'.ph pl = if pl = pl0 then some h1 else w.ph pl) → w'.procs = w.procs → PInvX z L w' := by
        intro h1 w' hwf1 hnot hsub hph hprocs
        refine ⟨by rw [hprocs]; exact h.small, ?_, ?_⟩
        · intro pl hh hhh
          rw [hph] at hhh
          split at hhh
          · injection hhh with hhh; subst hhh; exact hwf1
          · exact h.wf pl hh hhh
        · intro pl q hm
          unfold World.hk at hm
          rw [hph] at hm
          by_cases e : pl = pl0
          · subst e
            simp only [if_true] at hm
            have hqz : q ≠ z := fun e => hnot (e ▸ hm)
            have := h.listed pl q (by rw [hk_eq w pl x hx]; exact hsub _ hm)
            simp only [hqz, if_false] at this ⊢
            rw [proc_congr hprocs]; exact this
          · simp only [e, if_false] at hm
            have := h.listed pl q hm
            by_cases eq : q = z
            · subst eq; simp only [if_true] at this ⊢; exact hne pl e this
            · simp only [eq, if_false] at this ⊢; rw [proc_congr hprocs]; exact this
      split
      · -- not on the list
        rename_i hfi
        have hk : z + 1 ∉ hkeys x.holders := fun hk => (hh_findIndex hwf (z + 1) hfi).2 hk rfl
        refine key x.holders w hwf hk (fun _ hk => hk) (fun pl => ?_) rfl
        split
        · rename_i e; rw [e]; exact ph_eq w pl0 x hx
        · rfl
      · dsimp only
        split
        · rename_i h1 r hrm
          obtain ⟨hwf1, hkeys', _⟩ := hh_remove_ok hwf (Nat.succ_ne_zero z) hrm
          refine key h1 _ hwf1 (fun hm => ((hkeys' _).1 hm).2 rfl) (fun k hk => ((hkeys' _).1 hk).1) (fun pl => ?_) ?_
          · rw [signal_ph, recordPool_ph]
            exact ph_set w pl0 _ pl hlt
          · simp
        · rename_i f hrm
          obtain ⟨h1, hrun, _⟩ := HashHeap.remove_abs hwf (z + 1) (Nat.succ_ne_zero z)
          rw [hrun] at hrm; cases hrm
      · rename_i f hfi
        exfalso
        by_cases hk : z + 1 ∈ hkeys x.holders
        · obtain ⟨i, hi, hkey⟩ := (HashHeap.mem_keys_abs x.holders (z + 1)).1 hk
          have := HashHeap.findIndex_of_mem hwf hi
          rw [hkey, hfi] at this; cases this
        · rw [HashHeap.findIndex_of_not_mem hwf hk] at hfi; cases hfi

theorem pinv_dropResources {w : World} (h : PInv w) (z : Pid) : PInv (dropResources w z) := by
  rw [dropResources_eq]
  have h0 : PInvX z (w.proc z).held (w.modProc z fun x => { x with held := [] }) := by
    refine ⟨by simpa using h.small, fun pl x hx => h.wf pl x hx, ?_⟩
    intro pl q hm
    have := h.listed pl q hm
    by_cases e : q = z
    · subst e; simp only [if_true]; exact this
    · simp only [e, if_false]; rw [proc_modProc_ne _ _ _ _ e]; exact this
  have hfold : ∀ (L : List HoldRef) (v : World), PInvX z L v → PInvX z [] (L.foldl (dropStep z) v) := by
    intro L
    induction L with
    | nil => intro v hv; exact hv
    | cons a L ih => intro v hv; exact ih _ (pinvx_dropStep hv)
  have hfin := hfold _ _ h0
  refine ⟨hfin.small, hfin.wf, ?_⟩
  intro pl q hm
  have := hfin.listed pl q hm
  by_cases e : q = z
  · subst e; simp only [if_true] at this; cases this
  · simp only [e, if_false] at this; exact this

theorem dropResources_off {w : World} (h : PInv w) (z : Pid) (pl : Nat) : z + 1 ∉ (dropResources w z).hk pl := by
  intro hm
  have := (pinv_dropResources h z).listed pl z hm
  rw [dropResources_held, if_pos rfl] at this
  cases this

theorem pinv_reprio {w : World} (h : PInv w) (pl : Nat) (x : Pool) (hx : w.pools[pl]? = some x) (q : Pid) (v : Int)
    (h' : HH) (hr : HashHeap.reprioritize holder_queue_check x.holders (q + 1) 0 v = .ok h') :
    PInv { w with pools := w.pools.set! pl { x with holders := h' } } := by
  have hwf := h.wf pl x.holders (ph_eq w pl x hx)
  obtain ⟨hwf', hkeys'⟩ := hh_reprio_ok hwf hr
  refine h.set_holders pl h' (fun pl' => ph_set w pl _ pl' (lt_size_of_getElem? hx)) hwf'
    (fun _ _ _ hm => hm) ?_ rfl
  intro q' hq'
  exact h.listed pl q' (by rw [hk_eq w pl x hx]; exact (hkeys' _).1 hq')

theorem PInv.carried : PoolCarried PInv where
  same := PInv.same
  credit := pinv_poolUpdateRecord
  victim := pinv_mug_step
  setHeld := pinv_setHeldAmount
  unhold := fun h pl hh hph0 p h' r found hrm _ => pinv_remove_holder h pl hh hph0 p h' r hrm
    (unholdWorld_ph hph0 h' p found) (unholdWorld_mem _ pl h' p found) (by simp)
  reprio := pinv_reprio
  drop := pinv_dropResources

theorem pinv_finishProc {w : World} (h : PInv w) (z : Pid) (val : Int) (stopped : Bool) :
    PInv (finishProc w z val stopped) := PInv.carried.finishProc h z val stopped

theorem finishProc_off {w : World} (h : PInv w) (z : Pid) (val : Int) (stopped : Bool) (pl : Nat) :
    z + 1 ∉ (finishProc w z val stopped).hk pl := by
  intro hm
  have hl := (pinv_finishProc h z val stopped).listed pl z hm
  have hz : z < (finishProc w z val stopped).procs.size := lt_np_of_held _ _ _ hl
  rw [(finishProc_record w z (by simpa using hz) val stopped).1] at hl
  cases hl

theorem pinv_frame {w w' : World} (h : PInv w) (hp : w'.pools = w.pools) (hprocs : w'.procs = w.procs) : PInv w' :=
  h.same (.frame hp hprocs)

theorem pinv_modProc_keep {w : World} (h : PInv w) (z : Pid) (f : Proc → Proc) (hf : ∀ x, (f x).held = x.held) :
    PInv (w.modProc z f) := h.same (poolSame_modProc w z f hf)

theorem pinv_sched {w : World} (h : PInv w) (a s : Nat) (sig t pri : Int) : PInv (sched w a s sig t pri).1 :=
  h.same (poolSame_sched w a s sig t pri)
theorem pinv_recordPool {w : World} (h : PInv w) (pl : Nat) : PInv (recordPool w pl) := h.same (poolSame_recordPool w pl)
theorem pinv_setPoolInUse {w : World} (h : PInv w) (pl v : Nat) : PInv (setPoolInUse w pl v) :=
  h.same (poolSame_setPoolInUse w pl v)
theorem pinv_cancelAwaiteds {w : World} (h : PInv w) (z : Pid) : PInv (cancelAwaiteds w z) :=
  h.same (poolSame_cancelAwaiteds w z)
theorem pinv_wakeEventWaiters {w : World} (h : PInv w) (ps : List Pid) (sig : Int) : PInv (wakeEventWaiters w ps sig) :=
  h.same (poolSame_wakeEventWaiters w ps sig)
theorem pinv_removeAwait {w : World} (h : PInv w) (z : Pid) (a : Await) : PInv ((removeAwait w z a).1) :=
  h.same (poolSame_removeAwait w z a)
theorem pinv_removeAwaitKind {w : World} (h : PInv w) (z : Pid) (k : Await → Bool) : PInv ((removeAwaitKind w z k).1) :=
  h.same (poolSame_removeAwaitKind w z k)
theorem pinv_guardWaitLeave {w : World} (h : PInv w) (g : Nat) (z : Pid) (sig : Int) : PInv (guardWaitLeave w g z sig) :=
  h.same (poolSame_guardWaitLeave w g z sig)

theorem pinv_setGuardQ {w : World} (h : PInv w) (g : Nat) (q' : HH) : PInv (setGuardQ w g q') := h.same .of_eq
theorem pinv_cancelAllFor {w : World} (h : PInv w) (z : Pid) : PInv (cancelAllFor w z) := h.same .of_eq
theorem pinv_recordBuf {w : World} (h : PInv w) (r : Nat) : PInv (recordBuf w r) := h.same .of_eq
theorem pinv_recordOQ {w : World} (h : PInv w) (r : Nat) : PInv (recordOQ w r) := h.same .of_eq
theorem pinv_guardSignal {w : World} (h : PInv w) (fuel g : Nat) : PInv (guardSignal fuel w g) := h.same .of_eq
theorem pinv_guardWithdraw {w : World} (h : PInv w) (g : Nat) (z : Pid) : PInv (guardWithdraw w g z) := h.same .of_eq
theorem pinv_recordPQ {w : World} (h : PInv w) (r : Nat) : PInv (recordPQ w r) := h.same .of_eq
theorem pinv_evCancel {w : World} (h : PInv w) (x : Nat) : PInv ((evCancel w x).1) := h.same .of_eq
theorem pinv_cancelUserAll {w : World} (h : PInv w) : PInv ((cancelUserAll w).1) := h.same .of_eq
theorem pinv_condSignal {w : World} (h : PInv w) (g : Nat) : PInv ((condSignal w g).1) := h.same .of_eq
theorem pinv_bufGetLoop {w : World} (h : PInv w) (z : Pid) (b rem got : Nat) : PInv ((bufGetLoop w z b rem got).1) :=
  h.same .of_eq
theorem pinv_bufPutLoop {w : World} (h : PInv w) (z : Pid) (b rem left : Nat) : PInv ((bufPutLoop w z b rem left).1) :=
  h.same .of_eq
theorem pinv_oqGetLoop {w : World} (h : PInv w) (z : Pid) (k : Nat) : PInv ((oqGetLoop w z k).1) := h.same .of_eq
theorem pinv_oqPutLoop {w : World} (h : PInv w) (z : Pid) (k obj : Nat) : PInv ((oqPutLoop w z k obj).1) := h.same .of_eq
theorem pinv_pqGetLoop {w : World} (h : PInv w) (z : Pid) (k : Nat) : PInv ((pqGetLoop w z k).1) := h.same .of_eq
theorem pinv_pqPutLoop {w : World} (h : PInv w) (z : Pid) (k obj : Nat) (pri : Int) (v : Nat) :
    PInv (pqPutLoop w z k obj pri v).1 := h.same .of_eq

end CimbaModel.Sim
