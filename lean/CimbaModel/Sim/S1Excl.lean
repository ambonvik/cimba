/-
  S1 — mutual exclusion at the level of single calls: `grab` is only ever called on a free resource,
  and what a successful `acquire` / `preempt` means for the worlds before and after the call.
-/
import CimbaModel.Sim.S1HolderStep

namespace CimbaModel.Sim
open CimbaModel CimbaModel.Event CimbaModel.Generated
open CimbaModel.HashHeap (HTag Item Order HH)

theorem grab_free_eq (w : World) (r : Nat) (p : Pid) (x : Res) (hx : w.res[r]? = some x) (hf : x.holder = none) :
    grab w r p = ({ w with res := w.res.set! r { x with holder := some p } }).modProc p
      fun y => { y with held := .res r :: y.held } := by
  unfold grab; simp [hx, hf]

theorem grab_free_fault (w : World) (r : Nat) (p : Pid) (x : Res) (hx : w.res[r]? = some x) (hf : x.holder = none) :
    (grab w r p).fault = w.fault := by
  rw [grab_free_eq w r p x hx hf]; rfl

/-- on a held resource the model records a fault (so "no fault" in the correspondence runs means: never happened) -/
theorem grab_held_faults (w : World) (r : Nat) (p q : Pid) (x : Res) (hx : w.res[r]? = some x)
    (hq : x.holder = some q) (hok : w.fault = none) : (grab w r p).fault = some s!"grab of held resource {r}" := by
  unfold grab; simp [hx, hq, World.fail, hok, World.modProc]

theorem acquireStep_free (w : World) (p : Pid) (r : Nat) (x : Res) (hx : w.res[r]? = some x) (hf : x.holder = none) :
    acquireStep w p r = (recordRes (grab w r p) r, .ret sigSuccess "") := by
  unfold acquireStep; simp [hx, hf]

theorem acquireStep_held (w : World) (p q : Pid) (r : Nat) (x : Res) (hx : w.res[r]? = some x) (hq : x.holder = some q) :
    acquireStep w p r = block (guardWaitEnter w x.guard p (.resAvail r)) p (.acquire r) := by
  unfold acquireStep; simp [hx, hq]

theorem holder_recordRes (w : World) (r r' : Nat) : (recordRes w r).holder r' = w.holder r' := by
  simp [World.holder]

theorem HInv.others_not {w : World} (h : HInv w) (r : Nat) (p q : Pid) (hp : w.holder r = some p) (hq : q ≠ p) :
    HoldRef.res r ∉ (w.proc q).held := by
  intro hm
  have := (h.mem_iff r q).1 hm
  rw [hp] at this
  exact hq (Option.some.inj this).symm

/-- **`acquire` succeeds only on a free resource**, and then the caller is the holder -/
theorem acquire_success {w : World} (h : HInv w) (p : Pid) (hp : p < w.procs.size) (r : Nat) (x : Res)
    (hx : w.res[r]? = some x) (w' : World) (e : String)
    (hret : execCmd w p (.acquire r) = (w', .ret sigSuccess e)) :
    x.holder = none ∧ w'.holder r = some p ∧ HInv w' := by
  have hinv : HInv w' := by
    have := hinv_execCmd h p hp (.acquire r); rw [hret] at this; exact this
  simp only [execCmd] at hret
  cases hh : x.holder with
  | none =>
    rw [acquireStep_free w p r x hx hh] at hret
    injection hret with h1 _
    subst h1
    exact ⟨rfl, by rw [holder_recordRes, grab_holder w r p x hx], hinv⟩
  | some q =>
    rw [acquireStep_held w p q r x hx hh] at hret
    simp [block] at hret

/-- the same when a waiting `acquire` is resumed: success is only reported after the re-check found the resource free -/
theorem resume_acquire_success {w : World} (h : HInv w) (p : Pid) (hp : p < w.procs.size) (r : Nat) (x : Res)
    (hx : w.res[r]? = some x) (sig : Int) (w' : World) (e : String)
    (hret : resumeFrame w p (.acquire r) sig = (w', .ret sigSuccess e)) :
    sig = sigSuccess ∧ x.holder = none ∧ w'.holder r = some p ∧ HInv w' := by
  have hinv : HInv w' := by
    have := hinv_resumeFrame h p hp (.acquire r) sig; rw [hret] at this; exact this
  simp only [resumeFrame, hx] at hret
  by_cases hs : sig = sigSuccess
  · rw [if_pos hs] at hret
    have hx1 : (guardWaitLeave w x.guard p sig).res[r]? = some x := by simp [hx]
    cases hh : x.holder with
    | none =>
      rw [acquireStep_free _ p r x hx1 hh] at hret
      injection hret with h1 _
      subst h1
      exact ⟨hs, rfl, by rw [holder_recordRes, grab_holder _ r p x hx1], hinv⟩
    | some q =>
      rw [acquireStep_held _ p q r x hx1 hh] at hret
      simp [block] at hret
  · rw [if_neg hs] at hret
    injection hret with _ h2
    injection h2 with h3 _
    exact absurd h3 hs

/-- **`preempt` succeeds only on a free resource or against a holder of lower or equal priority**; in the second case
    the previous holder has lost the resource (it no longer lists it) and a PREEMPTED wake-up for it is pending at the
    current time; in both cases the caller is the holder afterwards -/
theorem preempt_success {w : World} (h : HInv w) (p : Pid) (hp : p < w.procs.size) (r : Nat) (x : Res)
    (hx : w.res[r]? = some x) (w' : World) (e : String)
    (hret : execCmd w p (.preempt r) = (w', .ret sigSuccess e)) :
    w'.holder r = some p ∧ HInv w' ∧
    (x.holder = none ∨
      ∃ q, x.holder = some q ∧ q ≠ p ∧ (w.proc q).prio ≤ (w.proc p).prio ∧ HoldRef.res r ∉ (w'.proc q).held ∧
        ∃ ev ∈ w'.ev.pending, ev.item.a = aPreempt ∧ ev.item.b = q + 1 ∧ ev.item.c = encSig sigPreempted ∧
          ev.d = w.now) := by
  have hinv : HInv w' := by
    have := hinv_execCmd h p hp (.preempt r); rw [hret] at this; exact this
  cases hh : x.holder with
  | none =>
    simp only [execCmd, hx, hh] at hret
    simp at hret
    obtain ⟨h1, _⟩ := hret
    subst h1
    exact ⟨by rw [holder_recordRes, grab_holder w r p x hx], hinv, Or.inl rfl⟩
  | some q =>
    by_cases hqp : q = p
    · subst hqp
      simp only [execCmd, hx, hh] at hret
      simp at hret
    · by_cases hpri : (w.proc p).prio ≥ (w.proc q).prio
      · rw [preempt_victim_eq w p q r x hx hh hqp hpri] at hret
        injection hret with h1 _
        subst h1
        have hhold : (grab (preemptMid w r q) r p).holder r = some p :=
          grab_holder _ r p _ (preemptMid_free w r q x hx)
        refine ⟨hhold, hinv, Or.inr ⟨q, rfl, hqp, hpri, hinv.others_not r p q hhold hqp, ?_⟩⟩
        have hev : (grab (preemptMid w r q) r p).ev = (preemptMid w r q).ev := by simp
        rw [hev]
        unfold preemptMid
        dsimp only
        refine ⟨_, sched_mem_now _ _ _ _ _, rfl, rfl, rfl, ?_⟩
        simp
      · have hlt : ¬ (w.proc p).prio ≥ (w.proc q).prio := hpri
        have hne : ¬ some q = some p := fun e => hqp (Option.some.inj e)
        simp only [execCmd, hx, hh, hne, if_false, hlt] at hret
        rw [acquireStep_held w p q r x hx hh] at hret
        simp [block] at hret

end CimbaModel.Sim
