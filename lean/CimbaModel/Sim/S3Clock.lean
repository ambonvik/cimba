/-
  S3 — the library at `Scope.top` along the steps of `dispatch` (`takeNext`, `dispatchBody`: Shape.lean); what
  `executeNext` and `takeNext` do to the event queue, the process table and the event-waiter table; what one dispatched
  event does to the clock (`ClockStep`), the whole run.
-/
import CimbaModel.Sim.S3Evo

namespace CimbaModel.Sim.S3
open CimbaModel CimbaModel.Sim CimbaModel.Event CimbaModel.Generated CimbaModel.KPQ
open CimbaModel.HashHeap (HTag Item Order HH WF abs liveTags)

/-- waking the waiters of the event taken; the dispatcher's own step `afterNext` (the event leaves the queue, the
    counter of dispatched events grows) is not the library's -/
theorem eff_takeNext (w : World) (t : HTag) (ev' : EvQ) : Eff 0 .top (afterNext w ev') (takeNext w t ev') :=
  (Eff.refl.evWaiters rfl _).wakeEventWaiters _ _

theorem eff_execCmd {w0 w : World} (h : Eff 0 .top w0 w) (p : Pid) (c : Cmd) : Eff 0 .top w0 (execCmd w p c).1 :=
  h.trans ((Eff.execCmd w p c).mono (cmdScope_le_top c)).anyone

theorem eff_resumeFrame {w0 w : World} (h : Eff 0 .top w0 w) (p : Pid) (f : Frame) (sig : Int) :
    Eff 0 .top w0 (resumeFrame w p f sig).1 :=
  h.trans ((Eff.resumeFrame w p f sig).mono (frameScope_le_top f)).anyone

theorem eff_prioAwaitStep {w0 w : World} (h : Eff 0 .top w0 w) (q : Pid) (v : Int) (a : Await) :
    Eff 0 .top w0 (prioAwaitStep q v w a) := by
  refine h.trans (prioAwaitStep_rel (Eff.path 0 .top) q v (fun _ m => .fail .refl m)
    (fun _ _ _ hr => .reprio .refl rfl hr) (fun w g => ?_) w a)
  unfold S3.reprioGuard
  split
  · split
    · split
      · split
        · exact .setGuardQ .refl _ _
        · exact .fail .refl _
      · exact .fail .refl _
    · exact .refl
  · exact .refl

/-- the processes registered as waiting for event `h` -/
def evWaitersOf (w : World) (h : Nat) : List Pid := (w.evWaiters.lookup h).getD []

theorem executeNext_facts {q q' : EvQ} {t : HTag} (hi : EvInv q) (h : executeNext q = some (t, q')) :
    EvInv q' ∧ t ∈ q.pending ∧ q'.pending = remove q.pending t.key ∧ q'.counter = q.counter := by
  obtain ⟨h1, h2, _, _, _, _, _, h3⟩ := executeNext_inv hi h
  refine ⟨h1, h2, h3, ?_⟩
  unfold executeNext at h
  split at h
  · cases h
  · simp only [Option.some.injEq, Prod.mk.injEq] at h
    rw [← h.2]

theorem takeNext_eq (w : World) (t : HTag) (ev' : EvQ) :
    takeNext w t ev' =
      pushAll { afterNext w ev' with evWaiters := w.evWaiters.filter (·.1 ≠ t.key) } (evWakes w (evWaitersOf w t.key) sigSuccess) := by
  unfold takeNext
  rw [wakeEventWaiters_eq]
  rfl

theorem takeNext_pending {w : World} (hi : EvInv w.ev) {t : HTag} {ev' : EvQ} (hn : executeNext w.ev = some (t, ev')) :
    ∀ e ∈ (takeNext w t ev').ev.pending, (e ∈ w.ev.pending ∧ e.key ≠ t.key) ∨
      (e.item.a = aEvent ∧ ∃ q ∈ evWaitersOf w t.key, e.item.b = q + 1) := by
  obtain ⟨_, _, hpend, _⟩ := executeNext_facts hi hn
  rw [takeNext_eq]
  intro e he
  simp only [pushAll_pending, List.mem_append] at he
  rcases he with he | he
  · right
    obtain ⟨_, _, _, _, x, hx, heq⟩ := wakeEvs_props he
    simp only [evWakes, List.mem_map] at hx
    obtain ⟨q, hq, rfl⟩ := hx
    rw [heq]; exact ⟨rfl, q, hq, rfl⟩
  · left
    have : e ∈ remove w.ev.pending t.key := by rw [← hpend]; exact he
    exact mem_remove.1 this

theorem takeNext_proc (w : World) (t : HTag) (ev' : EvQ) (x : Pid) : (takeNext w t ev').proc x = w.proc x := by
  rw [takeNext_eq]; rfl

theorem takeNext_evWaiters (w : World) (t : HTag) (ev' : EvQ) :
    (takeNext w t ev').evWaiters = w.evWaiters.filter (·.1 ≠ t.key) := by
  rw [takeNext_eq]; rfl

theorem takeNext_facts {w : World} (hi : EvInv w.ev) {t : HTag} {ev' : EvQ} (hn : executeNext w.ev = some (t, ev')) :
    t ∈ w.ev.pending ∧ (takeNext w t ev').procs = w.procs ∧ EvInv (takeNext w t ev').ev ∧
    (∀ e ∈ (takeNext w t ev').ev.pending, (e ∈ w.ev.pending ∧ e.key ≠ t.key) ∨ e.item.a = aEvent) ∧
    (∀ e ∈ w.ev.pending, e.key ≠ t.key → e ∈ (takeNext w t ev').ev.pending) ∧
    (takeNext w t ev').ev.cancelled = w.ev.cancelled ∧ w.ev.counter ≤ (takeNext w t ev').ev.counter := by
  obtain ⟨hei', htm, hpend, hctr⟩ := executeNext_facts hi hn
  have hcan : ev'.cancelled = w.ev.cancelled := by
    unfold executeNext at hn
    split at hn
    · cases hn
    · simp only [Option.some.injEq, Prod.mk.injEq] at hn
      rw [← hn.2]
  rw [takeNext_eq]
  refine ⟨htm, rfl, pushAll_evinv _ hei', ?_, ?_, hcan, ?_⟩
  · intro e he
    rw [← takeNext_eq] at he
    exact (takeNext_pending hi hn e he).imp id And.left
  · intro e he hne
    simp only [pushAll_pending]
    apply List.mem_append_right
    show e ∈ ev'.pending
    rw [hpend]; exact mem_remove.2 ⟨he, hne⟩
  · simp only [pushAll_counter]
    have : (afterNext w ev').ev.counter = w.ev.counter := hctr
    omega

/-- what one dispatched event does to the clock and the kernel invariant: the clock becomes the time of the dispatched
    event — the minimum of the pending set under (time, −priority, handle) —, which is never earlier than before;
    nothing is pending in the past afterwards; handles are never reused; a fault is never cleared -/
structure ClockStep (w w' : World) : Prop where
  ev : ∃ e ∈ w.ev.pending, (∀ x ∈ w.ev.pending, heap_order_check x e = false) ∧ w'.now = e.d ∧
    w'.ev.executed = e.key :: w.ev.executed ∧ w'.ev.current = e.key
  mono : w.now ≤ w'.now
  evinv : EvInv w'.ev
  fault : w'.fault = none → w.fault = none
  counter : w.ev.counter ≤ w'.ev.counter
  psize : w'.procs.size = w.procs.size
  dispatched : w'.dispatched = w.dispatched + 1
  /-- an event that is still pending afterwards has kept its time, action, subject and signal -/
  stable : ∀ e' ∈ w'.ev.pending, e'.key ≤ w.ev.counter →
    ∃ e ∈ w.ev.pending, e.key = e'.key ∧ e.d = e'.d ∧ e.item = e'.item

theorem dispatch_clock {w w' : World} (hi : EvInv w.ev) (hd : dispatch w = some w') : ClockStep w w' := by
  rw [dispatch_eq] at hd
  split at hd
  · cases hd
  · rename_i t ev' hnext
    obtain ⟨hinv', hmem, hmin, hnow, hcur, hle, hex, hpend⟩ := executeNext_inv hi hnext
    simp only [Option.some.injEq] at hd
    have hE : Evo (afterNext w ev') w' := by
      rw [← hd]; exact Evo.eff (Eff.dispatchBody (eff_takeNext w t ev') t)
    have hctr : (afterNext w ev').ev.counter = w.ev.counter := by
      unfold executeNext at hnext
      split at hnext
      · cases hnext
      · simp only [Option.some.injEq, Prod.mk.injEq] at hnext
        rw [← hnext.2]; rfl
    refine ⟨⟨t, hmem, hmin, ?_, ?_, ?_⟩, ?_, hE.evinv hinv', ?_, ?_, hE.psize, hE.dispatched, ?_⟩
    · show w'.ev.now = t.d
      rw [hE.now]; exact hnow
    · rw [hE.executed]; exact hex
    · rw [hE.current]; exact hcur
    · show w.ev.now ≤ w'.ev.now
      rw [hE.now]; exact hle
    · intro hf; exact hE.fault hf
    · rw [← hctr]; exact hE.counter
    · intro e' he' hk
      obtain ⟨e, he, h1, h2, h3⟩ := hE.stable e' he' (by rw [hctr]; exact hk)
      have : e ∈ remove w.ev.pending t.key := by rw [← hpend]; exact he
      exact ⟨e, (mem_remove.1 this).1, h1, h2, h3⟩

/-- `ClockInv`: the kernel invariant (every issued handle in exactly one of pending / executed / cancelled; nothing
    pending in the past) -/
def ClockInv (w : World) : Prop := EvInv w.ev

theorem runAll_clock : ∀ (fuel : Nat) (w : World), EvInv w.ev →
    EvInv (runAll fuel w).ev ∧ w.now ≤ (runAll fuel w).now ∧ ((runAll fuel w).fault = none → w.fault = none) ∧
      w.ev.counter ≤ (runAll fuel w).ev.counter := by
  intro fuel
  induction fuel with
  | zero => intro w hi; exact ⟨hi, Int.le_refl _, id, Nat.le_refl _⟩
  | succ fuel ih =>
    intro w hi
    simp only [runAll]
    split
    · exact ⟨hi, Int.le_refl _, id, Nat.le_refl _⟩
    · split
      · exact ⟨hi, Int.le_refl _, id, Nat.le_refl _⟩
      · rename_i w' hd
        have hs := dispatch_clock hi hd
        obtain ⟨h1, h2, h3, h4⟩ := ih w' hs.evinv
        exact ⟨h1, Int.le_trans hs.mono h2, fun hf => hs.fault (h3 hf), Nat.le_trans hs.counter h4⟩

end CimbaModel.Sim.S3
