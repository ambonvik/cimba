/-
  S1 — how the library changes the set of pending events.
  `cnt P w` counts the pending events satisfying `P`.  `EvClosed A R` says that the world predicate `R` looks at the
  event queue only, survives dropping events and survives scheduling an event whose kind is in `A`.  Such a predicate
  is kept by every effect within a scope whose kinds of event are in `A` (`EvClosed.ofEff`).  The functions of
  Sim/Model.lean and Sim/Run.lean that the invariants step over, up to `execCmd` and `resumeFrame`, have a transport
  lemma `ec_f : R w → R (f w)`; its hypotheses on `A` name the kinds of events that `f` schedules.
-/
import CimbaModel.Sim.S1Step

namespace CimbaModel.Sim
open CimbaModel CimbaModel.Event CimbaModel.Generated
open CimbaModel.HashHeap (HTag Item Order HH)

def cnt (P : Item → Bool) (w : World) : Nat := w.ev.pending.countP fun e => P e.item

theorem cnt_of_ev {P : Item → Bool} {w w' : World} (h : w'.ev = w.ev) : cnt P w' = cnt P w := by
  unfold cnt; rw [h]

theorem cnt_pos_iff {P : Item → Bool} {w : World} : 0 < cnt P w ↔ ∃ e ∈ w.ev.pending, P e.item = true := by
  unfold cnt; rw [List.countP_pos_iff]

theorem cnt_zero_iff {P : Item → Bool} {w : World} : cnt P w = 0 ↔ ∀ e ∈ w.ev.pending, P e.item = false := by
  unfold cnt; rw [List.countP_eq_zero]; simp

theorem cnt_sched_le (P : Item → Bool) (w : World) (a s : Nat) (sig t pri : Int) :
    cnt P (sched w a s sig t pri).1 ≤ cnt P w + (if P ⟨a, s, encSig sig, 0⟩ then 1 else 0) := by
  unfold cnt
  rcases sched_pending_cases w a s sig t pri with h | h <;> rw [h]
  · omega
  · rw [List.countP_cons]; dsimp only; split <;> simp_all

theorem cnt_sched_of_not (P : Item → Bool) (w : World) (a s : Nat) (sig t pri : Int)
    (hn : P ⟨a, s, encSig sig, 0⟩ = false) : cnt P (sched w a s sig t pri).1 ≤ cnt P w := by
  have := cnt_sched_le P w a s sig t pri
  rw [hn] at this; simpa using this

/-- `R` survives a fault, the loss of pending events (whatever becomes of the table of event waiters) and a new event
    wake-up: what the cancelling functions ask of a predicate on the event queue -/
structure DownClosed (R : World → Prop) : Prop where
  fail : ∀ w m, R w → R (World.fail w m)
  sub : ∀ (w : World) (ev' : EvQ) (evW : List (Nat × List Pid)), R w → ev'.pending.Sublist w.ev.pending →
    R { w with ev := ev', evWaiters := evW }
  schedEvent : ∀ w s sig t pri, R w → R (sched w aEvent s sig t pri).1

theorem wakeEventWaiters_down {R : World → Prop} (hR : DownClosed R) (w : World) (ps : List Pid) (sig : Int)
    (h : R w) : R (wakeEventWaiters w ps sig) := by
  unfold wakeEventWaiters
  exact foldl_inv R _ (fun w q hw => hR.schedEvent _ _ _ _ _ hw) _ _ h

theorem evCancel_down {R : World → Prop} (hR : DownClosed R) (w : World) (x : Nat) (h : R w) : R (evCancel w x).1 := by
  unfold evCancel
  dsimp only
  split
  · apply wakeEventWaiters_down hR
    apply hR.sub _ _ _ h
    rcases cancel_pending w.ev x with e | e <;> rw [e]
    · exact List.Sublist.refl _
    · exact List.filter_sublist
  · exact h

theorem cancelAllFor_down {R : World → Prop} (hR : DownClosed R) (w : World) (z : Pid) (h : R w) :
    R (cancelAllFor w z) := by
  unfold cancelAllFor
  exact foldl_inv R _ (fun w x hw => evCancel_down hR w x hw) _ _ h

theorem cancelKindFor_down {R : World → Prop} (hR : DownClosed R) (w : World) (z : Pid) (act : Nat) (sig : Option Int)
    (h : R w) : R (cancelKindFor w z act sig).1 := by
  unfold cancelKindFor
  exact foldl_inv R _ (fun w x hw => evCancel_down hR w x hw) _ _ h

theorem cancelUserAll_down {R : World → Prop} (hR : DownClosed R) (w : World) (h : R w) : R (cancelUserAll w).1 := by
  unfold cancelUserAll
  exact foldl_inv R _ (fun w x hw => evCancel_down hR w x hw) _ _ h

theorem cntLe_downClosed (P : Item → Bool) (w0 : World) (hP : ∀ s c, P ⟨aEvent, s, c, 0⟩ = false) :
    DownClosed fun w => cnt P w ≤ cnt P w0 where
  fail := fun w m h => by rw [cnt_of_ev (fail_ev w m)]; exact h
  sub := fun w ev' evW h hs => by
    have : cnt P { w with ev := ev', evWaiters := evW } ≤ cnt P w := hs.countP_le
    omega
  schedEvent := fun w s sig t pri h => by
    have := cnt_sched_of_not P w aEvent s sig t pri (hP _ _)
    omega

/-- every pending event with property `Q` was already pending in `w0` and its handle is not among `ks`: the loop
    invariant of `cancelAllFor_none`, `ks` being the handles cancelled so far -/
def FromAvoid (Q : Item → Bool) (w0 : World) (ks : List Nat) (w : World) : Prop :=
  ∀ e ∈ w.ev.pending, Q e.item = true → e ∈ w0.ev.pending ∧ e.key ∉ ks

theorem fromAvoid_sched (Q : Item → Bool) (w0 : World) (ks : List Nat) (w : World) (a s : Nat) (sig t pri : Int)
    (hQ : Q ⟨a, s, encSig sig, 0⟩ = false) (h : FromAvoid Q w0 ks w) : FromAvoid Q w0 ks (sched w a s sig t pri).1 := by
  intro e he hq
  rcases sched_pending_cases w a s sig t pri with e' | e' <;> rw [e'] at he
  · exact h e he hq
  · rcases List.mem_cons.1 he with rfl | he
    · rw [hQ] at hq; cases hq
    · exact h e he hq

theorem fromAvoid_evCancel (Q : Item → Bool) (hQ : ∀ s c, Q ⟨aEvent, s, c, 0⟩ = false) (w0 : World) (ks : List Nat)
    (w : World) (x : Nat) (h : FromAvoid Q w0 ks w) : FromAvoid Q w0 (x :: ks) (evCancel w x).1 := by
  unfold evCancel
  dsimp only
  split
  · rename_i hc
    have hp : (cancel w.ev x).1.pending = w.ev.pending.filter (·.key ≠ x) := by
      unfold cancel at hc ⊢; split <;> simp_all [KPQ.remove]
    have h1 : FromAvoid Q w0 (x :: ks)
        { w with ev := (cancel w.ev x).1, evWaiters := (popWaiters w.evWaiters x).2 } := by
      intro e he hq
      have he' : e ∈ w.ev.pending.filter (·.key ≠ x) := by rw [← hp]; exact he
      rw [List.mem_filter] at he'
      obtain ⟨a, b⟩ := h e he'.1 hq
      refine ⟨a, ?_⟩
      simp only [List.mem_cons, not_or]
      exact ⟨by simpa using he'.2, b⟩
    unfold wakeEventWaiters
    exact foldl_inv (FromAvoid Q w0 (x :: ks)) _
      (fun w q hw => fromAvoid_sched Q w0 _ w _ _ _ _ _ (hQ _ _) hw) _ _ h1
  · intro e he hq
    rename_i hc
    have hns : isScheduled w.ev x = false := by
      unfold cancel at hc; split at hc <;> simp_all
    obtain ⟨a, b⟩ := h e he hq
    refine ⟨a, ?_⟩
    simp only [List.mem_cons, not_or]
    refine ⟨?_, b⟩
    intro hk
    have : isScheduled w.ev x = true := by
      unfold isScheduled KPQ.keys
      simp only [decide_eq_true_eq, List.mem_map]
      exact ⟨e, he, hk⟩
    rw [hns] at this; cases this

theorem fromAvoid_foldl (Q : Item → Bool) (hQ : ∀ s c, Q ⟨aEvent, s, c, 0⟩ = false) (w0 : World) :
    ∀ (hs ks : List Nat) (w : World), FromAvoid Q w0 ks w →
      FromAvoid Q w0 (hs.reverse ++ ks) (hs.foldl (fun w h => (evCancel w h).1) w) := by
  intro hs
  induction hs with
  | nil => intro ks w h; simpa using h
  | cons x xs ih =>
    intro ks w h
    rw [List.foldl_cons]
    have := ih (x :: ks) _ (fromAvoid_evCancel Q hQ w0 ks w x h)
    simpa using this

theorem fromAvoid_refl (Q : Item → Bool) (w : World) : FromAvoid Q w [] w :=
  fun e he _ => ⟨he, by simp⟩

theorem foldl_evCancel_none (Q : Item → Bool) (hQ : ∀ s c, Q ⟨aEvent, s, c, 0⟩ = false) (w : World) (ks : List Nat)
    (hk : ∀ e ∈ w.ev.pending, Q e.item = true → e.key ∈ ks) :
    cnt Q (ks.foldl (fun w h => (evCancel w h).1) w) = 0 := by
  rw [cnt_zero_iff]
  intro e he
  cases hq : Q e.item with
  | false => rfl
  | true =>
    obtain ⟨a, b⟩ := fromAvoid_foldl Q hQ w ks [] w (fromAvoid_refl Q w) e he hq
    exact absurd (hk e a hq) (by simpa using b)

/-- **after `cancelAllFor z` no event addressed to `z` other than an event wake-up is pending** -/
theorem cancelAllFor_none (Q : Item → Bool) (hQ : ∀ s c, Q ⟨aEvent, s, c, 0⟩ = false) (w : World) (z : Pid)
    (hz : ∀ it, Q it = true → it.b = z + 1) : cnt Q (cancelAllFor w z) = 0 := by
  unfold cancelAllFor pendingOf
  apply foldl_evCancel_none Q hQ
  intro e he hq
  exact List.mem_map.2 ⟨e, List.mem_filter.2 ⟨he, by simpa using hz _ hq⟩, rfl⟩

theorem cancelKindFor_none (Q : Item → Bool) (hQ : ∀ s c, Q ⟨aEvent, s, c, 0⟩ = false) (w : World) (z : Pid) (act : Nat)
    (hz : ∀ it, Q it = true → it.b = z + 1 ∧ it.a = act) : cnt Q (cancelKindFor w z act none).1 = 0 := by
  unfold cancelKindFor
  apply foldl_evCancel_none Q hQ
  intro e he hq
  obtain ⟨h1, h2⟩ := hz _ hq
  exact List.mem_map.2 ⟨e, List.mem_filter.2 ⟨he, by simp [h1, h2]⟩, rfl⟩

theorem all_cons {A : Nat → Bool} {a : Nat} {l : List Nat} (ha : A a = true) (hl : l.all A = true) :
    (a :: l).all A = true := by
  rw [List.all_cons, ha, hl]; rfl

/-- `R` looks at the event queue only, survives the loss of pending events and a new event of a kind in `A` -/
structure EvClosed (A : Nat → Bool) (R : World → Prop) : Prop where
  ev_only : ∀ {w w' : World}, R w → w'.ev = w.ev → R w'
  sub : ∀ (w : World) (ev' : EvQ), ev'.pending.Sublist w.ev.pending → R w → R { w with ev := ev' }
  sched : ∀ w a s sig t pri, A a = true → R w → R (sched w a s sig t pri).1

section
variable {A : Nat → Bool} {R : World → Prop} (hR : EvClosed A R)
include hR

/-- **a predicate on the event queue is kept by every step within a scope whose kinds of event it tolerates**
    (and which re-sorts the queue only if the predicate tolerates that) -/
theorem EvClosed.ofEff {p : Pid} {s : Scope} {w0 w : World} (h : Eff p s w0 w) (hK : s.push.all A = true)
    (hrep : s.reprio = true → ∀ (w : World) (ev' : EvQ) (k : Nat) (v : Int), R w → reprioritize w.ev k v = .ok ev' →
      R { w with ev := ev' }) (hw : R w0) : R w := by
  induction h with
  | refl => exact hw
  | fail _ msg ih => exact hR.ev_only ih (fail_ev _ _)
  | setVar _ q v x _ _ _ ih => exact hR.ev_only ih (setVar_ev ..)
  | @push w _ a b sig t pri ev' k hs he _ _ ih =>
    have := hR.sched w a b sig t pri (List.all_eq_true.1 hK a hs) ih
    unfold Sim.sched at this
    rw [he] at this
    exact this
  | @cancel w _ _ k ih =>
    refine hR.sub w _ ?_ ih
    rcases cancel_pending w.ev k with e | e <;> rw [e]
    · exact List.Sublist.refl _
    · exact List.filter_sublist
  | reprio _ hs he ih => exact hrep hs _ _ _ _ ih he
  | _ => rename_i ih; exact hR.ev_only ih rfl

theorem ec_fail (w : World) (m : String) (h : R w) : R (World.fail w m) := hR.ev_only h (by simp)

theorem ec_mk (w : World) (evW : List (Nat × List Pid)) (procs : Array Proc) (guards : Array Guard)
    (res : Array Res) (pools : Array Pool) (bufs : Array Buf) (oqs : Array OQ) (pqs : Array PQ) (conds : Array Nat)
    (flags : Array Int) (gvars : Array Nat) (log : Array String) (fault : Option String) (d : Nat) (h : R w) :
    R ⟨w.ev, evW, procs, guards, res, pools, bufs, oqs, pqs, conds, flags, gvars, log, fault, d⟩ :=
  hR.ev_only h rfl

theorem ec_emit (w : World) (m : String) (h : R w) : R (World.emit w m) := hR.ev_only h (by simp)
theorem ec_modProc (w : World) (z : Pid) (f : Proc → Proc) (h : R w) : R (World.modProc w z f) := hR.ev_only h (by simp)
theorem ec_setGuardQ (w : World) (g : Nat) (q' : HH) (h : R w) : R (setGuardQ w g q') := hR.ev_only h (by simp)
theorem ec_setPoolInUse (w : World) (pl v : Nat) (h : R w) : R (setPoolInUse w pl v) := hR.ev_only h (by simp)
theorem ec_recordRes (w : World) (r : Nat) (h : R w) : R (recordRes w r) := hR.ev_only h (by simp)
theorem ec_recordPool (w : World) (r : Nat) (h : R w) : R (recordPool w r) := hR.ev_only h (by simp)
theorem ec_recordBuf (w : World) (r : Nat) (h : R w) : R (recordBuf w r) := hR.ev_only h (by simp)
theorem ec_recordOQ (w : World) (r : Nat) (h : R w) : R (recordOQ w r) := hR.ev_only h (by simp)
theorem ec_recordPQ (w : World) (r : Nat) (h : R w) : R (recordPQ w r) := hR.ev_only h (by simp)
theorem ec_guardRemove (w : World) (g : Nat) (z : Pid) (h : R w) : R ((guardRemove w g z).1) := hR.ev_only h (by simp)
theorem ec_setHeldAmount (w : World) (pl : Nat) (z : Pid) (n : Nat) (h : R w) : R (setHeldAmount w pl z n) := hR.ev_only h (by simp)
theorem ec_setRecording (w : World) (kind idx : Nat) (on : Bool) (h : R w) : R (setRecording w kind idx on) := hR.ev_only h (by simp)
theorem ec_addAwait (w : World) (z : Pid) (a : Await) (h : R w) : R (addAwait w z a) := hR.ev_only h (by simp)
theorem ec_removeAwait (w : World) (z : Pid) (a : Await) (h : R w) : R ((removeAwait w z a).1) := hR.ev_only h (by simp)
theorem ec_removeAwaitKind (w : World) (z : Pid) (k : Await → Bool) (h : R w) : R ((removeAwaitKind w z k).1) := hR.ev_only h (by simp)
theorem ec_removeHeld (w : World) (z : Pid) (a : HoldRef) (h : R w) : R ((removeHeld w z a).1) := hR.ev_only h (by simp)
theorem ec_block (w : World) (z : Pid) (f : Frame) (h : R w) : R ((block w z f).1) := hR.ev_only h (by simp)
theorem ec_setVar (w : World) (z : Pid) (v x : Nat) (h : R w) : R (setVar w z v x) := hR.ev_only h (by simp)
theorem ec_grab (w : World) (r : Nat) (z : Pid) (h : R w) : R (grab w r z) := hR.ev_only h (by simp)
theorem ec_poolUpdateRecord (w : World) (pl : Nat) (z : Pid) (n : Nat) (h : R w) : R (poolUpdateRecord w pl z n) := hR.ev_only h (by simp)
theorem ec_guardWaitEnter (w : World) (g : Nat) (z : Pid) (d : Demand) (h : R w) : R (guardWaitEnter w g z d) := hR.ev_only h (by simp)

theorem ec_wakeEventWaiters (hA : A aEvent = true) (w : World) (ps : List Pid) (sig : Int) (h : R w) :
    R (wakeEventWaiters w ps sig) :=
  hR.ofEff (wakeEventWaiters_eff w ps sig 0) (all_cons hA rfl) nofun h

theorem ec_evCancel (hA : A aEvent = true) (w : World) (x : Nat) (h : R w) : R (evCancel w x).1 :=
  hR.ofEff (evCancel_eff w x 0) (all_cons hA rfl) nofun h

theorem ec_cancelKindFor (hA : A aEvent = true) (w : World) (z : Pid) (act : Nat) (sig : Option Int) (h : R w) :
    R (cancelKindFor w z act sig).1 :=
  hR.ofEff (cancelKindFor_eff w z act sig 0) (all_cons hA rfl) nofun h

theorem ec_cancelUserAll (hA : A aEvent = true) (w : World) (h : R w) : R (cancelUserAll w).1 :=
  hR.ofEff (cancelUserAll_eff w 0) (all_cons hA rfl) nofun h

theorem ec_signal (hA : A aRes = true ∧ A aCond = true) (w : World) (g : Nat) (h : R w) : R (signal w g) :=
  hR.ofEff (guardSignalF_eff false 8 w g 0) (all_cons hA.1 (all_cons hA.2 rfl)) nofun h

theorem ec_timerAdd (hA : A aTime = true) (w : World) (z : Pid) (d sig : Int) (h : R w) : R (timerAdd w z d sig).1 :=
  hR.ofEff (timerAdd_eff w z d sig) (all_cons hA rfl) nofun h

theorem ec_timerCancel (hE : A aEvent = true) (w : World) (z : Pid) (x : Nat) (h : R w) : R (timerCancel w z x).1 :=
  hR.ofEff (timerCancel_eff w z x) (all_cons hE rfl) nofun h

theorem ec_timersClear (hE : A aEvent = true) (w : World) (z : Pid) (h : R w) : R (timersClear w z) :=
  hR.ofEff (timersClear_eff w z) (all_cons hE rfl) nofun h

theorem ec_cancelAwaiteds (hE : A aEvent = true) (hA : A aRes = true ∧ A aCond = true) (w : World) (z : Pid) (h : R w) :
    R (cancelAwaiteds w z) :=
  hR.ofEff (cancelAwaiteds_eff w z) (all_cons hE (all_cons hA.1 (all_cons hA.2 rfl))) nofun h

theorem ec_wakeWaiters (hA : A aProc = true) (w : World) (z : Pid) (sig : Int) (h : R w) : R (wakeWaiters w z sig) :=
  hR.ofEff (wakeWaiters_eff w z sig) (all_cons hA rfl) nofun h

theorem ec_dropResources (hA : A aRes = true ∧ A aCond = true) (w : World) (z : Pid) (h : R w) : R (dropResources w z) :=
  hR.ofEff (dropResources_eff w z) (all_cons hA.1 (all_cons hA.2 rfl)) nofun h

theorem ec_finishMid (hE : A aEvent = true) (hA : A aRes = true ∧ A aCond = true) (w : World) (z : Pid) (stopped : Bool)
    (h : R w) : R (finishMid w z stopped) :=
  hR.ofEff (finishMid_eff w z stopped)
    (all_cons hE (all_cons hA.1 (all_cons hA.2 rfl))) nofun h

theorem ec_finishProc (hE : A aEvent = true) (hA : A aRes = true ∧ A aCond = true) (hP : A aProc = true) (w : World)
    (z : Pid) (val : Int) (stopped : Bool) (h : R w) : R (finishProc w z val stopped) :=
  hR.ofEff (finishProc_eff w z val stopped) (all_cons hP (all_cons hE (all_cons hA.1 (all_cons hA.2 rfl)))) nofun h

theorem ec_guardWaitLeave (hE : A aEvent = true) (hA : A aRes = true ∧ A aCond = true) (w : World) (g : Nat) (z : Pid) (sig : Int)
    (h : R w) : R (guardWaitLeave w g z sig) :=
  hR.ofEff (guardWaitLeave_eff w g z sig) (all_cons hE (all_cons hA.1 (all_cons hA.2 rfl))) nofun h

theorem ec_wait (w : World) (g : Nat) (p : Pid) (d : Demand) (f : Frame) (h : R w) :
    R (block (guardWaitEnter w g p d) p f).1 :=
  ec_block hR _ _ _ (ec_guardWaitEnter hR _ _ _ _ h)

theorem ec_acquireStep (w : World) (p : Pid) (r : Nat) (h : R w) : R (acquireStep w p r).1 :=
  hR.ofEff (acquireStep_eff w p r) rfl nofun h

theorem ec_poolMug (hI : A aIntr = true) (hA : A aRes = true ∧ A aCond = true) (fuel : Nat) (w : World) (z : Pid) (pl rem : Nat)
    (h : R w) : R (poolMug fuel w z pl rem).1 :=
  hR.ofEff (poolMug_eff fuel w z pl rem) (all_cons hI (all_cons hA.1 (all_cons hA.2 rfl))) nofun h

theorem ec_poolLoop (hA : A aRes = true ∧ A aCond = true) (w : World) (p : Pid) (pl rem initially : Nat) (preempt : Bool)
    (hI : preempt = true → A aIntr = true) (h : R w) : R (poolLoop w p pl rem initially preempt).1 := by
  cases preempt
  · exact hR.ofEff (poolLoop_plain_eff w p pl rem initially)
      (all_cons hA.1 (all_cons hA.2 rfl)) nofun h
  · exact hR.ofEff (poolLoop_eff w p pl rem initially true) (all_cons (hI rfl) (all_cons hA.1 (all_cons hA.2 rfl))) nofun h

theorem ec_poolRollback (hA : A aRes = true ∧ A aCond = true) (w : World) (p : Pid) (pl initially : Nat) (h : R w) :
    R (poolRollback w p pl initially) :=
  hR.ofEff (poolRollback_eff w p pl initially) (all_cons hA.1 (all_cons hA.2 rfl)) nofun h

theorem ec_bufGetLoop (hA : A aRes = true ∧ A aCond = true) (w : World) (p : Pid) (b rem got : Nat) (h : R w) :
    R (bufGetLoop w p b rem got).1 :=
  hR.ofEff (bufGetLoop_eff w p b rem got) (all_cons hA.1 (all_cons hA.2 rfl)) nofun h

theorem ec_bufPutLoop (hA : A aRes = true ∧ A aCond = true) (w : World) (p : Pid) (b rem left : Nat) (h : R w) :
    R (bufPutLoop w p b rem left).1 :=
  hR.ofEff (bufPutLoop_eff w p b rem left) (all_cons hA.1 (all_cons hA.2 rfl)) nofun h

theorem ec_oqGetLoop (hA : A aRes = true ∧ A aCond = true) (w : World) (p : Pid) (q : Nat) (h : R w) :
    R (oqGetLoop w p q).1 :=
  hR.ofEff (oqGetLoop_eff w p q) (all_cons hA.1 (all_cons hA.2 rfl)) nofun h

theorem ec_oqPutLoop (hA : A aRes = true ∧ A aCond = true) (w : World) (p : Pid) (q obj : Nat) (h : R w) :
    R (oqPutLoop w p q obj).1 :=
  hR.ofEff (oqPutLoop_eff w p q obj) (all_cons hA.1 (all_cons hA.2 rfl)) nofun h

theorem ec_pqGetLoop (hA : A aRes = true ∧ A aCond = true) (w : World) (p : Pid) (k : Nat) (h : R w) :
    R (pqGetLoop w p k).1 :=
  hR.ofEff (pqGetLoop_eff w p k) (all_cons hA.1 (all_cons hA.2 rfl)) nofun h

theorem ec_pqPutLoop (hA : A aRes = true ∧ A aCond = true) (w : World) (p : Pid) (k obj : Nat) (pri : Int) (v : Nat)
    (h : R w) : R (pqPutLoop w p k obj pri v).1 :=
  hR.ofEff (pqPutLoop_eff w p k obj pri v) (all_cons hA.1 (all_cons hA.2 rfl)) nofun h

theorem ec_condSignal (hA : A aCond = true) (w : World) (g : Nat) (h : R w) : R (condSignal w g).1 :=
  hR.ofEff (condSignal_eff w g 0) (all_cons hA rfl) nofun h

end

/-- every scope of a command but `priority_set`'s leaves the order of the queue alone -/
theorem cmdScope_reprio (c : Cmd) (hq : ∀ q v, c ≠ .prioSet q v) : (cmdScope c).reprio = false := by
  cases c
  case prioSet q v => exact absurd rfl (hq q v)
  case recStart kind _ => match kind with | 0 | 1 | 2 | 3 | _ + 4 => rfl
  case recStop kind _ => match kind with | 0 | 1 | 2 | 3 | _ + 4 => rfl
  all_goals rfl

section
variable {A : Nat → Bool} {R : World → Prop} (hR : EvClosed A R)
include hR

theorem ec_execCmd (w : World) (p : Pid) (c : Cmd) (hc : (cmdKinds c).all A = true) (hq : ∀ q v, c ≠ .prioSet q v)
    (h : R w) : R (execCmd w p c).1 :=
  hR.ofEff (Eff.execCmd w p c) hc (fun e => by rw [cmdScope_reprio c hq] at e; cases e) h

/-- `priority_set` moves pending timers in the queue: `R` must be told that it tolerates that -/
theorem ec_prioSet (hrep : ∀ (w : World) (ev' : EvQ) (k : Nat) (v : Int), R w → reprioritize w.ev k v = .ok ev' →
      R { w with ev := ev' }) (w : World) (p q : Pid) (v : Int) (h : R w) : R (execCmd w p (.prioSet q v)).1 :=
  hR.ofEff (Eff.execCmd w p (.prioSet q v)) rfl (fun _ => hrep) h

theorem ec_resumeFrame (w : World) (p : Pid) (f : Frame) (sig : Int) (hf : (frameKinds f).all A = true) (h : R w) :
    R (resumeFrame w p f sig).1 :=
  hR.ofEff (Eff.resumeFrame w p f sig) hf (fun e => by cases f <;> cases e) h

end

structure AllButProc (A : Nat → Bool) : Prop where
  start : A aStart = true
  time : A aTime = true
  event : A aEvent = true
  res : A aRes = true
  preempt : A aPreempt = true
  cond : A aCond = true
  intr : A aIntr = true
  resume : A aResume = true
  user : A aUser = true

/-- the action kinds that library calls other than `timer_add`, `preempt`, `resume`, and the process end schedule -/
structure Internal (A : Nat → Bool) : Prop where
  start : A aStart = true
  event : A aEvent = true
  res : A aRes = true
  cond : A aCond = true
  intr : A aIntr = true
  user : A aUser = true

structure AllButIntr (A : Nat → Bool) : Prop where
  start : A aStart = true
  time : A aTime = true
  proc : A aProc = true
  event : A aEvent = true
  res : A aRes = true
  preempt : A aPreempt = true
  cond : A aCond = true
  resume : A aResume = true
  user : A aUser = true

end CimbaModel.Sim
