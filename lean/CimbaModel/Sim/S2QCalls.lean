/-
  S2 — object queues and priority queues (C12): what a get delivers, what cancel / reprioritize / position do, what a
  failed get leaves.
-/
import CimbaModel.Sim.S2PQ
import CimbaModel.Sim.S2HH
import CimbaModel.Sim.S2OQ

namespace CimbaModel.Sim
open CimbaModel CimbaModel.Event CimbaModel.Generated CimbaModel.KPQ
open CimbaModel.HashHeap (HTag Item Order HH WF abs KeysBelowCounter)

/-- a get on a non-empty queue delivers the head — the oldest object not yet delivered — and logs it -/
theorem oqGetLoop_delivers {w : World} (p : Pid) {q : Nat} {x : OQ} (hx : w.oqs[q]? = some x) {o : Nat} {rest : List Nat}
    (hit : x.items = o :: rest) :
    oqGetLoop w p q =
      (signal (recordOQ { w with oqs := w.oqs.set! q { x with items := rest, gotLog := x.gotLog ++ [o] } } q) x.rear,
        .ret sigSuccess s!"obj={o}") := by
  unfold oqGetLoop
  simp only [hx, hit]

/-- under the invariant the object delivered is the one put at position `gotLog.length` of the put sequence: FIFO -/
theorem oq_delivers_in_put_order {x : OQ} (ok : OQOK x) {o : Nat} {rest : List Nat} (hit : x.items = o :: rest) :
    x.putLog[x.gotLog.length]? = some o := by
  rw [ok.fifo, hit]
  simp

/-- a put on a queue with room appends at the tail -/
theorem oqPutLoop_appends {w : World} (p : Pid) {q : Nat} {x : OQ} (hx : w.oqs[q]? = some x) (obj : Nat)
    (hroom : x.items.length < x.cap) :
    oqPutLoop w p q obj =
      (signal (recordOQ { w with oqs := w.oqs.set! q { x with items := x.items ++ [obj], putLog := x.putLog ++ [obj] } } q) x.front,
        .ret sigSuccess "") := by
  unfold oqPutLoop
  simp only [hx, hroom, if_true]

/-- a get that is woken by anything but a grant delivers nothing: it reports `obj=0` and the queues are untouched -/
theorem oqGet_failed (w : World) (p : Pid) (q : Nat) (sig : Int) (hs : sig ≠ sigSuccess) :
    (resumeFrame w p (.oqGet q) sig).1.oqs = w.oqs ∧
    ((resumeFrame w p (.oqGet q) sig).2 = .ret sig "obj=0" ∨ (w.oqs[q]? = none ∧ (resumeFrame w p (.oqGet q) sig).2 = .ret sig "")) := by
  simp only [resumeFrame]
  cases hx : w.oqs[q]? with
  | none => exact ⟨rfl, Or.inr ⟨rfl, rfl⟩⟩
  | some x =>
    simp only [hs, if_false]
    exact ⟨by simp, Or.inl trivial⟩

/-- a get that has to wait (queue empty) delivers nothing either -/
theorem oqGet_waits {w : World} (p : Pid) {q : Nat} {x : OQ} (hx : w.oqs[q]? = some x) (hit : x.items = []) :
    oqGetLoop w p q = block (guardWaitEnter w x.front p (.oqContent q)) p (.oqGet q) := by
  unfold oqGetLoop
  simp only [hx, hit]

/-- **a get delivers the entry that goes before all others**: highest priority, and among equal priorities the smallest
    handle, i.e. the earliest put; the delivered object is the payload stored under that handle -/
theorem pqGetLoop_delivers {w : World} (p : Pid) {k : Nat} {x : PQ} (hx : w.pqs[k]? = some x)
    (hwf : WF compare_func x.queue) (hpos : x.queue.count > 0) :
    ∃ q' t, HashHeap.dequeue compare_func x.queue = .ok (q', some t) ∧
      pqGetLoop w p k =
        (signal (recordPQ { w with pqs := w.pqs.set! k { x with queue := q', gotLog := x.gotLog ++ [t.key] } } k) x.rear,
          .ret sigSuccess s!"obj={t.item.a}") ∧
      KPQ.lookup (abs x.queue) t.key = some (KPQ.norm t) ∧
      (abs x.queue).Perm (KPQ.norm t :: abs q') ∧
      (∀ e ∈ abs q', t.i > e.i ∨ (t.i = e.i ∧ t.key < e.key)) ∧
      q'.count = x.queue.count - 1 := by
  have hc : x.queue.count ≠ 0 := Nat.ne_of_gt hpos
  obtain ⟨q', hrun, a⟩ := HashHeap.dequeue_abs hwf hpos
  refine ⟨q', x.queue.tag 1, hrun, ?_, ?_, a.perm, ?_, a.count⟩
  · unfold pqGetLoop
    simp only [hx, hpos, if_true, hrun]
  · rw [HashHeap.lookup_eq_some_iff hwf.keys_nodup]
    exact ⟨(a.mem_old _).2 (.inl rfl), rfl⟩
  · intro e he
    have := (HashHeap.Orders.compare_func_iff _ _).1 (a.strict hwf hc he)
    unfold HashHeap.SpecOrders.pqLt at this
    simpa [KPQ.norm] using this

/-- a put stores the object under a fresh handle (the next value of the item counter, never used before) with the given
    priority -/
theorem pqPutLoop_stores {w : World} (p : Pid) {k : Nat} {x : PQ} (hx : w.pqs[k]? = some x) (ok : PQOK x)
    (hctr : x.putLog.length + 2 < 2 ^ 64) (hroom : x.queue.count < x.cap) (obj : Nat) (pri : Int) (v : Nat)
    {q' : HH} {h : Nat} (he : HashHeap.enqueue compare_func x.queue ⟨obj, 0, 0, 0⟩ 0 0 pri = .ok (q', h)) :
    h = x.queue.counter + 1 ∧
      (pqPutLoop w p k obj pri v).2 = .ret sigSuccess s!"h={h}" ∧
      (abs q').Perm (⟨h, 0, ⟨obj, 0, 0, 0⟩, 0, pri⟩ :: abs x.queue) ∧
      h ∉ x.putLog ∧ h ∉ keys (abs x.queue) := by
  have hc64 : x.queue.counter + 1 < 2 ^ 64 := by rw [ok.counter]; omega
  obtain ⟨hk, hwf, hperm, _, _⟩ := HashHeap.enqueue_ok_inv ok.wf ⟨obj, 0, 0, 0⟩ 0 0 pri
    (by simp) (by simpa using hc64) (by simpa using ok.below.fresh) he
  simp only [if_true] at hk
  refine ⟨hk, ?_, ?_, ?_, ?_⟩
  · unfold pqPutLoop
    simp only [hx, hroom, if_true, he]
  · simpa [KPQ.insert, KPQ.norm] using hperm
  · intro hm
    have := ok.putBelow h hm
    omega
  · rw [hk]; exact ok.below.fresh

/-- **cancel** removes exactly the entry named by the handle (and reports whether there was one); nothing else changes -/
theorem pqCancel_exact {x : PQ} (hwf : WF compare_func x.queue) {h : Nat} (h0 : h ≠ 0) :
    ∃ q', HashHeap.remove compare_func x.queue h = .ok (q', decide (h ∈ keys (abs x.queue))) ∧
      (abs q').Perm (KPQ.remove (abs x.queue) h) ∧
      (∀ h2, h2 ≠ h → KPQ.lookup (abs q') h2 = KPQ.lookup (abs x.queue) h2) ∧ KPQ.lookup (abs q') h = none := by
  obtain ⟨q', hrun, a⟩ := HashHeap.remove_abs hwf h h0
  exact ⟨q', hrun, a.perm, fun h2 hne => by rw [a.lookup, if_neg hne], by rw [a.lookup, if_pos rfl]⟩

/-- **reprioritize** changes the priority of exactly the entry named by the handle; payload and all other entries stay -/
theorem pqReprio_exact {x : PQ} (hwf : WF compare_func x.queue) {h : Nat} (hk : h ∈ keys (abs x.queue)) (pri : Int) :
    ∃ q', HashHeap.reprioritize compare_func x.queue h 0 pri = .ok q' ∧
      (abs q').Perm (KPQ.reprio (abs x.queue) h 0 pri) ∧
      KPQ.lookup (abs q') h = (KPQ.lookup (abs x.queue) h).map (fun t => { t with d := 0, i := pri }) ∧
      (∀ h2, h2 ≠ h → KPQ.lookup (abs q') h2 = KPQ.lookup (abs x.queue) h2) := by
  obtain ⟨q', hrun, a⟩ := HashHeap.reprio_abs hwf hk 0 pri
  exact ⟨q', hrun, a.perm, by rw [a.lookup, if_pos rfl], fun h2 hne => by rw [a.lookup, if_neg hne]⟩

theorem compare_func_norm (a b : HTag) : compare_func (KPQ.norm a) (KPQ.norm b) = compare_func a b :=
  (inferInstance : IgnoresHidx compare_func).eq a b 0 0

/-- **position** of a queued handle = 1 + the number of queued entries that go strictly before it -/
theorem pqPosition_spec {x : PQ} (hwf : WF compare_func x.queue) {h : Nat} (hk : h ∈ keys (abs x.queue)) :
    ∃ t, KPQ.lookup (abs x.queue) h = some t ∧
      pqPosition x h = ((abs x.queue).filter (fun e => compare_func e t)).length + 1 := by
  obtain ⟨i, hi, hki⟩ := (HashHeap.mem_keys_abs x.queue h).1 hk
  have hfi := HashHeap.findIndex_of_mem hwf hi
  rw [hki] at hfi
  have hc : x.queue.count ≠ 0 := by have := hi.1; have := hi.2; omega
  have hi0 : i ≠ 0 := by have := hi.1; omega
  refine ⟨KPQ.norm (x.queue.tag i), ?_, ?_⟩
  · rw [HashHeap.lookup_eq_some_iff hwf.keys_nodup]
    exact ⟨(HashHeap.mem_abs _ _).2 ⟨i, hi, rfl⟩, hki⟩
  · unfold pqPosition
    rw [if_neg hc, hfi]
    cases i with
    | zero => exact absurd rfl hi0
    | succ j =>
      show ((List.range x.queue.count).filter (fun m => decide (m + 1 ≠ j + 1 ∧
        compare_func (x.queue.heap.getD (m + 1) {}) (x.queue.heap.getD (j + 1) {}) = true))).length + 1 = _
      congr 1
      unfold HashHeap.abs HashHeap.liveTags
      rw [List.filter_map, List.length_map, List.filter_map, List.length_map]
      congr 1
      apply List.filter_congr
      intro m _
      simp only [Function.comp]
      show decide (m + 1 ≠ j + 1 ∧ compare_func (x.queue.tag (m + 1)) (x.queue.tag (j + 1)) = true) =
        compare_func (KPQ.norm (x.queue.tag (m + 1))) (KPQ.norm (x.queue.tag (j + 1)))
      rw [compare_func_norm]
      by_cases hm : m + 1 = j + 1
      · rw [hm]
        have := (inferInstance : TotalOnKeys compare_func).irrefl (x.queue.tag (j + 1))
        simp [this]
      · have hmj : ¬ m = j := fun e => hm (by rw [e])
        simp [hmj]

/-- a handle that is not queued has position 0 -/
theorem pqPosition_absent {x : PQ} (hwf : WF compare_func x.queue) {h : Nat} (hk : h ∉ keys (abs x.queue)) :
    pqPosition x h = 0 := by
  apply Classical.byContradiction
  intro hp
  exact hk (mem_keys_of_pqPosition hwf hp)

/-- position 1 ⇔ the handle is the next to be delivered -/
theorem pqPosition_one_iff {x : PQ} (hwf : WF compare_func x.queue) {h : Nat} (hk : h ∈ keys (abs x.queue)) :
    pqPosition x h = 1 ↔ ∃ t, KPQ.lookup (abs x.queue) h = some t ∧ IsMin compare_func (abs x.queue) t := by
  obtain ⟨t, hl, hp⟩ := pqPosition_spec hwf hk
  have ht : t ∈ abs x.queue := ((HashHeap.lookup_eq_some_iff hwf.keys_nodup h t).1 hl).1
  rw [hp]
  constructor
  · intro h1
    refine ⟨t, hl, ht, ?_⟩
    intro e he
    have hz : ((abs x.queue).filter (fun e => compare_func e t)).length = 0 := by omega
    have hnil := List.eq_nil_of_length_eq_zero hz
    cases hc : compare_func e t with
    | false => rfl
    | true =>
      have : e ∈ (abs x.queue).filter (fun e => compare_func e t) := List.mem_filter.2 ⟨he, hc⟩
      rw [hnil] at this; cases this
  · rintro ⟨t', hl', hmin⟩
    rw [hl] at hl'; cases hl'
    have : (abs x.queue).filter (fun e => compare_func e t) = [] := by
      apply List.filter_eq_nil_iff.2
      intro e he
      rw [hmin.2 e he]; simp
    rw [this]; rfl

/-- **position = index of delivery**: when a get delivers another entry, the position of every handle that stays queued
    goes down by exactly one (and the delivered entry was at position 1, `pqPosition_one_iff`); by induction a handle at
    position `k` is delivered by the `k`-th get from now, if nothing else changes -/
theorem pqPosition_after_get {x : PQ} (hwf : WF compare_func x.queue) (hpos : 0 < x.queue.count) {h : Nat}
    (hk : h ∈ keys (abs x.queue)) (hne : h ≠ (x.queue.tag 1).key) :
    ∃ q', HashHeap.dequeue compare_func x.queue = .ok (q', some (x.queue.tag 1)) ∧ WF compare_func q' ∧
      h ∈ keys (abs q') ∧ pqPosition { x with queue := q' } h + 1 = pqPosition x h := by
  have hc : x.queue.count ≠ 0 := Nat.ne_of_gt hpos
  obtain ⟨q', hrun, a⟩ := HashHeap.dequeue_abs hwf hpos
  have hk' : h ∈ keys (abs q') := (a.keys hwf h).2 ⟨hk, hne⟩
  obtain ⟨t0, hl0, hp0⟩ := pqPosition_spec hwf hk
  obtain ⟨t1, hl1, hp1⟩ := pqPosition_spec (x := { x with queue := q' }) a.wf hk'
  have ht : t1 = t0 := by
    have : some t1 = some t0 := by rw [← hl1, ← hl0, a.lookup hwf, if_neg hne]
    injection this
  subst ht
  refine ⟨q', hrun, a.wf, hk', ?_⟩
  rw [hp0, hp1]
  have hmem1 : t1 ∈ abs q' := ((HashHeap.lookup_eq_some_iff a.wf.keys_nodup h t1).1 hl1).1
  have hlen : ((abs x.queue).filter (fun e => compare_func e t1)).length =
      ((KPQ.norm (x.queue.tag 1) :: abs q').filter (fun e => compare_func e t1)).length :=
    (a.perm.filter _).length_eq
  show ((abs q').filter (fun e => compare_func e t1)).length + 1 + 1 = _
  rw [hlen, List.filter_cons, if_pos (a.strict hwf hc hmem1)]
  rfl

end CimbaModel.Sim
