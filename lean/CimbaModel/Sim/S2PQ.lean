/-
  S2 — object priority queues (C12): the concrete hashheap stays well-formed, within capacity, and its live handles
  are exactly the handles put minus those delivered minus those cancelled; what `get`, `cancel`, `reprioritize`
  and `position` do, in terms of the abstract keyed priority queue.
-/
import CimbaModel.Event.Lemmas
import CimbaModel.HashHeap.Use
import CimbaModel.Sim.S2Cmd

namespace CimbaModel.Sim
open CimbaModel CimbaModel.Event CimbaModel.Generated CimbaModel.KPQ
open CimbaModel.HashHeap (HTag Item Order HH WF abs KeysBelowCounter)

structure PQOK (x : PQ) : Prop where
  wf : WF compare_func x.queue
  inCap : x.queue.count ≤ x.cap
  /-- handles are issued by the hashheap's item counter, one per put -/
  counter : x.queue.counter = x.putLog.length
  below : KeysBelowCounter x.queue
  putBelow : ∀ h ∈ x.putLog, h ≤ x.queue.counter
  /-- every handle put is live, delivered or cancelled — exactly one of the three -/
  part : (keys (abs x.queue) ++ x.gotLog ++ x.cancelLog).Perm x.putLog
  nodup : x.putLog.Nodup

/-- as long as the 64-bit handle counter has not wrapped (fewer than 2^64 − 1 puts so far) -/
def PQGood (x : PQ) : Prop := x.putLog.length + 1 < 2 ^ 64 → PQOK x

def PQInv (w : World) : Prop := ArrAll PQGood w.pqs

theorem PQGood.get {x : PQ} (hx : PQGood x) (hpos : x.queue.count > 0) {q' : HH} {t : HTag}
    (hd : HashHeap.dequeue compare_func x.queue = .ok (q', some t)) :
    PQGood { x with queue := q', gotLog := x.gotLog ++ [t.key] } := by
  intro hl
  have ok := hx hl
  obtain ⟨_, he, a⟩ := HashHeap.dequeue_inv ok.wf (Nat.ne_of_gt hpos) hd
  cases he
  have hk : (keys (abs x.queue)).Perm (t.key :: keys (abs q')) := HashHeap.keys_perm_of_perm a.perm
  refine ⟨a.wf, ?_, ?_, ?_, ?_, ?_, ok.nodup⟩
  · show q'.count ≤ x.cap
    have := ok.inCap; have := a.count; omega
  · show q'.counter = _
    rw [a.counter]; exact ok.counter
  · intro k hkm
    show k ≤ q'.counter
    rw [a.counter]
    exact ok.below k ((a.keys ok.wf k).1 hkm).1
  · intro h hh
    show h ≤ q'.counter
    rw [a.counter]; exact ok.putBelow h hh
  · show (keys (abs q') ++ (x.gotLog ++ [t.key]) ++ x.cancelLog).Perm x.putLog
    refine List.Perm.trans ?_ ok.part
    refine List.Perm.append_right _ ?_
    refine List.Perm.trans ?_ (hk.symm.append_right _)
    simp only [List.cons_append]
    rw [← List.append_assoc]
    exact (List.perm_append_singleton _ _).trans (List.Perm.refl _)

theorem PQGood.put {x : PQ} (hx : PQGood x) (hroom : x.queue.count < x.cap) {obj : Nat} {pri : Int} {q' : HH} {h : Nat}
    (he : HashHeap.enqueue compare_func x.queue ⟨obj, 0, 0, 0⟩ 0 0 pri = .ok (q', h)) :
    PQGood { x with queue := q', putLog := x.putLog ++ [h] } := by
  intro hl
  have hl0 : x.putLog.length + 1 < 2 ^ 64 := by
    simp only [List.length_append, List.length_cons, List.length_nil] at hl; omega
  have ok := hx hl0
  have hc64 : x.queue.counter + 1 < 2 ^ 64 := by
    rw [ok.counter]
    simp only [List.length_append, List.length_cons, List.length_nil] at hl; omega
  obtain ⟨hk, a, kb⟩ := HashHeap.enqueue_auto_inv ok.wf ok.below hc64 he
  have hct := a.counter
  have hkeys : (keys (abs q')).Perm (h :: keys (abs x.queue)) := hk ▸ HashHeap.keys_perm_of_perm a.perm
  refine ⟨a.wf, ?_, ?_, kb, ?_, ?_, ?_⟩
  · show q'.count ≤ x.cap
    have := a.count; omega
  · show q'.counter = (x.putLog ++ [h]).length
    rw [hct, ok.counter]; simp
  · intro k hkm
    show k ≤ q'.counter
    rcases List.mem_append.1 hkm with hm | hm
    · have := ok.putBelow k hm; omega
    · simp at hm; omega
  · show (keys (abs q') ++ x.gotLog ++ x.cancelLog).Perm (x.putLog ++ [h])
    refine List.Perm.trans ((hkeys.append_right _).append_right _) ?_
    simp only [List.cons_append]
    exact (List.Perm.cons h ok.part).trans (List.perm_append_singleton _ _).symm
  · show (x.putLog ++ [h]).Nodup
    rw [List.nodup_append]
    refine ⟨ok.nodup, by simp, ?_⟩
    intro a ha b hb
    simp at hb; subst hb
    have := ok.putBelow a ha
    omega

theorem PQGood.cancel {x : PQ} (hx : PQGood x) {h : Nat} (h0 : h ≠ 0) {q' : HH} {r : Bool}
    (hr : HashHeap.remove compare_func x.queue h = .ok (q', r)) :
    PQGood { x with queue := q', cancelLog := if r then x.cancelLog ++ [h] else x.cancelLog } := by
  intro hl
  have ok := hx hl
  have a := HashHeap.remove_inv ok.wf h0 hr
  refine ⟨a.wf, ?_, ?_, ?_, ?_, ?_, ok.nodup⟩
  · show q'.count ≤ x.cap
    have := ok.inCap; rw [a.count]; omega
  · show q'.counter = _
    rw [a.counter]; exact ok.counter
  · intro k hkm
    show k ≤ q'.counter
    rw [a.counter]; exact ok.below k ((a.keys k).1 hkm).1
  · intro k hk
    show k ≤ q'.counter
    rw [a.counter]; exact ok.putBelow k hk
  · show (keys (abs q') ++ x.gotLog ++ (if r = true then x.cancelLog ++ [h] else x.cancelLog)).Perm x.putLog
    refine List.Perm.trans ?_ ok.part
    have hk' : (keys (abs q')).Perm (keys (KPQ.remove (abs x.queue) h)) := HashHeap.keys_perm_of_perm a.perm
    by_cases hm : h ∈ keys (abs x.queue)
    · have : r = true := by rw [a.res]; simp [hm]
      subst this
      simp only [if_true]
      have h3 := keys_remove_perm (abs x.queue) h ok.wf.keys_nodup hm
      -- keys' ++ got ++ (cancel ++ [h])  ~  h :: keys' ++ got ++ cancel
      rw [← List.append_assoc]
      refine (List.perm_append_singleton _ _).trans ?_
      have : (h :: (keys (abs q') ++ x.gotLog ++ x.cancelLog)) = (h :: keys (abs q')) ++ x.gotLog ++ x.cancelLog := by simp
      rw [this]
      exact (((List.Perm.cons h hk').trans h3).append_right _).append_right _
    · have : r = false := by rw [a.res]; simp [hm]
      subst this
      simp only [Bool.false_eq_true, if_false]
      rw [HashHeap.remove_of_not_mem hm] at hk'
      exact (hk'.append_right _).append_right _

theorem PQGood.reprio {x : PQ} (hx : PQGood x) {h : Nat} (hm : x.putLog.length + 1 < 2 ^ 64 → h ∈ keys (abs x.queue))
    {pri : Int} {q' : HH} (hr : HashHeap.reprioritize compare_func x.queue h 0 pri = .ok q') :
    PQGood { x with queue := q' } := by
  intro hl
  have ok := hx hl
  have a := HashHeap.reprio_inv ok.wf hr
  have hkeys : (keys (abs q')).Perm (keys (abs x.queue)) := by
    have := HashHeap.keys_perm_of_perm a.perm
    rwa [HashHeap.keys_reprio] at this
  refine ⟨a.wf, ?_, ?_, ?_, ?_, ?_, ok.nodup⟩
  · show q'.count ≤ x.cap
    rw [a.count]; exact ok.inCap
  · show q'.counter = _
    rw [a.counter]; exact ok.counter
  · intro k hkm
    show k ≤ q'.counter
    rw [a.counter]; exact ok.below k ((a.keys k).1 hkm)
  · intro k hk
    show k ≤ q'.counter
    rw [a.counter]; exact ok.putBelow k hk
  · show (keys (abs q') ++ x.gotLog ++ x.cancelLog).Perm x.putLog
    exact ((hkeys.append_right _).append_right _).trans ok.part

theorem mem_keys_of_pqPosition {x : PQ} (hwf : WF compare_func x.queue) {h : Nat} (hp : pqPosition x h ≠ 0) :
    h ∈ keys (abs x.queue) := by
  apply Classical.byContradiction
  intro hn
  apply hp
  unfold pqPosition
  split
  · rfl
  · rw [HashHeap.findIndex_of_not_mem hwf hn]
    rfl

theorem PQGood.stable : pqK.Stable PQGood where
  T t ok := by
    cases t with
    | get hpos hd => exact ok.get hpos hd
    | put hroom he => exact ok.put hroom he
    | cancel h0 hr => exact ok.cancel h0 hr
    | reprio hpos hr => exact ok.reprio (fun hl => mem_keys_of_pqPosition (ok hl).wf hpos) hr
  push _ _ ok := fun hl =>
    ⟨(ok hl).wf, (ok hl).inCap, (ok hl).counter, (ok hl).below, (ok hl).putBelow, (ok hl).part, (ok hl).nodup⟩
  flag _ _ ok := fun hl =>
    ⟨(ok hl).wf, (ok hl).inCap, (ok hl).counter, (ok hl).below, (ok hl).putBelow, (ok hl).part, (ok hl).nodup⟩

theorem objPQ : ObjKind pqK World.pqs where
  same hs := hs.pqs_eq
  tick _ _ _ := rfl
  clear _ _ _ := rfl
  exec w p c := (execCmd_ft w p c).toObjPQ
  resume w p f sig := (resumeFrame_ft w p f sig).toObjPQ
  finish w p v st := (finishProc_ft w p v st).toObjPQ

theorem PQInv.preserved : Preserved PQInv := objPQ.preserved PQGood.stable

end CimbaModel.Sim
