/-
  S3 — the grant invariant: buffers.
-/
import CimbaModel.Sim.S3GrantRes2

namespace CimbaModel.Sim.S3
open CimbaModel CimbaModel.Sim CimbaModel.Event CimbaModel.Generated CimbaModel.KPQ
open CimbaModel.HashHeap (HTag Item Order HH WF abs liveTags)

variable {fr : Pid → Option Frame} {df df' : Demand → Nat} {w : World} {p : Pid}

theorem recordBuf_frame (w : World) (b : Nat) :
    (recordBuf w b).guards = w.guards ∧ (recordBuf w b).ev = w.ev ∧ (recordBuf w b).procs = w.procs := by
  unfold recordBuf
  split
  · split <;> exact ⟨rfl, rfl, rfl⟩
  · exact ⟨rfl, rfl, rfl⟩

theorem need_signal {w : World} (hall : AllGWF w) (g : Nat) (d : Demand) : need (signal w g) d = need w d := by
  have hrel := signal_rel w g hall
  exact need_congr hrel.res hrel.pools hrel.bufs hrel.oqs hrel.pqs d

theorem bufNeed_le_one (x : Buf) : (bufNeed x).1 ≤ 1 ∧ (bufNeed x).2 ≤ 1 := by unfold bufNeed; simp only; omega

/-- units are moved between the two ends of buffer `b`: the new record is recorded and the guard of the end `d1`, which may
    have gained, is signalled; the end `d0` has not gained -/
theorem gs_buf_move (h : GS fr df w) {b : Nat} {x : Buf} (hx : w.bufs[b]? = some x) (y : Buf) (hs : bufStat y = bufStat x)
    {d0 d1 : Demand} {g1 : Nat}
    (hends : (d0 = .bufContent b ∧ d1 = .bufSpace b) ∨ (d0 = .bufSpace b ∧ d1 = .bufContent b))
    (hg1 : gOf w d1 = some g1) (hle : need { w with bufs := w.bufs.set! b y } d0 ≤ need w d0) :
    GS fr df (signal (recordBuf { w with bufs := w.bufs.set! b y } b) g1) ∧
    Stat w (signal (recordBuf { w with bufs := w.bufs.set! b y } b) g1) ∧
    need (signal (recordBuf { w with bufs := w.bufs.set! b y } b) g1) d0 ≤ need { w with bufs := w.bufs.set! b y } d0 := by
  have hst : Stat w { w with bufs := w.bufs.set! b y } :=
    Stat.eff (Eff.setBuf .refl hx _ hs)
  have h1 : GS fr (fun d => df d + if d = d1 then 1 else 0) { w with bufs := w.bufs.set! b y } := by
    refine h.objUpd hst rfl rfl rfl (fun d => ?_)
    show _ + df d ≤ need w d + (df d + if d = d1 then 1 else 0)
    by_cases e1 : d = d1
    · have : need { w with bufs := w.bufs.set! b y } d ≤ 1 := by
        rw [need_bufs_set hx, e1]
        rcases hends with ⟨_, rfl⟩ | ⟨_, rfl⟩
        · rw [if_neg (by simp), if_pos rfl]; exact (bufNeed_le_one y).2
        · rw [if_pos rfl]; exact (bufNeed_le_one y).1
      rw [if_pos e1]; omega
    · rw [if_neg e1]
      by_cases e0 : d = d0
      · subst e0; omega
      · have : need { w with bufs := w.bufs.set! b y } d = need w d := by
          rw [need_bufs_set hx]
          rcases hends with ⟨rfl, rfl⟩ | ⟨rfl, rfl⟩
          · rw [if_neg e0, if_neg e1]
          · rw [if_neg e1, if_neg e0]
        omega
  refine ⟨(h1.recordBuf b).signal_settle (by rw [gOf_of_stat (hst.step (Eff.recordBuf .refl b))]; exact hg1), (hst.step (Eff.recordBuf .refl b)).signal g1, ?_⟩
  rw [need_signal (h1.recordBuf b).ginv.gw]
  exact ((Inert.refl _).recordBuf b).need d0

/-- … and then the call's own end `d0`: it is signalled as well if something is left there (`c`), otherwise nothing is -/
theorem gs_buf_done {W : World} (h2 : GS fr df W) (hst : Stat w W) (hes : EndSep w) {d0 : Demand} {g0 : Nat}
    (hg0 : gOf w d0 = some g0) {n : Nat} (hn : need W d0 ≤ n) (hdf : ∀ d, d ≠ d0 → df d ≤ df' d) (hdf1 : df d0 ≤ df' d0 + 1)
    {c : Prop} [Decidable c] (hc : ¬ c → n = 0) : GH df' (if c then signal W g0 else W) := by
  split
  · exact (h2.signal_own (hes.ofStat hst) (by rw [gOf_of_stat hst]; exact hg0) hdf hdf1).gh
  · rename_i hnc
    exact h2.gh.clear d0 (by have := hc hnc; omega) hdf

/-- nothing is available at `d0`: the other end is signalled (again, as the C code does) and the caller joins the list of `d0` -/
theorem gs_buf_wait {W : World} (hg : GS fr df' W) (hst : Stat w W) (hes : EndSep w) (hsep : CondSep w) (hfr : fr p = none)
    (hlt : p < w.procs.size) {d0 : Demand} {g0 : Nat} (g1 : Nat) {f : Frame} (hfd : frameDemand f = some d0)
    (hg0 : gOf w d0 = some g0) (hn : need W d0 = 0) : GH df' (block (guardWaitEnter (signal W g1) g0 p d0) p f).1 :=
  (hg.signal_mono g1).wait (hst.signal g1) hes hsep hfr hlt hfd hg0 (by rw [need_signal hg.ginv.gw]; exact hn)

theorem gs_bufGetLoop (h : GS fr df w) (hes : EndSep w) (hsep : CondSep w) (hfr : fr p = none) (hlt : p < w.procs.size)
    (b rem got : Nat) (hdf : ∀ d, d ≠ .bufContent b → df d ≤ df' d) (hdf1 : df (.bufContent b) ≤ df' (.bufContent b) + 1) :
    GH df' (bufGetLoop w p b rem got).1 := by
  simp only [Sim.bufGetLoop]
  split
  · rename_i hn
    exact (h.gh.clear (.bufContent b) (by rw [need_eq]; simp [hn]) hdf).inert h.ginv.ei ((Inert.refl w).fail _)
  · rename_i x hx
    obtain ⟨hgf, hgr⟩ := gOf_bufs_of hx
    obtain ⟨hnf, hnr⟩ := need_bufs_of hx
    have htake : ∀ (y : Buf), bufStat y = bufStat x → (bufNeed y).1 ≤ (bufNeed x).1 →
        GS fr df (signal (recordBuf { w with bufs := w.bufs.set! b y } b) x.rear) ∧
        Stat w (signal (recordBuf { w with bufs := w.bufs.set! b y } b) x.rear) ∧
        need (signal (recordBuf { w with bufs := w.bufs.set! b y } b) x.rear) (.bufContent b) ≤ (bufNeed y).1 := by
      intro y hs hle
      have := gs_buf_move h hx y hs (Or.inl ⟨rfl, rfl⟩) hgr (by rw [need_bufs_set hx, if_pos rfl, hnf]; exact hle)
      rw [need_bufs_set hx, if_pos rfl] at this
      exact this
    split
    · obtain ⟨h2, hst2, hn2⟩ := htake { x with level := x.level - rem, getTotal := x.getTotal + rem } rfl
        (by unfold bufNeed; simp only; omega)
      exact gs_buf_done h2 hst2 hes hgf hn2 hdf hdf1 (fun _ => by unfold bufNeed; simp only; omega)
    · split
      · obtain ⟨h2, hst2, hn2⟩ := htake { x with level := 0, getTotal := x.getTotal + x.level } rfl
          (by unfold bufNeed; simp only; omega)
        have h0 := Nat.le_zero.1 (Nat.le_trans hn2 (by unfold bufNeed; simp))
        exact gs_buf_wait (h2.clear (.bufContent b) h0 hdf) hst2 hes hsep hfr hlt x.rear rfl hgf h0
      · have h0 : need w (.bufContent b) = 0 := by rw [hnf]; unfold bufNeed; simp only; omega
        exact gs_buf_wait (h.clear (.bufContent b) h0 hdf) (Stat.refl w) hes hsep hfr hlt x.rear rfl hgf h0

theorem gs_bufPutLoop (h : GS fr df w) (hes : EndSep w) (hsep : CondSep w) (hfr : fr p = none) (hlt : p < w.procs.size)
    (b rem left : Nat) (hdf : ∀ d, d ≠ .bufSpace b → df d ≤ df' d) (hdf1 : df (.bufSpace b) ≤ df' (.bufSpace b) + 1) :
    GH df' (bufPutLoop w p b rem left).1 := by
  simp only [Sim.bufPutLoop]
  split
  · rename_i hn
    exact (h.gh.clear (.bufSpace b) (by rw [need_eq]; simp [hn]) hdf).inert h.ginv.ei ((Inert.refl w).fail _)
  · rename_i x hx
    obtain ⟨hgf, hgr⟩ := gOf_bufs_of hx
    obtain ⟨hnf, hnr⟩ := need_bufs_of hx
    have hput : ∀ (y : Buf), bufStat y = bufStat x → (bufNeed y).2 ≤ (bufNeed x).2 →
        GS fr df (signal (recordBuf { w with bufs := w.bufs.set! b y } b) x.front) ∧
        Stat w (signal (recordBuf { w with bufs := w.bufs.set! b y } b) x.front) ∧
        need (signal (recordBuf { w with bufs := w.bufs.set! b y } b) x.front) (.bufSpace b) ≤ (bufNeed y).2 := by
      intro y hs hle
      have := gs_buf_move h hx y hs (Or.inr ⟨rfl, rfl⟩) hgf
        (by rw [need_bufs_set hx, if_neg (by simp), if_pos rfl, hnr]; exact hle)
      rw [need_bufs_set hx, if_neg (by simp), if_pos rfl] at this
      exact this
    split
    · obtain ⟨h2, hst2, hn2⟩ := hput { x with level := x.level + rem, putTotal := x.putTotal + rem } rfl
        (by unfold bufNeed; simp only; omega)
      exact gs_buf_done h2 hst2 hes hgr hn2 hdf hdf1 (fun _ => by unfold bufNeed; simp only; omega)
    · split
      · obtain ⟨h2, hst2, hn2⟩ := hput { x with level := x.cap, putTotal := x.putTotal + (x.cap - x.level) } rfl
          (by unfold bufNeed; simp only; omega)
        have h0 := Nat.le_zero.1 (Nat.le_trans hn2 (by unfold bufNeed; simp))
        exact gs_buf_wait (h2.clear (.bufSpace b) h0 hdf) hst2 hes hsep hfr hlt x.front rfl hgr h0
      · have h0 : need w (.bufSpace b) = 0 := by rw [hnr]; unfold bufNeed; simp only; omega
        exact gs_buf_wait (h.clear (.bufSpace b) h0 hdf) (Stat.refl w) hes hsep hfr hlt x.front rfl hgr h0

theorem gs_cmd_bufGet (h : GS fr df w) (hes : EndSep w) (hsep : CondSep w) (hfr : fr p = none) (hlt : p < w.procs.size)
    (b n : Nat) : GH df (execCmd w p (.bufGet b n)).1 := by
  simp only [Sim.execCmd]
  split
  · exact h.gh
  · exact gs_bufGetLoop h hes hsep hfr hlt b n 0 (fun _ _ => Nat.le_refl _) (Nat.le_succ _)

theorem gs_cmd_bufPut (h : GS fr df w) (hes : EndSep w) (hsep : CondSep w) (hfr : fr p = none) (hlt : p < w.procs.size)
    (b n : Nat) : GH df (execCmd w p (.bufPut b n)).1 := by
  simp only [Sim.execCmd]
  split
  · exact h.gh
  · exact gs_bufPutLoop h hes hsep hfr hlt b n n (fun _ _ => Nat.le_refl _) (Nat.le_succ _)

theorem gs_resume_bufGet (h : GS fr df w) (hes : EndSep w) (hsep : CondSep w) {b rem got : Nat}
    (hfr : fr p = some (.bufGet b rem got)) (hlt : p < w.procs.size) (sig : Int) (hq : sig = sigSuccess → Quiet w p)
    (hdf : ∀ d, d ≠ .bufContent b → df d ≤ df' d) (hdf1 : df (.bufContent b) ≤ df' (.bufContent b) + 1)
    (hdf0 : sig ≠ sigSuccess → ∀ d, df d ≤ df' d) :
    GH df' (resumeFrame (w.modProc p fun y => { y with blocked := none }) p (.bufGet b rem got) sig).1 :=
  gs_resume_plain rfl (fun _ => rfl) h hfr sig hq hdf hdf0 fun g hL =>
    have hst := stat_leave w p g sig
    gs_bufGetLoop hL (hes.ofStat hst) (hsep.ofStat hst) (setFrame_self _ _ _) (by rw [hst.psize]; exact hlt) b rem got hdf hdf1

theorem gs_resume_bufPut (h : GS fr df w) (hes : EndSep w) (hsep : CondSep w) {b rem left : Nat}
    (hfr : fr p = some (.bufPut b rem left)) (hlt : p < w.procs.size) (sig : Int) (hq : sig = sigSuccess → Quiet w p)
    (hdf : ∀ d, d ≠ .bufSpace b → df d ≤ df' d) (hdf1 : df (.bufSpace b) ≤ df' (.bufSpace b) + 1)
    (hdf0 : sig ≠ sigSuccess → ∀ d, df d ≤ df' d) :
    GH df' (resumeFrame (w.modProc p fun y => { y with blocked := none }) p (.bufPut b rem left) sig).1 :=
  gs_resume_plain rfl (fun _ => rfl) h hfr sig hq hdf hdf0 fun g hL =>
    have hst := stat_leave w p g sig
    gs_bufPutLoop hL (hes.ofStat hst) (hsep.ofStat hst) (setFrame_self _ _ _) (by rw [hst.psize]; exact hlt) b rem left hdf hdf1

end CimbaModel.Sim.S3
