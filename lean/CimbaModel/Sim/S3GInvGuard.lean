/-
  S3 — `GInv`: the waiting-list primitives (shrinking a list, grants, removal, priority changes, signals, condition
  signals).
-/
import CimbaModel.Sim.S3GInv
import CimbaModel.Sim.S3Cond

namespace CimbaModel.Sim.S3
open CimbaModel CimbaModel.Sim CimbaModel.Event CimbaModel.Generated CimbaModel.KPQ
open CimbaModel.HashHeap (HTag Item Order HH WF abs liveTags)

variable {ex : Pid → Prop} {fr : Pid → Option Frame}

theorem queued_setGuardQ {w : World} {g : Nat} {gd : Guard} (hg : w.guards[g]? = some gd) (q' : HH) (g' k : Nat) :
    queued (setGuardQ w g q') g' k ↔ if g' = g then k ∈ keys (abs q') else queued w g' k := by
  unfold queued
  rw [setGuardQ_guards_get]
  by_cases h : g' = g
  · subst h
    simp only [if_true, hg, Option.map_some]
    constructor
    · rintro ⟨gd', h1, h2⟩; cases h1; exact h2
    · intro h2; exact ⟨_, rfl, h2⟩
  · simp only [h, if_false]

theorem GInv.shrinkQueue {w : World} (hp : GInv ex fr w) {g : Nat} {gd : Guard} (hg : w.guards[g]? = some gd) {q' : HH}
    (hwf : GWF q') (hsub : ∀ k ∈ keys (abs q'), k ∈ keys (abs gd.q)) : GInv ex fr (setGuardQ w g q') := by
  have hq : ∀ g' k, queued (setGuardQ w g q') g' k → queued w g' k := by
    intro g' k h
    rw [queued_setGuardQ hg] at h
    split at h
    · rename_i hgg; subst hgg; exact ⟨gd, hg, hsub k h⟩
    · exact h
  refine { hp with gw := ?_, gk := ?_, gr := ?_, gkc := ?_ }
  · intro g' gd' h'
    rw [setGuardQ_guards_get] at h'
    split at h'
    · rename_i hgg; subst hgg
      rw [hg] at h'; simp only [Option.map_some, Option.some.injEq] at h'
      rw [← h']; exact hwf
    · exact hp.gw g' gd' h'
  · intro g' k h; exact hp.gk g' k (hq g' k h)
  · intro e he hgr
    obtain ⟨h1, h2⟩ := hp.gr e he hgr
    refine ⟨h1, fun hx => ?_⟩
    obtain ⟨g', h3, h4⟩ := h2 hx
    exact ⟨g', h3, fun hqq => h4 (hq g' _ hqq)⟩
  · intro c g' hc k h hx; exact hp.gkc c g' hc k (hq g' k h) hx

theorem GInv.guard_unique {w : World} (hp : GInv ex fr w) {p : Pid} {a b : Nat} (ha : Await.guard a ∈ (w.proc p).awaits)
    (hb : Await.guard b ∈ (w.proc p).awaits) : a = b := by
  rw [mem_awaits_guard] at ha hb
  rcases hp.ga p with h | ⟨g, f, _, _, h⟩
  · rw [h] at ha; cases ha
  · rw [h] at ha hb
    simp only [List.mem_singleton, Await.guard.injEq] at ha hb
    rw [ha, hb]

theorem GInv.no_grant_of_queued {w : World} (hp : GInv ex fr w) {g k : Nat} (hq : queued w g k) (hx : ¬ ex (k - 1)) :
    ∀ e ∈ w.ev.pending, isGrant e → e.item.b ≠ k := by
  intro e he hgr hb
  obtain ⟨_, h2⟩ := hp.gr e he hgr
  rw [hb] at h2
  obtain ⟨g', h3, h4⟩ := h2 hx
  have := (hp.gk g k hq).2.2 hx
  have hgg := hp.guard_unique h3 this
  subst hgg; exact h4 hq

/-- scheduling the wake-up of a process that has just been taken off a waiting list -/
theorem GInv.pushGrant {w : World} (hp : GInv ex fr w) (a : Nat) (k : Nat) (pri : Int) (ha : a = aRes ∨ a = aCond)
    (hk0 : k ≠ 0) (hown : ¬ ex (k - 1) → ∃ g, Await.guard g ∈ (w.proc (k - 1)).awaits ∧ ¬ queued w g k)
    (hnone : ¬ ex (k - 1) → ∀ e ∈ w.ev.pending, isGrant e → e.item.b ≠ k)
    (hcw : a = aCond → ¬ ex (k - 1) → ∃ c, fr (k - 1) = some (.condWait c)) :
    GInv ex fr (pushEv w a k sigSuccess w.now pri) := by
  have hnew : ∀ e ∈ (pushEv w a k sigSuccess w.now pri).ev.pending,
      e = mkEv (w.ev.counter + 1) a k sigSuccess w.now pri ∨ e ∈ w.ev.pending := by
    intro e he; simpa using he
  have hgrant : isGrant (mkEv (w.ev.counter + 1) a k sigSuccess w.now pri) := by
    rcases ha with ha | ha
    · left; exact ⟨ha, rfl⟩
    · right; exact ha
  have hnt : a ≠ aTime ∧ a ≠ aIntr ∧ a ≠ aResume ∧ a ≠ aPreempt := by
    rcases ha with ha | ha <;> subst ha <;> decide
  refine { ei := pushEv_evinv _ _ _ _ _ (Int.le_refl _) hp.ei, gw := hp.gw, gsz := hp.gsz, gk := hp.gk, ga := hp.ga,
           gfb := ?_, gr := ?_, gu := ?_, gc := ?_, gkc := hp.gkc, nz := ?_, oth := ?_, cl := ?_ }
  · intro p hx hbl
    obtain ⟨h1, h2⟩ := hp.gfb p hx hbl
    refine ⟨h1, fun e he hea hec => ?_⟩
    rcases hnew e he with rfl | he
    · exact absurd hea hnt.1
    · exact h2 e he hea hec
  · intro e he hgr
    rcases hnew e he with rfl | he
    · exact ⟨hk0, hown⟩
    · exact hp.gr e he hgr
  · intro e1 he1 e2 he2 h1 h2 hb hx
    rcases hnew e1 he1 with rfl | he1 <;> rcases hnew e2 he2 with rfl | he2
    · rfl
    · have hb' : k = e2.item.b := hb
      exact absurd hb'.symm (hnone hx e2 he2 h2)
    · have hb' : e1.item.b = k := hb
      exact absurd hb' (hnone (by rw [← hb']; exact hx) e1 he1 h1)
    · exact hp.gu e1 he1 e2 he2 h1 h2 hb hx
  · intro e he hea hx
    rcases hnew e he with rfl | he
    · exact hcw hea hx
    · exact hp.gc e he hea hx
  · intro e he hec
    rcases hnew e he with rfl | he
    · exact ⟨hnt.2.1, hnt.2.2.1, hnt.2.2.2⟩
    · exact hp.nz e he hec
  · intro e he hea hec
    rcases hnew e he with rfl | he
    · exact absurd hea hnt.1
    · exact hp.oth e he hea hec
  · intro e he
    rcases hnew e he with rfl | he
    · exact encSig_lt sigSuccess
    · exact hp.cl e he

theorem GInv.frontStep {w : World} (hp : GInv ex fr w) {g : Nat} {gd : Guard} (hg : w.guards[g]? = some gd) :
    GInv ex fr (frontStep w g gd) := by
  have hwf := hp.gw g gd hg
  obtain ⟨h0, hpos⟩ := frontStep_spec w g gd hwf
  rcases Nat.eq_zero_or_pos gd.q.count with hc | hc
  · rw [h0 hc]; exact hp
  · obtain ⟨hmin, hfalse, htrue⟩ := hpos hc
    cases hd : evalDemand w (demandOf gd (gd.q.tag 1).key) with
    | false => rw [hfalse hd]; exact hp
    | true =>
      obtain ⟨q', _, hwf', hperm, heq⟩ := htrue hd
      rw [heq]
      have hkin : (gd.q.tag 1).key ∈ keys (abs gd.q) := Event.mem_keys.2 ⟨_, hmin.1, rfl⟩
      have hkp : (keys (abs gd.q)).Perm ((gd.q.tag 1).key :: keys (abs q')) := by
        have := hperm.map (·.key); simpa [keys, norm] using this
      have hkout : (gd.q.tag 1).key ∉ keys (abs q') := (List.nodup_cons.1 (hkp.nodup_iff.1 hwf.keys_nodup)).1
      have hsub : ∀ k ∈ keys (abs q'), k ∈ keys (abs gd.q) := fun k hk => hkp.mem_iff.2 (List.mem_cons_of_mem _ hk)
      have hq0 : queued w g (gd.q.tag 1).key := ⟨gd, hg, hkin⟩
      have h1 := hp.shrinkQueue hg hwf' hsub
      have hgk := hp.gk g _ hq0
      unfold grant
      refine h1.pushGrant aRes _ _ (Or.inl rfl) hgk.1 ?_ ?_ (fun h => by cases h)
      · intro hx
        refine ⟨g, hgk.2.2 hx, ?_⟩
        rw [queued_setGuardQ hg, if_pos rfl]; exact hkout
      · intro hx; exact hp.no_grant_of_queued hq0 hx

theorem GInv.guardRemove_fst {w : World} (hp : GInv ex fr w) (g : Nat) (p : Pid) : GInv ex fr (guardRemove w g p).1 := by
  cases hg : w.guards[g]? with
  | none => rw [guardRemove_none hg]; exact hp
  | some gd =>
    obtain ⟨q', _, hwf', hperm, heq⟩ := guardRemove_spec hg (hp.gw g gd hg) p
    rw [heq]
    refine hp.shrinkQueue hg hwf' ?_
    intro k hk
    obtain ⟨e, he, rfl⟩ := Event.mem_keys.1 hk
    exact Event.mem_keys.2 ⟨e, (mem_remove.1 (hperm.mem_iff.1 he)).1, rfl⟩

theorem keys_setPrio (q : KPQ) (k : Nat) (v : Int) : keys (setPrio q k v) = keys q := by
  unfold setPrio keys
  rw [List.map_map]
  apply List.map_congr_left
  intro x _
  simp only [Function.comp]
  split <;> rfl

theorem GInv.reprioGuard {w : World} (hp : GInv ex fr w) (q : Pid) (v : Int) (g : Nat) : GInv ex fr (reprioGuard w q v g) := by
  cases hg : w.guards[g]? with
  | none => unfold S3.reprioGuard; rw [hg]; exact hp
  | some gd =>
    obtain ⟨hin, hout⟩ := reprioGuard_spec hg (hp.gw g gd hg) q v
    by_cases hk : q + 1 ∈ keys (abs gd.q)
    · obtain ⟨q', hwf', hperm, heq⟩ := hin hk
      rw [heq]
      refine hp.shrinkQueue hg hwf' ?_
      intro k hk'
      have : (keys (abs q')).Perm (keys (setPrio (abs gd.q) (q + 1) v)) := hperm.map _
      rw [keys_setPrio] at this
      exact this.mem_iff.1 hk'
    · rw [hout hk]; exact hp


/-- a batch of condition wake-ups for distinct processes that have just been taken off the condition's list -/
theorem GInv.pushCondBatch : ∀ (l : List Wake) {w : World}, GInv ex fr w →
    (∀ x ∈ l, x.act = aCond ∧ x.sig = sigSuccess ∧ x.subj ≠ 0 ∧
      (¬ ex (x.subj - 1) → ∃ g, Await.guard g ∈ (w.proc (x.subj - 1)).awaits ∧ ¬ queued w g x.subj) ∧
      (¬ ex (x.subj - 1) → ∀ e ∈ w.ev.pending, isGrant e → e.item.b ≠ x.subj) ∧
      (¬ ex (x.subj - 1) → ∃ c, fr (x.subj - 1) = some (.condWait c))) →
    (l.map (·.subj)).Nodup → GInv ex fr (pushAll w l) := by
  intro l
  induction l with
  | nil => intro w h _ _; rw [pushAll_nil]; exact h
  | cons x xs ih =>
    intro w h hall hnd
    rw [pushAll_cons]
    obtain ⟨ha, hs, hk0, hown, hnone, hcw⟩ := hall x List.mem_cons_self
    have h1 : GInv ex fr (pushEv w x.act x.subj x.sig w.now x.pri) := by
      rw [ha, hs]; exact h.pushGrant aCond x.subj x.pri (Or.inr rfl) hk0 hown hnone (fun _ => hcw)
    refine ih h1 ?_ (List.nodup_cons.1 hnd).2
    intro y hy
    obtain ⟨ya, ys, yk0, yown, ynone, ycw⟩ := hall y (List.mem_cons_of_mem _ hy)
    refine ⟨ya, ys, yk0, yown, ?_, ycw⟩
    intro hx e he hgr
    simp only [pushEv_pending, List.mem_cons] at he
    rcases he with rfl | he
    · simp only [mkEv]
      intro heq
      have : x.subj ∈ xs.map (·.subj) := List.mem_map.2 ⟨y, hy, heq.symm⟩
      exact (List.nodup_cons.1 hnd).1 this
    · exact ynone hx e he hgr

theorem setGuardQ_pushAll (w : World) (l : List Wake) (g : Nat) (q : HH) :
    setGuardQ (pushAll w l) g q = pushAll (setGuardQ w g q) l := rfl

theorem GInv.condSignal_fst {w : World} (hp : GInv ex fr w) (g : Nat) (hcg : ∃ c : Nat, w.conds[c]? = some g) :
    GInv ex fr (condSignal w g).1 := by
  cases hg : w.guards[g]? with
  | none => rw [condSignal_none hg]; exact hp
  | some gd =>
    by_cases hc : gd.q.count = 0
    · rw [condSignal_empty hg hc]; exact hp
    · have hwf := hp.gw g gd hg
      obtain ⟨q', hwf', hperm, heq⟩ := condSignal_spec hg hwf hc
      rw [heq, setGuardQ_pushAll]
      have hsub : ∀ k ∈ keys (abs q'), k ∈ keys (abs gd.q) := by
        intro k hk
        obtain ⟨e, he, rfl⟩ := Event.mem_keys.1 hk
        exact Event.mem_keys.2 ⟨e, (List.mem_filter.1 (hperm.mem_iff.1 he)).1, rfl⟩
      have h1 := hp.shrinkQueue hg hwf' hsub
      obtain ⟨c, hcond⟩ := hcg
      refine h1.pushCondBatch _ ?_ ?_
      · intro x hx
        simp only [condWakes, List.mem_map] at hx
        obtain ⟨t, ht, rfl⟩ := hx
        obtain ⟨hlive, hdem⟩ := mem_condSat.1 ht
        obtain ⟨i, hi1, hi2, rfl⟩ := (HashHeap.mem_liveTags _ _).1 hlive
        have hk0 : (gd.q.tag i).key ≠ 0 := (hwf.keyOk i hi1 hi2).1
        have hkk : (gd.q.tag i).key - 1 + 1 = (gd.q.tag i).key := by omega
        have hkin : (gd.q.tag i).key ∈ keys (abs gd.q) := (HashHeap.mem_keys_abs _ _).2 ⟨i, ⟨hi1, hi2⟩, rfl⟩
        have hq0 : queued w g (gd.q.tag i).key := ⟨gd, hg, hkin⟩
        have hgk := hp.gk g _ hq0
        simp only [hkk]
        refine ⟨trivial, trivial, hk0, ?_, ?_, ?_⟩
        · intro hx
          refine ⟨g, hgk.2.2 hx, ?_⟩
          rw [queued_setGuardQ hg, if_pos rfl]
          intro hm
          obtain ⟨e, he, hek⟩ := Event.mem_keys.1 hm
          have he' := List.mem_filter.1 (hperm.mem_iff.1 he)
          rw [hek, hdem] at he'
          exact absurd he'.2 (by simp)
        · intro hx; exact hp.no_grant_of_queued hq0 hx
        · intro hx; exact hp.gkc c g hcond _ hq0 hx
      · have hnd : ((condSat w gd).map (·.key)).Nodup := by
          have h1 : (keys (abs gd.q)).Nodup := hwf.keys_nodup
          rw [HashHeap.keys_abs] at h1
          exact List.Nodup.sublist ((List.filter_sublist).map _) h1
        have : (condWakes w (condSat w gd)).map (·.subj) = (condSat w gd).map (fun t => t.key - 1 + 1) := by
          simp [condWakes, List.map_map, Function.comp_def]
        rw [this]
        have hkeys : ∀ t ∈ condSat w gd, t.key - 1 + 1 = t.key := by
          intro t ht
          obtain ⟨hlive, _⟩ := mem_condSat.1 ht
          obtain ⟨i, hi1, hi2, rfl⟩ := (HashHeap.mem_liveTags _ _).1 hlive
          have := (hwf.keyOk i hi1 hi2).1; omega
        rw [List.map_congr_left hkeys]; exact hnd

theorem GInv.guardSignalF (fuel : Nat) (fwd : Bool) {w : World} (h : GInv ex fr w) (g : Nat) :
    GInv ex fr (guardSignalF fwd fuel w g) :=
  Sim.guardSignalF_rel (Path.ofPred (GInv ex fr)) (fun _ m h => h.fail m) (fun _ _ _ hg h => h.frontStep hg)
    (fun _ g hh h => h.condSignal_fst g (hasHandler_iff.1 hh)) fuel fwd w g h

theorem GInv.guardSignal (fuel : Nat) {w : World} (h : GInv ex fr w) (g : Nat) : GInv ex fr (guardSignal fuel w g) :=
  GInv.guardSignalF fuel false h g

theorem GInv.signal {w : World} (h : GInv ex fr w) (g : Nat) : GInv ex fr (signal w g) := GInv.guardSignal 8 h g

end CimbaModel.Sim.S3
