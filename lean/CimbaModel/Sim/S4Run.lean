/-
  S4 — `runScript` and `resumeProc` (induction principles of Shape.lean) with enough fuel and with static data.

  * The script fuel is never exhausted: `script.size - pc` decreases with every command that returns, so `runScript`
    with more fuel than that never reaches its `fuel = 0` branch (`runScript_fuel_succ`, `runScript_fuel_irrel`), and
    an invariant that the fault of that branch would break can still be carried (`S4.runScript_induct`: Shape's
    `runScript_induct_fuel` with the fuel case discharged, not Shape's `runScript_induct`).
  * Static data: scripts, table sizes, guard indices (`S3.Stat`) are the same in every world of a run, so an invariant
    may read the validity of the fetched command off the world in which the run began (`runScript_induct_fuel_static`,
    `resumeProc_cases_stat`).
-/
import CimbaModel.Sim.S3Stat

namespace CimbaModel.Sim.S4
open CimbaModel CimbaModel.Sim CimbaModel.Sim.S3 CimbaModel.Event CimbaModel.Generated

theorem lt_of_blocked {w : World} {p : Pid} {f : Frame} (h : (w.proc p).blocked = some f) : p < w.procs.size :=
  lt_np_of_ne w p fun e => by rw [e] at h; cases h

def scriptLeft (w : World) (p : Pid) : Nat := (w.proc p).script.size - (w.proc p).pc

theorem scriptLeft_step {w w2 : World} {p : Pid} {c : Cmd × String}
    (hc : (w.proc p).script[(w.proc p).pc]? = some c) (hst : Stat w w2) (l : String) {fuel : Nat}
    (hm : scriptLeft w p < fuel + 1) :
    scriptLeft ((w2.emit l).modProc p fun y => { y with pc := (w.proc p).pc + 1 }) p < fuel := by
  have hp2 : p < (w2.emit l).procs.size := by
    show p < w2.procs.size
    rw [hst.psize]; exact lt_np_of_script _ _ _ _ hc
  have hlt : (w.proc p).pc < (w.proc p).script.size := by
    rcases Nat.lt_or_ge (w.proc p).pc (w.proc p).script.size with h | h
    · exact h
    · rw [Array.getElem?_eq_none h] at hc; cases hc
  unfold scriptLeft at hm ⊢
  rw [S3.modProc_proc_self _ _ hp2]
  have hs : ((w2.emit l).proc p).script = (w.proc p).script := hst.script p
  dsimp only
  rw [hs]
  omega

theorem stat_cmd {w w1 : World} {p : Pid} {c : Cmd} {l0 : String} {o : Outcome} (heq : execCmd (w.emit l0) p c = (w1, o)) :
    Stat w w1 := by
  have := (Stat.refl w).step (eff_execCmd (.emit .refl l0) p c)
  rwa [heq] at this

theorem runScript_succ (fuel : Nat) (w : World) (p : Pid) :
    runScript (fuel + 1) w p =
      match (w.proc p).script[(w.proc p).pc]? with
      | none => finishProc (w.emit s!"e {p} {w.now} 0") p 0 false
      | some (c, text) =>
        match execCmd (w.emit s!"c {p} {(w.proc p).pc} {w.now} {text}") p c with
        | (w1, .ret v extra) =>
          runScript fuel ((w1.emit (s!"r {p} {(w.proc p).pc} {w1.now} {v}" ++ (if extra = "" then "" else " " ++ extra))).modProc p
            fun y => { y with pc := (w.proc p).pc + 1 }) p
        | (w1, .skip) =>
          runScript fuel ((w1.emit s!"s {p} {(w.proc p).pc} {w1.now}").modProc p fun y => { y with pc := (w.proc p).pc + 1 }) p
        | (w1, .blocked) => w1
        | (w1, .ended) =>
          match c with
          | .exit v => w1.emit s!"x {p} {w1.now} {v}"
          | _ => w1.emit s!"x {p} {w1.now} stop" := by
  rfl

theorem runScript_fuel_succ : ∀ (fuel : Nat) (w : World) (p : Pid), scriptLeft w p < fuel →
    runScript fuel w p = runScript (fuel + 1) w p := by
  intro fuel
  induction fuel with
  | zero => intro w p h; exact absurd h (Nat.not_lt_zero _)
  | succ n ih =>
    intro w p hm
    rw [runScript_succ n, runScript_succ (n + 1)]
    split
    · rfl
    · rename_i c text hc
      split
      · rename_i w1 v extra heq
        exact ih _ p (scriptLeft_step hc (stat_cmd heq) _ hm)
      · rename_i w1 heq
        exact ih _ p (scriptLeft_step hc (stat_cmd heq) _ hm)
      · rfl
      · rfl

theorem runScript_fuel_irrel (w : World) (p : Pid) : ∀ (k fuel : Nat), scriptLeft w p < fuel →
    runScript fuel w p = runScript (fuel + k) w p := by
  intro k
  induction k with
  | zero => intro fuel _; rfl
  | succ k ih =>
    intro fuel h
    rw [ih fuel h, ← Nat.add_assoc]
    exact runScript_fuel_succ (fuel + k) w p (by omega)

/-- `I` is an invariant of the worlds in which the next command is fetched, `Q` what is to be shown of the final world;
    the log lines are universally quantified so that the hypotheses do not mention the formatting -/
theorem runScript_induct (p : Pid) (I Q : World → Prop)
    (hfin : ∀ w l, I w → (w.proc p).script[(w.proc p).pc]? = none → Q (finishProc (w.emit l) p 0 false))
    (hret : ∀ w c text l0 w1 v extra l, I w → (w.proc p).script[(w.proc p).pc]? = some (c, text) →
      execCmd (w.emit l0) p c = (w1, .ret v extra) →
      I ((w1.emit l).modProc p fun y => { y with pc := (w.proc p).pc + 1 }))
    (hskip : ∀ w c text l0 w1 l, I w → (w.proc p).script[(w.proc p).pc]? = some (c, text) →
      execCmd (w.emit l0) p c = (w1, .skip) →
      I ((w1.emit l).modProc p fun y => { y with pc := (w.proc p).pc + 1 }))
    (hblk : ∀ w c text l0 w1, I w → (w.proc p).script[(w.proc p).pc]? = some (c, text) →
      execCmd (w.emit l0) p c = (w1, .blocked) → Q w1)
    (hended : ∀ w c text l0 w1 l, I w → (w.proc p).script[(w.proc p).pc]? = some (c, text) →
      execCmd (w.emit l0) p c = (w1, .ended) → Q (w1.emit l)) :
    ∀ (fuel : Nat) (w : World), I w → scriptLeft w p < fuel → Q (runScript fuel w p) := by
  -- the fuel bounds the commands left: that is what rules the `fuel = 0` branch out
  intro fuel w hI hm
  refine runScript_induct_fuel p (fun n w => I w ∧ scriptLeft w p < n) Q (fun _ _ h => absurd h.2 (Nat.not_lt_zero _))
    (fun _ w l h hc => hfin w l h.1 hc) ?_ (fun _ w c text l0 w1 h => hblk w c text l0 w1 h.1)
    (fun _ w c text l0 w1 l h => hended w c text l0 w1 l h.1) fuel w ⟨hI, hm⟩
  intro n w c text l0 w1 o l h hc heq ho
  refine ⟨?_, scriptLeft_step hc (stat_cmd heq) l h.2⟩
  rcases ho with ⟨v, extra, rfl⟩ | rfl
  · exact hret w c text l0 w1 v extra l h.1 hc heq
  · exact hskip w c text l0 w1 l h.1 hc heq

/-- the fuel `resumeProc` gives is enough: the script is the one read before the call -/
theorem scriptLeft_resume {w w2 : World} {p : Pid} (hst : S3.Stat w w2) (l : String) (n : Nat) :
    scriptLeft ((w2.emit l).modProc p fun y => { y with pc := n }) p < (w.proc p).script.size + 2 := by
  have hs := ((hst.emit l).modProc p (fun y => { y with pc := n }) (fun _ => rfl)).script p
  unfold scriptLeft
  rw [hs]
  omega

/-- the fuel the start action gives is enough -/
theorem scriptLeft_start (w : World) (p : Pid) (f : Proc → Proc) :
    scriptLeft (w.modProc p f) p < ((w.modProc p f).proc p).script.size + 2 := by
  unfold scriptLeft
  omega

theorem stat_afterCmd {w0 w w1 : World} {p : Pid} {c : Cmd} {l0 : String} {o : Outcome} (hs : Stat w0 w)
    (heq : execCmd (w.emit l0) p c = (w1, o)) (l : String) (n : Nat) :
    Stat w0 ((w1.emit l).modProc p fun y => { y with pc := n }) :=
  (((hs.trans (stat_cmd heq)).emit l).modProc p _ (fun _ => rfl))

/-- `runScript_induct_fuel` with static data: every world of the run has those of `w0`, so the fetched command is read
    off `w0`, and the caller exists -/
theorem runScript_induct_fuel_static (p : Pid) (w0 : World) (I : Nat → World → Prop) (Q : World → Prop)
    (hfuel : ∀ w m, Stat w0 w → I 0 w → Q (w.fail m))
    (hfin : ∀ n w l, Stat w0 w → I (n + 1) w → Q (finishProc (w.emit l) p 0 false))
    (hnext : ∀ n w c text l0 w1 o l, Stat w0 w → I (n + 1) w → p < w.procs.size →
      (w0.proc p).script[(w.proc p).pc]? = some (c, text) → (w.proc p).script[(w.proc p).pc]? = some (c, text) →
      execCmd (w.emit l0) p c = (w1, o) → (∃ v extra, o = .ret v extra) ∨ o = .skip →
      I n ((w1.emit l).modProc p fun y => { y with pc := (w.proc p).pc + 1 }))
    (hblk : ∀ n w c text l0 w1, Stat w0 w → I (n + 1) w → p < w.procs.size →
      (w0.proc p).script[(w.proc p).pc]? = some (c, text) → execCmd (w.emit l0) p c = (w1, .blocked) → Q w1)
    (hended : ∀ n w c text l0 w1 l, Stat w0 w → I (n + 1) w → p < w.procs.size →
      (w0.proc p).script[(w.proc p).pc]? = some (c, text) → execCmd (w.emit l0) p c = (w1, .ended) → Q (w1.emit l)) :
    ∀ (fuel : Nat) (w : World), Stat w0 w → I fuel w → Q (runScript fuel w p) := by
  intro fuel w hs hI
  have rd : ∀ {w : World} {x : Cmd × String}, Stat w0 w → (w.proc p).script[(w.proc p).pc]? = some x →
      (w0.proc p).script[(w.proc p).pc]? = some x := fun h hc => by rw [← h.script]; exact hc
  exact runScript_induct_fuel p (fun n w => Stat w0 w ∧ I n w) Q (fun w m h => hfuel w m h.1 h.2)
    (fun n w l h _ => hfin n w l h.1 h.2)
    (fun n w c text l0 w1 o l h hc heq ho =>
      ⟨stat_afterCmd h.1 heq l _, hnext n w c text l0 w1 o l h.1 h.2 (lt_np_of_script _ _ _ _ hc) (rd h.1 hc) hc heq ho⟩)
    (fun n w c text l0 w1 h hc heq => hblk n w c text l0 w1 h.1 h.2 (lt_np_of_script _ _ _ _ hc) (rd h.1 hc) heq)
    (fun n w c text l0 w1 l h hc heq => hended n w c text l0 w1 l h.1 h.2 (lt_np_of_script _ _ _ _ hc) (rd h.1 hc) heq)
    fuel w ⟨hs, hI⟩

theorem resumeProc_cases_stat (Q : World → Prop) (w : World) (p : Pid) (sig : Int)
    (hfail : (w.proc p).status ≠ .running ∨ (w.proc p).blocked = none → ∀ m, Q (w.fail m))
    (hstop : ∀ f w1 o, (w.proc p).status = .running → (w.proc p).blocked = some f → p < w.procs.size →
      resumeFrame (w.modProc p fun y => { y with blocked := none }) p f sig = (w1, o) → (∀ v extra, o ≠ .ret v extra) → Q w1)
    (hret : ∀ f w1 v extra l, (w.proc p).status = .running → (w.proc p).blocked = some f → p < w.procs.size →
      resumeFrame (w.modProc p fun y => { y with blocked := none }) p f sig = (w1, .ret v extra) →
      Stat w ((w1.emit l).modProc p fun y => { y with pc := (w.proc p).pc + 1 }) →
      Q (runScript ((w.proc p).script.size + 2) ((w1.emit l).modProc p fun y => { y with pc := (w.proc p).pc + 1 }) p)) :
    Q (resumeProc w p sig) := by
  refine resumeProc_cases Q w p sig hfail (fun f w1 o hr hb => hstop f w1 o hr hb (lt_of_blocked hb)) ?_
  intro f w1 v extra l hr hb heq
  refine hret f w1 v extra l hr hb (lt_of_blocked hb) heq ?_
  have := ((Stat.refl w).modProc p (fun y => { y with blocked := none }) (fun _ => rfl)).step (eff_resumeFrame .refl p f sig)
  rw [heq] at this
  exact (this.emit l).modProc p _ (fun _ => rfl)

end CimbaModel.Sim.S4
