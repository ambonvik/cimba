/-
  S4 — `Safe ex w`: the structural facts that exclude the fault sites of the process layer, carried through every
  primitive of Sim/Model.lean together with "no fault recorded".

  * every waiting list is a well-formed hashheap whose keys are process keys (≤ number of processes) outside `ex`
    (`ex` = the key of the executing process while it runs: it is queued nowhere, so its next enqueue is fresh);
  * every holder list is a well-formed hashheap whose keys are process keys;
  * static part (`StaticOk`): fewer than 2³¹ processes, observers are flat (an observer has no observers of its own, so
    a signal is forwarded at most one level), every guard index named by an object / condition exists.
-/
import CimbaModel.Sim.S1Frame
import CimbaModel.Sim.S3GInv

namespace CimbaModel.Sim.S4
open CimbaModel CimbaModel.Sim CimbaModel.Sim.S3 CimbaModel.Event CimbaModel.Generated CimbaModel.KPQ
open CimbaModel.HashHeap (HTag Item Order HH WF abs liveTags)

/-- a holder list is a well-formed hashheap (C02's `WF` under the order of `cmb_resourcepool`) -/
abbrev HWF (h : HH) : Prop := WF holder_queue_check h

/-- an observer has no observers of its own: a signal is forwarded one level only -/
def ObsFlat (w : World) : Prop :=
  ∀ (g : Nat) (gd : Guard), w.guards[g]? = some gd → ∀ o ∈ gd.observers, ∀ od : Guard, w.guards[o]? = some od → od.observers = []

structure GEx (w : World) : Prop where
  res : ∀ (r : Nat) (x : Res), w.res[r]? = some x → x.guard < w.guards.size
  pools : ∀ (r : Nat) (x : Pool), w.pools[r]? = some x → x.guard < w.guards.size
  bufs : ∀ (r : Nat) (x : Buf), w.bufs[r]? = some x → x.front < w.guards.size ∧ x.rear < w.guards.size
  oqs : ∀ (r : Nat) (x : OQ), w.oqs[r]? = some x → x.front < w.guards.size ∧ x.rear < w.guards.size
  pqs : ∀ (r : Nat) (x : PQ), w.pqs[r]? = some x → x.front < w.guards.size ∧ x.rear < w.guards.size
  conds : ∀ (c g : Nat), w.conds[c]? = some g → g < w.guards.size

structure StaticOk (w : World) : Prop where
  psz : w.procs.size < 2 ^ 31
  obs : ObsFlat w
  gex : GEx w

theorem stat_guard {w w' : World} (hs : Stat w w') {g : Nat} {gd' : Guard} (h : w'.guards[g]? = some gd') :
    ∃ gd, w.guards[g]? = some gd ∧ gd.observers = gd'.observers ∧ gd.isCond = gd'.isCond := by
  have := hs.guards g
  rw [h] at this
  cases hg : w.guards[g]? with
  | none => rw [hg] at this; cases this
  | some gd =>
    rw [hg] at this
    simp only [Option.map_some, Option.some.injEq, guardStat, Prod.mk.injEq] at this
    exact ⟨gd, rfl, this.2.symm, this.1.symm⟩

theorem stat_gsize {w w' : World} (hs : Stat w w') : w'.guards.size = w.guards.size := size_eq_of_map_eq hs.guards

theorem map_eq_some_of {α β : Type} {o o' : Option α} {f : α → β} (h : o'.map f = o.map f) {x' : α} (hx : o' = some x') :
    ∃ x, o = some x ∧ f x = f x' := by
  subst hx
  cases o with
  | none => cases h
  | some x => exact ⟨x, rfl, by simpa using h.symm⟩

theorem StaticOk.ofStat {w w' : World} (h : StaticOk w) (hs : Stat w w') : StaticOk w' := by
  have hgs := stat_gsize hs
  refine ⟨by rw [hs.psize]; exact h.psz, ?_, ?_⟩
  · intro g gd' hg o ho od' hod
    obtain ⟨gd, hgd, hob, _⟩ := stat_guard hs hg
    obtain ⟨od, hod0, hob', _⟩ := stat_guard hs hod
    rw [← hob']
    exact h.obs g gd hgd o (by rw [hob]; exact ho) od hod0
  · refine ⟨?_, ?_, ?_, ?_, ?_, ?_⟩
    · intro r x' hx
      obtain ⟨x, hx0, he⟩ := map_eq_some_of (hs.res r) hx
      simp only [resStat] at he
      rw [hgs, ← he]; exact h.gex.res r x hx0
    · intro r x' hx
      obtain ⟨x, hx0, he⟩ := map_eq_some_of (hs.pools r) hx
      simp only [poolStat, Prod.mk.injEq] at he
      rw [hgs, ← he.1]; exact h.gex.pools r x hx0
    · intro r x' hx
      obtain ⟨x, hx0, he⟩ := map_eq_some_of (hs.bufs r) hx
      simp only [bufStat, Prod.mk.injEq] at he
      rw [hgs, ← he.1, ← he.2.1]; exact h.gex.bufs r x hx0
    · intro r x' hx
      obtain ⟨x, hx0, he⟩ := map_eq_some_of (hs.oqs r) hx
      simp only [oqStat, Prod.mk.injEq] at he
      rw [hgs, ← he.1, ← he.2.1]; exact h.gex.oqs r x hx0
    · intro r x' hx
      obtain ⟨x, hx0, he⟩ := map_eq_some_of (hs.pqs r) hx
      simp only [pqStat, Prod.mk.injEq] at he
      rw [hgs, ← he.1, ← he.2.1]; exact h.gex.pqs r x hx0
    · intro c g hc
      rw [hs.conds] at hc
      rw [hgs]; exact h.gex.conds c g hc

structure Safe (ex : Nat → Prop) (w : World) : Prop where
  nf : w.fault = none
  st : StaticOk w
  gq : ∀ (g : Nat) (gd : Guard), w.guards[g]? = some gd → GWF gd.q ∧ ∀ k ∈ keys (abs gd.q), k ≤ w.procs.size ∧ ¬ ex k
  hq : ∀ (pl : Nat) (x : Pool), w.pools[pl]? = some x → HWF x.holders ∧ ∀ k ∈ keys (abs x.holders), k ≤ w.procs.size

variable {ex : Nat → Prop}

theorem Safe.gwf {w : World} (h : Safe ex w) : AllGWF w := fun g gd hg => (h.gq g gd hg).1

theorem Safe.same {w w' : World} (h : Safe ex w) (hf : w'.fault = w.fault) (hg : w'.guards = w.guards)
    (hp : w'.pools = w.pools) (hs : Stat w w') : Safe ex w' :=
  ⟨hf.trans h.nf, h.st.ofStat hs, by rw [hg, hs.psize]; exact h.gq, by rw [hp, hs.psize]; exact h.hq⟩

theorem Safe.mono {ex' : Nat → Prop} {w : World} (h : Safe ex w) (hx : ∀ k, ex' k → ex k) : Safe ex' w :=
  ⟨h.nf, h.st, fun g gd hg => ⟨(h.gq g gd hg).1, fun k hk => ⟨((h.gq g gd hg).2 k hk).1, fun hk' => ((h.gq g gd hg).2 k hk).2 (hx k hk')⟩⟩,
   h.hq⟩

theorem Safe.exclude {w : World} (h : Safe ex w) (k0 : Nat) (hn : ∀ g, ¬ queued w g k0) : Safe (fun k => ex k ∨ k = k0) w :=
  ⟨h.nf, h.st, fun g gd hg => ⟨(h.gq g gd hg).1, fun k hk => ⟨((h.gq g gd hg).2 k hk).1, fun hk' => by
      rcases hk' with hk' | rfl
      · exact ((h.gq g gd hg).2 k hk).2 hk'
      · exact hn g ⟨gd, hg, hk⟩⟩⟩, h.hq⟩

def noKey : Nat → Prop := fun _ => False
def isKey (p : Pid) : Nat → Prop := fun k => k = p + 1

theorem Safe.toNoKey {w : World} (h : Safe ex w) : Safe noKey w := h.mono (fun _ hk => hk.elim)

theorem Safe.toKey {w : World} (h : Safe noKey w) (p : Pid) (hn : ∀ g, ¬ queued w g (p + 1)) : Safe (isKey p) w :=
  (h.exclude (p + 1) hn).mono (fun _ hk => Or.inr hk)


theorem sched_now_fault (w : World) (a s : Nat) (sig pri : Int) : (sched w a s sig w.now pri).1.fault = w.fault := by
  rw [S3.sched_now]; rfl
@[simp] theorem sched_now_fault' (w : World) (a s : Nat) (sig pri : Int) : (sched w a s sig w.ev.now pri).1.fault = w.fault :=
  sched_now_fault w a s sig pri

theorem sched_ge_fault (w : World) (a s : Nat) (sig t pri : Int) (ht : w.now ≤ t) : (sched w a s sig t pri).1.fault = w.fault := by
  rw [S3.sched_ge w a s sig t pri ht]; rfl

@[simp] theorem wakeEventWaiters_fault (w : World) (ps : List Pid) (sig : Int) : (wakeEventWaiters w ps sig).fault = w.fault := by
  unfold wakeEventWaiters
  exact foldl_keeps (fun w => w.fault) _ (fun w q => sched_now_fault w _ _ _ _) ps w

@[simp] theorem evCancel_fault (w : World) (h : Nat) : (evCancel w h).1.fault = w.fault := (evCancel_rel w h).fault

@[simp] theorem cancelAllFor_fault (w : World) (p : Pid) : (cancelAllFor w p).fault = w.fault := by
  unfold cancelAllFor
  exact foldl_keeps (fun w => w.fault) _ (fun w q => evCancel_fault w q) _ w

@[simp] theorem cancelKindFor_fault (w : World) (p : Pid) (act : Nat) (sig : Option Int) :
    (cancelKindFor w p act sig).1.fault = w.fault := by
  unfold cancelKindFor
  exact foldl_keeps (fun w => w.fault) _ (fun w q => evCancel_fault w q) _ w

@[simp] theorem cancelUserAll_fault (w : World) : (cancelUserAll w).1.fault = w.fault := by
  unfold cancelUserAll
  exact foldl_keeps (fun w => w.fault) _ (fun w q => evCancel_fault w q) _ w

@[simp] theorem recordRes_fault (w : World) (r : Nat) : (recordRes w r).fault = w.fault := by
  unfold recordRes; splits_rfl
@[simp] theorem recordPool_fault (w : World) (r : Nat) : (recordPool w r).fault = w.fault := by
  unfold recordPool; splits_rfl
@[simp] theorem recordBuf_fault (w : World) (r : Nat) : (recordBuf w r).fault = w.fault := by
  unfold recordBuf; splits_rfl
@[simp] theorem recordOQ_fault (w : World) (r : Nat) : (recordOQ w r).fault = w.fault := by
  unfold recordOQ; splits_rfl
@[simp] theorem recordPQ_fault (w : World) (r : Nat) : (recordPQ w r).fault = w.fault := by
  unfold recordPQ; splits_rfl
@[simp] theorem setPoolInUse_fault (w : World) (pl v : Nat) : (setPoolInUse w pl v).fault = w.fault := rfl
@[simp] theorem addAwait_fault (w : World) (p : Pid) (a : Await) : (addAwait w p a).fault = w.fault := rfl
@[simp] theorem removeAwait_fault (w : World) (p : Pid) (a : Await) : (removeAwait w p a).1.fault = w.fault := rfl
@[simp] theorem removeAwaitKind_fault (w : World) (p : Pid) (k : Await → Bool) : (removeAwaitKind w p k).1.fault = w.fault := rfl
@[simp] theorem removeHeld_fault (w : World) (p : Pid) (x : HoldRef) : (removeHeld w p x).1.fault = w.fault := rfl
@[simp] theorem block_fault (w : World) (p : Pid) (f : Frame) : (block w p f).1.fault = w.fault := rfl
@[simp] theorem setVar_fault (w : World) (p : Pid) (v x : Nat) : (setVar w p v x).fault = w.fault := by
  unfold setVar; split <;> rfl
@[simp] theorem timerCancel_fault (w : World) (p : Pid) (k : Nat) : (timerCancel w p k).1.fault = w.fault := by
  simp only [timerCancel, evCancel_fault, removeAwait_fault]
@[simp] theorem timersClear_fault (w : World) (p : Pid) : (timersClear w p).fault = w.fault := by
  unfold timersClear
  exact foldl_keeps_trans (fun w => w.fault) _ _ _ _ (fun w q => evCancel_fault w q) rfl
@[simp] theorem wakeWaiters_fault (w : World) (p : Pid) (sig : Int) : (wakeWaiters w p sig).fault = w.fault := by
  unfold wakeWaiters
  exact foldl_keeps_trans (fun w => w.fault) _ _ _ _ (fun w q => sched_now_fault w _ _ _ _) rfl


variable {w : World}

theorem Safe.emit (h : Safe ex w) (l : String) : Safe ex (w.emit l) :=
  h.same rfl rfl rfl ((Stat.refl w).emit l)
theorem Safe.modProc (h : Safe ex w) (p : Pid) (f : Proc → Proc) (hf : ∀ x, (f x).script = x.script) : Safe ex (w.modProc p f) :=
  h.same rfl rfl rfl ((Stat.refl w).modProc p f hf)
theorem Safe.setEvWaiters (h : Safe ex w) (x : List (Nat × List Pid)) : Safe ex { w with evWaiters := x } :=
  h.same rfl rfl rfl ((Stat.refl w).same rfl rfl rfl rfl rfl rfl rfl rfl)
theorem Safe.setEv (h : Safe ex w) (x : EvQ) : Safe ex { w with ev := x } :=
  h.same rfl rfl rfl ((Stat.refl w).same rfl rfl rfl rfl rfl rfl rfl rfl)
theorem Safe.setFlags (h : Safe ex w) (x : Array Int) : Safe ex { w with flags := x } :=
  h.same rfl rfl rfl ((Stat.refl w).step (.flags .refl rfl x))
theorem Safe.setGvars (h : Safe ex w) (x : Array Nat) : Safe ex { w with gvars := x } :=
  h.same rfl rfl rfl ((Stat.refl w).same rfl rfl rfl rfl rfl rfl rfl rfl)
theorem Safe.pushEv (h : Safe ex w) (a s : Nat) (sig t pri : Int) : Safe ex (pushEv w a s sig t pri) :=
  h.same rfl rfl rfl ((Stat.refl w).same rfl rfl rfl rfl rfl rfl rfl rfl)
theorem Safe.sched_now (h : Safe ex w) (a s : Nat) (sig pri : Int) : Safe ex (sched w a s sig w.now pri).1 :=
  h.same (sched_now_fault w a s sig pri) (by simp) (by simp) ((Stat.refl w).sched_fst _ _ _ _ _)
theorem Safe.sched_ge (h : Safe ex w) (a s : Nat) (sig t pri : Int) (ht : w.now ≤ t) : Safe ex (sched w a s sig t pri).1 :=
  h.same (sched_ge_fault w a s sig t pri ht) (by simp) (by simp) ((Stat.refl w).sched_fst _ _ _ _ _)
theorem Safe.wakeEventWaiters (h : Safe ex w) (ps : List Pid) (sig : Int) : Safe ex (wakeEventWaiters w ps sig) :=
  h.same (by simp) (by simp) (by simp) ((Stat.refl w).step (.wakeEventWaiters .refl ps sig))
theorem Safe.evCancel_fst (h : Safe ex w) (k : Nat) : Safe ex (evCancel w k).1 :=
  h.same (by simp) (by simp) (by simp) ((Stat.refl w).step (.evCancel .refl k))
theorem Safe.cancelAllFor (h : Safe ex w) (p : Pid) : Safe ex (cancelAllFor w p) :=
  h.same (by simp) (by simp) (by simp) ((Stat.refl w).step (.cancelAllFor .refl p))
theorem Safe.cancelKindFor_fst (h : Safe ex w) (p : Pid) (act : Nat) (sig : Option Int) : Safe ex (cancelKindFor w p act sig).1 :=
  h.same (by simp) (by simp) (by simp) ((Stat.refl w).step (.cancelKindFor .refl p act sig))
theorem Safe.cancelUserAll_fst (h : Safe ex w) : Safe ex (cancelUserAll w).1 :=
  h.same (by simp) (by simp) (by simp) ((Stat.refl w).step (.cancelUserAll .refl))
theorem Safe.recordRes (h : Safe ex w) (r : Nat) : Safe ex (recordRes w r) :=
  h.same (by simp) (by simp) (by simp) ((Stat.refl w).step (.recordRes .refl r))
theorem Safe.recordBuf (h : Safe ex w) (r : Nat) : Safe ex (recordBuf w r) :=
  h.same (by simp) (by simp) (by simp) ((Stat.refl w).step (.recordBuf .refl r))
theorem Safe.recordOQ (h : Safe ex w) (r : Nat) : Safe ex (recordOQ w r) :=
  h.same (by simp) (by simp) (by simp) ((Stat.refl w).step (.recordOQ .refl r))
theorem Safe.recordPQ (h : Safe ex w) (r : Nat) : Safe ex (recordPQ w r) :=
  h.same (by simp) (by simp) (by simp) ((Stat.refl w).step (.recordPQ .refl r))
theorem Safe.addAwait (h : Safe ex w) (p : Pid) (a : Await) : Safe ex (addAwait w p a) :=
  h.same (by simp) (by simp) (by simp) ((Stat.refl w).step (.addAwait .refl p a))
theorem Safe.removeAwait_fst (h : Safe ex w) (p : Pid) (a : Await) : Safe ex (removeAwait w p a).1 :=
  h.same (by simp) (by simp) (by simp) ((Stat.refl w).step (.removeAwait .refl p a))
theorem Safe.removeAwaitKind_fst (h : Safe ex w) (p : Pid) (k : Await → Bool) : Safe ex (removeAwaitKind w p k).1 :=
  h.same (by simp) (by simp) (by simp) ((Stat.refl w).step (.removeAwaitKind .refl p k))
theorem Safe.removeHeld_fst (h : Safe ex w) (p : Pid) (x : HoldRef) : Safe ex (removeHeld w p x).1 :=
  h.same (by simp) (by simp) (by simp) ((Stat.refl w).step (.removeHeld .refl p x))
theorem Safe.block_fst (h : Safe ex w) (p : Pid) (f : Frame) : Safe ex (block w p f).1 :=
  h.same (by simp) (by simp) (by simp) ((Stat.refl w).modProc p _ fun _ => rfl)
theorem Safe.setVar (h : Safe ex w) (p : Pid) (v x : Nat) : Safe ex (setVar w p v x) :=
  h.same (by simp) (by unfold Sim.setVar; split <;> rfl) (by unfold Sim.setVar; split <;> rfl) ((Stat.refl w).step (.setVar .refl p v x trivial rfl (.inl trivial)))
theorem Safe.timerCancel_fst (h : Safe ex w) (p : Pid) (k : Nat) : Safe ex (timerCancel w p k).1 :=
  h.same (by simp) (by simp) (by simp) ((Stat.refl w).step (.timerCancel .refl p k))
theorem Safe.timersClear (h : Safe ex w) (p : Pid) : Safe ex (timersClear w p) :=
  h.same (by simp) (by simp) (by simp) ((Stat.refl w).step (.timersClear .refl p))
theorem Safe.wakeWaiters (h : Safe ex w) (p : Pid) (sig : Int) : Safe ex (wakeWaiters w p sig) :=
  h.same (by simp) (by simp) (by simp) ((Stat.refl w).wakeWaiters p sig)
theorem Safe.timerAdd_fst (h : Safe ex w) (p : Pid) (d sig : Int) (hd : 0 ≤ d) : Safe ex (timerAdd w p d sig).1 := by
  simp only [Sim.timerAdd]
  exact (h.sched_ge _ _ _ _ _ (by simp only [World.now]; omega)).addAwait _ _

theorem Safe.setResSet (h : Safe ex w) (r : Nat) (y : Res) (hy : ∀ x, w.res[r]? = some x → resStat y = resStat x) :
    Safe ex { w with res := w.res.set! r y } := h.same rfl rfl rfl ((Stat.refl w).step (.res .refl rfl _ (map_set!_same _ _ _ _ hy) (Scope.on rfl)))
theorem Safe.setResModify (h : Safe ex w) (r : Nat) (g : Res → Res) (hg : ∀ x, resStat (g x) = resStat x) :
    Safe ex { w with res := w.res.modify r g } := h.same rfl rfl rfl ((Stat.refl w).step (.res .refl rfl _ (map_modify_same _ _ _ _ hg) (Scope.on rfl)))
theorem Safe.setBufsSet (h : Safe ex w) (r : Nat) (y : Buf) (hy : ∀ x, w.bufs[r]? = some x → bufStat y = bufStat x) :
    Safe ex { w with bufs := w.bufs.set! r y } := h.same rfl rfl rfl ((Stat.refl w).step (.bufs .refl rfl _ (map_set!_same _ _ _ _ hy) (Scope.on rfl)))
theorem Safe.setBufsModify (h : Safe ex w) (r : Nat) (g : Buf → Buf) (hg : ∀ x, bufStat (g x) = bufStat x) :
    Safe ex { w with bufs := w.bufs.modify r g } := h.same rfl rfl rfl ((Stat.refl w).step (.bufs .refl rfl _ (map_modify_same _ _ _ _ hg) (Scope.on rfl)))
theorem Safe.setOqsSet (h : Safe ex w) (r : Nat) (y : OQ) (hy : ∀ x, w.oqs[r]? = some x → oqStat y = oqStat x) :
    Safe ex { w with oqs := w.oqs.set! r y } := h.same rfl rfl rfl ((Stat.refl w).step (.oqs .refl rfl _ (map_set!_same _ _ _ _ hy) (Scope.on rfl)))
theorem Safe.setOqsModify (h : Safe ex w) (r : Nat) (g : OQ → OQ) (hg : ∀ x, oqStat (g x) = oqStat x) :
    Safe ex { w with oqs := w.oqs.modify r g } := h.same rfl rfl rfl ((Stat.refl w).step (.oqs .refl rfl _ (map_modify_same _ _ _ _ hg) (Scope.on rfl)))
theorem Safe.setPqsSet (h : Safe ex w) (r : Nat) (y : PQ) (hy : ∀ x, w.pqs[r]? = some x → pqStat y = pqStat x) :
    Safe ex { w with pqs := w.pqs.set! r y } := h.same rfl rfl rfl
    ⟨rfl, rfl, fun _ => rfl, fun _ => rfl, fun _ => rfl, fun _ => rfl, fun _ => rfl, map_set!_same _ _ _ _ hy, fun _ => rfl⟩
theorem Safe.setPqsModify (h : Safe ex w) (r : Nat) (g : PQ → PQ) (hg : ∀ x, pqStat (g x) = pqStat x) :
    Safe ex { w with pqs := w.pqs.modify r g } := h.same rfl rfl rfl
    ⟨rfl, rfl, fun _ => rfl, fun _ => rfl, fun _ => rfl, fun _ => rfl, fun _ => rfl, map_modify_same _ _ _ _ hg, fun _ => rfl⟩

theorem Safe.setPoolsModify (h : Safe ex w) (pl : Nat) (f : Pool → Pool) (hs : ∀ x, poolStat (f x) = poolStat x)
    (hf : ∀ x, (f x).holders = x.holders) : Safe ex { w with pools := w.pools.modify pl f } := by
  refine ⟨h.nf, h.st.ofStat ((Stat.refl w).step (.pools .refl rfl _ (map_modify_same _ _ _ _ hs) (Scope.on rfl) (Scope.on rfl))), h.gq, ?_⟩
  intro i x hx
  simp only [Array.getElem?_modify] at hx
  split at hx
  · cases hy : w.pools[i]? with
    | none => rw [hy] at hx; cases hx
    | some y =>
      rw [hy] at hx
      simp only [Option.map_some, Option.some.injEq] at hx
      rw [← hx, hf]; exact h.hq i y hy
  · exact h.hq i x hx

theorem Safe.setPoolsSet (h : Safe ex w) (pl : Nat) (y : Pool) (hs : ∀ x, w.pools[pl]? = some x → poolStat y = poolStat x)
    (hy : HWF y.holders ∧ ∀ k ∈ keys (abs y.holders), k ≤ w.procs.size) :
    Safe ex { w with pools := w.pools.set! pl y } := by
  refine ⟨h.nf, h.st.ofStat ((Stat.refl w).step (.pools .refl rfl _ (map_set!_same _ _ _ _ hs) (Scope.on rfl) (Scope.on rfl))), h.gq, ?_⟩
  intro i x hx
  simp only [Array.set!_eq_setIfInBounds, Array.getElem?_setIfInBounds] at hx
  split at hx
  · split at hx
    · cases hx; exact hy
    · cases hx
  · exact h.hq i x hx

theorem Safe.setPoolInUse (h : Safe ex w) (pl v : Nat) : Safe ex (setPoolInUse w pl v) :=
  h.setPoolsModify pl _ (fun _ => rfl) (fun _ => rfl)

theorem Safe.recordPool (h : Safe ex w) (r : Nat) : Safe ex (recordPool w r) := by
  unfold Sim.recordPool
  split
  · rename_i x hx
    split
    · exact h.setPoolsSet r _ (fun y hy => by rw [hx] at hy; cases hy; rfl) (h.hq r x hx)
    · exact h
  · exact h

theorem Safe.setGuardQ (h : Safe ex w) (g : Nat) (q' : HH)
    (hq' : ∀ gd, w.guards[g]? = some gd → GWF q' ∧ ∀ k ∈ keys (abs q'), k ∈ keys (abs gd.q)) : Safe ex (setGuardQ w g q') := by
  refine ⟨h.nf, h.st.ofStat ((Stat.refl w).step (.setGuardQ .refl g q')), ?_, h.hq⟩
  intro g' gd' hg'
  rw [setGuardQ_guards_get] at hg'
  split at hg'
  · rename_i e; subst e
    cases hgd : w.guards[g']? with
    | none => rw [hgd] at hg'; cases hg'
    | some gd =>
      rw [hgd] at hg'
      simp only [Option.map_some, Option.some.injEq] at hg'
      subst hg'
      obtain ⟨h1, h2⟩ := hq' gd hgd
      exact ⟨h1, fun k hk => (h.gq g' gd hgd).2 k (h2 k hk)⟩
  · exact h.gq g' gd' hg'

/-- `Safe.setGuardQ` for the guard at hand: the new list is well formed and has no new key -/
theorem Safe.setQ (h : Safe ex w) {g : Nat} {gd : Guard} (hg : w.guards[g]? = some gd) {q' : HH} (hwf : GWF q')
    (hsub : ∀ k ∈ keys (abs q'), k ∈ keys (abs gd.q)) : Safe ex (Sim.setGuardQ w g q') :=
  h.setGuardQ g q' fun gd0 h0 => by rw [hg] at h0; cases h0; exact ⟨hwf, hsub⟩

theorem Safe.guardRemove_fst (h : Safe ex w) (g : Nat) (p : Pid) : Safe ex (guardRemove w g p).1 := by
  cases hg : w.guards[g]? with
  | none => rw [guardRemove_none hg]; exact h
  | some gd =>
    obtain ⟨q', _, hwf', hperm, heq⟩ := guardRemove_spec hg (h.gq g gd hg).1 p
    rw [heq]
    exact h.setQ hg hwf' fun k hk => ((HashHeap.keys_remove _ _ k).1 ((HashHeap.keys_perm hperm k).1 hk)).1

theorem Safe.frontStep (h : Safe ex w) (g : Nat) (gd : Guard) (hg : w.guards[g]? = some gd) : Safe ex (S3.frontStep w g gd) := by
  obtain ⟨h0, hpos⟩ := frontStep_spec w g gd (h.gq g gd hg).1
  by_cases hc : gd.q.count = 0
  · rw [h0 hc]; exact h
  · obtain ⟨_, hf, ht⟩ := hpos (by omega)
    cases hd : evalDemand w (demandOf gd (gd.q.tag 1).key) with
    | false => rw [hf hd]; exact h
    | true =>
      obtain ⟨q', _, hwf', hperm, heq⟩ := ht hd
      rw [heq]
      unfold S3.grant
      exact (h.setQ hg hwf' fun k hk => (HashHeap.keys_perm hperm k).2 (List.mem_cons_of_mem _ hk)).pushEv _ _ _ _ _

def NoObs (w : World) (o : Nat) : Prop := ∀ od : Guard, w.guards[o]? = some od → od.observers = []

theorem NoObs.ofStat {w w' : World} {o : Nat} (h : NoObs w o) (hs : Stat w w') : NoObs w' o := by
  intro od' hod
  obtain ⟨od, h1, h2, _⟩ := stat_guard hs hod
  rw [← h2]; exact h od h1

theorem Safe.foldl {α : Type} {f : World → α → World} (hf : ∀ w a, Safe ex w → Safe ex (f w a)) :
    ∀ (l : List α) {w : World}, Safe ex w → Safe ex (l.foldl f w) :=
  fun l w => (Path.ofPred (Safe ex)).foldl hf l w

theorem Safe.condSignal_fst (h : Safe ex w) (g : Nat) : Safe ex (Sim.condSignal w g).1 :=
  Sim.condSignal_rel (Path.ofPred (Safe ex)) (fun _ _ _ h => h.sched_now _ _ _ _) (fun _ _ _ h => h.guardRemove_fst _ _) w g h

theorem Safe.ownStep (h : Safe ex w) (fwd : Bool) (g : Nat) (gd : Guard) (hg : w.guards[g]? = some gd) :
    Safe ex (S3.ownStep fwd w g gd) := by
  unfold S3.ownStep
  split
  · exact h.condSignal_fst g
  · exact h.frontStep g gd hg

theorem Safe.guardSignalF_leaf (h : Safe ex w) (fwd : Bool) (fuel : Nat) (g : Nat) (hno : NoObs w g) :
    Safe ex (Sim.guardSignalF fwd (fuel + 1) w g) := by
  rw [guardSignalF_succ]
  split
  · exact h
  · rename_i gd hg
    rw [hno gd hg]
    exact h.ownStep fwd g gd hg

theorem Safe.guardSignal (h : Safe ex w) (fuel : Nat) (g : Nat) : Safe ex (Sim.guardSignal (fuel + 2) w g) := by
  rw [guardSignal_succ]
  split
  · exact h
  · rename_i gd hg
    have hobs : ∀ o ∈ gd.observers, NoObs w o := fun o ho od hod => h.st.obs g gd hg o ho od hod
    have hs0 : Stat w (S3.frontStep w g gd) := (Stat.refl w).step (.frontStep .refl g gd)
    have key : ∀ (os : List Nat) (w' : World), (∀ o ∈ os, NoObs w o) → Safe ex w' → Stat w w' →
        Safe ex (os.foldl (fun w o => S3.fwdSignal (fuel + 1) w o) w') := by
      intro os
      induction os with
      | nil => intro w' _ h' _; exact h'
      | cons o os ih =>
        intro w' hos h' hs'
        simp only [List.foldl_cons]
        refine ih _ (fun o' ho' => hos o' (List.mem_cons_of_mem _ ho')) ?_ (hs'.step (.guardSignalF .refl _ _ _))
        exact h'.guardSignalF_leaf true fuel o ((hos o List.mem_cons_self).ofStat hs')
    exact key _ _ hobs (h.frontStep g gd hg) hs0

/-- `signal` runs with fuel 8; `Safe.guardSignal` is stated at `fuel + 2` (the guard and one level of forwarding) -/
theorem Safe.signal (h : Safe ex w) (g : Nat) : Safe ex (Sim.signal w g) := h.guardSignal 6 g

theorem Safe.guardWithdraw (h : Safe ex w) (g : Nat) (p : Pid) : Safe ex (Sim.guardWithdraw w g p) := by
  simp only [Sim.guardWithdraw]
  have h1 := h.guardRemove_fst g p
  split
  · exact h1
  · split
    · exact (h1.cancelKindFor_fst p aRes _).signal g
    · exact h1.cancelKindFor_fst p aRes _

theorem Safe.cancelAwaiteds (h : Safe ex w) (p : Pid) : Safe ex (Sim.cancelAwaiteds w p) := by
  unfold Sim.cancelAwaiteds
  refine Safe.cancelAllFor (Safe.foldl (fun w a h => ?_) _ (h.modProc p (fun x => { x with awaits := [] }) fun _ => rfl)) p
  split
  · exact h.evCancel_fst _
  · exact h.guardWithdraw _ p
  · exact h.modProc _ _ fun _ => rfl
  · exact h.setEvWaiters _

theorem Safe.guardWaitLeave (h : Safe ex w) (g : Nat) (p : Pid) (sig : Int) : Safe ex (Sim.guardWaitLeave w g p sig) := by
  unfold Sim.guardWaitLeave
  refine Safe.removeAwait_fst ?_ p _
  split
  · exact h.guardWithdraw g p
  · exact h

end CimbaModel.Sim.S4
