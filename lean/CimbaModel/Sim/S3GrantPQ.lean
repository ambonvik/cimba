/-
  S3 — the grant invariant: priority queues of objects (counting, as for object queues; the hashheap operations
  are used only through what they do to `count`).
-/
import CimbaModel.Sim.S3GrantHH
import CimbaModel.Sim.S3GrantObj

namespace CimbaModel.Sim.S3
open CimbaModel CimbaModel.Sim CimbaModel.Event CimbaModel.Generated CimbaModel.KPQ
open CimbaModel.HashHeap (HTag Item Order HH WF abs liveTags)

variable {fr : Pid → Option Frame} {df df' : Demand → Nat} {w : World} {p : Pid}

theorem gs_pqGetLoop (h : GS fr df w) (hes : EndSep w) (hsep : CondSep w) (hfr : fr p = none) (hlt : p < w.procs.size)
    (k : Nat) (hdf : ∀ d, d ≠ .pqContent k → df d ≤ df' d) (hdf1 : df (.pqContent k) ≤ df' (.pqContent k) + 1) :
    (pqGetLoop w p k).1.fault = none → GH df' (pqGetLoop w p k).1 := by
  simp only [Sim.pqGetLoop]
  split
  · rename_i hn
    exact fun _ => (h.gh.clear (.pqContent k) (by rw [need_eq]; simp [hn]) hdf).inert h.ginv.ei ((Inert.refl w).fail _)
  · rename_i x hx
    obtain ⟨hgf, hgr⟩ := gOf_pqs_of hx
    obtain ⟨hnf, hnr⟩ := need_pqs_of hx
    split
    · rename_i hpos
      split
      · rename_i q' t hdq
        have hc := dequeue_count hdq
        intro _
        have hst : Stat w { w with pqs := w.pqs.set! k { x with queue := q', gotLog := x.gotLog ++ [t.key] } } :=
          Stat.eff (Eff.setPQ .refl hx _ rfl (.get hpos hdq rfl))
        have h1 := h.moveUnit (df' := df') hst rfl rfl rfl (d0 := .pqContent k) (d1 := .pqSpace k) (by simp)
          (by rw [need_pqs_set hx, if_pos rfl, hnf]; unfold pqNeed; simp only; omega)
          (by rw [need_pqs_set hx, if_neg (by simp), if_pos rfl, hnr]; unfold pqNeed; simp only; omega)
          (fun d e0 e1 => by rw [need_pqs_set hx, if_neg e0, if_neg e1]; exact Nat.le_refl _) hdf hdf1
        dsimp only
        exact ((h1.recordPQ k).signal_settle (by rw [gOf_of_stat (hst.step (Eff.recordPQ .refl k))]; exact hgr)).gh
      · rename_i hdq
        -- the model's dequeue of a non-empty heap cannot return nothing
        have := dequeue_none hdq
        omega
      · intro hf; exact (fail_fault_none hf).elim
    · rename_i hpos
      intro _
      have h0 : need w (.pqContent k) = 0 := by rw [hnf]; unfold pqNeed; simp only; omega
      exact (h.clear (.pqContent k) h0 hdf).wait (Stat.refl w) hes hsep hfr hlt rfl hgf h0

theorem gs_pqPutLoop (h : GS fr df w) (hes : EndSep w) (hsep : CondSep w) (hfr : fr p = none) (hlt : p < w.procs.size)
    (k obj : Nat) (pri : Int) (v : Nat) (hdf : ∀ d, d ≠ .pqSpace k → df d ≤ df' d) (hdf1 : df (.pqSpace k) ≤ df' (.pqSpace k) + 1) :
    (pqPutLoop w p k obj pri v).1.fault = none → GH df' (pqPutLoop w p k obj pri v).1 := by
  simp only [Sim.pqPutLoop]
  split
  · rename_i hn
    exact fun _ => (h.gh.clear (.pqSpace k) (by rw [need_eq]; simp [hn]) hdf).inert h.ginv.ei ((Inert.refl w).fail _)
  · rename_i x hx
    obtain ⟨hgf, hgr⟩ := gOf_pqs_of hx
    obtain ⟨hnf, hnr⟩ := need_pqs_of hx
    split
    · rename_i hroom
      split
      · rename_i q' hh henq
        have hc := enqueue_count henq
        intro _
        have hst : Stat w { w with pqs := w.pqs.set! k { x with queue := q', putLog := x.putLog ++ [hh] } } :=
          Stat.eff (Eff.setPQ .refl hx _ rfl (.put henq rfl))
        have h1 := h.moveUnit (df' := df') hst rfl rfl rfl (d0 := .pqSpace k) (d1 := .pqContent k) (by simp)
          (by rw [need_pqs_set hx, if_neg (by simp), if_pos rfl, hnr]; unfold pqNeed; simp only; omega)
          (by rw [need_pqs_set hx, if_pos rfl, hnf]; unfold pqNeed; simp only; omega)
          (fun d e0 e1 => by rw [need_pqs_set hx, if_neg e1, if_neg e0]; exact Nat.le_refl _) hdf hdf1
        dsimp only
        exact (((h1.setVar p v hh).recordPQ k).signal_settle
          (by rw [gOf_of_stat (hst.step (Eff.recordPQ (Eff.setVar (p := 0) (s := .top) .refl p v hh trivial rfl (.inl trivial)) k))]; exact hgf)).gh
      · intro hf; exact (fail_fault_none hf).elim
    · rename_i hroom
      intro _
      have h0 : need w (.pqSpace k) = 0 := by rw [hnr]; unfold pqNeed; simp only; omega
      exact (h.clear (.pqSpace k) h0 hdf).wait (Stat.refl w) hes hsep hfr hlt rfl hgr h0

/-- `priorityqueue_cancel`: a removed object frees a slot, the rear guard is signalled -/
theorem gs_cmd_pqCancel (h : GS fr df w) (k v : Nat) : GH df (execCmd w p (.pqCancel k v)).1 := by
  simp only [Sim.execCmd]
  split
  · exact h.gh
  · rename_i x hx
    obtain ⟨hgf, hgr⟩ := gOf_pqs_of hx
    obtain ⟨hnf, hnr⟩ := need_pqs_of hx
    split
    · exact h.gh
    · split
      · rename_i q' r hrm
        obtain ⟨hc, _⟩ := remove_count hrm
        cases r with
        | false =>
          simp only [Bool.false_eq_true, if_false, Nat.add_zero] at hc ⊢
          exact (h.setPqsSet k _ (fun x' hx' => by rw [hx] at hx'; cases hx'; simp only [pqStat, pqNeed, hc])).gh
        | true =>
          simp only [if_true] at hc ⊢
          have hst : Stat w { w with pqs := w.pqs.set! k { x with queue := q', cancelLog := x.cancelLog ++ [getVar w p v] } } :=
            Stat.eff (Eff.setPQ .refl hx _ rfl (.cancel ‹_› hrm rfl))
          have h1 := h.moveUnit (df' := df) hst rfl rfl rfl (d0 := .pqContent k) (d1 := .pqSpace k) (by simp)
            (by rw [need_pqs_set hx, if_pos rfl, hnf]; unfold pqNeed; simp only; omega)
            (by rw [need_pqs_set hx, if_neg (by simp), if_pos rfl, hnr]; unfold pqNeed; simp only; omega)
            (fun d e0 e1 => by rw [need_pqs_set hx, if_neg e0, if_neg e1]; exact Nat.le_refl _)
            (fun _ _ => Nat.le_refl _) (Nat.le_succ _)
          exact ((h1.recordPQ k).signal_settle (by rw [gOf_of_stat (hst.step (Eff.recordPQ .refl k))]; exact hgr)).gh
      · exact (h.fail _).gh

/-- `priorityqueue_reprioritize`: the number of objects does not change -/
theorem gs_cmd_pqReprio (h : GS fr df w) (k v : Nat) (pri : Int) : GH df (execCmd w p (.pqReprio k v pri)).1 := by
  simp only [Sim.execCmd]
  split
  · exact h.gh
  · rename_i x hx
    split
    · exact h.gh
    · split
      · rename_i q' hrp
        have hc := reprioritize_count hrp
        exact (h.setPqsSet k _ (fun x' hx' => by rw [hx] at hx'; cases hx'; simp only [pqStat, pqNeed, hc])).gh
      · exact (h.fail _).gh

theorem gs_cmd_pqGet (h : GS fr df w) (hes : EndSep w) (hsep : CondSep w) (hfr : fr p = none) (hlt : p < w.procs.size)
    (k : Nat) : (execCmd w p (.pqGet k)).1.fault = none → GH df (execCmd w p (.pqGet k)).1 := by
  simp only [Sim.execCmd]
  split
  · exact fun _ => h.gh
  · exact gs_pqGetLoop h hes hsep hfr hlt k (fun _ _ => Nat.le_refl _) (Nat.le_succ _)

theorem gs_cmd_pqPut (h : GS fr df w) (hes : EndSep w) (hsep : CondSep w) (hfr : fr p = none) (hlt : p < w.procs.size)
    (k obj : Nat) (pri : Int) (v : Nat) : (execCmd w p (.pqPut k obj pri v)).1.fault = none → GH df (execCmd w p (.pqPut k obj pri v)).1 := by
  simp only [Sim.execCmd]
  split
  · exact fun _ => h.gh
  · exact gs_pqPutLoop h hes hsep hfr hlt k obj pri v (fun _ _ => Nat.le_refl _) (Nat.le_succ _)

end CimbaModel.Sim.S3
