/-
  S2 — histories only grow (C14): each of the five kinds; all five together; the statement for one dispatched event.
-/
import CimbaModel.Sim.S2HistAll

namespace CimbaModel.Sim
open CimbaModel CimbaModel.Event CimbaModel.Generated CimbaModel.KPQ
open CimbaModel.HashHeap (HTag Item Order HH)

/-- relative to the state `w0` right after the clock tick of the current event -/
def GBuf (w0 w : World) : Prop := w.now = w0.now ∧ GrowArr bufOps w0.now w0.bufs w.bufs
def GOQ (w0 w : World) : Prop := w.now = w0.now ∧ GrowArr oqOps w0.now w0.oqs w.oqs
def GPQ (w0 w : World) : Prop := w.now = w0.now ∧ GrowArr pqOps w0.now w0.pqs w.pqs
def GRes (w0 w : World) : Prop := w.now = w0.now ∧ GrowArr resOps w0.now w0.res w.res

theorem GBuf.core (w0 : World) : PreservedCore (GBuf w0) := recBuf.core w0

theorem GOQ.core (w0 : World) : PreservedCore (GOQ w0) := recOQ.core w0

theorem GPQ.core (w0 : World) : PreservedCore (GPQ w0) := recPQ.core w0

def GPool (wb w : World) : Prop := w.now = wb.now ∧ GrowArr poolOps wb.now wb.pools w.pools

theorem GPool.update {wb w : World} (pl : Nat) (p : Pid) (amt : Nat) (h : GPool wb w) : GPool wb (poolUpdateRecord w pl p amt) :=
  (poolUpdateRecord_ft w pl p amt).toRecPool.grow h

theorem GPool.finishProc {wb : World} {w : World} (p : Pid) (v : Int) (st : Bool) (h : GPool wb w) : GPool wb (finishProc w p v st) :=
  (recPool.finish w p v st).grow h

theorem GPool.core (wb : World) : PreservedCore (GPool wb) := recPool.core wb

theorem GRes.record {wb w : World} (r : Nat) (h : GRes wb w) : GRes wb (recordRes w r) :=
  (Ft.recRes w r).toRecRes.grow h

theorem GRes.release {wb w : World} (p : Pid) (r : Nat) (h : GRes wb w) : GRes wb (execCmd w p (.release r)).1 :=
  (recRes.exec w p (.release r)).grow h

theorem GRes.preempt {wb w : World} (p : Pid) (r : Nat) (h : GRes wb w) : GRes wb (execCmd w p (.preempt r)).1 :=
  (recRes.exec w p (.preempt r)).grow h

theorem GRes.finishProc {wb w : World} (p : Pid) (v : Int) (st : Bool) (h : GRes wb w) : GRes wb (finishProc w p v st) :=
  (recRes.finish w p v st).grow h

theorem GRes.core (wb : World) : PreservedCore (GRes wb) := recRes.core wb

theorem PreservedCore.and {I J : World → Prop} (hI : PreservedCore I) (hJ : PreservedCore J) :
    PreservedCore (fun w => I w ∧ J w) where
  same hs h := ⟨hI.same hs h.1, hJ.same hs h.2⟩
  exec w p c hv h := ⟨hI.exec w p c hv h.1, hJ.exec w p c hv h.2⟩
  resume w p f sig hv hfr h := by
    obtain ⟨w0, h0, hb, e⟩ := hfr
    exact ⟨hI.resume w p f sig hv ⟨w0, h0.1, hb, e⟩ h.1, hJ.resume w p f sig hv ⟨w0, h0.2, hb, e⟩ h.2⟩
  finish w p v st h := ⟨hI.finish w p v st h.1, hJ.finish w p v st h.2⟩
  clear w p f hf hb hp h := ⟨hI.clear w p f hf hb hp h.1, hJ.clear w p f hf hb hp h.2⟩

/-- the histories of all recordable objects of `w` extend those of `wb` by samples taken at `wb.now`, and the clock has
    not moved -/
def GrowAll (wb w : World) : Prop :=
  GRes wb w ∧ GPool wb w ∧ GBuf wb w ∧ GOQ wb w ∧ GPQ wb w

theorem GrowAll.core (wb : World) : PreservedCore (GrowAll wb) :=
  (GRes.core wb).and ((GPool.core wb).and ((GBuf.core wb).and ((GOQ.core wb).and (GPQ.core wb))))

theorem GrowAll.refl (w : World) : GrowAll w w :=
  ⟨⟨rfl, GrowArr.refl _ _ _⟩, ⟨rfl, GrowArr.refl _ _ _⟩, ⟨rfl, GrowArr.refl _ _ _⟩, ⟨rfl, GrowArr.refl _ _ _⟩,
    ⟨rfl, GrowArr.refl _ _ _⟩⟩

/-- **one dispatched event only appends to the histories, and every sample it appends carries the time of that event**:
    the state it is compared with is the one right after the clock has been advanced to the event's time -/
theorem dispatch_grows {w w' : World} {t : HTag} {ev' : EvQ} (hex : executeNext w.ev = some (t, ev'))
    (hd : dispatch w = some w') :
    GrowAll { w with ev := ev', dispatched := w.dispatched + 1 } w' :=
  (GrowAll.core _).afterTick hex (GrowAll.refl _) hd

end CimbaModel.Sim
