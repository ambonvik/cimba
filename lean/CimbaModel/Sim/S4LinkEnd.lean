/-
  S4 — the converse `LC` through the end of a process (everything it holds is dropped: first its list is emptied, then
  it is taken off the holder lists one by one) and through the re-sorting of `priority_set` (which keeps the keys).
  With that `PL` is an invariant of the holder lists in the sense of S1Pool (`PoolCarried`).
-/
import CimbaModel.Sim.S4LinkPool

namespace CimbaModel.Sim.S4
open CimbaModel CimbaModel.Sim CimbaModel.Event CimbaModel.Generated CimbaModel.KPQ
open CimbaModel.HashHeap (HTag Item Order HH WF abs)

variable {w w' : World}

/-- what holds while `z`, whose list of holdings is already empty, is being taken off the holder lists -/
structure DX (z : Pid) (w : World) : Prop where
  wf : ∀ pl h, w.ph pl = some h → WF holder_queue_check h
  lc : LC w
  hz : (w.proc z).held = []

theorem DX.frame {z : Pid} (h : DX z w) (hp : w'.pools = w.pools) (hprocs : w'.procs = w.procs) : DX z w' :=
  ⟨fun pl x hx => h.wf pl x (by rw [← ph_congr hp]; exact hx),
   h.lc.of_same (ph_congr hp) (fun p pl hm => by rw [← proc_congr hprocs]; exact hm),
   by rw [proc_congr hprocs]; exact h.hz⟩

theorem ph_drop (w : World) (pl0 : Nat) (x : Pool) (hlt : pl0 < w.pools.size) (amt : Nat) (h1 : HH) (pl : Nat) :
    (signal (recordPool { w with pools := w.pools.set! pl0 { x with inUse := amt, holders := h1 } } pl0) x.guard).ph pl =
      if pl = pl0 then some h1 else w.ph pl := by
  rw [signal_ph, recordPool_ph]
  exact ph_set w pl0 _ pl hlt

theorem dx_dropStep {z : Pid} (h : DX z w) (a : HoldRef) : DX z (dropStep z w a) := by
  unfold dropStep
  split
  · split
    · exact h.frame (by simp) (by simp)
    · exact h
  · rename_i pl0
    unfold poolDropHolder
    split
    · exact h
    · rename_i x hx
      have hph0 := ph_eq w pl0 x hx
      have hwf := h.wf pl0 x.holders hph0
      have hlt := lt_size_of_getElem? hx
      split
      · exact h
      · rename_i i hne hfi
        dsimp only
        split
        · rename_i h1 r hrm
          obtain ⟨hwf1, hkeys', _⟩ := hh_remove_ok hwf (Nat.succ_ne_zero z) hrm
          have hph := ph_drop w pl0 x hlt (x.inUse - (x.holders.heap.getD i {}).item.b) h1
          refine ⟨?_, ?_, ?_⟩
          · intro pl hh hhh
            rw [hph] at hhh
            split at hhh
            · injection hhh with hhh; subst hhh; exact hwf1
            · exact h.wf pl hh hhh
          · refine h.lc.set_holders pl0 h1 hph (fun q pl' _ hm => by simpa using hm) ?_
            intro q hm
            have hm' : HoldRef.pool pl0 ∈ (w.proc q).held := by simpa using hm
            rw [hkeys']
            refine ⟨h.lc.ph hm' hph0, ?_⟩
            intro e
            have : q = z := Nat.succ.inj e
            subst this
            rw [h.hz] at hm'
            cases hm'
          · simpa using h.hz
        · exact h.frame (by simp) (by simp)
      · exact h.frame (by simp) (by simp)

theorem lc_dropResources (h : PL w) (z : Pid) : LC (dropResources w z) := by
  rw [dropResources_eq]
  have h0 : DX z (w.modProc z fun x => { x with held := [] }) := by
    refine ⟨fun pl x hx => h.pinv.wf pl x hx, ?_, ?_⟩
    · refine h.lc.of_same (fun pl => rfl) ?_
      intro q pl hm
      rw [proc_modProc] at hm
      split at hm
      · cases hm
      · exact hm
    · rw [proc_modProc]
      split
      · rfl
      · rename_i hne
        by_cases hz : z < w.procs.size
        · exact absurd ⟨rfl, hz⟩ hne
        · rw [proc_oob w z hz]
  exact (foldl_inv (DX z) (dropStep z) (fun w a hw => dx_dropStep hw a) _ _ h0).lc

theorem PL.dropResources (h : PL w) (z : Pid) : PL (dropResources w z) :=
  ⟨pinv_dropResources h.pinv z, by simpa using h.psz, lc_dropResources h z⟩

theorem pl_poolDropHolder_of_not_listed (h : PL w) (pl : Nat) (z : Pid) (hz : (w.proc z).held = []) :
    LC (poolDropHolder w pl z) :=
  (dx_dropStep (z := z) ⟨fun pl x hx => h.pinv.wf pl x hx, h.lc, hz⟩ (.pool pl)).lc

theorem lc_reprio (h : PL w) (pl : Nat) (x : Pool) (hx : w.pools[pl]? = some x) (q : Pid) (v : Int) (h' : HH)
    (hr : HashHeap.reprioritize holder_queue_check x.holders (q + 1) 0 v = .ok h') :
    LC { w with pools := w.pools.set! pl { x with holders := h' } } := by
  have hph0 := ph_eq w pl x hx
  obtain ⟨_, hkeys'⟩ := hh_reprio_ok (h.pinv.wf pl x.holders hph0) hr
  refine h.lc.set_holders pl h' (fun pl' => ph_set w pl _ pl' (lt_size_of_getElem? hx)) (fun _ _ _ hm => hm) ?_
  intro q' hq'
  rw [hkeys']
  exact h.lc.ph (w := w) hq' hph0

theorem PL.carried : PoolCarried PL where
  same := PL.same
  credit := PL.poolUpdateRecord
  victim := fun h pl x hx hc h' t hdq =>
    ⟨pinv_mug_step h.pinv pl x hx hc h' t hdq, by simpa [mugVictim] using h.psz, lc_mug_step h pl x hx hc h' t hdq⟩
  setHeld := fun h pl p n => ⟨pinv_setHeldAmount h.pinv pl p n, by simpa using h.psz, lc_setHeldAmount h pl p n⟩
  unhold := fun h pl hh hph0 p h' r found hrm hf =>
    ⟨PInv.carried.unhold h.pinv pl hh hph0 p h' r found hrm hf, by simpa using h.psz,
      lc_remove_holder h pl hh hph0 p h' r hrm (unholdWorld_ph hph0 h' p found) (unholdWorld_mem_rev _ pl h' p found)
        fun hr => by rw [hf hr]; exact unholdWorld_not_mem _ pl h' p⟩
  reprio := fun h pl x hx q v h' hr => ⟨pinv_reprio h.pinv pl x hx q v h' hr, h.psz, lc_reprio h pl x hx q v h' hr⟩
  drop := PL.dropResources

theorem PL.finishProc (h : PL w) (z : Pid) (val : Int) (stopped : Bool) : PL (finishProc w z val stopped) :=
  PL.carried.finishProc h z val stopped

end CimbaModel.Sim.S4
