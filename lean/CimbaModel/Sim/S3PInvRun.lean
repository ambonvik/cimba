/-
  S3 — `PInv`: its `Cmds` and `Call` instances, all commands, the resumption of every call but `wait_process` /
  `wait_event`.
-/
import CimbaModel.Sim.S3PInvFinish
import CimbaModel.Sim.S3Call

namespace CimbaModel.Sim.S3
open CimbaModel CimbaModel.Sim CimbaModel.Event CimbaModel.Generated CimbaModel.KPQ
open CimbaModel.HashHeap (HTag Item Order HH WF abs liveTags)

variable {fr : Pid → Option Frame} {w : World} {p : Pid}

theorem PInv.cmds : Cmds fun w w' => PInv noEx fr w → PInv noEx fr w' :=
  { PInv.foot with
    cancelAwaiteds := fun _ q h => (h.cancelAwaiteds q (noEx_not q)).1
    timersClear := fun _ q h => h.timersClear q
    timerCancel := fun _ q k h => h.timerCancel_fst q k
    prioAwait := fun w q v a => prioAwaitStep_rel (R := fun w w' => PInv noEx fr w → PInv noEx fr w') (Path.ofPred _) q v (fun _ m h => h.fail m)
      (fun _ _ _ hr h => h.reprioEv hr) (fun w g => PInv.guardFree.reprioGuard w q v g) w a
    condSignal := fun w _ g _ h => PInv.guardFree.condSignal w g h }

/-- a call of a process that is registered nowhere: it may suspend in any frame -/
theorem PInv.call (hp : PInv noEx fr w) (hfr : fr p = none) :
    Call (fun w w' => PInv noEx fr w → PInv noEx fr w') (fun r => ∃ fr', PInv noEx fr' r.1) w p where
  cmds := PInv.cmds
  stay := fun _ _ _ h => ⟨fr, h hp⟩
  enter := fun _ g d f h _ => ⟨_, ((h hp).guardWaitEnter g p d).block_fst p f hfr⟩
  blk := fun _ f h _ => ⟨_, (h hp).block_fst p f hfr⟩

theorem PInv.calls (hp : PInv noEx fr w) (hfr : fr p = none) (hr : (w.proc p).status = .running) :
    Calls (fun w w' => PInv noEx fr w → PInv noEx fr w') (fun r => ∃ fr', PInv noEx fr' r.1) (fun _ => True) w p where
  toCall := hp.call hfr
  hold d := ⟨_, (hp.timerAdd_fst p d sigSuccess).block_fst p _ hfr⟩
  arm q d sig _ _ h := h.timerAdd_fst q d sig
  rearm d sig _ h := (h.timersClear p).timerAdd_fst p d sig
  poke a _ _ _ ha _ _ h := h.sched_other a _ _ _ _ (by rcases ha with rfl | rfl <;> decide)
  finish q v _ _ h := h.finishProc q v true (noEx_not q)
  ended v s := ⟨fr, hp.finishProc p v s (noEx_not p)⟩
  waitProc _ hq _ := ⟨_, hp.cmd_waitProc hfr hr hq (noEx_not p)⟩
  waitEvent _ _ hs := ⟨_, hp.cmd_waitEvent hfr hr (noEx_not p) (by simpa [isScheduled] using hs)⟩

theorem PInv.execCmd_ex (hp : PInv noEx fr w) (hfr : fr p = none) (hr : (w.proc p).status = .running) (c : Cmd) :
    ∃ fr', PInv noEx fr' (execCmd w p c).1 := (hp.calls hfr hr).execCmd c (Cmd.okSig_true c)

def isWaitPE : Frame → Bool
  | .waitProc _ => true
  | .waitEvent _ => true
  | _ => false

theorem PInv.resumeFrame_ex (hp : PInv noEx fr w) (hfr : fr p = none) (f : Frame) (hf : isWaitPE f = false) (sig : Int) :
    ∃ fr', PInv noEx fr' (resumeFrame w p f sig).1 := by
  cases hg : isGuardFrame f with
  | true =>
    exact resumeFrame_wait (fun w' => ∃ fr', PInv noEx fr' w') hg p sig (fun _ => ⟨fr, hp⟩)
      (fun g _ _ => ((hp.guardWaitLeave g p sig).call hfr).retry f)
      (fun g _ _ => ⟨fr, PInv.foot.giveUp f _ p (hp.guardWaitLeave g p sig)⟩)
  | false =>
    cases f with
    | hold h =>
      simp only [Sim.resumeFrame]
      split
      · exact ⟨fr, (hp.timerCancel_fst p h).removeAwait_time p h⟩
      · exact ⟨fr, hp⟩
    | yield => exact ⟨fr, hp⟩
    | waitProc q => cases hf
    | waitEvent k => cases hf
    | _ => cases hg

end CimbaModel.Sim.S3
