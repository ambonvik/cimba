/-
  S2 — resource pools (C07): the invariant is kept by the mugging loop, the acquire loop, the rollback,
  release, the end of a process, priority changes.
-/
import CimbaModel.Sim.S2PoolOps
import CimbaModel.Sim.S2Cmd

namespace CimbaModel.Sim
open CimbaModel CimbaModel.Event CimbaModel.Generated CimbaModel.KPQ
open CimbaModel.HashHeap (HTag Item Order HH WF abs amounts amountOf)

theorem poolView_of_get {w : World} {pl : Nat} {x : Pool} (hx : w.pools[pl]? = some x) : poolView w pl = some x.view := by
  unfold poolView; rw [hx]; rfl

theorem key_pred_succ {n : Nat} {pr : Nat → Int} {h : HH} (ok : HoldersOK n pr h) {k : Nat} (hk : k ∈ keys (abs h)) : k - 1 + 1 = k ∧ k - 1 < n := by
  obtain ⟨pid, hp, rfl⟩ := ok.tags k hk
  exact ⟨by omega, by omega⟩

theorem PoolInv.same {w w' : World} (hs : Same w w') (hi : PoolInv w) : PoolInv w' :=
  PoolInv.of_viewSame (ViewSame.of_same hs) hi

/-- a process is never its own victim: its record carries its own priority -/
theorem mug_not_self {w : World} {p : Pid} {pl : Nat} {x : Pool} (hi : PoolInv w) (hx : w.pools[pl]? = some x)
    (hc : x.holders.count ≠ 0) (hlt : (x.holders.tag 1).i < (w.proc p).prio) :
    (x.holders.tag 1).key ≠ p + 1 ∧ (w.proc ((x.holders.tag 1).key - 1)).prio < (w.proc p).prio := by
  have vok := (hi.2 pl _ (poolView_of_get hx)).1
  have hmem : KPQ.norm (x.holders.tag 1) ∈ abs x.holders := (HashHeap.mem_abs _ _).2 ⟨1, ⟨Nat.le_refl _, by omega⟩, rfl⟩
  have hpr : (x.holders.tag 1).i = (w.proc ((x.holders.tag 1).key - 1)).prio := vok.prio (KPQ.norm (x.holders.tag 1)) hmem
  refine ⟨?_, by rw [← hpr]; exact hlt⟩
  intro hk
  rw [hk] at hpr
  simp at hpr
  omega

/-- one victim: dequeue it, take the pool off its held list, notify it -/
theorem PSt.mug {w0 w : World} {pl : Nat} {x : Pool} (hx : w.pools[pl]? = some x) (h : PSt w0 w pl x.view)
    (hpos : 0 < x.holders.count) :
    ∃ h1, HashHeap.dequeue holder_queue_check x.holders = .ok (h1, some (x.holders.tag 1)) ∧
      (∀ t prio, PSt w0 (sched (removeHeld { w with pools := w.pools.set! pl { x with holders := h1 } }
          ((x.holders.tag 1).key - 1) (.pool pl)).1 aIntr ((x.holders.tag 1).key - 1 + 1) sigPreempted t prio).1 pl
        ⟨x.cap, x.inUse, h1⟩) ∧
      amounts (abs h1) + (x.holders.tag 1).item.b = amounts (abs x.holders) ∧
      (∀ k, k ≠ (x.holders.tag 1).key → amountOf (abs h1) k = amountOf (abs x.holders) k) ∧
      (x.holders.tag 1).key - 1 < w0.procs.size ∧ 0 < (x.holders.tag 1).item.b := by
  have ok : HoldersOK w0.procs.size (prOf w0) x.holders := h.hok
  obtain ⟨h1, hdq, ok1, hsum1, hkeys1, hmem1, _, hoth1, _⟩ := dequeue_holders ok hpos
  obtain ⟨hk1, hk2⟩ := key_pred_succ ok hmem1
  have hloot : 0 < (x.holders.tag 1).item.b :=
    ok.pos (KPQ.norm (x.holders.tag 1)) ((HashHeap.mem_abs _ _).2 ⟨1, ⟨Nat.le_refl _, hpos⟩, rfl⟩)
  have st2 := h.dropKey (p := (x.holders.tag 1).key - 1) (setHolders_upd hx h1) (fun q => rfl) ok1 (by rw [hk1]; exact hkeys1)
  exact ⟨h1, hdq, fun _ _ => st2.same (sched_same _ _ _ _ _ _), hsum1, hoth1, hk2, hloot⟩

/-- … whose units, or `n` of them, are credited to the caller -/
theorem PSt.mugCredit {w : World} {p : Pid} {pl : Nat} {x : Pool} (hi : PoolInv w) (hp : p < w.procs.size)
    (hx : w.pools[pl]? = some x) (hc : x.holders.count ≠ 0) (hlt : (x.holders.tag 1).i < (w.proc p).prio) {n : Nat} (hn : 0 < n) :
    ∃ h1 h2, HashHeap.dequeue holder_queue_check x.holders = .ok (h1, some (x.holders.tag 1)) ∧
      PSt w (poolUpdateRecord (mugVictim w pl x h1 (x.holders.tag 1)) pl p n) pl ⟨x.cap, x.inUse, h2⟩ ∧
      amounts (abs h2) + (x.holders.tag 1).item.b = x.inUse + n ∧ amountOf (abs h2) (p + 1) = Sim.heldOf w pl p + n := by
  have hv := poolView_of_get hx
  have hsum : x.inUse = amounts (abs x.holders) := (hi.2 pl _ hv).1.sum
  obtain ⟨h1, hdq, st1, hsum1, hoth1, _, _⟩ := (PSt.init hi hv).mug hx (by omega)
  obtain ⟨h2, st2, hsum2, hamt2, _⟩ := (st1 _ _).update hi.1 hp n hn
  refine ⟨h1, h2, hdq, st2, ?_, ?_⟩
  · dsimp only at hsum2; omega
  · rw [hamt2, (PSt.init hi hv).heldOf]
    exact congrArg (· + n) (hoth1 (p + 1) (fun e => (mug_not_self hi hx hc hlt).1 e.symm))

def remaining (r : Option Nat) : Nat := match r with | none => 0 | some k => k

/-- **the mugging loop as a whole**: it keeps the invariant, and what the caller holds afterwards plus what is still to be
    claimed equals what it held before plus the claim — the loop hands the caller exactly `rem − remaining` -/
theorem poolMug_total : ∀ (fuel : Nat) (w : World) (p : Pid) (pl rem : Nat), PoolInv w → p < w.procs.size → 0 < rem →
    PoolInv (poolMug fuel w p pl rem).1 ∧ (poolMug fuel w p pl rem).1.procs.size = w.procs.size ∧
    heldOf (poolMug fuel w p pl rem).1 pl p + remaining (poolMug fuel w p pl rem).2 = heldOf w pl p + rem := by
  intro fuel
  induction fuel with
  | zero => intro w p pl rem hi _ _; exact ⟨hi, rfl, rfl⟩
  | succ n ih =>
    intro w p pl rem hi hp hrem
    rw [poolMug_succ]
    split
    · exact ⟨hi, rfl, rfl⟩
    · rename_i x hx
      split
      · exact ⟨hi, rfl, rfl⟩
      · rename_i hc
        have vok := (hi.2 pl _ (poolView_of_get hx)).1
        split
        · rename_i top hpeek
          obtain rfl : x.holders.tag 1 = top := by
            rw [HashHeap.peek_spec (s := x.holders) vok.wf (by omega)] at hpeek
            injection hpeek with e; injection e
          have hloot : 0 < (x.holders.tag 1).item.b :=
            vok.pos (KPQ.norm (x.holders.tag 1)) ((HashHeap.mem_abs x.holders _).2 ⟨1, ⟨Nat.le_refl _, by omega⟩, rfl⟩)
          split
          · rename_i hlt
            split
            · rename_i h' t hdq
              split
              · -- all of the victim's units go to the caller; more is needed
                rename_i hlt2
                obtain ⟨h1, h2, hdq1, st, hsum2, hamt2⟩ := PSt.mugCredit hi hp hx hc hlt hloot
                rw [hdq] at hdq1
                injection hdq1 with e; injection e with e1 e2; injection e2 with e2
                subst e1; subst e2
                obtain ⟨a1, a2, a3⟩ := ih _ p pl (rem - (x.holders.tag 1).item.b)
                  (st.close hi (by dsimp only; omega) vok.inCap) (by rw [st.size]; exact hp) (by omega)
                refine ⟨a1, a2.trans st.size, ?_⟩
                rw [a3, st.heldOf, hamt2]
                omega
              · -- the rest of the claim is covered; the surplus goes back to the pool
                obtain ⟨h1, h2, hdq1, st, hsum2, hamt2⟩ := PSt.mugCredit hi hp hx hc hlt hrem
                rw [hdq] at hdq1
                injection hdq1 with e; injection e with e1 e2; injection e2 with e2
                subst e1; subst e2
                have hget : ((poolUpdateRecord (mugVictim w pl x h' (x.holders.tag 1)) pl p rem).pools.getD pl x).inUse = x.inUse := by
                  obtain ⟨y, hy, hyv⟩ := poolView_some.1 st.upd.view
                  rw [Array.getD_eq_getD_getElem?, hy]
                  exact congrArg PView.inUse hyv
                unfold mugSettle
                dsimp only
                rw [hget]
                have st5 := ((st.setInUse (x.inUse - ((x.holders.tag 1).item.b - rem))).record pl).same (signal_same _ x.guard)
                have hcap := vok.inCap
                refine ⟨st5.close hi ?_ ?_, st5.size, ?_⟩
                · dsimp only; omega
                · dsimp only [Pool.view] at hcap ⊢; omega
                · rw [st5.heldOf]
                  show amountOf (abs h2) (p + 1) + 0 = _
                  rw [hamt2]; omega
            · exact ⟨hi, rfl, rfl⟩
            · exact ⟨hi.same (fail_same w _), (fail_same w _).size_eq,
                congrArg (· + rem) (heldOf_viewSame (ViewSame.of_same (fail_same w _)) pl p)⟩
          · exact ⟨hi, rfl, rfl⟩
        · exact ⟨hi, rfl, rfl⟩

theorem PoolInv.poolMug (fuel : Nat) (w : World) (p : Pid) (pl rem : Nat) (hi : PoolInv w) (hp : p < w.procs.size)
    (hrem : 0 < rem) : PoolInv (poolMug fuel w p pl rem).1 :=
  (poolMug_total fuel w p pl rem hi hp hrem).1

theorem poolTake_spec {w : World} {p : Pid} {pl : Nat} {x : Pool} (hi : PoolInv w) (hp : p < w.procs.size)
    (hx : w.pools[pl]? = some x) (rem : Nat) :
    PoolInv (poolTake w p pl x rem).1 ∧ (poolTake w p pl x rem).1.procs.size = w.procs.size ∧
    (poolTake w p pl x rem).2 = rem - (x.cap - x.inUse) ∧
    heldOf (poolTake w p pl x rem).1 pl p = heldOf w pl p + (x.cap - x.inUse) ∧
    inUseOf (poolTake w p pl x rem).1 pl = inUseOf w pl + (x.cap - x.inUse) := by
  have hv := poolView_of_get hx
  have vok := (hi.2 pl _ hv).1
  have hsum : x.inUse = amounts (abs x.holders) := vok.sum
  have hcap : x.inUse ≤ x.cap := vok.inCap
  unfold poolTake
  split
  · rename_i hpos
    obtain ⟨h2, st3, hsum2, hamt2, _⟩ :=
      (((PSt.init hi hv).setInUse (x.inUse + (x.cap - x.inUse))).record pl).update hi.1 hp (x.cap - x.inUse) hpos
    dsimp only [Pool.view] at hsum2 hamt2
    refine ⟨st3.close hi ?_ ?_, st3.size, rfl, ?_, ?_⟩
    · show x.inUse + (x.cap - x.inUse) = amounts (abs h2); omega
    · show x.inUse + (x.cap - x.inUse) ≤ x.cap; omega
    · rw [st3.heldOf, (PSt.init hi hv).heldOf]; exact hamt2
    · rw [st3.inUseOf, (PSt.init hi hv).inUseOf]; rfl
  · rename_i hz
    have hz : x.cap - x.inUse = 0 := by omega
    rw [hz]
    exact ⟨hi, rfl, rfl, rfl, rfl⟩

theorem poolTakeMug_spec {w : World} {p : Pid} {pl : Nat} {x : Pool} (hi : PoolInv w) (hp : p < w.procs.size)
    (hx : w.pools[pl]? = some x) {rem : Nat} (hav : ¬ x.cap - x.inUse ≥ rem) (pre : Bool) :
    PoolInv (poolTakeMug w p pl x rem pre).1 ∧ (poolTakeMug w p pl x rem pre).1.procs.size = w.procs.size ∧
    heldOf (poolTakeMug w p pl x rem pre).1 pl p + remaining (poolTakeMug w p pl x rem pre).2 = heldOf w pl p + rem := by
  obtain ⟨hi1, hs1, hr1, hh1, _⟩ := poolTake_spec hi hp hx rem
  unfold poolTakeMug
  split
  · obtain ⟨a1, a2, a3⟩ := poolMug_total (x.holders.count + 1) _ p pl (poolTake w p pl x rem).2 hi1 (by rw [hs1]; exact hp)
      (by rw [hr1]; omega)
    exact ⟨a1, a2.trans hs1, by rw [a3, hh1, hr1]; omega⟩
  · exact ⟨hi1, hs1, by rw [hh1]; show _ + (poolTake w p pl x rem).2 = _; rw [hr1]; omega⟩

theorem PoolInv.poolLoop (w : World) (p : Pid) (pl rem ini : Nat) (pre : Bool) (hi : PoolInv w) (hp : p < w.procs.size)
    (hrem : 0 < rem) : PoolInv (poolLoop w p pl rem ini pre).1 := by
  rw [poolLoop_eq]
  split
  · exact hi.same (fail_same _ _)
  · rename_i x hx
    have hv := poolView_of_get hx
    have vok := (hi.2 pl _ hv).1
    have hsum := vok.sum
    have hcap := vok.inCap
    simp only [Pool.view] at hsum hcap
    split
    · obtain ⟨h2, st3, hsum2, _, _⟩ := (((PSt.init hi hv).setInUse (x.inUse + rem)).record pl).update hi.1 hp rem hrem
      dsimp only [Pool.view] at hsum2 ⊢
      refine (st3.same (signal_same _ x.guard)).close hi ?_ ?_
      · show x.inUse + rem = amounts (abs h2); omega
      · show x.inUse + rem ≤ x.cap; omega
    · rename_i hav
      have hi2 := (poolTakeMug_spec hi hp hx hav pre).1
      split
      · exact hi2
      · exact PoolInv.of_fp (block_fp _ _ _) rfl rfl (hi2.same (guardWaitEnter_same _ _ _ _))

theorem amountOf_le_amounts {q : KPQ} (hnd : (keys q).Nodup) (k : Nat) : amountOf q k ≤ amounts q := by
  have := HashHeap.amounts_remove hnd k; omega

theorem mem_keys_of_amountOf_pos {q : KPQ} {k : Nat} (h : 0 < amountOf q k) : k ∈ keys q := by
  apply Classical.byContradiction
  intro hn
  rw [HashHeap.amountOf_of_not_mem hn] at h
  exact absurd h (by decide)

/-- **the rollback after an interrupted acquire / preempt**, on the view of the pool: the caller's record is cut back
    to `ini` (or left alone, if a preempting process has taken its units in this same instant), or removed if `ini = 0`;
    the amount in use goes down by what the caller gave back -/
theorem poolRollback_pst {w : World} {p : Pid} {pl : Nat} {x : Pool} (hi : PoolInv w) (hx : w.pools[pl]? = some x)
    (ini : Nat) :
    ∃ u h', PSt w (poolRollback w p pl ini) pl ⟨x.cap, u, h'⟩ ∧ u = amounts (abs h') ∧ u ≤ x.cap ∧
      amountOf (abs h') (p + 1) = (if ini > 0 then min (heldOf w pl p) ini else 0) ∧
      u + heldOf w pl p = x.inUse + amountOf (abs h') (p + 1) := by
  have hv := poolView_of_get hx
  have vok := (hi.2 pl _ hv).1
  have hok : HoldersOK w.procs.size (prOf w) x.holders := vok.toHoldersOK
  have hnow : heldAmount w pl p = amountOf (abs x.holders) (p + 1) := heldAmount_eq hv vok.wf p
  have hh0 : heldOf w pl p = amountOf (abs x.holders) (p + 1) := (PSt.init hi hv).heldOf p
  have hsum : x.inUse = amounts (abs x.holders) := vok.sum
  have hcap : x.inUse ≤ x.cap := vok.inCap
  have hle := amountOf_le_amounts hok.wf.keys_nodup (p + 1)
  unfold poolRollback
  simp only [hx]
  split
  · rename_i hini
    split
    · rename_i hgt
      have hk : p + 1 ∈ keys (abs x.view.holders) := mem_keys_of_amountOf_pos (q := abs x.holders) (by omega)
      obtain ⟨h', st1, hsum1, hamt, _⟩ := (PSt.init hi hv).setHeld hk ini hini
      dsimp only [Pool.view] at hsum1 ⊢
      have st3 := ((st1.setInUse (x.inUse - (heldAmount w pl p - ini))).record pl).same (signal_same _ x.guard)
      refine ⟨x.inUse - (heldAmount w pl p - ini), h', st3, ?_, ?_, ?_, ?_⟩
      · omega
      · omega
      · rw [hamt]; omega
      · omega
    · exact ⟨_, _, PSt.init hi hv, hsum, hcap, by omega, by omega⟩
  · rename_i hini
    have st2 := ((PSt.init hi hv).setInUse (x.inUse - heldAmount w pl p)).record pl
    -- a record update of a composite term repeats the term in every field: name it before going on
    generalize recordPool (setPoolInUse w pl (x.inUse - heldAmount w pl p)) pl = w2 at st2 ⊢
    split
    · rename_i h' found hr
      obtain ⟨ok', hsum', hkeys', hfound, hz, _⟩ := remove_holders hok p hr
      have hu := modifyHolders_upd st2.upd.view h'
      have st4 := ite_of (P := fun w' => PSt w w' pl ⟨x.cap, x.inUse - heldAmount w pl p, h'⟩) (c := found = true)
        (fun _ => st2.dropKey hu (fun _ => rfl) ok' hkeys')
        (fun hnf => st2.dropAbsent hu (fun _ => rfl) ok' hkeys' (fun hm => by
          rw [hfound, decide_eq_true (show p + 1 ∈ keys (abs x.holders) from hm)] at hnf
          exact hnf rfl))
      exact ⟨_, h', st4.same (signal_same _ x.guard), by omega, by omega, hz, by omega⟩
    · rename_i f hr
      obtain ⟨s', hrun, _⟩ := HashHeap.remove_abs hok.wf (p + 1) (by simp)
      rw [hrun] at hr; cases hr

theorem PoolInv.poolRollback (w : World) (p : Pid) (pl ini : Nat) (hi : PoolInv w) : PoolInv (poolRollback w p pl ini) := by
  cases hx : w.pools[pl]? with
  | none => unfold Sim.poolRollback; rw [hx]; exact hi
  | some x =>
    obtain ⟨u, h', st, hs, hc, _, _⟩ := poolRollback_pst (p := p) hi hx ini
    exact st.close hi hs hc

/-- **release** of `n` units (1 ≤ n ≤ what the caller holds), on the view of the pool: the caller's record and the
    amount in use go down by `n` -/
theorem poolRelease_pst {w : World} {p : Pid} {pl : Nat} {x : Pool} (hi : PoolInv w) (hx : w.pools[pl]? = some x)
    {n : Nat} (hn0 : n ≠ 0) (hnle : n ≤ heldAmount w pl p) :
    ∃ h', execCmd w p (.poolRelease pl n) =
        (signal (recordPool (setPoolInUse (poolGive w p pl x n) pl (x.inUse - n)) pl) x.guard, .ret 0 "") ∧
      PSt w (signal (recordPool (setPoolInUse (poolGive w p pl x n) pl (x.inUse - n)) pl) x.guard) pl ⟨x.cap, x.inUse - n, h'⟩ ∧
      amounts (abs h') + n = x.inUse ∧ amountOf (abs h') (p + 1) + n = heldOf w pl p := by
  have hv := poolView_of_get hx
  have vok := (hi.2 pl _ hv).1
  have hok : HoldersOK w.procs.size (prOf w) x.holders := vok.toHoldersOK
  have hnow : heldAmount w pl p = amountOf (abs x.holders) (p + 1) := heldAmount_eq hv vok.wf p
  have hh0 : heldOf w pl p = amountOf (abs x.holders) (p + 1) := (PSt.init hi hv).heldOf p
  have hsum : x.inUse = amounts (abs x.holders) := vok.sum
  have hk : p + 1 ∈ keys (abs x.view.holders) := mem_keys_of_amountOf_pos (q := abs x.holders) (by omega)
  -- the caller's record shrinks by n, or disappears
  have h1 : ∃ h', PSt w (poolGive w p pl x n) pl ⟨x.cap, x.inUse, h'⟩ ∧ amounts (abs h') + n = amounts (abs x.holders) ∧
      amountOf (abs h') (p + 1) + n = amountOf (abs x.holders) (p + 1) := by
    unfold poolGive
    split
    · split
      · rename_i h' found hr
        obtain ⟨ok', hsum', hkeys', _, hz, _⟩ := remove_holders hok p hr
        exact ⟨h', (PSt.init hi hv).dropKey (setHolders_upd hx h') (fun _ => rfl) ok' hkeys', by omega, by omega⟩
      · rename_i f hr
        obtain ⟨s', hrun, _⟩ := HashHeap.remove_abs hok.wf (p + 1) (by simp)
        rw [hrun] at hr; cases hr
    · obtain ⟨h', st1, hsum1, hamt, _⟩ := (PSt.init hi hv).setHeld hk (heldAmount w pl p - n) (by omega)
      dsimp only [Pool.view] at hsum1
      exact ⟨h', st1, by omega, by omega⟩
  obtain ⟨h', st1, hs1, ha1⟩ := h1
  refine ⟨h', ?_, ((st1.setInUse (x.inUse - n)).record pl).same (signal_same _ x.guard), by omega, by omega⟩
  rw [execCmd_poolRelease hx, if_neg]
  rintro (h | h)
  · exact hn0 h
  · omega

theorem PoolInv.poolRelease (w : World) (p : Pid) (pl n : Nat) (hi : PoolInv w) :
    PoolInv (execCmd w p (.poolRelease pl n)).1 := by
  cases hx : w.pools[pl]? with
  | none => simp only [execCmd, hx]; exact hi
  | some x =>
    by_cases hn : n = 0 ∨ n > heldAmount w pl p
    · rw [execCmd_poolRelease hx, if_pos hn]; exact hi
    · obtain ⟨h', he, st, hs, _⟩ := poolRelease_pst (p := p) hi hx (fun e => hn (Or.inl e)) (Nat.le_of_not_lt fun e => hn (Or.inr e))
      rw [he]
      dsimp only
      have hcap : x.inUse ≤ x.cap := (hi.2 pl _ (poolView_of_get hx)).1.inCap
      exact st.close hi (by dsimp only; omega) (by dsimp only; omega)

/-- while `cmi_process_drop_resources` walks the list of held objects of `p` (already detached from `p`): everything is
    consistent except that `p` may still have records in the pools that are still to come -/
structure DropInv (w : World) (p : Pid) (rest : List HoldRef) : Prop where
  size : w.procs.size < 2 ^ 31
  ok : ∀ pl v, poolView w pl = some v → ViewOK w.procs.size (prOf w) v
  linkOther : ∀ pl v, poolView w pl = some v → ∀ q, q ≠ p →
    (HoldRef.pool pl ∈ (w.proc q).held ↔ q + 1 ∈ keys (abs v.holders))
  pending : ∀ pl v, poolView w pl = some v → p + 1 ∈ keys (abs v.holders) → HoldRef.pool pl ∈ rest
  detached : ∀ pl, HoldRef.pool pl ∉ (w.proc p).held

theorem DropInv.viewSame {w w' : World} {p : Pid} {rest : List HoldRef} (h : DropInv w p rest) (hs : ViewSame w w') :
    DropInv w' p rest where
  size := by rw [hs.size]; exact h.size
  ok pl v hv := by rw [hs.size, hs.prio]; exact h.ok pl v (by rw [← hs.view]; exact hv)
  linkOther pl v hv q hq := (hs.held q pl).trans (h.linkOther pl v (by rw [← hs.view]; exact hv) q hq)
  pending pl v hv hk := h.pending pl v (by rw [← hs.view]; exact hv) hk
  detached pl := fun hm => h.detached pl ((hs.held p pl).1 hm)

theorem DropInv.close {w : World} {p : Pid} (h : DropInv w p []) : PoolInv w := by
  refine ⟨h.size, fun pl v hv => ⟨h.ok pl v hv, fun q => ?_⟩⟩
  by_cases hq : q = p
  · subst hq
    constructor
    · intro hm; exact absurd hm (h.detached pl)
    · intro hk; exact absurd (h.pending pl v hv hk) (by simp)
  · exact h.linkOther pl v hv q hq

theorem setBoth_view {w : World} {pl : Nat} {x : Pool} (hx : w.pools[pl]? = some x) (u : Nat) (h' : HH) (pl' : Nat) :
    poolView { w with pools := w.pools.set! pl { x with inUse := u, holders := h' } } pl' =
      if pl' = pl then some ⟨x.cap, u, h'⟩ else poolView w pl' := by
  unfold poolView
  show ((w.pools.set! pl _)[pl']?).map Pool.view = _
  rw [poolView_set hx]
  rfl

theorem DropInv.dropHolder {w : World} {p : Pid} {rest : List HoldRef} (pl : Nat) (h : DropInv w p (.pool pl :: rest)) :
    DropInv (poolDropHolder w pl p) p rest := by
  have hweak : DropInv w p (.pool pl :: rest) → (∀ v, poolView w pl = some v → p + 1 ∉ keys (abs v.holders)) →
      DropInv w p rest := by
    intro h hno
    refine ⟨h.size, h.ok, h.linkOther, ?_, h.detached⟩
    intro pl' v hv hk
    rcases List.mem_cons.1 (h.pending pl' v hv hk) with e | e
    · injection e with e; subst e; exact absurd hk (hno v hv)
    · exact e
  unfold Sim.poolDropHolder
  split
  · rename_i hnone
    refine hweak h ?_
    intro v hv; unfold poolView at hv; rw [hnone] at hv; cases hv
  · rename_i x hx
    have hv := poolView_of_get hx
    have vok := h.ok pl _ hv
    have hok : HoldersOK w.procs.size (prOf w) x.holders := vok.toHoldersOK
    have hsum : x.inUse = amounts (abs x.holders) := vok.sum
    have hcap : x.inUse ≤ x.cap := vok.inCap
    by_cases hk : p + 1 ∈ keys (abs x.holders)
    · obtain ⟨i, hi, hki⟩ := (HashHeap.mem_keys_abs x.holders (p + 1)).1 hk
      have hfi := HashHeap.findIndex_of_mem hok.wf hi
      rw [hki] at hfi
      have hi0 : i ≠ 0 := by have := hi.1; omega
      rw [hfi]
      have hamt : (x.holders.heap.getD i {}).item.b = amountOf (abs x.holders) (p + 1) := by
        have hmem : KPQ.norm (x.holders.tag i) ∈ abs x.holders := (HashHeap.mem_abs _ _).2 ⟨i, hi, rfl⟩
        have := HashHeap.amountOf_of_mem hok.wf.keys_nodup hmem
        simp only [KPQ.norm] at this
        rw [hki] at this
        exact this.symm
      split
      · rename_i heq; injection heq with heq; exact absurd heq hi0
      · rename_i i' _ heq
        injection heq with heq
        subst heq
        dsimp only
        split
        · rename_i h' found hr
          obtain ⟨ok', hsum', hkeys', _, _, _⟩ := remove_holders hok p hr
          refine DropInv.viewSame ?_ (ViewSame.trans (recordPool_viewSame _ pl) (ViewSame.of_same (signal_same _ x.guard)))
          have hvw := setBoth_view hx (x.inUse - (x.holders.heap.getD i {}).item.b) h'
          refine ⟨h.size, ?_, ?_, ?_, h.detached⟩
          · intro pl' v hv'
            rw [hvw] at hv'
            split at hv'
            · cases hv'
              refine ⟨ok', ?_, ?_⟩
              · show x.inUse - _ = amounts (abs h'); rw [hamt]; omega
              · show x.inUse - _ ≤ x.cap; omega
            · exact h.ok pl' v hv'
          · intro pl' v hv' q hq
            rw [hvw] at hv'
            split at hv'
            · rename_i e; subst e; cases hv'
              show _ ↔ q + 1 ∈ keys (abs h')
              rw [hkeys']
              have := h.linkOther pl' _ hv q hq
              constructor
              · intro hm; exact ⟨this.1 hm, fun e => hq (Nat.add_right_cancel e)⟩
              · intro hm; exact this.2 hm.1
            · exact h.linkOther pl' v hv' q hq
          · intro pl' v hv' hk'
            rw [hvw] at hv'
            split at hv'
            · cases hv'
              exact absurd rfl ((hkeys' (p + 1)).1 hk').2
            · rename_i hne
              rcases List.mem_cons.1 (h.pending pl' v hv' hk') with e | e
              · injection e with e; exact absurd e hne
              · exact e
        · rename_i f hr
          obtain ⟨s', hrun, _⟩ := HashHeap.remove_abs hok.wf (p + 1) (by simp)
          rw [hrun] at hr; cases hr
      · rename_i heq; cases heq
    · rw [HashHeap.findIndex_of_not_mem hok.wf hk]
      refine hweak h ?_
      intro v hv'; rw [hv] at hv'; cases hv'; exact hk

theorem dropResources_dropInv (w : World) (p : Pid) (hi : PoolInv w) : DropInv (dropResources w p) p [] := by
  unfold Sim.dropResources
  dsimp only
  -- after detaching the list from `p`
  have h0 : DropInv (w.modProc p fun x => { x with held := [] }) p (w.proc p).held := by
    have hsz : (w.modProc p fun x => { x with held := [] }).procs.size = w.procs.size := modProc_size _ _ _
    have hpr : prOf (w.modProc p fun x => { x with held := [] }) = prOf w :=
      funext fun q => modProc_prio w p q _ (fun _ => rfl)
    refine ⟨by rw [hsz]; exact hi.1, ?_, ?_, ?_, ?_⟩
    · intro pl v hv; rw [hsz, hpr]; exact (hi.2 pl v hv).1
    · intro pl v hv q hq
      rw [proc_modProc, if_neg (fun e => hq e.1)]
      exact (hi.2 pl v hv).2 q
    · intro pl v hv hk
      exact ((hi.2 pl v hv).2 p).2 hk
    · intro pl
      rw [proc_modProc]
      split
      · simp
      · rename_i hn
        have : ¬ p < w.procs.size := fun e => hn ⟨rfl, e⟩
        rw [proc_default_of_ge this]; simp
  generalize (w.proc p).held = hs at h0
  generalize (w.modProc p fun x => { x with held := [] }) = w0 at h0
  induction hs generalizing w0 with
  | nil => exact h0
  | cons a rest ih =>
    rw [List.foldl_cons]
    apply ih
    cases a with
    | res r =>
      dsimp only
      have hweak : DropInv w0 p rest := by
        refine ⟨h0.size, h0.ok, h0.linkOther, ?_, h0.detached⟩
        intro pl v hv hk
        rcases List.mem_cons.1 (h0.pending pl v hv hk) with e | e
        · cases e
        · exact e
      split
      · rename_i x hx
        refine hweak.viewSame (ViewSame.of_fp (m := mRes) ?_ rfl rfl)
        refine Fp.trans (Fp.trans ?_ (recordRes_fp _ r)) (Same.fp _ (signal_same _ x.guard))
        simp [Fp, World.now, World.proc]
      · exact hweak
    | pool pl => exact h0.dropHolder pl

theorem PoolInv.dropResources (w : World) (p : Pid) (hi : PoolInv w) : PoolInv (dropResources w p) :=
  (dropResources_dropInv w p hi).close

theorem heldOf_dropResources (w : World) (p : Pid) (hi : PoolInv w) (pl : Nat) : heldOf (dropResources w p) pl p = 0 := by
  have h := dropResources_dropInv w p hi
  unfold heldOf
  cases hv : poolView (dropResources w p) pl with
  | none => rfl
  | some v =>
    dsimp only
    apply HashHeap.amountOf_of_not_mem
    intro hk
    exact absurd (h.pending pl v hv hk) (by simp)

theorem PoolInv.finishProc (w : World) (p : Pid) (v : Int) (st : Bool) (hi : PoolInv w) : PoolInv (finishProc w p v st) := by
  unfold Sim.finishProc
  dsimp only
  refine PoolInv.of_fp (modProc_fp_blocked _ _ _ (fun _ => rfl) (fun _ => rfl)) rfl rfl (PoolInv.same (wakeWaiters_same _ _ _) ?_)
  split
  · exact PoolInv.dropResources _ _ (hi.same (cancelAwaiteds_same _ _))
  · exact (PoolInv.dropResources _ _ hi).same (cancelAwaiteds_same _ _)

theorem ViewSame.refl (w : World) : ViewSame w w := ⟨rfl, fun _ => rfl, fun _ _ => Iff.rfl, rfl⟩

theorem ViewSame.path : Path ViewSame := ⟨ViewSame.refl, ViewSame.trans⟩

theorem resCmd_viewSame (w : World) (p : Pid) (c : Cmd) (r : Nat)
    (hc : c = .acquire r ∨ c = .preempt r ∨ c = .release r) : ViewSame w (execCmd w p c).1 := by
  rcases hc with rfl | rfl | rfl
  · exact (execCmd_ft w p _).viewSame rfl
  · exact (execCmd_ft w p _).viewSame rfl
  · exact (execCmd_ft w p _).viewSame rfl

theorem acquireFrame_viewSame (w : World) (p : Pid) (r : Nat) (sig : Int) :
    ViewSame w (resumeFrame w p (.acquire r) sig).1 := (resumeFrame_ft w p (.acquire r) sig).viewSame rfl

theorem setRecording_viewSame (w : World) (kind idx : Nat) (on : Bool) : ViewSame w (setRecording w kind idx on) := by
  refine setRecording_rel ViewSame.path idx on (fun w => ViewSame.of_fp (recordRes_fp w idx) rfl rfl)
    (fun w => recordPool_viewSame w idx) (fun w => ViewSame.of_fp (recordBuf_fp w idx) rfl rfl)
    (fun w => ViewSame.of_fp (recordOQ_fp w idx) rfl rfl) (fun w => ViewSame.of_fp (recordPQ_fp w idx) rfl rfl)
    (fun w => ViewSame.of_fp (fp_res w _) rfl rfl) (fun w => ⟨rfl, fun pl => ?_, fun _ _ => Iff.rfl, rfl⟩)
    (fun w => ViewSame.of_fp (fp_bufs w _) rfl rfl) (fun w => ViewSame.of_fp (fp_oqs w _) rfl rfl)
    (fun w => ViewSame.of_fp (fp_pqs w _) rfl rfl) w kind
  unfold poolView
  show ((w.pools.modify idx _)[pl]?).map Pool.view = _
  rw [poolView_modify]
  split
  · rename_i e; subst e; cases w.pools[pl]? <;> rfl
  · rfl

theorem foldl_preserves_mem {α : Type} {P : World → Prop} (f : World → α → World) (l : List α)
    (h : ∀ w a, a ∈ l → P w → P (f w a)) (w : World) (hw : P w) : P (l.foldl f w) := by
  induction l generalizing w with
  | nil => exact hw
  | cons a l ih =>
    exact ih (fun w b hb => h w b (List.mem_cons_of_mem _ hb)) (f w a) (h w a List.mem_cons_self hw)

/-- during `cmb_process_priority_set(q, v)` (the process's priority already changed from `old`): every pool is consistent
    with the priorities `prOf w`, except that in the pools still to be visited the record of `q` may carry the old
    priority -/
structure PrioInv (w : World) (q : Pid) (old : Int) (rest : List HoldRef) : Prop where
  size : w.procs.size < 2 ^ 31
  ok : ∀ pl v, poolView w pl = some v →
    ViewOK w.procs.size (prOf w) v ∨
    (ViewOK w.procs.size (fun r => if r = q then old else prOf w r) v ∧ HoldRef.pool pl ∈ rest)
  link : ∀ pl v, poolView w pl = some v → Linked w pl v.holders

theorem PrioInv.viewSame {w w' : World} {q : Pid} {old : Int} {rest : List HoldRef} (h : PrioInv w q old rest)
    (hs : ViewSame w w') : PrioInv w' q old rest where
  size := by rw [hs.size]; exact h.size
  ok pl v hv := by
    rw [hs.size, hs.prio]
    exact h.ok pl v (by rw [← hs.view]; exact hv)
  link pl v hv := hs.linked (h.link pl v (by rw [← hs.view]; exact hv))

theorem PrioInv.close {w : World} {q : Pid} {old : Int} (h : PrioInv w q old []) : PoolInv w :=
  ⟨h.size, fun pl v hv => ⟨(h.ok pl v hv).elim id (fun x => absurd x.2 (by simp)), h.link pl v hv⟩⟩

theorem PrioInv.weaken {w : World} {q : Pid} {old : Int} {a : HoldRef} {rest : List HoldRef}
    (h : PrioInv w q old (a :: rest)) (hna : ∀ pl v, a = .pool pl → poolView w pl = some v → ViewOK w.procs.size (prOf w) v) :
    PrioInv w q old rest where
  size := h.size
  ok pl v hv := by
    rcases h.ok pl v hv with ok | ⟨ok, hm⟩
    · exact Or.inl ok
    · rcases List.mem_cons.1 hm with e | e
      · exact Or.inl (hna pl v e.symm hv)
      · exact Or.inr ⟨ok, e⟩
  link := h.link

/-- the priority of a process without a record in the list does not matter -/
theorem ViewOK.of_absent {n : Nat} {pr pr' : Nat → Int} {v : PView} {q : Nat} (ok : ViewOK n pr v)
    (hpr : ∀ r, r ≠ q → pr' r = pr r) (hk : q + 1 ∉ keys (abs v.holders)) : ViewOK n pr' v := by
  refine ⟨⟨ok.wf, ok.tags, ok.pos, ?_⟩, ok.sum, ok.inCap⟩
  intro t ht
  rw [ok.prio t ht]
  refine (hpr _ ?_).symm
  intro e
  obtain ⟨pid, _, hpk⟩ := ok.tags t.key (mem_keys_of_mem ht)
  apply hk
  have : t.key = q + 1 := by omega
  rw [← this]; exact mem_keys_of_mem ht

/-- one step of the walk through the pools `q` holds: whichever priorities the list of the pool was consistent with,
    the reprioritize makes it consistent with the new ones -/
theorem PrioInv.prioHeld {w : World} {q : Pid} {v old : Int} {a : HoldRef} {rest : List HoldRef} (hprq : prOf w q = v)
    (hp : PrioInv w q old (a :: rest)) :
    PrioInv (S3.prioHeldStep q v w a) q old rest ∧ prOf (S3.prioHeldStep q v w a) q = v := by
  unfold S3.prioHeldStep
  cases a with
  | res r => exact ⟨hp.weaken (fun pl v' e => by cases e), hprq⟩
  | pool pl =>
    dsimp only
    cases hx : w.pools[pl]? with
    | none =>
      refine ⟨hp.weaken ?_, hprq⟩
      intro pl' v' e hv'
      injection e with e; subst e
      unfold poolView at hv'; rw [hx] at hv'; cases hv'
    | some x =>
      dsimp only
      have hv := poolView_of_get hx
      have lk := hp.link pl _ hv
      have hre : ∀ (pr : Nat → Int), (∀ r, r ≠ q → pr r = prOf w r) → ViewOK w.procs.size pr x.view →
          ∀ h', HashHeap.reprioritize holder_queue_check x.holders (q + 1) 0 v = .ok h' → q + 1 ∈ keys (abs x.holders) →
          PrioInv { w with pools := w.pools.set! pl { x with holders := h' } } q old rest := by
        intro pr hpr vok h' hr hk
        have hok : HoldersOK w.procs.size pr x.holders := vok.toHoldersOK
        obtain ⟨ok', hsum', hkeys', _⟩ := reprio_holders (pr' := prOf w) hok hk hr
          ⟨by simpa using hprq, fun r hr' => (hpr r (by simpa using hr')).symm⟩
        have hu := setHolders_upd hx h'
        refine ⟨hp.size, ?_, ?_⟩
        · intro pl' v' hv'
          by_cases hpl : pl' = pl
          · subst hpl
            rw [hu.view] at hv'; cases hv'
            left
            exact ⟨ok', by show x.inUse = amounts (abs h'); rw [hsum']; exact vok.sum, vok.inCap⟩
          · rw [hu.others pl' hpl] at hv'
            rcases hp.ok pl' v' hv' with ok | ⟨ok, hm⟩
            · exact Or.inl ok
            · rcases List.mem_cons.1 hm with e | e
              · injection e with e; exact absurd e hpl
              · exact Or.inr ⟨ok, e⟩
        · intro pl' v' hv'
          by_cases hpl : pl' = pl
          · subst hpl
            rw [hu.view] at hv'; cases hv'
            intro r; show _ ↔ r + 1 ∈ keys (abs h'); rw [hkeys']; exact lk r
          · rw [hu.others pl' hpl] at hv'
            exact hp.link pl' v' hv'
      cases hr : HashHeap.reprioritize holder_queue_check x.holders (q + 1) 0 v with
      | ok h' =>
        refine ⟨?_, hprq⟩
        by_cases hk : q + 1 ∈ keys (abs x.holders)
        · rcases hp.ok pl _ hv with ok | ⟨ok, _⟩
          · exact hre (prOf w) (fun _ _ => rfl) ok h' hr hk
          · exact hre _ (fun r hr' => by simp [hr']) ok h' hr hk
        · -- no record of `q` in this pool: `reprioritize` cannot have succeeded
          exfalso
          have hwf : WF holder_queue_check x.holders := (hp.ok pl _ hv).elim (fun o => o.wf) (fun o => o.1.wf)
          have := HashHeap.findIndex_of_not_mem hwf hk
          unfold HashHeap.reprioritize at hr
          simp [this, bind, Except.bind] at hr
      | error f =>
        refine ⟨PrioInv.viewSame (hp.weaken ?_) (ViewSame.of_same (fail_same _ _)),
          by rw [(ViewSame.of_same (fail_same w _)).prio]; exact hprq⟩
        intro pl' v' e hv'
        obtain rfl : pl' = pl := by injection e with e; exact e.symm
        rw [hv] at hv'; cases hv'
        rcases hp.ok pl' _ hv with ok | ⟨ok, _⟩
        · exact ok
        · by_cases hk : q + 1 ∈ keys (abs x.holders)
          · -- the record of `q` is there (it is stale), so `reprioritize` succeeds: contradiction
            exfalso
            obtain ⟨s', hrun, _⟩ := HashHeap.reprio_abs (s := x.holders) ok.wf hk 0 v
            rw [hrun] at hr; cases hr
          · -- without a record of `q` the two priority functions agree on this pool
            exact ok.of_absent (fun r hr' => by simp [hr']) hk

/-- the walk through what `q` holds: one reprioritize per pool -/
theorem PrioInv.walk {q : Pid} {v old : Int} : ∀ (held : List HoldRef) (w : World), PrioInv w q old held → prOf w q = v →
    PoolInv (held.foldl (S3.prioHeldStep q v) w)
  | [], _, hp, _ => hp.close
  | _ :: rest, _, hp, hprq => PrioInv.walk rest _ (hp.prioHeld hprq).1 (hp.prioHeld hprq).2

theorem PoolInv.prioSet (w : World) (p q : Pid) (v : Int) (hi : PoolInv w) : PoolInv (execCmd w p (.prioSet q v)).1 := by
  by_cases hqs : q < w.procs.size
  · rw [S3.prioSet_eq w p q v hqs]
    dsimp only
    -- the priority is changed first
    have hpr1 : prOf (w.modProc q fun y => { y with prio := v }) = fun r => if r = q then v else prOf w r := by
      funext r
      unfold prOf
      rw [proc_modProc]
      by_cases hr : r = q
      · subst hr; simp [hqs]
      · simp [hr]
    have h0 : PrioInv (w.modProc q fun y => { y with prio := v }) q (w.proc q).prio (w.proc q).held := by
      have hvs : ∀ pl, poolView (w.modProc q fun y => { y with prio := v }) pl = poolView w pl := fun _ => rfl
      refine ⟨by rw [modProc_size]; exact hi.1, ?_, ?_⟩
      · intro pl v' hv'
        rw [hvs] at hv'
        obtain ⟨ok, lk⟩ := hi.2 pl v' hv'
        rw [modProc_size, hpr1]
        have hfun : (fun r => if r = q then (w.proc q).prio else if r = q then v else prOf w r) = prOf w := by
          funext r
          by_cases hr : r = q
          · subst hr; simp [prOf]
          · simp [hr]
        by_cases hk : q + 1 ∈ keys (abs v'.holders)
        · right
          rw [hfun]
          exact ⟨ok, (lk q).2 hk⟩
        · left
          exact ok.of_absent (fun r hr => by simp [hr]) hk
      · intro pl v' hv' r
        rw [hvs] at hv'
        rw [modProc_held w q r (fun y => { y with prio := v }) (fun _ => rfl)]
        exact (hi.2 pl v' hv').2 r
    -- the walk through what `q` waits for touches neither pools nor held lists nor priorities
    have hs := Same.path.foldl (prioAwaitStep_same q v) ((w.modProc q fun y => { y with prio := v }).proc q).awaits
      (w.modProc q fun y => { y with prio := v })
    rw [(hs.held_eq q).trans (modProc_held w q q _ (fun _ => rfl))]
    exact PrioInv.walk _ _ (h0.viewSame (ViewSame.of_same hs)) (by rw [(ViewSame.of_same hs).prio, hpr1]; simp)
  · have : q ≥ w.procs.size := Nat.le_of_not_lt hqs
    simp only [execCmd, this, if_true]
    exact hi

end CimbaModel.Sim
