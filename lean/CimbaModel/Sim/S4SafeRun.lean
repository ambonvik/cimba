/-
  S4 — `Safe` through the loops of Sim/Run.lean (pools, buffers, queues, conditions).  A call that suspends ends with the
  enqueue of the caller (`guardWaitEnter`), after which only "no fault" is needed: `SafeR`.
-/
import CimbaModel.Sim.S4SafePool
import CimbaModel.Sim.S1Frame2

namespace CimbaModel.Sim.S4
open CimbaModel CimbaModel.Sim CimbaModel.Sim.S3 CimbaModel.Event CimbaModel.Generated CimbaModel.KPQ
open CimbaModel.HashHeap (HTag Item Order HH WF abs liveTags KeysBelowCounter)

variable {ex : Nat → Prop} {w : World} {p : Pid}

def SafeR (ex : Nat → Prop) : World × Outcome → Prop
  | (w, .ret _ _) => Safe ex w
  | (w, .skip) => Safe ex w
  | (w, .blocked) => w.fault = none
  | (w, .ended) => w.fault = none

theorem SafeR.nf {r : World × Outcome} (h : SafeR ex r) : r.1.fault = none := by
  rcases r with ⟨w, o⟩
  cases o <;> first | exact Safe.nf h | exact h

theorem SafeR.ret (h : Safe ex w) (v : Int) (e : String) : SafeR ex (w, .ret v e) := h
theorem SafeR.skip (h : Safe ex w) : SafeR ex (w, .skip) := h
theorem SafeR.ended (h : Safe ex w) : SafeR ex (w, .ended) := h.nf
theorem SafeR.block (h : w.fault = none) (f : Frame) : SafeR ex (Sim.block w p f) := by
  show (Sim.block w p f).1.fault = none
  simpa using h

/-- the enqueue of the caller cannot fail: its key is fresh, it is a process key, there is room -/
theorem guardWaitEnter_nf (h : Safe (isKey p) w) (g : Nat) (hg : g < w.guards.size) (hp : p < w.procs.size) (d : Demand) :
    (guardWaitEnter w g p d).fault = none := by
  have hgd : w.guards[g]? = some w.guards[g] := Array.getElem?_eq_getElem hg
  obtain ⟨hwf, hk⟩ := h.gq g _ hgd
  have hpsz := h.st.psz
  have h64 : p + 1 < 2 ^ 64 := Nat.lt_trans (Nat.lt_of_le_of_lt (Nat.succ_le_of_lt hp) hpsz) (by decide)
  have hfresh : p + 1 ∉ keys (abs w.guards[g].q) := fun hm => (hk _ hm).2 rfl
  obtain ⟨q', _, _, _, heq⟩ := guardWaitEnter_spec hgd hwf p d h64 hfresh
    (room_of_keys hwf (fun k hk' => (hk k hk').1) hpsz)
  rw [heq]
  exact h.nf

theorem stat_of_safe_gsize {w w' : World} (hs : Stat w w') : w'.guards.size = w.guards.size := stat_gsize hs

theorem SafeR.acquireStep (h : Safe (isKey p) w) (hp : p < w.procs.size) (r : Nat) (hr : r < w.res.size) :
    SafeR (isKey p) (Sim.acquireStep w p r) := by
  unfold Sim.acquireStep
  split
  · rename_i hn
    rw [Array.getElem?_eq_getElem hr] at hn; cases hn
  · rename_i x hx
    split
    · rename_i hfree
      refine SafeR.ret (Safe.recordRes (h.grab r p (fun y hy => ?_)) r) _ _
      rw [hx] at hy; cases hy
      simpa using hfree
    · exact SafeR.block (guardWaitEnter_nf h _ (h.st.gex.res r x hx) hp _) _

theorem Safe.dequeueHolder (h : Safe ex w) {pl : Nat} {x : Pool} (hx : w.pools[pl]? = some x) (hc : x.holders.count ≠ 0) :
    ∃ h', HashHeap.dequeue holder_queue_check x.holders = .ok (h', some (x.holders.tag 1)) ∧
      Safe ex { w with pools := w.pools.set! pl { x with holders := h' } } := by
  obtain ⟨hwf, hkb⟩ := h.hq pl x hx
  obtain ⟨h', hrun, a⟩ := HashHeap.dequeue_abs hwf (Nat.pos_of_ne_zero hc)
  exact ⟨h', hrun, h.setHolders pl x hx _ rfl a.wf fun k hk => hkb k ((a.keys hwf k).1 hk).1⟩

theorem Safe.poolMug (fuel : Nat) {w : World} (h : Safe ex w) (p : Pid) (hp : p < w.procs.size) (pl rem : Nat) :
    Safe ex (Sim.poolMug fuel w p pl rem).1 := by
  refine (poolMug_rel (Path.ofPred fun w => Safe ex w ∧ p < w.procs.size) p pl ?_ ?_
    (fun _ n h => ⟨h.1.poolUpdateRecord pl p n h.2, by simpa using h.2⟩) ?_ fuel w rem ⟨h, hp⟩).1
  · intro w x f m hx hc hdq h
    obtain ⟨h', hrun, _⟩ := h.1.dequeueHolder hx hc
    rw [hrun] at hdq; cases hdq
  · intro w x top h' t hx hc _ _ hdq h
    obtain ⟨s', hrun, hs'⟩ := h.1.dequeueHolder hx hc
    rw [hrun] at hdq
    cases hdq
    unfold mugVictim
    exact ⟨(hs'.removeHeld_fst _ _).sched_now _ _ _ _, by simpa using h.2⟩
  · intro w x rem surplus h
    unfold mugSettle
    exact ⟨(((h.1.poolUpdateRecord pl p rem h.2).setPoolInUse pl _).recordPool pl).signal _, by simpa using h.2⟩

theorem SafeR.poolLoop (h : Safe (isKey p) w) (hp : p < w.procs.size) (pl rem initially : Nat) (preempt : Bool)
    (hpl : pl < w.pools.size) : SafeR (isKey p) (Sim.poolLoop w p pl rem initially preempt) := by
  have charge : ∀ (v n : Nat), Safe (isKey p) (Sim.poolUpdateRecord (Sim.recordPool (Sim.setPoolInUse w pl v) pl) pl p n) :=
    fun v n => ((h.setPoolInUse pl v).recordPool pl).poolUpdateRecord pl p n (by simpa using hp)
  rw [poolLoop_eq]
  split
  · rename_i hn
    rw [Array.getElem?_eq_getElem hpl] at hn; cases hn
  · rename_i x hx
    split
    · exact SafeR.ret ((charge _ _).signal _) _ _
    · -- what was free has been taken, lower holders have been mugged: still `Safe`, and the static data are those of `w`
      have hT : Safe (isKey p) (poolTake w p pl x rem).1 ∧ Stat w (poolTake w p pl x rem).1 := by
        unfold poolTake
        split
        · exact ⟨charge _ _, Stat.eff (Eff.poolUpdateRecord (Eff.recordPool (Eff.setPoolInUse .refl pl _) pl) pl p _)⟩
        · exact ⟨h, Stat.refl w⟩
      have hM : Safe (isKey p) (poolTakeMug w p pl x rem preempt).1 ∧ Stat w (poolTakeMug w p pl x rem preempt).1 := by
        unfold poolTakeMug
        split
        · exact ⟨hT.1.poolMug _ p (by rw [hT.2.psize]; exact hp) pl _, hT.2.step (.poolMug .refl _ _ _ _)⟩
        · exact hT
      split
      · exact SafeR.ret hM.1 _ _
      · refine SafeR.block (guardWaitEnter_nf hM.1 _ ?_ ?_ _) _
        · rw [stat_gsize hM.2]; exact h.st.gex.pools pl x hx
        · rw [hM.2.psize]; exact hp

theorem Safe.poolRollback (h : Safe ex w) (p : Pid) (pl initially : Nat) : Safe ex (Sim.poolRollback w p pl initially) := by
  unfold Sim.poolRollback
  split
  · exact h
  · rename_i x hx
    obtain ⟨hwf, hkb⟩ := h.hq pl x hx
    split
    · dsimp only
      split
      · rename_i hgt
        apply Safe.signal
        apply Safe.recordPool
        apply Safe.setPoolInUse
        apply h.setHeldAmount
        intro y hy
        rw [hx] at hy; cases hy
        exact heldAmount_pos hx hwf (by omega)
      · exact h
    · dsimp only
      obtain ⟨h', hrun, rm⟩ := HashHeap.remove_abs hwf (p + 1) (by omega)
      simp only [hrun]
      have h1 : Safe ex (Sim.recordPool (Sim.setPoolInUse w pl (x.inUse - heldAmount w pl p)) pl) :=
        (h.setPoolInUse pl _).recordPool pl
      have h2 : Safe ex { Sim.recordPool (Sim.setPoolInUse w pl (x.inUse - heldAmount w pl p)) pl with
          pools := (Sim.recordPool (Sim.setPoolInUse w pl (x.inUse - heldAmount w pl p)) pl).pools.modify pl fun y => { y with holders := h' } } := by
        refine ⟨h1.nf, h1.st.ofStat ((Stat.refl _).step (.pools .refl rfl _ (map_modify_same _ _ _ _ fun _ => rfl) (Scope.on rfl) (Scope.on rfl))), h1.gq, ?_⟩
        intro i y hy
        simp only [Array.getElem?_modify] at hy
        split at hy
        · rename_i e; subst e
          cases hz : (Sim.recordPool (Sim.setPoolInUse w pl (x.inUse - heldAmount w pl p)) pl).pools[pl]? with
          | none => rw [hz] at hy; cases hy
          | some z =>
            rw [hz] at hy
            simp only [Option.map_some, Option.some.injEq] at hy
            subst hy
            refine ⟨rm.wf, fun k hk => ?_⟩
            have := hkb k ((rm.keys k).1 hk).1
            simpa using this
        · exact h1.hq i y hy
      apply Safe.signal
      split
      · exact Safe.removeHeld_fst h2 _ _
      · exact h2

theorem SafeR.bufGetLoop (h : Safe (isKey p) w) (hp : p < w.procs.size) (b rem got : Nat) (hb : b < w.bufs.size) :
    SafeR (isKey p) (Sim.bufGetLoop w p b rem got) := by
  unfold Sim.bufGetLoop
  split
  · rename_i hn
    rw [Array.getElem?_eq_getElem hb] at hn; cases hn
  · rename_i x hx
    have hgx := h.st.gex.bufs b x hx
    split
    · refine SafeR.ret ?_ _ _
      have h1 := ((h.setBufsSet b { x with level := x.level - rem, getTotal := x.getTotal + rem } fun y hy => by
        rw [hx] at hy; cases hy; rfl).recordBuf b).signal x.rear
      split
      · exact h1.signal _
      · exact h1
    · dsimp only
      refine SafeR.block (guardWaitEnter_nf (w := Sim.signal _ x.rear) (Safe.signal ?_ _) _ ?_ ?_ _) _
      · split
        · exact ((h.setBufsSet b _ fun y hy => by rw [hx] at hy; cases hy; rfl).recordBuf b).signal _
        · exact h
      · have hst : Stat w (Sim.signal (if x.level > 0 then
            (Sim.signal (Sim.recordBuf { w with bufs := w.bufs.set! b { x with level := 0, getTotal := x.getTotal + x.level } } b) x.rear,
              rem - x.level, got + x.level) else (w, rem, got)).1 x.rear) := by
          refine Stat.step ?_ (.signal .refl _)
          split
          · exact Stat.eff (.signal (.recordBuf (Eff.setBuf .refl hx _) b) _)
          · exact Stat.refl w
        rw [stat_gsize hst]; exact hgx.1
      · simp; split <;> simpa using hp

theorem SafeR.bufPutLoop (h : Safe (isKey p) w) (hp : p < w.procs.size) (b rem left : Nat) (hb : b < w.bufs.size) :
    SafeR (isKey p) (Sim.bufPutLoop w p b rem left) := by
  unfold Sim.bufPutLoop
  split
  · rename_i hn
    rw [Array.getElem?_eq_getElem hb] at hn; cases hn
  · rename_i x hx
    have hgx := h.st.gex.bufs b x hx
    split
    · refine SafeR.ret ?_ _ _
      have h1 := ((h.setBufsSet b { x with level := x.level + rem, putTotal := x.putTotal + rem } fun y hy => by
        rw [hx] at hy; cases hy; rfl).recordBuf b).signal x.front
      split
      · exact h1.signal _
      · exact h1
    · dsimp only
      refine SafeR.block (guardWaitEnter_nf (w := Sim.signal _ x.front) (Safe.signal ?_ _) _ ?_ ?_ _) _
      · split
        · exact ((h.setBufsSet b _ fun y hy => by rw [hx] at hy; cases hy; rfl).recordBuf b).signal _
        · exact h
      · have hst : Stat w (Sim.signal (if x.level < x.cap then
            (Sim.signal (Sim.recordBuf { w with bufs := w.bufs.set! b { x with level := x.cap, putTotal := x.putTotal + (x.cap - x.level) } } b) x.front,
              rem - (x.cap - x.level), left - (x.cap - x.level)) else (w, rem, left)).1 x.front) := by
          refine Stat.step ?_ (.signal .refl _)
          split
          · exact Stat.eff (.signal (.recordBuf (Eff.setBuf .refl hx _) b) _)
          · exact Stat.refl w
        rw [stat_gsize hst]; exact hgx.2
      · simp; split <;> simpa using hp

theorem SafeR.oqGetLoop (h : Safe (isKey p) w) (hp : p < w.procs.size) (q : Nat) (hq : q < w.oqs.size) :
    SafeR (isKey p) (Sim.oqGetLoop w p q) := by
  unfold Sim.oqGetLoop
  split
  · rename_i hn
    rw [Array.getElem?_eq_getElem hq] at hn; cases hn
  · rename_i x hx
    have hgx := h.st.gex.oqs q x hx
    split
    · exact SafeR.ret (((h.setOqsSet q _ fun y hy => by rw [hx] at hy; cases hy; rfl).recordOQ q).signal _) _ _
    · exact SafeR.block (guardWaitEnter_nf h _ hgx.1 hp _) _

theorem SafeR.oqPutLoop (h : Safe (isKey p) w) (hp : p < w.procs.size) (q obj : Nat) (hq : q < w.oqs.size) :
    SafeR (isKey p) (Sim.oqPutLoop w p q obj) := by
  unfold Sim.oqPutLoop
  split
  · rename_i hn
    rw [Array.getElem?_eq_getElem hq] at hn; cases hn
  · rename_i x hx
    have hgx := h.st.gex.oqs q x hx
    split
    · exact SafeR.ret (((h.setOqsSet q _ fun y hy => by rw [hx] at hy; cases hy; rfl).recordOQ q).signal _) _ _
    · exact SafeR.block (guardWaitEnter_nf h _ hgx.2 hp _) _

/-- what `cmb_priorityqueue_put` needs of the one queue it puts into: C02's precondition of an enqueue whose key comes
    from the counter; `room`: the growth limit of the hashheap, which also keeps the handles below 2⁶⁴.  (`PqRoom w`,
    S4Pq, is the bound on the number of puts that is assumed of a world.) -/
structure PQRoom (x : PQ) : Prop where
  wf : WF compare_func x.queue
  below : KeysBelowCounter x.queue
  room : x.queue.counter + 1 < 2 ^ 31

theorem SafeR.pqGetLoop (h : Safe (isKey p) w) (hp : p < w.procs.size) (k : Nat) (hk : k < w.pqs.size)
    (hok : ∀ x, w.pqs[k]? = some x → WF compare_func x.queue) : SafeR (isKey p) (Sim.pqGetLoop w p k) := by
  unfold Sim.pqGetLoop
  split
  · rename_i hn
    rw [Array.getElem?_eq_getElem hk] at hn; cases hn
  · rename_i x hx
    have hgx := h.st.gex.pqs k x hx
    split
    · rename_i hpos
      obtain ⟨q', hrun, _⟩ := HashHeap.dequeue_abs (hok x hx) hpos
      rw [hrun]
      exact SafeR.ret (((h.setPqsSet k _ fun y hy => by rw [hx] at hy; cases hy; rfl).recordPQ k).signal _) _ _
    · exact SafeR.block (guardWaitEnter_nf h _ hgx.1 hp _) _

theorem SafeR.pqPutLoop (h : Safe (isKey p) w) (hp : p < w.procs.size) (k obj : Nat) (pri : Int) (v : Nat) (hk : k < w.pqs.size)
    (hok : ∀ x, w.pqs[k]? = some x → PQRoom x) : SafeR (isKey p) (Sim.pqPutLoop w p k obj pri v) := by
  unfold Sim.pqPutLoop
  split
  · rename_i hn
    rw [Array.getElem?_eq_getElem hk] at hn; cases hn
  · rename_i x hx
    have hgx := h.st.gex.pqs k x hx
    obtain ⟨hwf, hbelow, hroom⟩ := hok x hx
    split
    · obtain ⟨q', hrun, _⟩ := HashHeap.enqueue_auto_ok hwf hbelow ⟨obj, 0, 0, 0⟩ 0 pri (Nat.lt_trans hroom (by decide))
        (room_of_keys hwf (fun j hj => hbelow j hj) (Nat.lt_of_succ_lt hroom))
      rw [hrun]
      exact SafeR.ret ((((h.setPqsSet k _ fun y hy => by rw [hx] at hy; cases hy; rfl).setVar p v _).recordPQ k).signal _) _ _
    · exact SafeR.block (guardWaitEnter_nf h _ hgx.2 hp _) _

end CimbaModel.Sim.S4
