/-
  S3 — `GInv`: leaving a guard wait (`guardWithdraw`, `guardWaitLeave`), the epilogues of the guard waits and of hold.
-/
import CimbaModel.Sim.S3GInvEx
import CimbaModel.Sim.S3TInvRun
import CimbaModel.Sim.S3GInvFrame

namespace CimbaModel.Sim.S3
open CimbaModel CimbaModel.Sim CimbaModel.Event CimbaModel.Generated CimbaModel.KPQ
open CimbaModel.HashHeap (HTag Item Order HH WF abs liveTags)

variable {ex : Pid → Prop} {fr : Pid → Option Frame}

theorem kindMatch_res_iff (p : Pid) (e : HTag) :
    kindMatch p aRes (some sigSuccess) e = true ↔ e.item.b = p + 1 ∧ e.item.a = aRes ∧ e.item.c = 0 := by
  unfold kindMatch
  have : encSig sigSuccess = 0 := by decide
  simp [this, and_assoc]

/-- what a complete signal does, in terms of `queued`: lists only shrink, the only new events are grants (aRes, SUCCESS)
    and — from the condition signal of an observing condition — condition wake-ups (aCond, SUCCESS), for keys that were queued -/
theorem signal_foot {w : World} (hall : AllGWF w) (g : Nat) :
    (∀ g' k, queued (signal w g) g' k → queued w g' k) ∧ (signal w g).procs = w.procs ∧ (signal w g).conds = w.conds ∧
    (∀ e ∈ (signal w g).ev.pending, e ∈ w.ev.pending ∨
      ((e.item.a = aRes ∨ e.item.a = aCond) ∧ e.item.c = 0 ∧ ∃ g', queued w g' e.item.b)) := by
  have hrel := signal_rel w g hall
  refine ⟨?_, hrel.procs, hrel.conds, ?_⟩
  · intro g' k ⟨gd', hg', hk⟩
    have hsz : g' < w.guards.size := by
      rw [← hrel.gsize]
      rcases Nat.lt_or_ge g' (signal w g).guards.size with h | h
      · exact h
      · rw [Array.getElem?_eq_none h] at hg'; cases hg'
    obtain ⟨gd'', hg'', _, _, _, _, hsub⟩ := hrel.guards g' _ (Array.getElem?_eq_getElem hsz)
    rw [hg'] at hg''; cases hg''
    exact ⟨_, Array.getElem?_eq_getElem hsz, keys_subset_of_subset hsub hk⟩
  · intro e he
    obtain ⟨new, hp, _, hgr⟩ := hrel.pending
    rw [hp] at he
    rcases List.mem_append.1 he with he | he
    · right
      rcases hgr e he with ⟨g', gd, gd', hgd, _, hin, _, _, _, heq, _⟩ | ⟨g', gd, gd', hgd, _, hin, _, _, _, heq, _⟩
      · exact ⟨Or.inl (by rw [heq]; rfl), by rw [heq]; rfl, g', gd, hgd, hin⟩
      · exact ⟨Or.inr (by rw [heq]; rfl), by rw [heq]; rfl, g', gd, hgd, hin⟩
    · exact Or.inl he

theorem guardWithdraw_foot {w : World} (hall : AllGWF w) (hi : EvInv w.ev) (hcl : ∀ e ∈ w.ev.pending, e.item.c < 2 ^ 64)
    (g : Nat) (p : Pid) (hnq : ∀ g', g' ≠ g → ¬ queued w g' (p + 1)) :
    (∀ g' k, queued (guardWithdraw w g p) g' k → queued w g' k) ∧ ¬ queued (guardWithdraw w g p) g (p + 1) ∧
    (guardWithdraw w g p).procs = w.procs ∧
    (∀ e ∈ (guardWithdraw w g p).ev.pending, e ∈ w.ev.pending ∨ e.item.a = aEvent ∨
      ((e.item.a = aRes ∨ e.item.a = aCond) ∧ e.item.c = 0 ∧ e.item.b ≠ p + 1)) ∧
    (¬ queued w g (p + 1) → ∀ e ∈ (guardWithdraw w g p).ev.pending, e.item.a = aRes → e.item.c = 0 → e.item.b ≠ p + 1) := by
  have tail : ¬ queued w g (p + 1) →
      let w1 := (cancelKindFor w p aRes (some sigSuccess)).1
      let w2 := if (cancelKindFor w p aRes (some sigSuccess)).2 > 0 then signal w1 g else w1
      (∀ g' k, queued w2 g' k → queued w g' k) ∧ w2.procs = w.procs ∧
      (∀ e ∈ w2.ev.pending, e ∈ w.ev.pending ∨ e.item.a = aEvent ∨
        ((e.item.a = aRes ∨ e.item.a = aCond) ∧ e.item.c = 0 ∧ e.item.b ≠ p + 1)) ∧
      (∀ e ∈ w2.ev.pending, e.item.a = aRes → e.item.c = 0 → e.item.b ≠ p + 1) := by
    intro hnqg
    obtain ⟨hrel, hgone, _, _⟩ := cancelKindFor_spec w p aRes (some sigSuccess) hi
    have hall1 : AllGWF (cancelKindFor w p aRes (some sigSuccess)).1 := by
      intro g' gd' h'; rw [hrel.guards] at h'; exact hall g' gd' h'
    have hq1 : ∀ g' k, queued (cancelKindFor w p aRes (some sigSuccess)).1 g' k ↔ queued w g' k :=
      fun g' k => queued_congr hrel.guards g' k
    have hnotq : ∀ g', ¬ queued w g' (p + 1) := by
      intro g'
      by_cases hg' : g' = g
      · subst hg'; exact hnqg
      · exact hnq g' hg'
    have hev1 : ∀ e ∈ (cancelKindFor w p aRes (some sigSuccess)).1.ev.pending,
        (e ∈ w.ev.pending ∧ ¬ (e.item.b = p + 1 ∧ e.item.a = aRes ∧ e.item.c = 0)) ∨ e.item.a = aEvent := by
      intro e he
      rcases hrel.pend e he with hold | ⟨_, _, _, _, _, _, heq⟩
      · left
        refine ⟨hold, fun hm => ?_⟩
        have := hgone e he (EvInv.key_le hi hold)
        rw [(kindMatch_res_iff p e).2 hm] at this
        cases this
      · right; rw [heq]; rfl
    dsimp only
    split
    · obtain ⟨hsq, hsp, _, hse⟩ := signal_foot hall1 g
      refine ⟨fun g' k h => (hq1 g' k).1 (hsq g' k h), hsp.trans hrel.procs, ?_, ?_⟩
      · intro e he
        rcases hse e he with h | ⟨h1, h2, g', h3⟩
        · rcases hev1 e h with ⟨h', _⟩ | h'
          · exact Or.inl h'
          · exact Or.inr (Or.inl h')
        · refine Or.inr (Or.inr ⟨h1, h2, fun hb => ?_⟩)
          exact hnotq g' ((hq1 g' _).1 (hb ▸ h3))
      · intro e he hea hec hb
        rcases hse e he with h | ⟨_, _, g', h3⟩
        · rcases hev1 e h with ⟨_, h'⟩ | h'
          · exact h' ⟨hb, hea, hec⟩
          · rw [hea] at h'; exact absurd h' (by decide)
        · exact hnotq g' ((hq1 g' _).1 (hb ▸ h3))
    · refine ⟨fun g' k h => (hq1 g' k).1 h, hrel.procs, ?_, ?_⟩
      · intro e he
        rcases hev1 e he with ⟨h', _⟩ | h'
        · exact Or.inl h'
        · exact Or.inr (Or.inl h')
      · intro e he hea hec hb
        rcases hev1 e he with ⟨_, h'⟩ | h'
        · exact h' ⟨hb, hea, hec⟩
        · rw [hea] at h'; exact absurd h' (by decide)
  cases hg : w.guards[g]? with
  | none =>
    have hnqg : ¬ queued w g (p + 1) := fun ⟨gd, h, _⟩ => by rw [hg] at h; cases h
    rw [guardWithdraw_noguard hg]
    obtain ⟨t1, t2, t3, t4⟩ := tail hnqg
    exact ⟨t1, fun h => hnqg (t1 g _ h), t2, t3, fun _ => t4⟩
  | some gd =>
    have hwf := hall g gd hg
    by_cases hk : p + 1 ∈ keys (abs gd.q)
    · obtain ⟨q', hwf', hperm, heq⟩ := guardWithdraw_queued hg hwf hk
      rw [heq]
      have hqs : ∀ g' k, queued (setGuardQ w g q') g' k → queued w g' k := by
        intro g' k h
        rw [queued_setGuardQ hg] at h
        split at h
        · rename_i hgg; subst hgg
          obtain ⟨e, he, rfl⟩ := Event.mem_keys.1 h
          exact ⟨gd, hg, Event.mem_keys.2 ⟨e, (mem_remove.1 (hperm.mem_iff.1 he)).1, rfl⟩⟩
        · exact h
      refine ⟨hqs, ?_, rfl, fun e he => Or.inl he, fun hnqg => absurd ⟨gd, hg, hk⟩ hnqg⟩
      rw [queued_setGuardQ hg, if_pos rfl]
      intro hm
      obtain ⟨e, he, hek⟩ := Event.mem_keys.1 hm
      exact (mem_remove.1 (hperm.mem_iff.1 he)).2 hek
    · have hnqg : ¬ queued w g (p + 1) := fun ⟨gd', h, hk'⟩ => by rw [hg] at h; cases h; exact hk hk'
      rw [guardWithdraw_granted hg hwf hk]
      obtain ⟨t1, t2, t3, t4⟩ := tail hnqg
      exact ⟨t1, fun h => hnqg (t1 g _ h), t2, t3, fun _ => t4⟩


theorem frameOn_fun {w : World} {f : Frame} {g g' : Nat} (h : FrameOn w f g) (h' : FrameOn w f g') : g = g' := by
  cases f <;> simp only [FrameOn] at h h' <;> first | (rw [h] at h'; exact Option.some.inj h') | exact h.elim

theorem removeGuard_filter {w : World} {p : Pid} {g : Nat} (haw : guardAw w p = [] ∨ guardAw w p = [.guard g]) :
    ((removeFirst (w.proc p).awaits (.guard g)).1).filter isGuardA = [] := by
  rw [removeFirst_filter_self _ _ _ rfl]
  show (removeFirst (guardAw w p) _).1 = []
  rcases haw with h | h <;> rw [h] <;> simp [removeFirst]

theorem GInv.removeGuardAwaitEx {w : World} {p : Pid} (hp : GInv (exAdd ex p) fr w) (g : Nat)
    (haw : guardAw w p = [] ∨ guardAw w p = [.guard g]) : GInv (exAdd ex p) fr (removeAwait w p (.guard g)).1 := by
  rw [removeAwait_fst_eq]
  exact hp.setAwaitsEx (fun l => (removeFirst l (.guard g)).1) (removeGuard_filter haw)

theorem GInv.guardFrame_facts {w : World} (hp : GInv ex fr w) {p : Pid} {f : Frame} {g : Nat} (hx : ¬ ex p)
    (hfr : fr p = some f) (hon : FrameOn w f g) :
    (guardAw w p = [] ∨ guardAw w p = [.guard g]) ∧ (∀ g', queued w g' (p + 1) → g' = g) ∧
    (∀ e ∈ w.ev.pending, isGrant e → e.item.b = p + 1 → ¬ queued w g (p + 1)) ∧
    (∀ e ∈ w.ev.pending, e.item.a = aTime → e.item.c = 0 → e.item.b ≠ p + 1) ∧
    ((∀ c, f ≠ .condWait c) → ∀ e ∈ w.ev.pending, e.item.a = aCond → e.item.b ≠ p + 1) := by
  have hxp : ¬ ex (p + 1 - 1) := by simpa using hx
  have hga : guardAw w p = [] ∨ guardAw w p = [.guard g] := by
    rcases hp.ga p with h | ⟨g', f', h1, h2, h3⟩
    · exact Or.inl h
    · rw [hfr] at h1; cases h1
      rw [frameOn_fun hon h2]; exact Or.inr h3
  have hmem : ∀ g', Await.guard g' ∈ (w.proc p).awaits → g' = g := by
    intro g' h
    rw [mem_awaits_guard] at h
    rcases hga with h' | h'
    · rw [h'] at h; cases h
    · rw [h'] at h; simpa using h
  refine ⟨hga, ?_, ?_, ?_, ?_⟩
  · intro g' hq
    have := (hp.gk g' _ hq).2.2 hxp
    simp only [Nat.add_sub_cancel] at this
    exact hmem g' this
  · intro e he hgr hb hq
    obtain ⟨_, h2⟩ := hp.gr e he hgr
    rw [hb] at h2
    obtain ⟨g', h3, h4⟩ := h2 hxp
    simp only [Nat.add_sub_cancel] at h3
    have := hmem g' h3; subst this
    exact h4 hq
  · intro e he hea hec hb
    obtain ⟨_, h2⟩ := hp.oth e he hea hec
    rw [hb] at h2
    have := h2 hxp
    simp only [Nat.add_sub_cancel] at this
    rw [hfr] at this; cases this
    exact hon.elim
  · intro hnc e he hea hb
    have := hp.gc e he hea (by rw [hb]; exact hxp)
    rw [hb] at this
    simp only [Nat.add_sub_cancel] at this
    obtain ⟨c, hc⟩ := this
    rw [hfr] at hc; cases hc
    exact hnc c rfl


theorem guardAw_removeGuard (w : World) (p : Pid) (g : Nat) (haw : guardAw w p = [] ∨ guardAw w p = [.guard g]) :
    guardAw (removeAwait w p (.guard g)).1 p = [] := by
  rw [removeAwait_fst_eq]
  unfold guardAw
  rcases modProc_self_or w p fun x => { x with awaits := (removeFirst x.awaits (.guard g)).1 } with h | h <;> rw [h]
  · exact removeGuard_filter haw
  · rfl

/-- the state after `guardWaitLeave`, described relative to the state `w` before the recorded frame was cleared -/
structure Left (w w1 : World) (p : Pid) : Prop where
  aw : guardAw w1 p = []
  nq : ∀ g', ¬ queued w1 g' (p + 1)
  nr : ∀ e ∈ w1.ev.pending, e.item.a = aRes → e.item.c = 0 → e.item.b ≠ p + 1
  nt : ∀ e ∈ w1.ev.pending, e.item.a = aTime → e.item.c = 0 → e.item.b ≠ p + 1
  oc : ∀ e ∈ w1.ev.pending, e.item.a = aCond → e.item.b = p + 1 → e ∈ w.ev.pending

/-- the common part of the epilogues of all guard waits: the recorded frame has been cleared, then `guardWaitLeave` -/
theorem GInv.leaveGuard {w : World} (hp : GInv ex fr w) {p : Pid} {f : Frame} {g : Nat} (hx : ¬ ex p) (hfr : fr p = some f)
    (hon : FrameOn w f g) (sig : Int)
    (hq : sig = sigSuccess → (∀ e ∈ w.ev.pending, isGrant e → e.item.b ≠ p + 1) ∧ ¬ queued w g (p + 1)) :
    GInv (exAdd ex p) fr (guardWaitLeave (w.modProc p fun y => { y with blocked := none }) g p sig) ∧
    Left w (guardWaitLeave (w.modProc p fun y => { y with blocked := none }) g p sig) p := by
  obtain ⟨hga, hq1, hgrq, hnt, _⟩ := hp.guardFrame_facts hx hfr hon
  have hA : GInv (exAdd ex p) fr (w.modProc p fun y => { y with blocked := none }) :=
    (hp.exempt p).modBlocked p none (Or.inl (Or.inr rfl))
  have hgaA : guardAw (w.modProc p fun y => { y with blocked := none }) p = guardAw w p := by
    unfold guardAw; rw [modProc_proc]; split
    · rename_i h; rw [h.1]
    · rfl
  have hqA : ∀ g' k, queued (w.modProc p fun y => { y with blocked := none }) g' k ↔ queued w g' k := fun _ _ => Iff.rfl
  have hevA : (w.modProc p fun y => { y with blocked := none }).ev = w.ev := rfl
  generalize (w.modProc p fun y => { y with blocked := none }) = wA at hA hgaA hqA hevA
  unfold Sim.guardWaitLeave
  by_cases hs : sig ≠ sigSuccess
  · rw [if_pos hs]
    have hnq : ∀ g', g' ≠ g → ¬ queued wA g' (p + 1) := fun g' hne hq' => hne (hq1 g' ((hqA g' _).1 hq'))
    obtain ⟨f1, f2, f3, f4, f5⟩ := guardWithdraw_foot hA.gw hA.ei hA.cl g p hnq
    have hW := GInv.foot.guardWithdraw wA g p hA
    have hgaW : guardAw (Sim.guardWithdraw wA g p) p = guardAw w p := by
      unfold guardAw; rw [proc_congr f3]; exact hgaA
    generalize Sim.guardWithdraw wA g p = wW at hW hgaW f1 f2 f3 f4 f5
    have hga' : guardAw wW p = [] ∨ guardAw wW p = [.guard g] := by rw [hgaW]; exact hga
    have hevR : (removeAwait wW p (.guard g)).1.ev = wW.ev := by simp [removeAwait]
    have hqR : ∀ g' k, queued (removeAwait wW p (.guard g)).1 g' k ↔ queued wW g' k := fun _ _ => Iff.rfl
    refine ⟨hW.removeGuardAwaitEx g hga', guardAw_removeGuard wW p g hga', ?_, ?_, ?_, ?_⟩
    · intro g' hq'
      have hq'' := (hqR g' _).1 hq'
      by_cases hgg : g' = g
      · subst hgg; exact f2 hq''
      · exact hnq g' hgg (f1 g' _ hq'')
    · intro e he hea hec hb
      rw [hevR] at he
      by_cases hqg : queued w g (p + 1)
      · rcases f4 e he with h | h | ⟨_, _, h⟩
        · rw [hevA] at h; exact hgrq e h (Or.inl ⟨hea, hec⟩) hb hqg
        · rw [hea] at h; exact absurd h (by decide)
        · exact h hb
      · exact f5 (fun h => hqg ((hqA g _).1 h)) e he hea hec hb
    · intro e he hea hec hb
      rw [hevR] at he
      rcases f4 e he with h | h | ⟨h, _, _⟩
      · rw [hevA] at h; exact hnt e h hea hec hb
      · rw [hea] at h; exact absurd h (by decide)
      · rw [hea] at h; rcases h with h | h <;> exact absurd h (by decide)
    · intro e he hea hb
      rw [hevR] at he
      rcases f4 e he with h | h | ⟨_, _, h⟩
      · rw [hevA] at h; exact h
      · rw [hea] at h; exact absurd h (by decide)
      · exact absurd hb h
  · have hs' : sig = sigSuccess := Classical.byContradiction hs
    rw [if_neg hs]
    obtain ⟨hq2, hq3⟩ := hq hs'
    have hga' : guardAw wA p = [] ∨ guardAw wA p = [.guard g] := by rw [hgaA]; exact hga
    have hevR : (removeAwait wA p (.guard g)).1.ev = w.ev := by rw [← hevA]; simp [removeAwait]
    refine ⟨hA.removeGuardAwaitEx g hga', guardAw_removeGuard wA p g hga', ?_, ?_, ?_, ?_⟩
    · intro g' hq'
      have hq'' : queued w g' (p + 1) := (hqA g' _).1 hq'
      have := hq1 g' hq''; subst this
      exact hq3 hq''
    · intro e he hea hec hb
      rw [hevR] at he
      exact hq2 e he (Or.inl ⟨hea, hec⟩) hb
    · intro e he; rw [hevR] at he; exact hnt e he
    · intro e he _ _; rw [hevR] at he; exact he


theorem kindMatch_cond_iff (p : Pid) (e : HTag) : kindMatch p aCond none e = true ↔ e.item.b = p + 1 ∧ e.item.a = aCond := by
  unfold kindMatch; simp

/-- after the epilogue of a guard wait other than `cond_wait`: the invariant holds again with the process not suspended -/
theorem GInv.left_plain {w : World} (hp : GInv ex fr w) {p : Pid} {f : Frame} {g : Nat} (hx : ¬ ex p) (hfr : fr p = some f)
    (hon : FrameOn w f g) (hnc : ∀ c, f ≠ .condWait c) (sig : Int)
    (hq : sig = sigSuccess → (∀ e ∈ w.ev.pending, isGrant e → e.item.b ≠ p + 1) ∧ ¬ queued w g (p + 1)) :
    GInv ex (setFrame fr p none) (guardWaitLeave (w.modProc p fun y => { y with blocked := none }) g p sig) := by
  obtain ⟨h1, hl⟩ := hp.leaveGuard hx hfr hon sig hq
  obtain ⟨_, _, _, _, hncond⟩ := hp.guardFrame_facts hx hfr hon
  have hc : Clean (guardWaitLeave (w.modProc p fun y => { y with blocked := none }) g p sig) p := by
    refine ⟨hl.aw, hl.nq, ?_, hl.nt⟩
    intro e he hgr hb
    rcases hgr with ⟨h1', h2'⟩ | h1'
    · exact hl.nr e he h1' h2' hb
    · exact hncond hnc e (hl.oc e he h1' hb) h1' hb
  exact (h1.unexempt_clean hc).setFr_clean hc none

/-- … and of `cond_wait`, which additionally withdraws a condition wake-up that is already pending -/
theorem GInv.left_cond {w : World} (hp : GInv ex fr w) {p : Pid} {c g : Nat} (hx : ¬ ex p) (hfr : fr p = some (.condWait c))
    (hon : w.conds[c]? = some g) (sig : Int)
    (hq : sig = sigSuccess → (∀ e ∈ w.ev.pending, isGrant e → e.item.b ≠ p + 1) ∧ ¬ queued w g (p + 1)) :
    GInv ex (setFrame fr p none)
      (if sig ≠ sigSuccess then
        (cancelKindFor (guardWaitLeave (w.modProc p fun y => { y with blocked := none }) g p sig) p aCond none).1
       else guardWaitLeave (w.modProc p fun y => { y with blocked := none }) g p sig) := by
  obtain ⟨h1, hl⟩ := hp.leaveGuard hx hfr (f := .condWait c) hon sig hq
  generalize guardWaitLeave (w.modProc p fun y => { y with blocked := none }) g p sig = w1 at h1 hl
  by_cases hs : sig ≠ sigSuccess
  · rw [if_pos hs]
    obtain ⟨hrel, hgone, _, _⟩ := cancelKindFor_spec w1 p aCond none h1.ei
    have h2 := GInv.foot.cancelKindFor w1 p aCond none h1
    have hc : Clean (cancelKindFor w1 p aCond none).1 p := by
      have hev : ∀ e ∈ (cancelKindFor w1 p aCond none).1.ev.pending, e ∈ w1.ev.pending ∨ e.item.a = aEvent := by
        intro e he
        rcases hrel.pend e he with h | ⟨_, _, _, _, _, _, heq⟩
        · exact Or.inl h
        · right; rw [heq]; rfl
      refine ⟨?_, ?_, ?_, ?_⟩
      · unfold guardAw; rw [hrel.proc]; exact hl.aw
      · intro g' hq'; exact hl.nq g' ((queued_congr hrel.guards g' _).1 hq')
      · intro e he hgr hb
        rcases hev e he with h | h
        · rcases hgr with ⟨h1', h2'⟩ | h1'
          · exact hl.nr e h h1' h2' hb
          · have := hgone e he (EvInv.key_le h1.ei h)
            rw [(kindMatch_cond_iff p e).2 ⟨hb, h1'⟩] at this; cases this
        · rcases hgr with ⟨h1', _⟩ | h1' <;> rw [h] at h1' <;> exact absurd h1' (by decide)
      · intro e he hea hec hb
        rcases hev e he with h | h
        · exact hl.nt e h hea hec hb
        · rw [hea] at h; exact absurd h (by decide)
    exact (h2.unexempt_clean hc).setFr_clean hc none
  · rw [if_neg hs]
    have hs' : sig = sigSuccess := Classical.byContradiction hs
    obtain ⟨hq2, _⟩ := hq hs'
    have hc : Clean w1 p := by
      refine ⟨hl.aw, hl.nq, ?_, hl.nt⟩
      intro e he hgr hb
      rcases hgr with ⟨h1', h2'⟩ | h1'
      · exact hl.nr e he h1' h2' hb
      · exact hq2 e (hl.oc e he h1' hb) (Or.inr h1') hb
    exact (h1.unexempt_clean hc).setFr_clean hc none

/-- the epilogue of `hold`: resumed with anything but SUCCESS the hold cancels its own timer; resumed with SUCCESS (which
    only its own timer does, see `Quiet`) there is nothing left -/
theorem GInv.resume_hold {w : World} (hp : GInv ex fr w) {p : Pid} {h : Nat} (hx : ¬ ex p) (hfr : fr p = some (.hold h))
    (sig : Int) (hq : sig = sigSuccess → ∀ e ∈ w.ev.pending, e.item.a = aTime → e.item.c = 0 → e.item.b ≠ p + 1) :
    GInv ex (setFrame fr p none) (resumeFrame (w.modProc p fun y => { y with blocked := none }) p (.hold h) sig).1 := by
  have hxp : ¬ ex (p + 1 - 1) := by simpa using hx
  have haw : guardAw w p = [] := by
    rcases hp.ga p with h' | ⟨g, f, h1, h2, _⟩
    · exact h'
    · rw [hfr] at h1; cases h1; exact h2.elim
  -- guard-wise the process is clean; only its own timer may be pending
  obtain ⟨hnq, hng⟩ := hp.free_of_aw hx haw
  have hkey : ∀ e ∈ w.ev.pending, e.item.a = aTime → e.item.c = 0 → e.item.b = p + 1 → e.key = h := by
    intro e he hea hec hb
    obtain ⟨_, h2⟩ := hp.oth e he hea hec
    rw [hb] at h2
    have := h2 hxp
    simp only [Nat.add_sub_cancel] at this
    rw [hfr] at this; cases this; rfl
  have hA : GInv (exAdd ex p) fr (w.modProc p fun y => { y with blocked := none }) :=
    (hp.exempt p).modBlocked p none (Or.inl (Or.inr rfl))
  have hgaA : guardAw (w.modProc p fun y => { y with blocked := none }) p = [] := by
    unfold guardAw; rw [modProc_proc]; split
    · rename_i h'; rw [h'.1]; exact haw
    · exact haw
  have hevA : (w.modProc p fun y => { y with blocked := none }).ev = w.ev := rfl
  have hqA : ∀ g' k, queued (w.modProc p fun y => { y with blocked := none }) g' k ↔ queued w g' k := fun _ _ => Iff.rfl
  generalize (w.modProc p fun y => { y with blocked := none }) = wA at hA hgaA hevA hqA
  simp only [resumeFrame]
  by_cases hs : sig ≠ sigSuccess
  · rw [if_pos hs]
    -- timerCancel, then the TIME awaitable once more
    have h1 : GInv (exAdd ex p) fr (removeAwait wA p (.time h)).1 := hA.removeAwait_other p _ rfl
    have h2 := h1.evCancel_fst h
    have hrel := evCancel_rel (removeAwait wA p (.time h)).1 h
    have hev1 : (removeAwait wA p (.time h)).1.ev = w.ev := by rw [← hevA]; simp [removeAwait]
    have hnot : h ∉ keys (evCancel (removeAwait wA p (.time h)).1 h).1.ev.pending :=
      evCancel_not_pending _ h (by rw [hev1]; exact hp.ei)
    have h3 : GInv (exAdd ex p) fr (removeAwait (timerCancel wA p h).1 p (.time h)).1 := by
      simp only [Sim.timerCancel]; exact h2.removeAwait_other p _ rfl
    have hc : Clean (removeAwait (timerCancel wA p h).1 p (.time h)).1 p := by
      have haw3 : guardAw (removeAwait (timerCancel wA p h).1 p (.time h)).1 p = [] := by
        rw [guardAw_removeAwait_other _ _ _ rfl]
        unfold guardAw Sim.timerCancel
        rw [hrel.proc]
        exact (guardAw_removeAwait_other wA p _ rfl p).trans hgaA
      have hguards : (removeAwait (timerCancel wA p h).1 p (.time h)).1.guards = wA.guards := hrel.guards
      have hevF : (removeAwait (timerCancel wA p h).1 p (.time h)).1.ev = (evCancel (removeAwait wA p (.time h)).1 h).1.ev := by
        simp only [removeAwait, Sim.timerCancel, modProc_ev]
      have hold : ∀ e ∈ (removeAwait (timerCancel wA p h).1 p (.time h)).1.ev.pending, e ∈ w.ev.pending ∨ e.item.a = aEvent := by
        intro e he
        rw [hevF] at he
        rcases hrel.pend e he with h' | ⟨_, _, _, _, _, _, heq⟩
        · rw [hev1] at h'; exact Or.inl h'
        · right; rw [heq]; rfl
      refine ⟨?_, ?_, ?_, ?_⟩
      · exact haw3
      · intro g hq'
        exact hnq g ((hqA g _).1 ((queued_congr hguards g _).1 hq'))
      · intro e he hgr hb
        rcases hold e he with h' | h'
        · exact hng e h' hgr hb
        · rcases hgr with ⟨h1', _⟩ | h1' <;> rw [h'] at h1' <;> exact absurd h1' (by decide)
      · intro e he hea hec hb
        rcases hold e he with h' | h'
        · have hk := hkey e h' hea hec hb
          rw [hevF] at he
          exact hnot (Event.mem_keys.2 ⟨e, he, hk⟩)
        · rw [hea] at h'; exact absurd h' (by decide)
    exact (h3.unexempt_clean hc).setFr_clean hc none
  · rw [if_neg hs]
    have hs' : sig = sigSuccess := Classical.byContradiction hs
    have hc : Clean wA p := ⟨hgaA, fun g hq' => hnq g ((hqA g _).1 hq'), by rw [hevA]; exact hng, by rw [hevA]; exact hq hs'⟩
    exact (hA.unexempt_clean hc).setFr_clean hc none

end CimbaModel.Sim.S3
