/-
  S3 — the grant invariant: `dispatch`.
-/
import CimbaModel.Sim.S3GrantRun
import CimbaModel.Sim.S3All

namespace CimbaModel.Sim.S3
open CimbaModel CimbaModel.Sim CimbaModel.Event CimbaModel.Generated CimbaModel.KPQ
open CimbaModel.HashHeap (HTag Item Order HH WF abs liveTags)

variable {S : Nat → Prop}

/-- taking the next event: homogeneity survives; the grant invariant survives with a deficit of one at the object end of
    the guard the taken event's process awaits, if that event was a grant -/
theorem gh_takeNext {w : World} (hp : GInvB w) (hgh : GH (fun _ => 0) w) {t : HTag} {ev' : EvQ}
    (hn : executeNext w.ev = some (t, ev')) :
    HG (takeNext w t ev') ∧
    ∀ df : Demand → Nat, (∀ d g0, isG01 t → Await.guard g0 ∈ (w.proc (t.item.b - 1)).awaits → gOf w d = some g0 → 1 ≤ df d) →
      GI df (takeNext w t ev') := by
  obtain ⟨_, htm, hpend, _⟩ := executeNext_facts hp.ei hn
  have heq := takeNext_eq w t ev'
  have hproc : ∀ x, (S3.takeNext w t ev').proc x = w.proc x := takeNext_proc w t ev'
  have hgd : (S3.takeNext w t ev').guards = w.guards := by rw [heq]; rfl
  have hgo : ∀ d, gOf (S3.takeNext w t ev') d = gOf w d := fun d => by rw [heq]; exact gOf_congr rfl rfl rfl rfl rfl d
  have hnd : ∀ d, need (S3.takeNext w t ev') d = need w d := fun d => by rw [heq]; exact need_congr rfl rfl rfl rfl rfl d
  have hstay : ∀ e ∈ w.ev.pending, e.key ≠ t.key → e ∈ (S3.takeNext w t ev').ev.pending := by
    intro e he hk
    rw [heq]
    simp only [pushAll_pending]
    apply List.mem_append_right
    show e ∈ ev'.pending
    rw [hpend]; exact mem_remove.2 ⟨he, hk⟩
  refine ⟨hgh.1.ofGuards hgd hgo, ?_⟩
  intro df hdf d g hd hq
  rw [hgo] at hd
  rw [hnd]
  obtain ⟨k, hk⟩ := hq
  have hold : need w d ≤ G w g + 0 := hgh.2 d g hd ⟨k, (queued_congr hgd g k).1 hk⟩
  have hgof : ∀ e, grantOf (S3.takeNext w t ev') g e ↔ grantOf w g e := grantOf_congr (fun x => by rw [hproc]) g
  by_cases hgt : grantOf w g t
  · have : G w g ≤ G (S3.takeNext w t ev') g + 1 := by
      refine G_le_succ_of_keep_except hp.ei g t.key ?_
      intro e he hk' hgr
      exact ⟨e, hstay e he hk', rfl, (hgof e).2 hgr⟩
    have := hdf d g hgt.1 hgt.2 hd
    omega
  · have : G w g ≤ G (S3.takeNext w t ev') g := by
      refine G_le_of_keep hp.ei g ?_
      intro e he hgr
      have hk' : e.key ≠ t.key := by
        intro hk'
        have : e = t := HashHeap.eq_of_key_eq hp.ei.part.keysNodup he htm hk'
        subst this; exact hgt hgr
      exact ⟨e, hstay e he hk', rfl, (hgof e).2 hgr⟩
    omega

/-- everything that is proved to hold between two dispatches, the grant invariant included -/
structure GrantAll (S : Nat → Prop) (w : World) : Prop where
  all : AllInv w
  k : KInv S w
  es : EndSep w
  kok : KOk S w
  cv : CvOk S w
  gh : w.fault = none → GH (fun _ => 0) w

theorem isG01_dec {t : HTag} (hc64 : t.item.c < 2 ^ 64) : isG01 t ↔ (t.item.a = aRes ∧ decSig t.item.c = sigSuccess) := by
  unfold isG01
  constructor
  · rintro ⟨h1, h2⟩; exact ⟨h1, by rw [h2]; rfl⟩
  · rintro ⟨h1, h2⟩; exact ⟨h1, (decSig_eq_zero hc64).1 h2⟩

/-- everything `GrantAll` says besides the grant invariant itself: kept by the run on its own -/
structure GBase (S : Nat → Prop) (w : World) : Prop where
  all : AllInv w
  k : KInv S w
  es : EndSep w
  kok : KOk S w
  cv : CvOk S w

/-- `Run.and` pairs the demands on a resumption as well (`Due ∧ True ∧ …`): the last `mono` folds them back into `Due` and
    the nested conjunction into the structure -/
theorem GBase.run : Run (GBase S) (GBase S) Caller Due :=
  ((AllInv.run.mono (J' := GBase S) (fun h => h.all) id Iff.rfl).and
    ((KInv.run.mono (J' := GBase S) (fun h => ⟨h.k, h.all.g.ei, h.kok⟩) (fun h => h.1) Iff.rfl).and
      (((run_ofStat EndSep.ofStat).mono (J' := GBase S) (fun h => h.es) id Iff.rfl).and
        (((run_ofStat KOk.ofStat).mono (J' := GBase S) (fun h => h.kok) id Iff.rfl).and
          ((run_ofStat CvOk.ofStat).mono (J' := GBase S) (fun h => h.cv) id Iff.rfl))))).mono id
    (fun h => ⟨h.1, h.2.1, h.2.2.1, h.2.2.2.1, h.2.2.2.2⟩) ⟨fun h => ⟨h, trivial, trivial, trivial, trivial⟩, fun h => h.1⟩

theorem RunInv.ofBase {w : World} {df : Demand → Nat} (hb : GBase S w) (hgh : w.fault = none → GH df w) : RunInv S df w :=
  ⟨hb.all.g, hb.all.t, hb.k, hb.all.side, hb.es, hb.kok, hb.cv, hgh⟩

/-- one dispatch keeps homogeneity and the grant invariant.  The invariants of the world in which the subject of the
    event is resumed, and that the resumption is legitimate, come from `GBase.run`; the argument here is the deficit:
    taking a grant off the queue books one at the end its owner waits on, which the resumed call settles. -/
theorem GrantAll.gh_dispatch {w w' : World} (h : GrantAll S w) (hd : dispatch w = some w') :
    w'.fault = none → GH (fun _ => 0) w' := by
  intro hf'
  have hb : GBase S w := ⟨h.all, h.k, h.es, h.kok, h.cv⟩
  have hp := h.all.g
  have hnr := h.all.nr
  have hgh := h.gh ((dispatch_clock hp.ei hd).fault hf')
  revert hf'
  rw [S3.dispatch_eq] at hd
  cases hex : executeNext w.ev with
  | none => rw [hex] at hd; cases hd
  | some x =>
    obtain ⟨t, ev'⟩ := x
    rw [hex] at hd
    injection hd with hd
    subst hd
    have run := GBase.run (S := S)
    have hT : Taken w t (S3.takeNext w t ev') := GRely.taken ⟨h.all.g, h.all.p, h.all.nr, h.all.side⟩ hex
    obtain ⟨hHGT, hGIT⟩ := gh_takeNext hp hgh hex
    have hzero : ∀ f : Frame, (∀ d, frameDemand f ≠ some d → (fun _ : Demand => 0) d = 0) ∧
        (∀ d, frameDemand f = some d → (fun _ : Demand => 0) d ≤ 1) ∧
        (decSig t.item.c ≠ sigSuccess → ∀ d, (fun _ : Demand => 0) d = 0) :=
      fun _ => ⟨fun _ _ => rfl, fun _ _ => Nat.zero_le _, fun _ _ => rfl⟩
    have hGH : ¬ isG01 t → GH (fun _ => 0) (S3.takeNext w t ev') := fun hn01 => ⟨hHGT, hGIT _ (fun _ _ hg => absurd hg hn01)⟩
    have hGHa : t.item.a ≠ aRes → GH (fun _ => 0) (S3.takeNext w t ev') := fun hne => hGH (fun hg => hne hg.1)
    have hres0 : ∀ {W : World}, GBase S W ∧ Due (t.item.b - 1) (decSig t.item.c) W → GH (fun _ => 0) W →
        (if isRunning W (t.item.b - 1) = true then Sim.resumeProc W (t.item.b - 1) (decSig t.item.c) else W).fault = none →
        GH (fun _ => 0) (if isRunning W (t.item.b - 1) = true then Sim.resumeProc W (t.item.b - 1) (decSig t.item.c) else W) :=
      fun hW hg => ite_of (P := fun W' => W'.fault = none → GH (fun _ => 0) W')
        (fun _ => gs_resumeProc (RunInv.ofBase hW.1 fun _ => hg) hW.2 (fun f _ => hzero f)) (fun _ _ => hg)
    have hres : ∀ {W : World}, GBase S W ∧ Due (t.item.b - 1) (decSig t.item.c) W → GH (fun _ => 0) W →
        (Sim.resumeProc W (t.item.b - 1) (decSig t.item.c)).fault = none →
        GH (fun _ => 0) (Sim.resumeProc W (t.item.b - 1) (decSig t.item.c)) :=
      fun hW hg => gs_resumeProc (RunInv.ofBase hW.1 fun _ => hg) hW.2 (fun f _ => hzero f)
    refine Sim.dispatchBody_cases (fun W => W.fault = none → GH (fun _ => 0) W) _ t
      (fun _ _ m hf => (fail_fault_none hf).elim) ?_ ?_ ?_ ?_ ?_ ?_ (fun hn _ => hGHa (hn aRes (by decide)))
    · intro ha hs
      obtain ⟨hb1, hc⟩ := (run.start hb t ev' hex ha).2 hs
      exact gs_runScript _ (RunInv.ofBase hb1 fun _ => (hGHa (by rw [ha]; decide)).inert hT.g.ei
        ((Inert.refl _).modProc _ _ fun _ => rfl)) hc.1
    · intro ha
      exact hres (run.time hb t ev' hex ha)
        ((hGHa (by rw [ha]; decide)).inert hT.g.ei ((Inert.refl _).removeAwait_fst _ _ rfl))
    · intro k hak
      refine hres0 (run.wake hb t ev' hex k hak) ?_
      rcases hak with ⟨ha, rfl⟩ | ⟨ha, rfl⟩ | ⟨ha, rfl⟩
      · exact (hGHa (by rw [ha]; decide)).inert hT.g.ei ((Inert.refl _).removeAwaitKind_fst _ _ isProcA_not_guard)
      · exact (hGHa (by rw [ha]; decide)).inert hT.g.ei ((Inert.refl _).removeAwaitKind_fst _ _ isEventA_not_guard)
      · have hg : isGrant t := Or.inr ha
        have hb0 := (hp.gr t hT.mem hg).1
        have hqT : Quiet (S3.takeNext w t ev') (t.item.b - 1) := hT.took.quiet_grant hp hT.mem hg (by omega)
        rw [removeAwaitKind_fst_eq]
        refine ⟨hHGT.ofGuards rfl (fun d => gOf_congr rfl rfl rfl rfl rfl d), ?_⟩
        exact (hGHa (by rw [ha]; decide)).2.modAwaits hT.g.ei _ _ (fun e he hg' => hqT.ng e he (Or.inl hg'))
          (fun e he hg' => (hT.g.gr e he (Or.inl hg')).1)
    · intro ha
      have hrun := run.grant hb t ev' hex (ha.elim Or.inl fun h => Or.inr (Or.inl h))
      by_cases hg01 : isG01 t
      · -- a deficit of one at the object end of the guard the process awaits
        obtain ⟨p', g0, f, hb', hbl, hon, haw, _, _, _⟩ := hp.grant_owned hT.mem (Or.inl hg01)
        have hpp : p' = t.item.b - 1 := by omega
        subst hpp
        have hrunning : isRunning (S3.takeNext w t ev') (t.item.b - 1) = true := by
          unfold isRunning
          rw [hT.proc]
          apply decide_eq_true
          apply Classical.byContradiction
          intro hs
          have := (hnr _ hs).2
          rw [hbl] at this; cases this
        rw [if_pos hrunning]
        have hGI : GI (fun d => if gOf w d = some g0 then 1 else 0) (S3.takeNext w t ev') := by
          refine hGIT _ ?_
          intro d g0' _ hmem hgo
          rw [mem_awaits_guard, haw] at hmem
          have : g0' = g0 := by simpa using hmem
          subst this
          simp [hgo]
        refine gs_resumeProc (RunInv.ofBase hrun.1 fun _ => ⟨hHGT, hGI⟩) hrun.2 ?_
        intro f' hbf
        rw [hT.proc, hbl] at hbf
        cases hbf
        refine ⟨?_, fun d _ => by split <;> omega, fun hs => absurd (by rw [hg01.2]; rfl) hs⟩
        intro d hfd
        rw [if_neg]
        intro hgo
        cases hfd' : frameDemand f with
        | none =>
          cases f <;> simp only [frameDemand, reduceCtorEq] at hfd' <;> first | exact hon.elim | skip
          rename_i c
          exact condGuard_not_obj h.all.side.sep hon d hgo
        | some d' =>
          have := (frameOn_gOf hfd' g0).1 hon
          have hdd := h.es d d' g0 hgo this
          subst hdd
          exact hfd hfd'
      · exact hres0 hrun (hGH hg01)
    · intro ha
      have hTT := h.all.t.takeNext_other hex (by rw [ha]; decide)
      have hGH0 := hGHa (by rw [ha]; decide)
      have hGS : GS (blockedOf (S3.takeNext w t ev')) (fun _ => 0) (S3.takeNext w t ev') := ⟨hT.g, hGH0.1, hGH0.2⟩
      exact hres (run.intr hb t ev' hex ha) (hGS.cancelAwaiteds _ (TInv.timersOk hTT _)).gh
    · intro ha
      exact hres (run.grant hb t ev' hex (Or.inr (Or.inr ha))) (hGHa (by rw [ha]; decide))

end CimbaModel.Sim.S3
