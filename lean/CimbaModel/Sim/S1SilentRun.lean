/-
  S1 — `Silent` through resumptions, scripts, dispatch and the run loop.  `Silent` needs `HInv`, `WInv`, `DeadRec` at
  every command, so the four travel together (`AllInv`).  `wd_conjunct`: what the run asks of one invariant among a set
  that contains `WInv` and `DeadRec` (they say in which state a process is when a command of its script is fetched); the
  set is then kept by `Run.and` (Sim/Shape.lean).
-/
import CimbaModel.Sim.S1Silent
import CimbaModel.Sim.S1WaitRun
import CimbaModel.Sim.S1HolderStep

namespace CimbaModel.Sim
open CimbaModel CimbaModel.Event CimbaModel.Generated
open CimbaModel.HashHeap (HTag Item Order HH)

structure AllInv (w : World) : Prop where
  hold : HInv w
  wait : WInv w
  dead : DeadRec w
  silent : Silent w

theorem ec_afterPop {A : Nat → Bool} {R : World → Prop} (hR : EvClosed A R) (hE : A aEvent = true) {w : World}
    {t : HTag} {ev' : EvQ} (hex : executeNext w.ev = some (t, ev')) (h : R w) : R (afterPop w t ev') := by
  unfold afterPop
  apply ec_wakeEventWaiters hR hE
  exact hR.ev_only (w := { w with ev := ev' })
    (hR.sub w ev' (by rw [(executeNext_spec hex).2]; exact List.filter_sublist) h) rfl

/-- one invariant `I` among a set `J` that contains `WInv` and `DeadRec`: `I` holds after a step made where `J` holds (a
    command, a continuation, the end of a process, the taking of the next event), and `I` alone carries it through the
    rest of an event's action.  What is asked of the caller is kept by `WInv` and `DeadRec`. -/
theorem wd_conjunct {J I : World → Prop} (hwd : ∀ {w}, J w → WInv w ∧ DeadRec w)
    (emit : ∀ {w}, J w → ∀ l, I (w.emit l)) (fail : ∀ {w}, J w → ∀ m, I (w.fail m))
    (pc : ∀ {w}, J w → ∀ p n, I (w.modProc p fun y => { y with pc := n }))
    (finish : ∀ {w}, J w → ∀ p, I (finishProc w p 0 false))
    (exec : ∀ {w}, J w → ∀ p, AtCmd p w → ∀ c text, (w.proc p).script[(w.proc p).pc]? = some (c, text) → ∀ l,
      I (execCmd (w.emit l) p c).1)
    (resume : ∀ {w}, J w → ∀ p f, (w.proc p).status = .running → (w.proc p).blocked = some f → ∀ sig,
      I (resumeFrame (w.modProc p fun y => { y with blocked := none }) p f sig).1)
    (pop : ∀ {w}, J w → ∀ t ev', executeNext w.ev = some (t, ev') → I (S3.takeNext w t ev'))
    (start : ∀ {w}, I w → ∀ z, (w.proc z).status ≠ .running →
      I (w.modProc z fun y => { y with status := .running, pc := 0, blocked := none }))
    (untime : ∀ {w}, I w → ∀ z k, I (removeAwait w z (.time k)).1)
    (unawaitKind : ∀ {w}, J w → ∀ t ev', executeNext w.ev = some (t, ev') → ∀ k,
      (t.item.a = aProc ∧ k = isProcA) ∨ (t.item.a = aEvent ∧ k = isEventA) ∨ (t.item.a = aCond ∧ k = isGuardA) →
      I (removeAwaitKind (S3.takeNext w t ev') (t.item.b - 1) k).1)
    (cancel : ∀ {w}, I w → ∀ z, I (cancelAwaiteds w z)) : Run J I AtCmd fun _ _ _ => True where
  emit := emit
  fail := fail
  pc := pc
  finish := finish
  exec := exec
  next hw := wd_kept.next (hwd hw)
  resume hw p f sig _ hr hb := ⟨resume hw p f hr hb sig, (wd_kept.resume (hwd hw) p f hr hb sig).2⟩
  start hw t ev' hex _ :=
    ⟨pop hw t ev' hex, fun hnr => ⟨start (pop hw t ev' hex) _ hnr, (wd_kept.start (wd_kept.pop (hwd hw) t ev' hex) _ hnr).2⟩⟩
  time hw t ev' hex _ := ⟨untime (pop hw t ev' hex) _ _, trivial⟩
  wake hw t ev' hex k hk := ⟨unawaitKind hw t ev' hex k hk, trivial⟩
  grant hw t ev' hex _ := ⟨pop hw t ev' hex, trivial⟩
  intr hw t ev' hex _ := ⟨cancel (pop hw t ev' hex) _, trivial⟩
  other hw t ev' hex _ := pop hw t ev' hex

/-- an invariant that is kept on its own, among such a set -/
theorem wd_conjunct_kept {J I : World → Prop} (h : Kept I fun _ _ => True) (hI : ∀ {w}, J w → I w)
    (hwd : ∀ {w}, J w → WInv w ∧ DeadRec w) : Run J I AtCmd fun _ _ _ => True :=
  wd_conjunct hwd (fun hw => h.emit (hI hw)) (fun hw => h.fail (hI hw)) (fun hw => h.pc (hI hw)) (fun hw => h.finish (hI hw))
    (fun hw p _ => h.exec (hI hw) p trivial) (fun hw p f hr hb sig => (h.resume (hI hw) p f hr hb sig).1)
    (fun hw => h.pop (hI hw)) (fun hw z hnr => (h.start hw z hnr).1) h.untime (fun hw => h.unawaitKind (hI hw)) h.cancel

theorem tgt_resumeFrame {st : Pid → Status} {w : World} (h : TgtRun st w) (p : Pid) (f : Frame) (sig : Int) :
    TgtRun st (resumeFrame w p f sig).1 :=
  ec_resumeFrame (tgt_closed st) w p f sig (by cases f <;> rfl) h

theorem silent_of_same {w w' : World} (h : Silent w) (he : w'.ev = w.ev)
    (hst : ∀ q, (w'.proc q).status = (w.proc q).status) : Silent w' :=
  Silent.of_tgt ((tgt_closed _).ev_only h he) hst

theorem allinv_of_same {w w' : World} (h : AllInv w) (he : w'.ev = w.ev) (hp : w'.procs = w.procs)
    (hr : ∀ r, w'.rv r = w.rv r) : AllInv w' :=
  ⟨h.hold.of_same hr (fun q r => hcount_congr (fun q => by rw [proc_congr hp]) q r), h.wait.of_same hp he,
   h.dead.of_procs hp, silent_of_same h.silent he (fun q => by rw [proc_congr hp])⟩

theorem allinv_execCmd {w : World} (h : AllInv w) (p : Pid) (hp : p < w.procs.size)
    (hrun : (w.proc p).status = .running) (hpa : w.pa p = []) (c : Cmd) : AllInv (execCmd w p c).1 :=
  ⟨hinv_execCmd h.hold p hp c, (winv_execCmd h.wait p hp hpa c).1, dr_execCmd h.dead p hrun c,
   silent_execCmd h.silent h.hold h.wait h.dead p hrun c⟩

theorem allinv_finishProc {w : World} (h : AllInv w) (z : Pid) (val : Int) (stopped : Bool) :
    AllInv (finishProc w z val stopped) :=
  ⟨hinv_finishProc h.hold z val stopped, (winv_finishProc h.wait z val stopped).1, dr_finishProc h.dead z val stopped,
   silent_finishProc h.silent h.wait h.dead z val stopped⟩

theorem silent_pop {w : World} (h : Silent w) {t : HTag} {ev' : EvQ} (hex : executeNext w.ev = some (t, ev')) :
    Silent (S3.takeNext w t ev') :=
  show Silent (afterPop w t ev') from
    Silent.of_tgt (ec_afterPop (tgt_closed _) internal_loud.event hex h) (fun q => by rw [afterPop_proc])

/-- `Silent` among a set of invariants that contains the other three -/
theorem silent_conjunct {J : World → Prop} (hJ : ∀ {w}, J w → AllInv w) : Run J Silent AtCmd fun _ _ _ => True :=
  wd_conjunct (fun hw => ⟨(hJ hw).wait, (hJ hw).dead⟩)
    (fun hw l => silent_of_same (hJ hw).silent rfl (fun _ => rfl))
    (fun {w} hw m => silent_of_same (hJ hw).silent (fail_ev w m) (fun q => by rw [fail_proc]))
    (fun hw p n => silent_of_same (hJ hw).silent rfl (fun q => by simp))
    (fun hw p => silent_finishProc (hJ hw).silent (hJ hw).wait (hJ hw).dead p 0 false)
    (fun {w} hw p hc c _ hs l =>
      have h := allinv_of_same (w' := w.emit l) (hJ hw) rfl rfl (fun _ => rfl)
      silent_execCmd h.silent h.hold h.wait h.dead p (hc.1 (lt_np_of_script w p _ _ hs)) c)
    (fun {w} hw p f _ _ sig =>
      Silent.of_tgt (tgt_resumeFrame ((tgt_closed _).ev_only (w' := w.modProc p fun y => { y with blocked := none })
        (hJ hw).silent rfl) p f sig) (fun q => by rw [resumeFrame_status]; simp))
    (fun hw t ev' hex => silent_pop (hJ hw).silent hex)
    (fun h z _ => tgt_mono ((tgt_closed _).ev_only h rfl) (fun q hq => by
      rw [proc_modProc]; split
      · rfl
      · exact hq))
    (fun h z k => silent_of_same h (by simp) (fun q => by simp))
    (fun hw t ev' hex k _ => silent_of_same (silent_pop (hJ hw).silent hex) (by simp) (fun q => by simp))
    (fun {w} h z => Silent.of_tgt (w := w)
      (ec_cancelAwaiteds (tgt_closed _) internal_loud.event ⟨internal_loud.res, internal_loud.cond⟩ _ _ h) (fun q => by simp))

theorem allinv_run : Run AllInv AllInv AtCmd fun _ _ _ => True :=
  (((wd_conjunct_kept hinv_kept (fun h => h.hold) (fun h => ⟨h.wait, h.dead⟩)).and
      (wd_kept.run.mono (fun h => ⟨h.wait, h.dead⟩) id Iff.rfl)).and (silent_conjunct id)).mono id
    (fun h => ⟨h.1.1, h.1.2.1, h.1.2.2, h.2⟩) ⟨fun _ => ⟨⟨trivial, trivial⟩, trivial⟩, fun _ => trivial⟩

theorem allinv_resumeProc {w : World} (h : AllInv w) (p : Pid) (sig : Int) : AllInv (resumeProc w p sig) :=
  allinv_run.toAct.resumeProc h p sig trivial

theorem allinv_dispatch {w w' : World} (h : AllInv w) (hd : dispatch w = some w') : AllInv w' := allinv_run.dispatch h hd

theorem allinv_runAll (fuel : Nat) {w : World} (h : AllInv w) : AllInv (runAll fuel w) := allinv_run.runAll fuel h

end CimbaModel.Sim
