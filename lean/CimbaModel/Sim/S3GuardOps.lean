/-
  S3 — the other waiting-list primitives: `guardEnqueued`, `guardRemove`, `guardWaitEnter`, `guardWithdraw`, the
  priority change of a waiting process, and the footprint of cancelling events (`evCancel` folds: `cancelKindFor`,
  `cancelAllFor`); what the kernel's `reprioritize` keeps of the pending events.
-/
import CimbaModel.Sim.S3Guard

namespace CimbaModel.Sim.S3
open CimbaModel CimbaModel.Sim CimbaModel.Event CimbaModel.Generated CimbaModel.KPQ
open CimbaModel.HashHeap (HTag Item Order HH WF abs liveTags)

theorem guardEnqueued_eq {w : World} {g : Nat} {gd : Guard} (hg : w.guards[g]? = some gd) (hwf : GWF gd.q) (p : Pid) :
    guardEnqueued w g p = decide (p + 1 ∈ keys (abs gd.q)) := by
  unfold guardEnqueued
  rw [hg]
  simp only [HashHeap.isEnqueued_spec hwf (p + 1) (by omega)]

/-- `guardRemove` on a well-formed queue: exactly the named process leaves, the answer is whether it was queued -/
theorem guardRemove_spec {w : World} {g : Nat} {gd : Guard} (hg : w.guards[g]? = some gd) (hwf : GWF gd.q) (p : Pid) :
    ∃ q', HashHeap.remove guard_queue_check gd.q (p + 1) = .ok (q', decide (p + 1 ∈ keys (abs gd.q))) ∧ GWF q' ∧
      (abs q').Perm (KPQ.remove (abs gd.q) (p + 1)) ∧
      guardRemove w g p = (setGuardQ w g q', decide (p + 1 ∈ keys (abs gd.q))) := by
  obtain ⟨q', hrun, a⟩ := HashHeap.remove_abs hwf _ (Nat.succ_ne_zero p)
  refine ⟨q', hrun, a.wf, a.perm, ?_⟩
  unfold guardRemove
  rw [hg]
  simp only [hrun]

theorem guardRemove_none {w : World} {g : Nat} (hg : w.guards[g]? = none) (p : Pid) : guardRemove w g p = (w, false) := by
  unfold guardRemove; rw [hg]

theorem setGuardQ_self {w : World} {g : Nat} {gd : Guard} (hg : w.guards[g]? = some gd) : setGuardQ w g gd.q = w := by
  unfold setGuardQ
  have : w.guards.modify g (fun gd' => { gd' with q := gd.q }) = w.guards := by
    apply Array.ext_getElem?
    intro i
    rw [Array.getElem?_modify]
    split
    · rename_i h; subst h; rw [hg]; rfl
    · rfl
  rw [this]

theorem guardRemove_absent {w : World} {g : Nat} {gd : Guard} (hg : w.guards[g]? = some gd) (hwf : GWF gd.q) {p : Pid}
    (hp : p + 1 ∉ keys (abs gd.q)) : guardRemove w g p = (w, false) := by
  unfold guardRemove
  rw [hg]
  simp only [HashHeap.remove_not_mem hwf (Nat.succ_ne_zero p) hp, setGuardQ_self hg]

/-- the world after a successful enqueue in `guardWaitEnter` -/
def enterWorld (w : World) (g : Nat) (gd : Guard) (q' : HH) (p : Pid) (d : Demand) : World :=
  addAwait { w with guards := w.guards.set! g { gd with q := q', demands := (p + 1, d) :: gd.demands.filter (·.1 ≠ p + 1) } }
    p (.guard g)

/-- `guardWaitEnter`: the caller is enqueued with key p+1, entry time = now, priority = its current priority, its demand
    is registered, and the guard is pushed on its awaits -/
theorem guardWaitEnter_spec {w : World} {g : Nat} {gd : Guard} (hg : w.guards[g]? = some gd) (hwf : GWF gd.q) (p : Pid)
    (d : Demand) (h64 : p + 1 < 2 ^ 64) (hfresh : p + 1 ∉ keys (abs gd.q))
    (hroom : gd.q.count < 2 ^ gd.q.exp ∨ gd.q.exp < 31) :
    ∃ q', HashHeap.enqueue guard_queue_check gd.q ⟨p + 1, 0, 0, 0⟩ (p + 1) w.now (w.proc p).prio = .ok (q', p + 1) ∧
      GWF q' ∧ (abs q').Perm (⟨p + 1, 0, ⟨p + 1, 0, 0, 0⟩, w.now, (w.proc p).prio⟩ :: abs gd.q) ∧
      guardWaitEnter w g p d = enterWorld w g gd q' p d := by
  obtain ⟨q', hrun, a⟩ := HashHeap.enqueue_key_ok hwf ⟨p + 1, 0, 0, 0⟩ w.now (w.proc p).prio (Nat.succ_ne_zero p) h64 hfresh
    hroom
  refine ⟨q', hrun, a.wf, a.perm, ?_⟩
  unfold guardWaitEnter enterWorld
  rw [hg]
  simp only [hrun]

theorem enterWorld_guard (w : World) (g : Nat) (gd : Guard) (q' : HH) (p : Pid) (d : Demand) (hg : g < w.guards.size) :
    (enterWorld w g gd q' p d).guards[g]? =
      some { gd with q := q', demands := (p + 1, d) :: gd.demands.filter (·.1 ≠ p + 1) } := by
  simp [enterWorld, addAwait, World.modProc, Array.set!_eq_setIfInBounds, hg]

theorem enterWorld_guard_ne (w : World) (g g' : Nat) (gd : Guard) (q' : HH) (p : Pid) (d : Demand) (h : g' ≠ g) :
    (enterWorld w g gd q' p d).guards[g']? = w.guards[g']? := by
  simp [enterWorld, addAwait, World.modProc, Array.set!_eq_setIfInBounds, Ne.symm h]

theorem lookup_filter_of_pos {β : Type} (P : Nat → Bool) (l : List (Nat × β)) {k : Nat} (hk : P k = true) :
    (l.filter fun x => P x.1).lookup k = l.lookup k := by
  induction l with
  | nil => rfl
  | cons x xs ih =>
    rcases x with ⟨x1, x2⟩
    by_cases hx : P x1 = true
    · rw [List.filter_cons_of_pos (by exact hx), List.lookup_cons, List.lookup_cons, ih]
    · have h1 : (k == x1) = false := by
        rw [beq_eq_false_iff_ne]
        intro e; exact hx (e ▸ hk)
      rw [List.filter_cons_of_neg (by exact hx), List.lookup_cons, h1, ih]

theorem lookup_filter_ne {β : Type} (l : List (Nat × β)) (k a : Nat) (h : k ≠ a) :
    (l.filter (·.1 ≠ a)).lookup k = l.lookup k :=
  lookup_filter_of_pos (fun n => decide (n ≠ a)) l (by simpa using h)

theorem enter_demandOf (gd : Guard) (q' : HH) (p : Pid) (d : Demand) (k : Nat) :
    demandOf { gd with q := q', demands := (p + 1, d) :: gd.demands.filter (·.1 ≠ p + 1) } k =
      if k = p + 1 then d else demandOf gd k := by
  unfold demandOf
  by_cases hk : k = p + 1
  · subst hk; simp [List.lookup]
  · have h1 : (k == p + 1) = false := by simpa using hk
    simp only [hk, if_false]
    rw [List.lookup_cons, h1, lookup_filter_ne _ _ _ hk]


/-- a wake-up (aEvent, CANCELLED) for a process registered as a waiter of some event in `w` -/
def IsCancelWake (w : World) (e : HTag) : Prop :=
  w.ev.counter < e.key ∧ ∃ (h : Nat) (l : List Pid) (q : Pid), (h, l) ∈ w.evWaiters ∧ q ∈ l ∧
    e = mkEv e.key aEvent (q + 1) sigCancelled w.now (w.proc q).prio

/-- what any number of `cmb_event_cancel` calls can do to the world -/
structure CanRel (w w' : World) : Prop where
  procs : w'.procs = w.procs
  guards : w'.guards = w.guards
  res : w'.res = w.res
  pools : w'.pools = w.pools
  bufs : w'.bufs = w.bufs
  oqs : w'.oqs = w.oqs
  pqs : w'.pqs = w.pqs
  conds : w'.conds = w.conds
  flags : w'.flags = w.flags
  gvars : w'.gvars = w.gvars
  log : w'.log = w.log
  fault : w'.fault = w.fault
  dispatched : w'.dispatched = w.dispatched
  evnow : w'.ev.now = w.ev.now
  executed : w'.ev.executed = w.ev.executed
  current : w'.ev.current = w.ev.current
  counter : w.ev.counter ≤ w'.ev.counter
  /-- a pending event afterwards was pending before, or is a CANCELLED wake-up of an event waiter -/
  pend : ∀ e ∈ w'.ev.pending, e ∈ w.ev.pending ∨ IsCancelWake w e
  cancelled : ∀ h ∈ w.ev.cancelled, h ∈ w'.ev.cancelled
  /-- an event that is no longer pending has been recorded as cancelled -/
  removed : ∀ e ∈ w.ev.pending, e ∉ w'.ev.pending → e.key ∈ w'.ev.cancelled
  evWaiters : ∀ x ∈ w'.evWaiters, x ∈ w.evWaiters
  evinv : EvInv w.ev → EvInv w'.ev

theorem CanRel.now {w w' : World} (h : CanRel w w') : w'.now = w.now := h.evnow
theorem CanRel.proc {w w' : World} (h : CanRel w w') (p : Pid) : w'.proc p = w.proc p := by
  unfold World.proc; rw [h.procs]

theorem CanRel.refl (w : World) : CanRel w w where
  procs := rfl
  guards := rfl
  res := rfl
  pools := rfl
  bufs := rfl
  oqs := rfl
  pqs := rfl
  conds := rfl
  flags := rfl
  gvars := rfl
  log := rfl
  fault := rfl
  dispatched := rfl
  evnow := rfl
  executed := rfl
  current := rfl
  counter := Nat.le_refl _
  pend := fun _ he => Or.inl he
  cancelled := fun _ h => h
  removed := fun _ he hn => absurd he hn
  evWaiters := fun _ h => h
  evinv := id

theorem CanRel.trans {w w1 w2 : World} (h1 : CanRel w w1) (h2 : CanRel w1 w2) : CanRel w w2 where
  procs := h2.procs.trans h1.procs
  guards := h2.guards.trans h1.guards
  res := h2.res.trans h1.res
  pools := h2.pools.trans h1.pools
  bufs := h2.bufs.trans h1.bufs
  oqs := h2.oqs.trans h1.oqs
  pqs := h2.pqs.trans h1.pqs
  conds := h2.conds.trans h1.conds
  flags := h2.flags.trans h1.flags
  gvars := h2.gvars.trans h1.gvars
  log := h2.log.trans h1.log
  fault := h2.fault.trans h1.fault
  dispatched := h2.dispatched.trans h1.dispatched
  evnow := h2.evnow.trans h1.evnow
  executed := h2.executed.trans h1.executed
  current := h2.current.trans h1.current
  counter := Nat.le_trans h1.counter h2.counter
  pend := by
    intro e he
    rcases h2.pend e he with h | ⟨hc, hh, l, q, hm, hq, heq⟩
    · exact h1.pend e h
    · right
      refine ⟨Nat.lt_of_le_of_lt h1.counter hc, hh, l, q, h1.evWaiters _ hm, hq, ?_⟩
      rw [heq]; simp only [mkEv]; rw [h1.now, h1.proc]
  cancelled := fun h hh => h2.cancelled h (h1.cancelled h hh)
  removed := by
    intro e he hn
    by_cases h : e ∈ w1.ev.pending
    · exact h2.removed e h hn
    · exact h2.cancelled _ (h1.removed e he h)
  evWaiters := fun x hx => h1.evWaiters x (h2.evWaiters x hx)
  evinv := fun h => h2.evinv (h1.evinv h)

theorem lookup_mem {β : Type} {l : List (Nat × β)} {k : Nat} {v : β} (h : l.lookup k = some v) : (k, v) ∈ l := by
  induction l with
  | nil => simp at h
  | cons x xs ih =>
    rcases x with ⟨x1, x2⟩
    rw [List.lookup_cons] at h
    split at h
    · rename_i hk
      have : k = x1 := by simpa using hk
      cases h; subst this; exact List.mem_cons_self
    · exact List.mem_cons_of_mem _ (ih h)

theorem mem_remove {q : KPQ} {k : Nat} {e : HTag} : e ∈ KPQ.remove q k ↔ e ∈ q ∧ e.key ≠ k := HashHeap.mem_remove

theorem evCancel_rel (w : World) (h : Nat) : CanRel w (evCancel w h).1 := by
  rw [evCancel_eq]
  split
  · rename_i hk
    refine { procs := rfl, guards := rfl, res := rfl, pools := rfl, bufs := rfl, oqs := rfl, pqs := rfl, conds := rfl,
             flags := rfl, gvars := rfl, log := rfl, fault := rfl, dispatched := rfl, evnow := rfl, executed := rfl,
             current := rfl, counter := by simp, pend := ?_, cancelled := ?_, removed := ?_, evWaiters := ?_, evinv := ?_ }
    · intro e he
      simp only [pushAll_pending, cancelEv_pending, List.mem_append] at he
      rcases he with he | he
      · right
        obtain ⟨hlo, _, _, _, x, hx, heq⟩ := wakeEvs_props he
        simp only [evWakes, List.mem_map] at hx
        obtain ⟨q, hq, rfl⟩ := hx
        refine ⟨by simpa using hlo, h, (w.evWaiters.lookup h).getD [], q, ?_, hq, by simpa using heq⟩
        cases hl : w.evWaiters.lookup h with
        | none => rw [hl] at hq; simp at hq
        | some l => exact lookup_mem hl
      · left; exact (mem_remove.1 he).1
    · intro x hx; simp [hx]
    · intro e he hn
      simp only [pushAll_pending, cancelEv_pending, List.mem_append, not_or, mem_remove] at hn
      have : e.key = h := Classical.byContradiction fun hne => hn.2 ⟨he, hne⟩
      simp [this]
    · intro x hx
      simp only [pushAll_evWaiters, cancelEv_evWaiters, List.mem_filter] at hx
      exact hx.1
    · intro hi; exact pushAll_evinv _ (cancelEv_evinv hk hi)
  · exact CanRel.refl w

/-- the kernel's `cmb_event_cancel` alone (`evCancel` also tells the waiters) -/
theorem CanRel.ofCancel (w : World) (k : Nat) : CanRel w { w with ev := (Event.cancel w.ev k).1 } := by
  have hinv : EvInv w.ev → EvInv (Event.cancel w.ev k).1 := fun hi => cancel_inv hi k
  unfold Event.cancel at hinv ⊢
  split
  · exact { procs := rfl, guards := rfl, res := rfl, pools := rfl, bufs := rfl, oqs := rfl, pqs := rfl, conds := rfl,
            flags := rfl, gvars := rfl, log := rfl, fault := rfl, dispatched := rfl, evnow := rfl, executed := rfl,
            current := rfl, counter := Nat.le_refl _, pend := fun e he => Or.inl (mem_remove.1 he).1,
            cancelled := fun x hx => List.mem_cons_of_mem _ hx,
            removed := fun e he hn => by
              have : e.key = k := Classical.byContradiction fun hne => hn (mem_remove.2 ⟨he, hne⟩)
              simp [this],
            evWaiters := fun _ hx => hx, evinv := by rename_i hk; simpa [hk] using hinv }
  · exact CanRel.refl w

theorem EvInv.key_range {q : EvQ} (h : EvInv q) {e : HTag} (he : e ∈ q.pending) : 1 ≤ e.key ∧ e.key ≤ q.counter := by
  have hp := h.part
  unfold Partition at hp
  have : e.key ∈ List.range' 1 q.counter := by
    apply hp.mem_iff.1
    simp only [List.mem_append]
    exact Or.inl (Or.inl (Event.mem_keys.2 ⟨e, he, rfl⟩))
  simp [List.mem_range'] at this
  omega

theorem EvInv.key_le {q : EvQ} (h : EvInv q) {e : HTag} (he : e ∈ q.pending) : e.key ≤ q.counter :=
  (EvInv.key_range h he).2

/-- the fold of `cmb_event_cancel` over a list of handles -/
def cancelList (w : World) (hs : List Nat) : World := hs.foldl (fun w h => (evCancel w h).1) w

theorem cancelList_cons (w : World) (h : Nat) (hs : List Nat) : cancelList w (h :: hs) = cancelList (evCancel w h).1 hs := rfl

theorem evCancel_old (w : World) (h c : Nat) (hc : c ≤ w.ev.counter) :
    (evCancel w h).1.ev.pending.filter (fun e => decide (e.key ≤ c)) =
      (w.ev.pending.filter (fun e => decide (e.key ≤ c))).filter (fun e => decide (e.key ≠ h)) := by
  rw [evCancel_eq]
  split
  · simp only [pushAll_pending, cancelEv_pending, cancelEv_counter, List.filter_append]
    have h1 : (wakeEvs w.ev.counter (cancelEv w h).now (evWakes w ((w.evWaiters.lookup h).getD []) sigCancelled)).filter
        (fun e => decide (e.key ≤ c)) = [] := by
      apply List.filter_eq_nil_iff.2
      intro e he
      have := (wakeEvs_props he).1
      simp only [decide_eq_true_eq]; omega
    rw [h1, List.nil_append]
    simp only [KPQ.remove, List.filter_filter]
    apply List.filter_congr
    intro e _
    simp only [Bool.and_comm]
  · rename_i hk
    symm
    apply List.filter_eq_self.2
    intro e he
    simp only [decide_eq_true_eq]
    intro hek
    exact hk (Event.mem_keys.2 ⟨e, (List.mem_filter.1 he).1, hek⟩)

/-- the old events (handles up to `c`) that are left after cancelling `hs`: exactly those whose handle is not in `hs`, in
    their old order — whatever `hs` is -/
theorem cancelList_old : ∀ (hs : List Nat) (w : World) (c : Nat), c ≤ w.ev.counter →
    (cancelList w hs).ev.pending.filter (fun e => decide (e.key ≤ c)) =
      (w.ev.pending.filter (fun e => decide (e.key ≤ c))).filter (fun e => decide (e.key ∉ hs)) := by
  intro hs
  induction hs with
  | nil =>
    intro w c _
    symm
    exact List.filter_eq_self.2 (by simp)
  | cons h hs ih =>
    intro w c hc
    rw [cancelList_cons, ih (evCancel w h).1 c (Nat.le_trans hc (evCancel_rel w h).counter), evCancel_old w h c hc,
      List.filter_filter]
    apply List.filter_congr
    intro e _
    simp only [List.mem_cons, not_or, ne_eq, Bool.decide_and, Bool.and_comm]

theorem cancelFold_spec (hs : List Nat) (w : World) (hi : EvInv w.ev) :
    let w' := hs.foldl (fun w h => (evCancel w h).1) w
    CanRel w w' ∧ (∀ e ∈ w'.ev.pending, e.key ≤ w.ev.counter → e.key ∉ hs) ∧
      (∀ e ∈ w.ev.pending, e.key ∉ hs → e ∈ w'.ev.pending) := by
  have hrel : CanRel w (cancelList w hs) := by
    induction hs generalizing w with
    | nil => exact CanRel.refl w
    | cons h hs ih => exact (evCancel_rel w h).trans (ih _ ((evCancel_rel w h).evinv hi))
  have hold := cancelList_old hs w w.ev.counter (Nat.le_refl _)
  refine ⟨hrel, fun e he hle => ?_, fun e he hn => ?_⟩
  · have : e ∈ (cancelList w hs).ev.pending.filter (fun e => decide (e.key ≤ w.ev.counter)) :=
      List.mem_filter.2 ⟨he, by simpa using hle⟩
    rw [hold] at this
    simpa using (List.mem_filter.1 this).2
  · have : e ∈ (cancelList w hs).ev.pending.filter (fun e => decide (e.key ≤ w.ev.counter)) := by
      rw [hold]
      exact List.mem_filter.2 ⟨List.mem_filter.2 ⟨he, by simpa using EvInv.key_le hi he⟩, by simpa using hn⟩
    exact (List.mem_filter.1 this).1

theorem key_mem_matching {q : EvQ} (hi : EvInv q) (P : HTag → Bool) {e : HTag} (he : e ∈ q.pending) :
    e.key ∈ (q.pending.filter P).map (·.key) ↔ P e = true := by
  constructor
  · intro hk
    obtain ⟨e', he', hkk⟩ := List.mem_map.1 hk
    obtain ⟨hm, hp⟩ := List.mem_filter.1 he'
    rw [← HashHeap.eq_of_key_eq hi.part.keysNodup hm he hkk]
    exact hp
  · intro hp
    exact List.mem_map.2 ⟨e, List.mem_filter.2 ⟨he, hp⟩, rfl⟩

/-- cancelling the pending events that match `P`: none of the old events that are left matches, every old event that
    does not match is still pending; only (aEvent, CANCELLED) wake-ups of event waiters are added -/
theorem cancelMatching_spec (P : HTag → Bool) (w : World) (hi : EvInv w.ev) :
    CanRel w (cancelList w ((w.ev.pending.filter P).map (·.key))) ∧
    (∀ e ∈ (cancelList w ((w.ev.pending.filter P).map (·.key))).ev.pending, e.key ≤ w.ev.counter → P e = false) ∧
    (∀ e ∈ w.ev.pending, P e = false → e ∈ (cancelList w ((w.ev.pending.filter P).map (·.key))).ev.pending) := by
  obtain ⟨hrel, hgone, hstay⟩ := cancelFold_spec ((w.ev.pending.filter P).map (·.key)) w hi
  refine ⟨hrel, fun e he hle => ?_, fun e he hp => hstay e he fun hk => ?_⟩
  · -- an event with an old handle was pending before; had it matched, its handle would have been cancelled
    rcases hrel.pend e he with hold | ⟨hc, _⟩
    · exact Bool.eq_false_iff.2 fun hp => hgone e he hle ((key_mem_matching hi P hold).2 hp)
    · omega
  · rw [(key_mem_matching hi P he).1 hk] at hp
    cases hp

/-- the events `cancelKindFor` goes after -/
def kindMatch (p : Pid) (act : Nat) (sig : Option Int) (e : HTag) : Bool :=
  e.item.b = p + 1 && e.item.a = act && (match sig with | some s => e.item.c = encSig s | none => true)

theorem cancelKindFor_eq (w : World) (p : Pid) (act : Nat) (sig : Option Int) :
    cancelKindFor w p act sig =
      (((w.ev.pending.filter (kindMatch p act sig)).map (·.key)).foldl (fun w h => (evCancel w h).1) w,
       (w.ev.pending.filter (kindMatch p act sig)).length) := by
  unfold cancelKindFor
  simp only [List.length_map]
  rfl

/-- `cancelKindFor`: afterwards no pending event of the kind is left for `p`, every other old event is still pending,
    the count is the number of such events; only (aEvent, CANCELLED) wake-ups of event waiters are added -/
theorem cancelKindFor_spec (w : World) (p : Pid) (act : Nat) (sig : Option Int) (hi : EvInv w.ev) :
    CanRel w (cancelKindFor w p act sig).1 ∧
    (∀ e ∈ (cancelKindFor w p act sig).1.ev.pending, e.key ≤ w.ev.counter → kindMatch p act sig e = false) ∧
    (∀ e ∈ w.ev.pending, kindMatch p act sig e = false → e ∈ (cancelKindFor w p act sig).1.ev.pending) ∧
    (cancelKindFor w p act sig).2 = (w.ev.pending.filter (kindMatch p act sig)).length := by
  rw [cancelKindFor_eq]
  obtain ⟨hrel, hgone, hstay⟩ := cancelMatching_spec (kindMatch p act sig) w hi
  exact ⟨hrel, hgone, hstay, rfl⟩

theorem mem_userPending {w : World} {k : Nat} :
    k ∈ userPending w ↔ ∃ e ∈ w.ev.pending, e.item.a = aUser ∧ e.key = k := by
  unfold userPending
  simp only [List.mem_map, List.mem_filter, decide_eq_true_eq]
  constructor
  · rintro ⟨e, ⟨he, ha⟩, rfl⟩; exact ⟨e, he, ha, rfl⟩
  · rintro ⟨e, he, ha, rfl⟩; exact ⟨e, ⟨he, ha⟩, rfl⟩

/-- `cancelUserAll` (pattern cancel of the user events): afterwards no user event is pending, every other old event is
    still pending, the count is the number of user events that were pending; only (aEvent, CANCELLED) wake-ups of event
    waiters are added -/
theorem cancelUserAll_spec (w : World) (hi : EvInv w.ev) :
    CanRel w (cancelUserAll w).1 ∧
    (∀ e ∈ (cancelUserAll w).1.ev.pending, e.item.a ≠ aUser) ∧
    (∀ e ∈ w.ev.pending, e.item.a ≠ aUser → e ∈ (cancelUserAll w).1.ev.pending) ∧
    (cancelUserAll w).2 = (w.ev.pending.filter fun e => e.item.a = aUser).length := by
  obtain ⟨hrel, hgone, hstay⟩ := cancelMatching_spec (fun e => e.item.a = aUser) w hi
  refine ⟨hrel, fun e he ha => ?_, fun e he ha => hstay e he (by simpa using ha), by simp [cancelUserAll, userPending]⟩
  -- a new event is a wake-up, not a user event
  rcases hrel.pend e he with hold | ⟨_, _, _, _, _, _, heq⟩
  · simpa [ha] using hgone e he (EvInv.key_le hi hold)
  · rw [heq] at ha; simp [mkEv, aEvent, aUser] at ha

theorem pendingOf_eq (w : World) (p : Pid) :
    pendingOf w p = (w.ev.pending.filter fun e => e.item.b = p + 1).map (·.key) := rfl

/-- `cancelAllFor`: afterwards no old pending event is addressed to `p`; events of others stay -/
theorem cancelAllFor_spec (w : World) (p : Pid) (hi : EvInv w.ev) :
    CanRel w (cancelAllFor w p) ∧
    (∀ e ∈ (cancelAllFor w p).ev.pending, e.key ≤ w.ev.counter → e.item.b ≠ p + 1) ∧
    (∀ e ∈ w.ev.pending, e.item.b ≠ p + 1 → e ∈ (cancelAllFor w p).ev.pending) := by
  obtain ⟨hrel, hgone, hstay⟩ := cancelMatching_spec (fun e => e.item.b = p + 1) w hi
  exact ⟨hrel, fun e he hle => by simpa using hgone e he hle, fun e he hb => hstay e he (by simpa using hb)⟩


/-- still queued: exactly the entry is withdrawn -/
theorem guardWithdraw_queued {w : World} {g : Nat} {gd : Guard} (hg : w.guards[g]? = some gd) (hwf : GWF gd.q) {p : Pid}
    (hp : p + 1 ∈ keys (abs gd.q)) :
    ∃ q', GWF q' ∧ (abs q').Perm (KPQ.remove (abs gd.q) (p + 1)) ∧ guardWithdraw w g p = setGuardQ w g q' := by
  obtain ⟨q', _, hwf', hperm, heq⟩ := guardRemove_spec hg hwf p
  refine ⟨q', hwf', hperm, ?_⟩
  unfold guardWithdraw
  rw [heq]
  simp [hp]

/-- already dequeued (granted): the pending grants of `p` are cancelled and, if there was one, the guard is signalled
    again in the same step, so that the grant is passed on -/
theorem guardWithdraw_granted {w : World} {g : Nat} {gd : Guard} (hg : w.guards[g]? = some gd) (hwf : GWF gd.q) {p : Pid}
    (hp : p + 1 ∉ keys (abs gd.q)) :
    guardWithdraw w g p =
      if (cancelKindFor w p aRes (some sigSuccess)).2 > 0 then signal (cancelKindFor w p aRes (some sigSuccess)).1 g
      else (cancelKindFor w p aRes (some sigSuccess)).1 := by
  unfold guardWithdraw
  rw [guardRemove_absent hg hwf hp]
  simp

theorem guardWithdraw_noguard {w : World} {g : Nat} (hg : w.guards[g]? = none) (p : Pid) :
    guardWithdraw w g p =
      if (cancelKindFor w p aRes (some sigSuccess)).2 > 0 then signal (cancelKindFor w p aRes (some sigSuccess)).1 g
      else (cancelKindFor w p aRes (some sigSuccess)).1 := by
  unfold guardWithdraw
  rw [guardRemove_none hg]
  simp

/-- the entry with handle `k` gets priority `v`; nothing else changes -/
def setPrio (q : KPQ) (k : Nat) (v : Int) : KPQ := q.map fun t => if t.key = k then { t with i := v } else t

theorem reprio_eq_setPrio {q : KPQ} (hnd : (keys q).Nodup) {k : Nat} {t : HTag} (hl : KPQ.lookup q k = some t) (v : Int) :
    KPQ.reprio q k t.d v = setPrio q k v := by
  unfold KPQ.reprio setPrio
  apply List.map_congr_left
  intro x hx
  by_cases hk : x.key = k
  · have ht := (HashHeap.lookup_eq_some_iff hnd k t).1 hl
    have : x = t := HashHeap.eq_of_key_eq hnd hx ht.1 (hk.trans ht.2.symm)
    subst this
    simp [hk]
  · simp [hk]

/-- `reprio_repositions`: the waiter's entry gets the new priority and keeps its entry time (and everything else);
    all other entries are untouched; a process that is not queued changes nothing -/
theorem reprioGuard_spec {w : World} {g : Nat} {gd : Guard} (hg : w.guards[g]? = some gd) (hwf : GWF gd.q) (q : Pid) (v : Int) :
    (q + 1 ∈ keys (abs gd.q) →
      ∃ q', GWF q' ∧ (abs q').Perm (setPrio (abs gd.q) (q + 1) v) ∧ reprioGuard w q v g = setGuardQ w g q') ∧
    (q + 1 ∉ keys (abs gd.q) → reprioGuard w q v g = w) := by
  constructor
  · intro hk
    obtain ⟨t, hlk, habs⟩ := HashHeap.lookup_spec hwf hk
    obtain ⟨q', hrun, a⟩ := HashHeap.reprio_abs hwf hk t.d v
    refine ⟨q', a.wf, ?_, ?_⟩
    · have := reprio_eq_setPrio hwf.keys_nodup habs v
      simp only [norm] at this
      rw [← this]; exact a.perm
    · unfold reprioGuard
      rw [hg]
      simp only [guardEnqueued_eq hg hwf, hk, decide_true, if_true, hlk, hrun]
  · intro hk
    unfold reprioGuard
    rw [hg]
    simp only [guardEnqueued_eq hg hwf, hk, decide_false]
    rfl

theorem reprioritize_pending {q q' : EvQ} {k : Nat} {v : Int} (h : reprioritize q k v = .ok q') :
    q'.counter = q.counter ∧ q'.cancelled = q.cancelled ∧
    (∀ e' ∈ q'.pending, ∃ e ∈ q.pending, e.key = e'.key ∧ e.item = e'.item) ∧
    (∀ e ∈ q.pending, ∃ e' ∈ q'.pending, e'.key = e.key ∧ e'.item = e.item) := by
  unfold reprioritize at h
  split at h
  · cases h
  · simp only [Except.ok.injEq] at h
    subst h
    refine ⟨rfl, rfl, fun e' he' => ?_, fun e he => ⟨_, List.mem_map.2 ⟨e, he, rfl⟩, ?_, ?_⟩⟩
    · obtain ⟨e, he, rfl⟩ := List.mem_map.1 he'
      refine ⟨e, he, ?_, ?_⟩ <;> split <;> rfl
    · split <;> rfl
    · split <;> rfl

end CimbaModel.Sim.S3
