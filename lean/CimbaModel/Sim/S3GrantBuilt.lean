/-
  S3 — the grant invariant: reachable states, and the initial states the scenario loader can build.
-/
import CimbaModel.Sim.S3GrantDispatch
import CimbaModel.Sim.S3Built
import CimbaModel.Sim.S3Hold

namespace CimbaModel.Sim.S3
open CimbaModel CimbaModel.Sim CimbaModel.Event CimbaModel.Generated CimbaModel.KPQ
open CimbaModel.HashHeap (HTag Item Order HH WF abs liveTags)

variable {S : Nat → Prop}

theorem GrantAll.dispatch {w w' : World} (h : GrantAll S w) (hd : dispatch w = some w') : GrantAll S w' :=
  ⟨h.all.dispatch hd, h.k.dispatch h.all.g.ei h.kok hd, h.es.ofStat (Stat.dispatch hd), h.kok.ofStat (Stat.dispatch hd),
   h.cv.ofStat (Stat.dispatch hd), h.gh_dispatch hd⟩

theorem GrantAll.reach {w w' : World} (hr : Reach w w') (h : GrantAll S w) : GrantAll S w' :=
  hr.keeps GrantAll.dispatch h

theorem GrantAll.emit {w : World} (h : GrantAll S w) (l : String) : GrantAll S (w.emit l) := by
  have hst : Stat w (w.emit l) := (Stat.refl w).emit l
  exact ⟨h.all.emit l, h.k.ofKRel ((KRel.refl w).emit l), h.es.ofStat hst, h.kok.ofStat hst, h.cv.ofStat hst,
    fun hf => (h.gh hf).inert h.all.g.ei ((Inert.refl w).emit l)⟩

theorem GrantAll.runAll (fuel : Nat) (w : World) (h : GrantAll S w) : GrantAll S (runAll fuel w) :=
  runAll_inv (I := GrantAll S) (fun _ l h => h.emit l) (fun _ _ h _ hd => h.dispatch hd) fuel w h

/-- when nothing is pending (and no fault has been recorded), no waiter of the guard of a resource, pool, buffer or queue
    end has a demand that holds: nobody is blocked while it could be served -/
theorem GrantAll.quiescent {w : World} (h : GrantAll S w) (hf : w.fault = none) (hq : Sim.dispatch w = none)
    {d : Demand} {g : Nat} (hd : gOf w d = some g) {gd : Guard} (hg : w.guards[g]? = some gd) :
    (∀ k ∈ keys (abs gd.q), demandOf gd k = d) ∧ (gd.q.count ≠ 0 → evalDemand w d = false) := by
  obtain ⟨hHG, hGI⟩ := h.gh hf
  refine ⟨hHG d g hd gd hg, ?_⟩
  intro hcnt
  have hpend := (dispatch_none_iff w).1 hq
  have hpos : 0 < (abs gd.q).length := by rw [HashHeap.abs_length]; omega
  obtain ⟨e, he⟩ := List.exists_mem_of_length_pos hpos
  have hqn : Qne w g := ⟨e.key, gd, hg, Event.mem_keys.2 ⟨e, he, rfl⟩⟩
  have : need w d ≤ G w g + 0 := hGI d g hd hqn
  rw [G_zero_of_no_pending hpend] at this
  have h0 : need w d = 0 := by omega
  cases hev : evalDemand w d with
  | false => rfl
  | true =>
    have := (evalDemand_need w d (gOf_not_cond hd)).1 hev
    omega

structure BInv2 (w : World) : Prop where
  es : EndSep w
  gb : ∀ d g, gOf w d = some g → g < w.guards.size
  vz : ∀ p v, getVar w p v = 0

theorem replicate_getD (n v : Nat) : ((Array.replicate n (0 : Nat))[v]?).getD 0 = 0 := by
  rw [Array.getElem?_replicate]; split <;> rfl

theorem BInv2.grow {w w' : World} (h : BInv2 w) (hsz : w.guards.size ≤ w'.guards.size) (New : Demand → Nat → Prop)
    (hG : ∀ d g, gOf w' d = some g → gOf w d = some g ∨ (w.guards.size ≤ g ∧ g < w'.guards.size ∧ New d g))
    (hnew : ∀ d d' g, New d g → New d' g → d = d') (hv : ∀ p v, getVar w' p v = getVar w p v) : BInv2 w' := by
  refine ⟨?_, ?_, fun p v => (hv p v).trans (h.vz p v)⟩
  · intro d d' g h1 h2
    rcases hG d g h1 with o1 | ⟨n1, _, n1'⟩ <;> rcases hG d' g h2 with o2 | ⟨n2, _, n2'⟩
    · exact h.es d d' g o1 o2
    · have := h.gb d g o1; omega
    · have := h.gb d' g o2; omega
    · exact hnew d d' g n1' n2'
  · intro d g h1
    rcases hG d g h1 with o1 | ⟨_, n1, _⟩
    · have := h.gb d g o1; omega
    · exact n1

theorem BInv2.addRes {w : World} (h : BInv2 w) : BInv2 (addRes w) := by
  refine h.grow (by simp [S3.addRes, newGuardW]) (fun d g => d = .resAvail w.res.size ∧ g = w.guards.size) ?_
    (fun d d' g h1 h2 => h1.1.trans h2.1.symm) (fun _ _ => rfl)
  intro d g hd
  cases d <;> first
    | exact Or.inl hd
    | (rcases map_push _ _ _ _ _ hd with h1 | ⟨h1, h2⟩
       · exact Or.inl h1
       · right; simp only [resStat] at h2
         exact ⟨by omega, by simp [S3.addRes, newGuardW]; omega, by rw [h1], h2.symm⟩)

theorem BInv2.addPool {w : World} (h : BInv2 w) (cap : Nat) : BInv2 (addPool w cap) := by
  refine h.grow (by simp [S3.addPool, newGuardW]) (fun d g => d = .poolAvail w.pools.size ∧ g = w.guards.size) ?_
    (fun d d' g h1 h2 => h1.1.trans h2.1.symm) (fun _ _ => rfl)
  intro d g hd
  cases d <;> first
    | exact Or.inl hd
    | (rcases map_push _ _ _ _ _ hd with h1 | ⟨h1, h2⟩
       · exact Or.inl h1
       · right; simp only [poolStat] at h2
         exact ⟨by omega, by simp [S3.addPool, newGuardW]; omega, by rw [h1], h2.symm⟩)

theorem BInv2.grow2 {w w' : World} (h : BInv2 w) (hsz : w.guards.size + 2 ≤ w'.guards.size) (dc ds : Demand)
    (hG : ∀ d g, gOf w' d = some g → gOf w d = some g ∨ (d = dc ∧ g = w.guards.size) ∨ (d = ds ∧ g = w.guards.size + 1))
    (hv : ∀ p v, getVar w' p v = getVar w p v) : BInv2 w' := by
  refine h.grow (by omega) (fun d g => (d = dc ∧ g = w.guards.size) ∨ (d = ds ∧ g = w.guards.size + 1)) ?_ ?_ hv
  · intro d g hd
    rcases hG d g hd with o | n | n
    · exact Or.inl o
    · exact Or.inr ⟨by omega, by omega, Or.inl n⟩
    · exact Or.inr ⟨by omega, by omega, Or.inr n⟩
  · intro d d' g h1 h2
    rcases h1 with ⟨a1, b1⟩ | ⟨a1, b1⟩ <;> rcases h2 with ⟨a2, b2⟩ | ⟨a2, b2⟩
    · exact a1.trans a2.symm
    · omega
    · omega
    · exact a1.trans a2.symm

theorem BInv2.addBuf {w : World} (h : BInv2 w) (cap : Nat) : BInv2 (addBuf w cap) := by
  refine h.grow2 (by simp [S3.addBuf, newGuardW]) (.bufContent w.bufs.size) (.bufSpace w.bufs.size) ?_ (fun _ _ => rfl)
  intro d g hd
  cases d <;> first
    | exact Or.inl hd
    | (rcases map_push _ _ _ _ _ hd with h1 | ⟨h1, h2⟩
       · exact Or.inl h1
       · right; simp only [bufStat] at h2
         first | exact Or.inl ⟨by rw [h1], h2.symm⟩ | exact Or.inr ⟨by rw [h1], h2.symm⟩)

theorem BInv2.addOQ {w : World} (h : BInv2 w) (cap : Nat) : BInv2 (addOQ w cap) := by
  refine h.grow2 (by simp [S3.addOQ, newGuardW]) (.oqContent w.oqs.size) (.oqSpace w.oqs.size) ?_ (fun _ _ => rfl)
  intro d g hd
  cases d <;> first
    | exact Or.inl hd
    | (rcases map_push _ _ _ _ _ hd with h1 | ⟨h1, h2⟩
       · exact Or.inl h1
       · right; simp only [oqStat] at h2
         first | exact Or.inl ⟨by rw [h1], h2.symm⟩ | exact Or.inr ⟨by rw [h1], h2.symm⟩)

theorem BInv2.addPQ {w : World} (h : BInv2 w) (cap : Nat) : BInv2 (addPQ w cap) := by
  refine h.grow2 (by simp [S3.addPQ, newGuardW]) (.pqContent w.pqs.size) (.pqSpace w.pqs.size) ?_ (fun _ _ => rfl)
  intro d g hd
  cases d <;> first
    | exact Or.inl hd
    | (rcases map_push _ _ _ _ _ hd with h1 | ⟨h1, h2⟩
       · exact Or.inl h1
       · right; simp only [pqStat] at h2
         first | exact Or.inl ⟨by rw [h1], h2.symm⟩ | exact Or.inr ⟨by rw [h1], h2.symm⟩)

theorem BInv2.same {w w' : World} (h : BInv2 w) (hsz : w.guards.size ≤ w'.guards.size) (hgo : ∀ d, gOf w' d = gOf w d)
    (hv : ∀ p v, getVar w' p v = 0) : BInv2 w' := by
  refine ⟨?_, ?_, hv⟩
  · intro d d' g h1 h2; rw [hgo] at h1 h2; exact h.es d d' g h1 h2
  · intro d g h1; rw [hgo] at h1; have := h.gb d g h1; omega

theorem BInv2.addCond {w : World} (h : BInv2 w) : BInv2 (addCond w) :=
  h.same (by simp [S3.addCond, newGuardW]) (fun d => gOf_congr rfl rfl rfl rfl rfl d) (fun p v => h.vz p v)

theorem BInv2.addProc {w : World} (h : BInv2 w) (pr : Int) (cmds : Array (Cmd × String)) : BInv2 (addProc w pr cmds) := by
  refine h.same (Nat.le_refl _) (fun d => gOf_congr rfl rfl rfl rfl rfl d) ?_
  intro p v
  have hproc : (S3.addProc w pr cmds).proc p = w.proc p ∨ (S3.addProc w pr cmds).proc p = ({ prio := pr, script := cmds } : Proc) := by
    unfold World.proc S3.addProc
    simp only [Array.getD_eq_getD_getElem?, Array.getElem?_push]
    split
    · right; rfl
    · left; rfl
  have h0 := h.vz p v
  unfold getVar at h0 ⊢
  split
  · rename_i h8; rw [if_pos h8] at h0; exact h0
  · rename_i h8; rw [if_neg h8] at h0
    rcases hproc with e | e <;> rw [e]
    · exact h0
    · have hv8 : v < 8 := by omega
      show (Array.replicate 16 0).getD v 0 = 0
      rw [Array.getD_eq_getD_getElem?]; exact replicate_getD 16 v

theorem BInv2.subscribe {w : World} (h : BInv2 w) (g cg : Nat) : BInv2 (subscribe w g cg) :=
  h.same (by simp [S3.subscribe]) (fun d => gOf_congr rfl rfl rfl rfl rfl d) (fun p v => h.vz p v)

theorem BInv2.autostart {w : World} (h : BInv2 w) (p : Pid) : BInv2 (autostart w p) := by
  unfold S3.autostart
  refine h.same (by simp) (fun d => gOf_congr (by simp) (by simp) (by simp) (by simp) (by simp) d) ?_
  intro q v
  have := h.vz q v
  unfold getVar at this ⊢
  simpa using this

theorem BInv2.empty : BInv2 {} := by
  refine ⟨?_, ?_, ?_⟩
  · intro d d' g h1; cases d <;> cases h1
  · intro d g h1; cases d <;> cases h1
  · intro p v
    have h0 : (Array.replicate 16 (0 : Nat)).getD v 0 = 0 := by
      rw [Array.getD_eq_getD_getElem?]; exact replicate_getD 16 v
    unfold getVar
    split <;> exact h0

theorem Built.binv2 {w : World} (h : Built w) : BInv2 w := by
  induction h with
  | empty => exact BInv2.empty
  | res _ ih => exact ih.addRes
  | pool cap _ ih => exact ih.addPool cap
  | buf cap _ ih => exact ih.addBuf cap
  | oq cap _ ih => exact ih.addOQ cap
  | pq cap _ ih => exact ih.addPQ cap
  | cond _ ih => exact ih.addCond
  | proc pr cmds _ _ ih => exact ih.addProc pr cmds
  | sub g cg _ ih => exact ih.subscribe g cg
  | start p _ ih => exact ih.autostart p

def CancelVar (w : World) (v : Nat) : Prop :=
  ∃ (p : Pid) (i : Nat) (t : String), (w.proc p).script[i]? = some (.cancelUser v, t) ∨ (w.proc p).script[i]? = some (.timerCancel v, t)

/-- the static hypothesis on the programs: a variable that is read by `cancelUser` / `timerCancel` (anywhere) is never
    written by `pqPut` (which stores a priority-queue handle there); `schedUser`, `timerAdd`, `timerSet` — the only other
    writers — store handles of user / timer events -/
def VarsOk (w : World) : Prop := KOk (CancelVar w) w

theorem cvOk_cancelVar (w : World) : CvOk (CancelVar w) w := by
  intro p i c t hs v hv
  rcases hv with rfl | rfl
  · exact ⟨p, i, t, Or.inl hs⟩
  · exact ⟨p, i, t, Or.inr hs⟩

def varsOkB (w : World) : Bool :=
  w.procs.all fun pr => pr.script.all fun ct =>
    match ct.1 with
    | .pqPut _ _ _ v => !(w.procs.any fun pr' => pr'.script.any fun ct' =>
        match ct'.1 with
        | .cancelUser v' => v' == v
        | .timerCancel v' => v' == v
        | _ => false)
    | _ => true

theorem script_mem {w : World} {p : Pid} {i : Nat} {c : Cmd} {t : String} (h : (w.proc p).script[i]? = some (c, t)) :
    ∃ pr ∈ w.procs.toList, (c, t) ∈ pr.script.toList := by
  by_cases hp : p < w.procs.size
  · refine ⟨w.procs[p], Array.getElem_mem_toList .., ?_⟩
    have : w.proc p = w.procs[p] := by
      unfold World.proc; simp [Array.getD_eq_getD_getElem?, hp]
    rw [this] at h
    have hi : i < w.procs[p].script.size := lt_of_getElem? h
    rw [Array.getElem?_eq_getElem hi] at h
    have h' : w.procs[p].script[i] = (c, t) := Option.some.inj h
    rw [← h']
    exact Array.getElem_mem_toList ..
  · rw [proc_oob w (Nat.le_of_not_lt hp)] at h; cases h

theorem varsOk_of_check {w : World} (h : varsOkB w = true) : VarsOk w := by
  intro p i c t hs
  cases c with
  | pqPut k obj pri v =>
    show ¬ CancelVar w v
    rintro ⟨p', i', t', hc⟩
    unfold varsOkB at h
    rw [Array.all_eq_true'] at h
    obtain ⟨pr, hpr, hm⟩ := script_mem hs
    have h1 := h pr (Array.mem_def.2 hpr)
    rw [Array.all_eq_true'] at h1
    have h2 := h1 _ (Array.mem_def.2 hm)
    simp only [Bool.not_eq_eq_eq_not, Bool.not_true] at h2
    have : (w.procs.any fun pr' => pr'.script.any fun ct' =>
        match ct'.1 with
        | .cancelUser v' => v' == v
        | .timerCancel v' => v' == v
        | _ => false) = true := by
      rw [Array.any_eq_true']
      rcases hc with hc | hc
      · obtain ⟨pr', hpr', hm'⟩ := script_mem hc
        refine ⟨pr', Array.mem_def.2 hpr', ?_⟩
        rw [Array.any_eq_true']
        exact ⟨_, Array.mem_def.2 hm', by simp⟩
      · obtain ⟨pr', hpr', hm'⟩ := script_mem hc
        refine ⟨pr', Array.mem_def.2 hpr', ?_⟩
        rw [Array.any_eq_true']
        exact ⟨_, Array.mem_def.2 hm', by simp⟩
    rw [this] at h2; cases h2
  | _ => trivial

theorem Built.grantAll {w : World} (h : Built w) (hsz : w.procs.size < 2 ^ 31) (hv : VarsOk w) : GrantAll (CancelVar w) w := by
  have hb := h.binv
  have hb2 := h.binv2
  have hall := h.allInv hsz
  refine ⟨hall, ?_, hb2.es, hv, cvOk_cancelVar w, fun _ => ⟨?_, ?_⟩⟩
  · refine ⟨fun p f hf => ?_, fun v _ p => ?_⟩
    · rw [(hb.pr p).2.2] at hf; cases hf
    · rw [hb2.vz p v]; exact NGc.zero hb.ei
  · intro d g hd gd hg k hk
    rw [hb.gq g gd hg, mkHH_spec.2] at hk; cases hk
  · intro d g hd ⟨k, gd, hg, hk⟩
    rw [hb.gq g gd hg, mkHH_spec.2] at hk; cases hk

theorem Built.grantRun {w : World} (h : Built w) (hsz : w.procs.size < 2 ^ 31) (hv : VarsOk w) (fuel : Nat) :
    GrantAll (CancelVar w) (runAll fuel w) := (h.grantAll hsz hv).runAll fuel w

end CimbaModel.Sim.S3
