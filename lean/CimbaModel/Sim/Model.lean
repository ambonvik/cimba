/-
  Executable model of the process layer (DESIGN.md §3.4, Appendix A):
  cmb_process.c, cmb_resourceguard.c, cmb_resource.c, cmb_resourcepool.c, cmb_buffer.c,
  cmb_objectqueue.c, cmb_priorityqueue.c, cmb_condition.c and the recording calls, on top of the
  event kernel model.  Waiting lists, holder lists and object priority queues are concrete
  hashheaps (HashHeap.Model) under the ordering functions regenerated from the C sources, so that
  heap-array iteration order (condition signals) is mirrored exactly.

  A blocking library call yields in the middle; it is modelled as a resumable procedure: the process
  records a `Frame` saying where it is suspended, `resumeProc` continues it with the yield's result.
  Every internal cmb_event_schedule of the C code is reproduced in the same order, so handles and
  FIFO tie-breaks, hence whole trajectories, agree with the implementation.

  Core Lean only (linked into the compiled driver simmain).
-/
import CimbaModel.Event.Model

namespace CimbaModel.Sim
open CimbaModel CimbaModel.Event CimbaModel.Generated
open CimbaModel.HashHeap (HTag Item Order HH)

abbrev Pid := Nat

/-! ### constants -/
def sigSuccess : Int := 0
def sigPreempted : Int := -1
def sigInterrupted : Int := -2
def sigStopped : Int := -3
def sigCancelled : Int := -4
def sigTimeout : Int := -5

/-- action kinds of internally scheduled events (item.a of the event tag) -/
def aStart : Nat := 1
def aTime : Nat := 2
def aProc : Nat := 3
def aEvent : Nat := 4
def aRes : Nat := 5
def aPreempt : Nat := 6
def aCond : Nat := 7
def aIntr : Nat := 8
def aResume : Nat := 9
def aUser : Nat := 10

def encSig (s : Int) : Nat := (s % (2 ^ 64 : Int)).toNat
def decSig (n : Nat) : Int := if n < 2 ^ 63 then n else (n : Int) - 2 ^ 64

inductive Await where
  | time (h : Nat) | guard (g : Nat) | proc (p : Pid) | event (h : Nat)
  deriving DecidableEq, Repr, Inhabited

inductive HoldRef where
  | res (r : Nat) | pool (p : Nat)
  deriving DecidableEq, Repr, Inhabited

inductive Status where
  | created | running | finished
  deriving DecidableEq, Repr, Inhabited

def Status.toNat : Status → Nat
  | .created => 0 | .running => 1 | .finished => 2

/-- demand predicates of guards -/
inductive Demand where
  | resAvail (r : Nat) | poolAvail (p : Nat)
  | bufContent (b : Nat) | bufSpace (b : Nat)
  | oqContent (q : Nat) | oqSpace (q : Nat)
  | pqContent (k : Nat) | pqSpace (k : Nat)
  | cond (kind a b : Nat)
  deriving DecidableEq, Repr, Inhabited

inductive Cmd where
  | hold (d : Int) | yield
  | timerAdd (v : Nat) (d sig : Int) | timerSet (v : Nat) (d sig : Int) | timerCancel (v : Nat) | timersClear
  | resume (p : Pid) (sig : Int) | interrupt (p : Pid) (sig pri : Int) | stop (p : Pid) (val : Int)
  | start (p : Pid) | exit (val : Int) | prioSet (p : Pid) (v : Int)
  | waitProc (p : Pid) | schedUser (v : Nat) (d pri : Int) | cancelUser (v : Nat) | waitEvent (v : Nat)
  | cancelUserAll
  | timersClearOf (q : Pid) | timerAddOf (q : Pid) (d sig : Int)
  | acquire (r : Nat) | preempt (r : Nat) | release (r : Nat)
  | poolAcquire (p n : Nat) | poolPreempt (p n : Nat) | poolRelease (p n : Nat)
  | bufGet (b n : Nat) | bufPut (b n : Nat)
  | oqGet (q : Nat) | oqPut (q obj : Nat)
  | pqGet (k : Nat) | pqPut (k obj : Nat) (pri : Int) (v : Nat) | pqCancel (k v : Nat) | pqReprio (k v : Nat) (pri : Int)
  | pqPos (k v : Nat)
  | condWait (c kind a b : Nat) | condSignal (c : Nat) | condCancel (c : Nat) (p : Pid) | condRemove (c : Nat) (p : Pid)
  | setFlag (k : Nat) (v : Int)
  | recStart (kind idx : Nat) | recStop (kind idx : Nat)
  deriving Repr, Inhabited

/-- where a suspended process is inside a blocking library call -/
inductive Frame where
  | hold (h : Nat)
  | yield
  | waitProc (q : Pid)
  | waitEvent (h : Nat)
  | acquire (r : Nat)
  | pool (p rem initiallyHeld : Nat) (preempt : Bool)
  | bufGet (b rem got : Nat)
  | bufPut (b rem left : Nat)
  | oqGet (q : Nat) | oqPut (q obj : Nat)
  | pqGet (k : Nat) | pqPut (k obj : Nat) (pri : Int) (v : Nat)
  | condWait (c : Nat)
  deriving Repr, Inhabited

structure Proc where
  prio : Int := 0
  status : Status := .created
  awaits : List Await := []
  waiters : List Pid := []
  held : List HoldRef := []
  blocked : Option Frame := none
  pc : Nat := 0
  script : Array (Cmd × String) := #[]
  vars : Array Nat := Array.replicate 16 0
  exitVal : Int := 0
  deriving Inhabited

structure Guard where
  q : HH
  observers : List Nat := []     -- guard ids, LIFO
  /-- demand predicates by key (the C code stores a function pointer and context in the tag) -/
  demands : List (Nat × Demand) := []
  isCond : Bool := false

structure Res where
  holder : Option Pid := none
  guard : Nat
  recording : Bool := false
  hist : Array (Int × Int) := #[]      -- (value, time)

structure Pool where
  cap : Nat
  inUse : Nat := 0
  holders : HH
  guard : Nat
  recording : Bool := false
  hist : Array (Int × Int) := #[]

structure Buf where
  cap : Nat
  level : Nat := 0
  /-- ghost: total amount put / got so far (the implementation has no such fields) -/
  putTotal : Nat := 0
  getTotal : Nat := 0
  front : Nat
  rear : Nat
  recording : Bool := false
  hist : Array (Int × Int) := #[]

structure OQ where
  cap : Nat
  items : List Nat := []      -- head first
  /-- ghost: every object put / delivered so far, oldest first -/
  putLog : List Nat := []
  gotLog : List Nat := []
  front : Nat
  rear : Nat
  recording : Bool := false
  hist : Array (Int × Int) := #[]

structure PQ where
  cap : Nat
  queue : HH
  /-- ghost: handles put, delivered, cancelled so far -/
  putLog : List Nat := []
  gotLog : List Nat := []
  cancelLog : List Nat := []
  front : Nat
  rear : Nat
  recording : Bool := false
  hist : Array (Int × Int) := #[]

structure World where
  ev : EvQ := {}
  evWaiters : List (Nat × List Pid) := []
  procs : Array Proc := #[]
  guards : Array Guard := #[]
  res : Array Res := #[]
  pools : Array Pool := #[]
  bufs : Array Buf := #[]
  oqs : Array OQ := #[]
  pqs : Array PQ := #[]
  conds : Array Nat := #[]         -- guard id of each condition
  flags : Array Int := Array.replicate 8 0
  gvars : Array Nat := Array.replicate 16 0
  log : Array String := #[]
  fault : Option String := none
  dispatched : Nat := 0

def unlimited : Nat := 2 ^ 64 - 1

/-! ### small helpers -/

def World.fail (w : World) (m : String) : World :=
  if w.fault.isSome then w else { w with fault := some m }

def World.emit (w : World) (l : String) : World := { w with log := w.log.push l }

def World.proc (w : World) (p : Pid) : Proc := w.procs.getD p {}

def World.modProc (w : World) (p : Pid) (f : Proc → Proc) : World :=
  { w with procs := w.procs.modify p f }

def World.now (w : World) : Int := w.ev.now

def mkHH (e : Nat) : HH :=
  match HashHeap.init e with
  | .ok s => s
  | .error _ => { heap := #[], hash := #[], count := 0, exp := e, expInit := e, counter := 0 }

def removeFirst {α} [DecidableEq α] (l : List α) (a : α) : List α × Bool :=
  match l with
  | [] => ([], false)
  | x :: xs => if x = a then (xs, true) else
      let (r, f) := removeFirst xs a
      (x :: r, f)

/-- `cmb_event_schedule` on behalf of the library -/
def sched (w : World) (act subj : Nat) (sig : Int) (t pri : Int) : World × Nat :=
  match schedule w.ev act subj (encSig sig) t pri with
  | .ok (ev', h) => ({ w with ev := ev' }, h)
  | .error f => (w.fail s!"schedule in the past: {f}", 0)

def popWaiters (ws : List (Nat × List Pid)) (h : Nat) : List Pid × List (Nat × List Pid) :=
  ((ws.lookup h).getD [], ws.filter (·.1 ≠ h))

/-- `wake_event_waiters` -/
def wakeEventWaiters (w : World) (ps : List Pid) (sig : Int) : World :=
  ps.foldl (fun w q => (sched w aEvent (q + 1) sig w.now (w.proc q).prio).1) w

/-- `cmb_event_cancel`: cancels and notifies the event's waiters with CANCELLED -/
def evCancel (w : World) (h : Nat) : World × Bool :=
  let (ev', r) := cancel w.ev h
  if r then
    let (ps, ws') := popWaiters w.evWaiters h
    (wakeEventWaiters { w with ev := ev', evWaiters := ws' } ps sigCancelled, true)
  else (w, false)

/-- pending events whose subject is process `p`, in an unspecified order (here: queue list order) -/
def pendingOf (w : World) (p : Pid) : List Nat :=
  (w.ev.pending.filter fun e => e.item.b = p + 1).map (·.key)

/-- `cmb_event_pattern_cancel(ANY, p, ANY)` -/
def cancelAllFor (w : World) (p : Pid) : World :=
  (pendingOf w p).foldl (fun w h => (evCancel w h).1) w

/-- cancel pending events for `p` with the given action (and signal) -/
def cancelKindFor (w : World) (p : Pid) (act : Nat) (sig : Option Int) : World × Nat :=
  let hs := (w.ev.pending.filter fun e => e.item.b = p + 1 && e.item.a = act &&
      (match sig with | some s => e.item.c = encSig s | none => true)).map (·.key)
  (hs.foldl (fun w h => (evCancel w h).1) w, hs.length)

/-- handles of the pending user events (action `aUser`), in queue list order -/
def userPending (w : World) : List Nat :=
  (w.ev.pending.filter fun e => e.item.a = aUser).map (·.key)

/-- `cmb_event_pattern_cancel(user_action, ANY, ANY)`: every match is cancelled through `cmb_event_cancel`,
    so the waiters of each cancelled event are woken with CANCELLED; returns the number of matches.
    The library cancels in heap-array order, which the abstract queue does not have (here: list order, as in
    `cancelAllFor`); the order only decides which waiter gets which of the new handles (notes/S5.md) -/
def cancelUserAll (w : World) : World × Nat :=
  let hs := userPending w
  (hs.foldl (fun w h => (evCancel w h).1) w, hs.length)

/-! ### recording -/

def recordRes (w : World) (r : Nat) : World :=
  match w.res[r]? with
  | some x => if x.recording then
      { w with res := w.res.set! r { x with hist := x.hist.push (if x.holder.isSome then 1 else 0, w.now) } } else w
  | none => w

def recordPool (w : World) (p : Nat) : World :=
  match w.pools[p]? with
  | some x => if x.recording then
      { w with pools := w.pools.set! p { x with hist := x.hist.push ((x.inUse : Int), w.now) } } else w
  | none => w

def recordBuf (w : World) (b : Nat) : World :=
  match w.bufs[b]? with
  | some x => if x.recording then
      { w with bufs := w.bufs.set! b { x with hist := x.hist.push ((x.level : Int), w.now) } } else w
  | none => w

def recordOQ (w : World) (q : Nat) : World :=
  match w.oqs[q]? with
  | some x => if x.recording then
      { w with oqs := w.oqs.set! q { x with hist := x.hist.push ((x.items.length : Int), w.now) } } else w
  | none => w

def recordPQ (w : World) (k : Nat) : World :=
  match w.pqs[k]? with
  | some x => if x.recording then
      { w with pqs := w.pqs.set! k { x with hist := x.hist.push ((x.queue.count : Int), w.now) } } else w
  | none => w

/-! ### guards -/

def heldAmount (w : World) (p : Nat) (pid : Pid) : Nat :=
  match w.pools[p]? with
  | some x =>
    if x.holders.count = 0 then 0 else
    match HashHeap.findIndex x.holders (pid + 1) with
    | .ok 0 => 0
    | .ok i => (x.holders.heap.getD i {}).item.b
    | .error _ => 0
  | none => 0

def evalDemand (w : World) : Demand → Bool
  | .resAvail r => (w.res[r]?.map (·.holder.isNone)).getD false
  | .poolAvail p => (w.pools[p]?.map fun x => decide (x.cap - x.inUse > 0)).getD false
  | .bufContent b => (w.bufs[b]?.map fun x => decide (x.level > 0)).getD false
  | .bufSpace b => (w.bufs[b]?.map fun x => decide (x.level < x.cap)).getD false
  | .oqContent q => (w.oqs[q]?.map fun x => decide (x.items.length > 0)).getD false
  | .oqSpace q => (w.oqs[q]?.map fun x => decide (x.items.length < x.cap)).getD false
  | .pqContent k => (w.pqs[k]?.map fun x => decide (x.queue.count > 0)).getD false
  | .pqSpace k => (w.pqs[k]?.map fun x => decide (x.queue.count < x.cap)).getD false
  | .cond kind a b =>
    match kind with
    | 0 => decide (w.flags.getD a 0 ≠ 0)
    | 1 => (w.res[a]?.map (·.holder.isNone)).getD false
    | 2 => (w.pools[a]?.map fun x => decide (x.cap - x.inUse ≥ b)).getD false
    | 3 => (w.bufs[a]?.map fun x => decide (x.level ≥ b)).getD false
    | 4 => (w.oqs[a]?.map fun x => decide (x.items.length ≥ b)).getD false
    | _ => false

def guardEnqueued (w : World) (g : Nat) (p : Pid) : Bool :=
  match w.guards[g]? with
  | some gd => match HashHeap.isEnqueued gd.q (p + 1) with | .ok b => b | .error _ => false
  | none => false

def setGuardQ (w : World) (g : Nat) (q : HH) : World :=
  { w with guards := w.guards.modify g fun gd => { gd with q := q } }

/-- remove `p` from the waiting list of `g` (hashheap remove); true if it was queued -/
def guardRemove (w : World) (g : Nat) (p : Pid) : World × Bool :=
  match w.guards[g]? with
  | some gd =>
    match HashHeap.remove guard_queue_check gd.q (p + 1) with
    | .ok (q', r) => (setGuardQ w g q', r)
    | .error f => (w.fail s!"guard remove: {f}", false)
  | none => (w, false)

/-- `cmb_condition_signal`: every waiter (in heap-array order) whose predicate holds is woken and removed -/
def condSignal (w : World) (g : Nat) : World × Bool :=
  match w.guards[g]? with
  | none => (w, false)
  | some gd =>
    if gd.q.count = 0 then (w, false) else
    let tags := HashHeap.liveTags gd.q
    let sat := tags.filter fun t => evalDemand w ((gd.demands.lookup t.key).getD (.cond 99 0 0))
    let w := sat.foldl (fun w t =>
      let pid := t.key - 1
      (sched w aCond (pid + 1) sigSuccess w.now (w.proc pid).prio).1) w
    let w := sat.foldl (fun w t => (guardRemove w g (t.key - 1)).1) w
    (w, sat.length > 0)

/-- the guard carries a handler for forwarded signals (`on_signal != NULL`): `cmb_condition_initialize` installs one on the
    guard of every condition variable, nobody else does — so: `g` is the guard of a condition -/
def hasHandler (w : World) (g : Nat) : Bool := w.conds.contains g

/-- `cmb_resourceguard_signal` (`fwd = false`) and the delivery of a forwarded signal to an observer (`fwd = true`:
    the body of the loop of `forward_signal`), both followed by `forward_signal` to the guard's own observers.
    A forwarded signal reaches an observer with a handler (a condition) as `cmb_condition_signal` — every waiter is
    evaluated —, any other observer as a plain `cmb_resourceguard_signal` (front waiter only).
    `fuel` bounds observer chains (acyclic by precondition) -/
def guardSignalF : Bool → Nat → World → Nat → World
  | _, 0, w, _ => w.fail "observer chain too deep (cycle?)"
  | fwd, fuel + 1, w, g =>
    match w.guards[g]? with
    | none => w
    | some gd =>
      let w :=
        if fwd && hasHandler w g then (condSignal w g).1 else
        if gd.q.count = 0 then w else
        match HashHeap.peek gd.q with
        | .ok (some t) =>
          let dem := (gd.demands.lookup t.key).getD (.cond 99 0 0)
          if evalDemand w dem then
            match HashHeap.dequeue guard_queue_check gd.q with
            | .ok (q', _) =>
              let w := setGuardQ w g q'
              let pid := t.key - 1
              (sched w aRes (pid + 1) sigSuccess w.now (w.proc pid).prio).1
            | .error f => w.fail s!"guard dequeue: {f}"
          else w
        | .ok none => w
        | .error f => w.fail s!"guard peek: {f}"
      gd.observers.foldl (fun w o => guardSignalF true fuel w o) w

/-- `cmb_resourceguard_signal` with forwarding to observers -/
def guardSignal (fuel : Nat) (w : World) (g : Nat) : World := guardSignalF false fuel w g

def signal (w : World) (g : Nat) : World := guardSignal 8 w g

/-- what a process leaving its wait on `g` for another reason must withdraw: its queue entry, or, if it
    has already been granted (dequeued, wake-up pending), that grant — which is then passed on -/
def guardWithdraw (w : World) (g : Nat) (p : Pid) : World :=
  let (w, was) := guardRemove w g p
  if was then w
  else
    let (w, n) := cancelKindFor w p aRes (some sigSuccess)
    if n > 0 then signal w g else w

/-! ### process bookkeeping -/

def addAwait (w : World) (p : Pid) (a : Await) : World := w.modProc p fun x => { x with awaits := a :: x.awaits }

def removeAwait (w : World) (p : Pid) (a : Await) : World × Bool :=
  let (l, f) := removeFirst (w.proc p).awaits a
  (w.modProc p fun x => { x with awaits := l }, f)

/-- remove the first awaitable of a kind (the `awaitable == NULL` form) -/
def removeAwaitKind (w : World) (p : Pid) (isKind : Await → Bool) : World × Bool :=
  let rec go : List Await → List Await × Bool
    | [] => ([], false)
    | x :: xs => if isKind x then (xs, true) else let (r, f) := go xs; (x :: r, f)
  let (l, f) := go (w.proc p).awaits
  (w.modProc p fun x => { x with awaits := l }, f)

def removeHeld (w : World) (p : Pid) (h : HoldRef) : World × Bool :=
  let l := (w.proc p).held
  (w.modProc p fun x => { x with held := l.filter (· ≠ h) }, l.contains h)

/-- `cmb_process_timer_add` -/
def timerAdd (w : World) (p : Pid) (d sig : Int) : World × Nat :=
  let (w, h) := sched w aTime (p + 1) sig (w.now + d) (w.proc p).prio
  (addAwait w p (.time h), h)

/-- `cmb_process_timer_cancel` -/
def timerCancel (w : World) (p : Pid) (h : Nat) : World × Bool :=
  let (w, _) := removeAwait w p (.time h)
  evCancel w h

/-- `cmb_process_timers_clear` -/
def timersClear (w : World) (p : Pid) : World :=
  let ts := (w.proc p).awaits.filterMap fun a => match a with | .time h => some h | _ => none
  let w := w.modProc p fun x => { x with awaits := x.awaits.filter fun a => match a with | .time _ => false | _ => true }
  ts.foldl (fun w h => (evCancel w h).1) w

/-- `cmi_process_cancel_awaiteds` -/
def cancelAwaiteds (w : World) (p : Pid) : World :=
  let aws := (w.proc p).awaits
  let w := w.modProc p fun x => { x with awaits := [] }
  let w := aws.foldl (fun (w : World) a =>
    match a with
    | .time h => (evCancel w h).1
    | .guard g => guardWithdraw w g p
    | .proc q => w.modProc q fun x => { x with waiters := (removeFirst x.waiters p).1 }
    | .event h =>
      { w with evWaiters := w.evWaiters.map fun (k, l) => if k = h then (k, (removeFirst l p).1) else (k, l) }) w
  cancelAllFor w p

/-- `wake_process_waiters` -/
def wakeWaiters (w : World) (p : Pid) (sig : Int) : World :=
  let ws := (w.proc p).waiters
  let w := w.modProc p fun x => { x with waiters := [] }
  ws.foldl (fun w q => (sched w aProc (q + 1) sig w.now (w.proc q).prio).1) w

def poolDropHolder (w : World) (pl : Nat) (p : Pid) : World :=
  match w.pools[pl]? with
  | none => w
  | some x =>
    match HashHeap.findIndex x.holders (p + 1) with
    | .ok 0 => w
    | .ok i =>
      let amt := (x.holders.heap.getD i {}).item.b
      match HashHeap.remove holder_queue_check x.holders (p + 1) with
      | .ok (h', _) =>
        let w := { w with pools := w.pools.set! pl { x with inUse := x.inUse - amt, holders := h' } }
        let w := recordPool w pl
        signal w x.guard
      | .error f => w.fail s!"pool drop: {f}"
    | .error f => w.fail s!"pool drop: {f}"

/-- `cmi_process_drop_resources` -/
def dropResources (w : World) (p : Pid) : World :=
  let hs := (w.proc p).held
  let w := w.modProc p fun x => { x with held := [] }
  hs.foldl (fun w h =>
    match h with
    | .res r =>
      match w.res[r]? with
      | some x =>
        let w := { w with res := w.res.set! r { x with holder := none } }
        let w := recordRes w r
        signal w x.guard
      | none => w
    | .pool pl => poolDropHolder w pl p) w

/-- the end of a process: by return / exit (`stopped = false`) or by stop -/
def finishProc (w : World) (p : Pid) (val : Int) (stopped : Bool) : World :=
  let w := if stopped then
      let w := cancelAwaiteds w p
      dropResources w p
    else
      let w := dropResources w p
      cancelAwaiteds w p
  let w := wakeWaiters w p (if stopped then sigStopped else sigSuccess)
  w.modProc p fun x => { x with status := .finished, exitVal := val, blocked := none }

/-! ### guard wait prologue / epilogue -/

def guardWaitEnter (w : World) (g : Nat) (p : Pid) (d : Demand) : World :=
  match w.guards[g]? with
  | none => w.fail "no such guard"
  | some gd =>
    match HashHeap.enqueue guard_queue_check gd.q ⟨p + 1, 0, 0, 0⟩ (p + 1) w.now (w.proc p).prio with
    | .ok (q', _) =>
      let w := { w with guards := w.guards.set! g { gd with q := q', demands := (p + 1, d) :: gd.demands.filter (·.1 ≠ p + 1) } }
      addAwait w p (.guard g)
    | .error f => w.fail s!"guard enqueue: {f}"

def guardWaitLeave (w : World) (g : Nat) (p : Pid) (sig : Int) : World :=
  let w := if sig ≠ sigSuccess then guardWithdraw w g p else w
  (removeAwait w p (.guard g)).1

/-! ### resources -/

def grab (w : World) (r : Nat) (p : Pid) : World :=
  match w.res[r]? with
  | some x =>
    let w := if x.holder.isSome then w.fail s!"grab of held resource {r}" else w
    let w := { w with res := w.res.set! r { x with holder := some p } }
    w.modProc p fun y => { y with held := .res r :: y.held }
  | none => w

/-! ### pools -/

def poolUpdateRecord (w : World) (pl : Nat) (p : Pid) (amount : Nat) : World :=
  match w.pools[pl]? with
  | none => w
  | some x =>
    let present := if x.holders.count = 0 then false else
      (match HashHeap.findIndex x.holders (p + 1) with | .ok i => i ≠ 0 | .error _ => false)
    if present then
      match HashHeap.findIndex x.holders (p + 1) with
      | .ok i =>
        let t := x.holders.heap.getD i {}
        let h' := { x.holders with heap := x.holders.heap.set! i { t with item := { t.item with b := t.item.b + amount } } }
        { w with pools := w.pools.set! pl { x with holders := h' } }
      | .error f => w.fail s!"pool record: {f}"
    else
      let w := w.modProc p fun y => { y with held := .pool pl :: y.held }
      match HashHeap.enqueue holder_queue_check x.holders ⟨p + 1, amount, 0, 0⟩ (p + 1) 0 (w.proc p).prio with
      | .ok (h', _) => { w with pools := w.pools.set! pl { x with holders := h' } }
      | .error f => w.fail s!"pool record enqueue: {f}"

def setPoolInUse (w : World) (pl : Nat) (v : Nat) : World :=
  { w with pools := w.pools.modify pl fun x => { x with inUse := v } }

def setHeldAmount (w : World) (pl : Nat) (p : Pid) (amount : Nat) : World :=
  match w.pools[pl]? with
  | some x =>
    match HashHeap.findIndex x.holders (p + 1) with
    | .ok i =>
      if i = 0 then w.fail "reset_holder: no record" else
      let t := x.holders.heap.getD i {}
      let h' := { x.holders with heap := x.holders.heap.set! i { t with item := { t.item with b := amount } } }
      { w with pools := w.pools.set! pl { x with holders := h' } }
    | .error f => w.fail s!"reset_holder: {f}"
  | none => w

end CimbaModel.Sim
