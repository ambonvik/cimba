/-
  S3 — `TInv` looks at nothing but TIME awaitables and timer events: it is `GuardFree`, hence holds across all
  functions of the model that arm or disarm no timer.
-/
import CimbaModel.Sim.S3TInv
import CimbaModel.Sim.S3Foot

namespace CimbaModel.Sim.S3
open CimbaModel CimbaModel.Sim CimbaModel.Event CimbaModel.Generated CimbaModel.KPQ
open CimbaModel.HashHeap (HTag Item Order HH WF abs liveTags)

variable {ex : Pid → Prop}

theorem TInv.guardFree : GuardFree fun w w' => TInv ex w → TInv ex w' where
  toPath := Path.ofPred _
  same := fun hs h => h.same (fun p => (hs.ctl p).1) hs.ev
  evCancel := fun _ k h => h.evCancel_fst k
  sched := fun _ a s sig t pri ha h => h.sched_other a s sig t pri ha.1
  guards := fun _ x h => h.setGuards x
  wake := fun _ a s t pri ha h => h.sched_other a s sigSuccess t pri (by rcases ha with rfl | rfl <;> decide)

theorem TInv.foot : Foot fun w w' => TInv ex w → TInv ex w' := TInv.guardFree.foot

theorem TInv.guardSignal (fuel : Nat) {w : World} (h : TInv ex w) (g : Nat) : TInv ex (guardSignal fuel w g) :=
  TInv.guardFree.guardSignalF fuel false w g h

theorem TInv.signal {w : World} (h : TInv ex w) (g : Nat) : TInv ex (signal w g) := TInv.guardSignal 8 h g

end CimbaModel.Sim.S3
