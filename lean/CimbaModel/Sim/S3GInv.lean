/-
  S3 — `GInv`: the waiting lists and the ownership of grants (I_guard + the grant / condition / hold part of NoStaleInv):
  definition, congruence, atomic transformers.
-/
import CimbaModel.Sim.S3Call

namespace CimbaModel.Sim.S3
open CimbaModel CimbaModel.Sim CimbaModel.Event CimbaModel.Generated CimbaModel.KPQ
open CimbaModel.HashHeap (HTag Item Order HH WF abs liveTags)

/-- the RESOURCE(g) awaitables of `p` -/
def guardAw (w : World) (p : Pid) : List Await := (w.proc p).awaits.filter isGuardA

theorem mem_awaits_guard {w : World} {x : Pid} {g : Nat} : Await.guard g ∈ (w.proc x).awaits ↔ Await.guard g ∈ guardAw w x := by
  unfold guardAw; simp [List.mem_filter, isGuardA]

def queued (w : World) (g k : Nat) : Prop := ∃ gd, w.guards[g]? = some gd ∧ k ∈ keys (abs gd.q)

/-- the SUCCESS wake-ups of a guard wait: a grant (aRes with the success code) or a condition wake-up -/
def isGrant (e : HTag) : Prop := (e.item.a = aRes ∧ e.item.c = 0) ∨ e.item.a = aCond

/-- an event that is none of the wake-ups `GInv` talks about -/
def Harmless (e : HTag) : Prop :=
  ¬ isGrant e ∧ e.item.c < 2 ^ 64 ∧
  (e.item.c = 0 → e.item.a ≠ aIntr ∧ e.item.a ≠ aResume ∧ e.item.a ≠ aPreempt ∧ e.item.a ≠ aTime)

structure GInv (ex : Pid → Prop) (fr : Pid → Option Frame) (w : World) : Prop where
  ei : EvInv w.ev
  /-- every waiting list is a well-formed hashheap -/
  gw : AllGWF w
  gsz : w.procs.size < 2 ^ 31
  /-- I_guard: a queued key is a process (pid + 1) that awaits this guard -/
  gk : ∀ g k, queued w g k → k ≠ 0 ∧ k ≤ w.procs.size ∧ (¬ ex (k - 1) → Await.guard g ∈ (w.proc (k - 1)).awaits)
  /-- a process awaits at most one guard, and only while suspended in a guard wait -/
  ga : ∀ p, guardAw w p = [] ∨ ∃ g f, fr p = some f ∧ FrameOn w f g ∧ guardAw w p = [.guard g]
  /-- the logical frame is the recorded one wherever it matters -/
  gfb : ∀ p, ¬ ex p → (w.proc p).blocked ≠ fr p →
    guardAw w p = [] ∧ (∀ e ∈ w.ev.pending, e.item.a = aTime → e.item.c = 0 → e.item.b ≠ p + 1)
  /-- a pending grant / condition wake-up belongs to a process that awaits a guard and is no longer queued there -/
  gr : ∀ e ∈ w.ev.pending, isGrant e → e.item.b ≠ 0 ∧
    (¬ ex (e.item.b - 1) → ∃ g, Await.guard g ∈ (w.proc (e.item.b - 1)).awaits ∧ ¬ queued w g e.item.b)
  /-- at most one per process -/
  gu : ∀ e1 ∈ w.ev.pending, ∀ e2 ∈ w.ev.pending, isGrant e1 → isGrant e2 → e1.item.b = e2.item.b →
    ¬ ex (e1.item.b - 1) → e1 = e2
  /-- a condition wake-up goes to a process suspended in `cond_wait` -/
  gc : ∀ e ∈ w.ev.pending, e.item.a = aCond → ¬ ex (e.item.b - 1) → ∃ c, fr (e.item.b - 1) = some (.condWait c)
  /-- the waiters of a condition's guard are suspended in `cond_wait` -/
  gkc : ∀ (c g : Nat), w.conds[c]? = some g → ∀ k, queued w g k → ¬ ex (k - 1) → ∃ c', fr (k - 1) = some (.condWait c')
  /-- interrupts, resumes and preemptions never carry the success code -/
  nz : ∀ e ∈ w.ev.pending, e.item.c = 0 → e.item.a ≠ aIntr ∧ e.item.a ≠ aResume ∧ e.item.a ≠ aPreempt
  /-- a timer carrying the success code is the timer of the hold its process is suspended in -/
  oth : ∀ e ∈ w.ev.pending, e.item.a = aTime → e.item.c = 0 → e.item.b ≠ 0 ∧
    (¬ ex (e.item.b - 1) → fr (e.item.b - 1) = some (.hold e.key))
  cl : ∀ e ∈ w.ev.pending, e.item.c < 2 ^ 64

variable {ex : Pid → Prop} {fr : Pid → Option Frame}

theorem guardAw_congr {w w' : World} (h : ∀ p, (w'.proc p).awaits = (w.proc p).awaits) (p : Pid) : guardAw w' p = guardAw w p := by
  unfold guardAw; rw [h]

theorem queued_congr {w w' : World} (h : w'.guards = w.guards) (g k : Nat) : queued w' g k ↔ queued w g k := by
  unfold queued; rw [h]

theorem GInv.congr {w w' : World} (hp : GInv ex fr w) (ha : ∀ p, (w'.proc p).awaits = (w.proc p).awaits)
    (hb : ∀ p, (w'.proc p).blocked = (w.proc p).blocked) (hg : w'.guards = w.guards) (hsz : w'.procs.size = w.procs.size)
    (hcd : w'.conds = w.conds) (hst : ∀ f g, FrameOn w' f g ↔ FrameOn w f g) (hei : EvInv w'.ev)
    (he : ∀ e' ∈ w'.ev.pending, (∃ e ∈ w.ev.pending, e.key = e'.key ∧ e.item = e'.item) ∨ Harmless e') : GInv ex fr w' where
  ei := hei
  gw := fun g gd h => hp.gw g gd (by rw [← hg]; exact h)
  gsz := by rw [hsz]; exact hp.gsz
  gk := fun g k hq => by
    have := hp.gk g k ((queued_congr hg g k).1 hq)
    rw [hsz, ha]; exact this
  ga := fun p => by
    rw [guardAw_congr ha]
    rcases hp.ga p with h | ⟨g, f, h1, h2, h3⟩
    · exact Or.inl h
    · exact Or.inr ⟨g, f, h1, (hst f g).2 h2, h3⟩
  gfb := fun p hx hbl => by
    rw [hb] at hbl
    obtain ⟨h1, h2⟩ := hp.gfb p hx hbl
    refine ⟨by rw [guardAw_congr ha]; exact h1, ?_⟩
    intro e' he' hea hec
    rcases he e' he' with ⟨e, hem, _, hi⟩ | hh
    · rw [← hi]; exact h2 e hem (by rw [hi]; exact hea) (by rw [hi]; exact hec)
    · exact absurd hea (hh.2.2 hec).2.2.2
  gr := fun e' he' hgr => by
    rcases he e' he' with ⟨e, hem, _, hi⟩ | hh
    · have hgr' : isGrant e := by unfold isGrant at *; rw [hi]; exact hgr
      obtain ⟨h1, h2⟩ := hp.gr e hem hgr'
      rw [← hi]
      refine ⟨h1, fun hx => ?_⟩
      obtain ⟨g, h3, h4⟩ := h2 hx
      exact ⟨g, by rw [ha]; exact h3, fun hq => h4 ((queued_congr hg g _).1 hq)⟩
    · exact absurd hgr hh.1
  gu := fun a ha' b hb' hga hgb hab hx => by
    rcases he a ha' with ⟨a0, ha0, hka, hia⟩ | hh
    · rcases he b hb' with ⟨b0, hb0, hkb, hib⟩ | hh'
      · have h1 : isGrant a0 := by unfold isGrant at *; rw [hia]; exact hga
        have h2 : isGrant b0 := by unfold isGrant at *; rw [hib]; exact hgb
        have : a0 = b0 := hp.gu a0 ha0 b0 hb0 h1 h2 (by rw [hia, hib]; exact hab) (by rw [hia]; exact hx)
        exact HashHeap.eq_of_key_eq hei.part.keysNodup ha' hb' (by rw [← hka, ← hkb, this])
      · exact absurd hgb hh'.1
    · exact absurd hga hh.1
  gc := fun e' he' hea hx => by
    rcases he e' he' with ⟨e, hem, _, hi⟩ | hh
    · rw [← hi]; exact hp.gc e hem (by rw [hi]; exact hea) (by rw [hi]; exact hx)
    · exact absurd (Or.inr hea) hh.1
  gkc := fun c g hc k hq hx => hp.gkc c g (by rw [← hcd]; exact hc) k ((queued_congr hg g k).1 hq) hx
  nz := fun e' he' hec => by
    rcases he e' he' with ⟨e, hem, _, hi⟩ | hh
    · rw [← hi]; exact hp.nz e hem (by rw [hi]; exact hec)
    · exact ⟨(hh.2.2 hec).1, (hh.2.2 hec).2.1, (hh.2.2 hec).2.2.1⟩
  oth := fun e' he' hea hec => by
    rcases he e' he' with ⟨e, hem, hk, hi⟩ | hh
    · rw [← hi, ← hk]; exact hp.oth e hem (by rw [hi]; exact hea) (by rw [hi]; exact hec)
    · exact absurd hea (hh.2.2 hec).2.2.2
  cl := fun e' he' => by
    rcases he e' he' with ⟨e, hem, _, hi⟩ | hh
    · rw [← hi]; exact hp.cl e hem
    · exact hh.2.1


theorem GInv.same {w w' : World} (hp : GInv ex fr w) (ha : ∀ p, (w'.proc p).awaits = (w.proc p).awaits)
    (hb : ∀ p, (w'.proc p).blocked = (w.proc p).blocked) (hg : w'.guards = w.guards) (hsz : w'.procs.size = w.procs.size)
    (hcd : w'.conds = w.conds) (hst : ∀ f g, FrameOn w' f g ↔ FrameOn w f g) (he : w'.ev = w.ev) : GInv ex fr w' :=
  hp.congr ha hb hg hsz hcd hst (by rw [he]; exact hp.ei) (by rw [he]; exact fun e h => Or.inl ⟨e, h, rfl, rfl⟩)

theorem GInv.ofSame {w w' : World} (hp : GInv ex fr w) (hs : Same w w') : GInv ex fr w' :=
  hp.same (fun p => (hs.ctl p).1) (fun p => (hs.ctl p).2.2.2) hs.guards hs.stat.psize hs.stat.conds (frameOn_of_stat hs.stat) hs.ev

theorem GInv.fail {w : World} (h : GInv ex fr w) (m : String) : GInv ex fr (w.fail m) := h.ofSame (Same.fail w m)
theorem GInv.emit {w : World} (h : GInv ex fr w) (l : String) : GInv ex fr (w.emit l) := h.ofSame (Same.emit w l)
theorem GInv.modProc_ctl {w : World} (h : GInv ex fr w) (p : Pid) (f : Proc → Proc)
    (hf : ∀ x, (f x).awaits = x.awaits ∧ (f x).blocked = x.blocked) : GInv ex fr (w.modProc p f) := by
  refine h.same (fun q => ?_) (fun q => ?_) rfl (by simp) rfl (fun _ _ => Iff.rfl) rfl
  · rw [modProc_proc]; split
    · rename_i hq; rw [hq.1]; exact (hf _).1
    · rfl
  · rw [modProc_proc]; split
    · rename_i hq; rw [hq.1]; exact (hf _).2
    · rfl
theorem GInv.setEvWaiters {w : World} (h : GInv ex fr w) (x : List (Nat × List Pid)) : GInv ex fr { w with evWaiters := x } :=
  h.same (fun _ => rfl) (fun _ => rfl) rfl rfl rfl (fun _ _ => Iff.rfl) rfl

/-- what a newly scheduled event must satisfy to be none of `GInv`'s business -/
def HarmlessNew (a : Nat) (sig : Int) : Prop :=
  a ≠ aCond ∧ (a = aRes → encSig sig ≠ 0) ∧
  (encSig sig = 0 → a ≠ aIntr ∧ a ≠ aResume ∧ a ≠ aPreempt ∧ a ≠ aTime)

instance (a : Nat) (sig : Int) : Decidable (HarmlessNew a sig) := by unfold HarmlessNew; infer_instance

theorem harmless_mkEv {k a s : Nat} {sig t pri : Int} (h : HarmlessNew a sig) : Harmless (mkEv k a s sig t pri) := by
  refine ⟨?_, encSig_lt sig, fun hc => h.2.2 hc⟩
  intro hg
  rcases hg with ⟨h1, h2⟩ | h1
  · exact h.2.1 h1 h2
  · exact h.1 h1

theorem GInv.pushEv_harmless {w : World} (h : GInv ex fr w) (a s : Nat) (sig t pri : Int) (ht : w.now ≤ t)
    (ha : HarmlessNew a sig) : GInv ex fr (pushEv w a s sig t pri) := by
  refine h.congr (fun _ => rfl) (fun _ => rfl) rfl rfl rfl (fun _ _ => Iff.rfl) (pushEv_evinv a s sig t pri ht h.ei) ?_
  intro e' he'
  simp only [pushEv_pending, List.mem_cons] at he'
  rcases he' with rfl | he'
  · exact Or.inr (harmless_mkEv ha)
  · exact Or.inl ⟨e', he', rfl, rfl⟩

theorem GInv.sched_harmless {w : World} (h : GInv ex fr w) (a s : Nat) (sig t pri : Int) (ha : HarmlessNew a sig) :
    GInv ex fr (sched w a s sig t pri).1 := by
  rcases sched_cases w a s sig t pri with ⟨ht, he⟩ | ⟨_, m, he⟩
  · rw [he]; exact h.pushEv_harmless a s sig t pri ht ha
  · rw [he]; exact h.fail m

theorem GInv.reprioEv {w : World} (h : GInv ex fr w) {k : Nat} {v : Int} {ev' : EvQ}
    (hr : reprioritize w.ev k v = .ok ev') : GInv ex fr { w with ev := ev' } :=
  h.congr (fun _ => rfl) (fun _ => rfl) rfl rfl rfl (fun _ _ => Iff.rfl) (reprioritize_inv h.ei hr).1
    (fun e' he' => Or.inl ((reprioritize_pending hr).2.2.1 e' he'))

theorem GInv.ofCanRel {w w' : World} (h : GInv ex fr w) (hr : CanRel w w') : GInv ex fr w' := by
  refine h.congr (fun p => by rw [hr.proc]) (fun p => by rw [hr.proc]) hr.guards (by rw [hr.procs]) hr.conds
    (frameOn_congr hr.res hr.pools hr.bufs hr.oqs hr.pqs hr.conds) (hr.evinv h.ei) ?_
  intro e' he'
  rcases hr.pend e' he' with hold | ⟨_, _, _, _, _, _, heq⟩
  · exact Or.inl ⟨e', hold, rfl, rfl⟩
  · right
    rw [heq]
    exact harmless_mkEv (by decide)

theorem GInv.evCancel_fst {w : World} (h : GInv ex fr w) (k : Nat) : GInv ex fr (evCancel w k).1 := h.ofCanRel (evCancel_rel w k)

end CimbaModel.Sim.S3
