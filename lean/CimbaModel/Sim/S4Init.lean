/-
  S4 — the worlds the scenario loader (Drivers/SimMain.lean) builds: `Loaded` mirrors its steps (objects with fresh
  guards, processes, subscriptions of a condition's guard to an object's guard, at most one start event per process),
  and `LInv` collects what such a world looks like before anything has been dispatched.
-/
import CimbaModel.Sim.S3Built
import CimbaModel.Sim.S4Defs

namespace CimbaModel.Sim.S4
open CimbaModel CimbaModel.Sim CimbaModel.Sim.S3 CimbaModel.Event CimbaModel.Generated CimbaModel.KPQ
open CimbaModel.HashHeap (HTag Item Order HH WF abs liveTags)

/-- `w` is the world to which the process is added: `acquire` names a resource declared before the process -/
def CmdValid (w : World) (c : Cmd) : Prop :=
  CmdOk c ∧ DurOk c ∧ VarsOk c ∧ ∀ r, c = .acquire r → r < w.res.size

/-- the worlds the loader can build.  `sub g cg`: `g` is a plain guard (of a resource, pool, buffer or queue), `cg` the
    guard of a condition; `start p`: an existing process without a pending start event. -/
inductive Loaded : World → Prop
  | empty : Loaded {}
  | res {w : World} : Loaded w → Loaded (addRes w)
  | pool {w : World} (cap : Nat) : Loaded w → Loaded (addPool w cap)
  | buf {w : World} (cap : Nat) : Loaded w → Loaded (addBuf w cap)
  | oq {w : World} (cap : Nat) : Loaded w → Loaded (addOQ w cap)
  | pq {w : World} (cap : Nat) : Loaded w → Loaded (addPQ w cap)
  | cond {w : World} : Loaded w → Loaded (addCond w)
  | proc {w : World} (pr : Int) (cmds : Array (Cmd × String)) :
      Loaded w → (∀ (i : Nat) (c : Cmd) (t : String), cmds[i]? = some (c, t) → CmdValid w c) → Loaded (addProc w pr cmds)
  | sub {w : World} (g cg : Nat) : Loaded w → (∃ gd : Guard, w.guards[g]? = some gd ∧ gd.isCond = false) →
      (∃ gd : Guard, w.guards[cg]? = some gd ∧ gd.isCond = true) → Loaded (subscribe w g cg)
  | start {w : World} (p : Pid) : Loaded w → p < w.procs.size → (∀ e ∈ w.ev.pending, e.item.b ≠ p + 1) →
      Loaded (autostart w p)

theorem Loaded.built {w : World} (h : Loaded w) : Built w := by
  induction h with
  | empty => exact .empty
  | res _ ih => exact .res ih
  | pool cap _ ih => exact .pool cap ih
  | buf cap _ ih => exact .buf cap ih
  | oq cap _ ih => exact .oq cap ih
  | pq cap _ ih => exact .pq cap ih
  | cond _ ih => exact .cond ih
  | proc pr cmds _ hok ih => exact .proc pr cmds ih (fun i c t h => (hok i c t h).1)
  | sub g cg _ _ _ ih => exact .sub g cg ih
  | start p _ _ _ ih => exact .start p ih

def Plain (w : World) (g : Nat) : Prop := ∃ gd : Guard, w.guards[g]? = some gd ∧ gd.isCond = false
def CondG (w : World) (g : Nat) : Prop := ∃ gd : Guard, w.guards[g]? = some gd ∧ gd.isCond = true

/-- what a loaded world looks like (the part not already in `S3.BInv`) -/
structure LInv (w : World) : Prop where
  nf : w.fault = none
  pr : ∀ p, (w.proc p).held = [] ∧ (w.proc p).status = .created ∧ ∀ i, (w.proc p).vars.getD i 0 = 0
  gv : ∀ i, w.gvars.getD i 0 = 0
  pend : ∀ e ∈ w.ev.pending, 1 ≤ e.item.b ∧ e.item.b ≤ w.procs.size
  uq : ∀ e1 ∈ w.ev.pending, ∀ e2 ∈ w.ev.pending, e1.item.b = e2.item.b → e1 = e2
  hq : ∀ (pl : Nat) (x : Pool), w.pools[pl]? = some x → x.holders = mkHH 3
  rq : ∀ (r : Nat) (x : Res), w.res[r]? = some x → x.holder = none
  kq : ∀ (k : Nat) (x : PQ), w.pqs[k]? = some x → x.queue = mkHH 3 ∧ x.putLog = []
  og : (∀ (r : Nat) (x : Res), w.res[r]? = some x → Plain w x.guard) ∧
       (∀ (r : Nat) (x : Pool), w.pools[r]? = some x → Plain w x.guard) ∧
       (∀ (r : Nat) (x : Buf), w.bufs[r]? = some x → Plain w x.front ∧ Plain w x.rear) ∧
       (∀ (r : Nat) (x : OQ), w.oqs[r]? = some x → Plain w x.front ∧ Plain w x.rear) ∧
       (∀ (r : Nat) (x : PQ), w.pqs[r]? = some x → Plain w x.front ∧ Plain w x.rear)
  cg : ∀ (c g : Nat), w.conds[c]? = some g → CondG w g
  obs : ∀ (g : Nat) (gd : Guard), w.guards[g]? = some gd →
    (gd.isCond = true → gd.observers = []) ∧ ∀ o ∈ gd.observers, CondG w o
  ok : ∀ (p : Pid) (i : Nat) (c : Cmd) (t : String), (w.proc p).script[i]? = some (c, t) → CmdValid w c

theorem push_plain {w : World} {b b' : Bool} {g : Nat} (h : Plain w g) :
    Plain { w with guards := w.guards.push { q := mkHH 3, isCond := b' } } g ∧ (b = b) := by
  obtain ⟨gd, hg, hc⟩ := h
  refine ⟨⟨gd, ?_, hc⟩, rfl⟩
  have hlt : g < w.guards.size := by
    by_cases hi : g < w.guards.size
    · exact hi
    · rw [Array.getElem?_eq_none (Nat.le_of_not_lt hi)] at hg; cases hg
  simp only [Array.getElem?_push]
  rw [if_neg (by omega)]; exact hg

theorem guards_grow {w w' : World} {P : Guard → Prop} {g : Nat} (hsub : ∀ (i : Nat) (gd : Guard), w.guards[i]? = some gd → w'.guards[i]? = some gd)
    (h : ∃ gd : Guard, w.guards[g]? = some gd ∧ P gd) : ∃ gd : Guard, w'.guards[g]? = some gd ∧ P gd := by
  obtain ⟨gd, hg, hp⟩ := h; exact ⟨gd, hsub g gd hg, hp⟩

theorem push_sub {α : Type} (a : Array α) (x : α) (i : Nat) (y : α) (h : a[i]? = some y) : (a.push x)[i]? = some y := by
  rw [Array.getElem?_push, if_neg (Nat.ne_of_lt (S3.lt_of_getElem? h))]; exact h

theorem LInv.grow {w w' : World} (h : LInv w) (hf : w'.fault = w.fault) (hp : w'.procs = w.procs) (hgv : w'.gvars = w.gvars)
    (hev : w'.ev = w.ev)
    (hsub : ∀ (i : Nat) (gd : Guard), w.guards[i]? = some gd → w'.guards[i]? = some gd)
    (hnew : ∀ (i : Nat) (gd : Guard), w'.guards[i]? = some gd → w.guards[i]? = some gd ∨ (gd.observers = [] ∧ gd.q = mkHH 3))
    (hhq : ∀ (pl : Nat) (x : Pool), w'.pools[pl]? = some x → x.holders = mkHH 3)
    (hrq : ∀ (r : Nat) (x : Res), w'.res[r]? = some x → x.holder = none)
    (hkq : ∀ (k : Nat) (x : PQ), w'.pqs[k]? = some x → x.queue = mkHH 3 ∧ x.putLog = [])
    (hog : (∀ (r : Nat) (x : Res), w'.res[r]? = some x → Plain w' x.guard) ∧
       (∀ (r : Nat) (x : Pool), w'.pools[r]? = some x → Plain w' x.guard) ∧
       (∀ (r : Nat) (x : Buf), w'.bufs[r]? = some x → Plain w' x.front ∧ Plain w' x.rear) ∧
       (∀ (r : Nat) (x : OQ), w'.oqs[r]? = some x → Plain w' x.front ∧ Plain w' x.rear) ∧
       (∀ (r : Nat) (x : PQ), w'.pqs[r]? = some x → Plain w' x.front ∧ Plain w' x.rear))
    (hcg : ∀ (c g : Nat), w'.conds[c]? = some g → CondG w' g) (hres : w.res.size ≤ w'.res.size) : LInv w' := by
  have hproc : ∀ p, w'.proc p = w.proc p := fun p => by unfold World.proc; rw [hp]
  refine ⟨hf.trans h.nf, fun p => by rw [hproc]; exact h.pr p, by rw [hgv]; exact h.gv, by rw [hev, hp]; exact h.pend,
    by rw [hev]; exact h.uq, hhq, hrq, hkq, hog, hcg, ?_, ?_⟩
  · intro g gd hg
    rcases hnew g gd hg with hold | ⟨hno, _⟩
    · obtain ⟨h1, h2⟩ := h.obs g gd hold
      exact ⟨h1, fun o ho => guards_grow hsub (h2 o ho)⟩
    · exact ⟨fun _ => hno, fun o ho => by rw [hno] at ho; cases ho⟩
  · intro p i c t hc
    rw [hproc] at hc
    obtain ⟨a, b, c', d⟩ := h.ok p i c t hc
    exact ⟨a, b, c', fun r hr => Nat.lt_of_lt_of_le (d r hr) hres⟩


theorem Plain.grow {w w' : World} {g : Nat} (hsub : ∀ (i : Nat) (gd : Guard), w.guards[i]? = some gd → w'.guards[i]? = some gd)
    (h : Plain w g) : Plain w' g := guards_grow hsub h
theorem CondG.grow {w w' : World} {g : Nat} (hsub : ∀ (i : Nat) (gd : Guard), w.guards[i]? = some gd → w'.guards[i]? = some gd)
    (h : CondG w g) : CondG w' g := guards_grow hsub h

theorem LInv.og_grow {w w' : World} (h : LInv w)
    (hsub : ∀ (i : Nat) (gd : Guard), w.guards[i]? = some gd → w'.guards[i]? = some gd) :
    (∀ (r : Nat) (x : Res), w.res[r]? = some x → Plain w' x.guard) ∧
    (∀ (r : Nat) (x : Pool), w.pools[r]? = some x → Plain w' x.guard) ∧
    (∀ (r : Nat) (x : Buf), w.bufs[r]? = some x → Plain w' x.front ∧ Plain w' x.rear) ∧
    (∀ (r : Nat) (x : OQ), w.oqs[r]? = some x → Plain w' x.front ∧ Plain w' x.rear) ∧
    (∀ (r : Nat) (x : PQ), w.pqs[r]? = some x → Plain w' x.front ∧ Plain w' x.rear) ∧
    (∀ (c g : Nat), w.conds[c]? = some g → CondG w' g) :=
  ⟨fun r x hx => (h.og.1 r x hx).grow hsub, fun r x hx => (h.og.2.1 r x hx).grow hsub,
   fun r x hx => ⟨(h.og.2.2.1 r x hx).1.grow hsub, (h.og.2.2.1 r x hx).2.grow hsub⟩,
   fun r x hx => ⟨(h.og.2.2.2.1 r x hx).1.grow hsub, (h.og.2.2.2.1 r x hx).2.grow hsub⟩,
   fun r x hx => ⟨(h.og.2.2.2.2 r x hx).1.grow hsub, (h.og.2.2.2.2 r x hx).2.grow hsub⟩,
   fun c g hc => (h.cg c g hc).grow hsub⟩

theorem forall_push {α : Type} {a : Array α} {y : α} {P : α → Prop} (h : ∀ (r : Nat) (x : α), a[r]? = some x → P x) (hy : P y) :
    ∀ (r : Nat) (x : α), (a.push y)[r]? = some x → P x :=
  fun r x hx => (push_get _ _ _ _ hx).elim (h r x) (fun ⟨_, e⟩ => e ▸ hy)

theorem push_new {α : Type} (a : Array α) (x : α) : (a.push x)[a.size]? = some x := by simp

theorem push2_sub {α : Type} (a : Array α) (x y : α) (i : Nat) (z : α) (h : a[i]? = some z) : ((a.push x).push y)[i]? = some z :=
  push_sub _ _ _ _ (push_sub _ _ _ _ h)

theorem fresh1 (a : Array Guard) (b : Bool) : ∀ (i : Nat) (gd : Guard), (a.push { q := mkHH 3, isCond := b })[i]? = some gd →
    a[i]? = some gd ∨ (gd.observers = [] ∧ gd.q = mkHH 3) :=
  fun _ _ hg => (push_get _ _ _ _ hg).imp_right fun ⟨_, e⟩ => e ▸ ⟨rfl, rfl⟩

theorem fresh2 (a : Array Guard) (b b' : Bool) : ∀ (i : Nat) (gd : Guard),
    ((a.push { q := mkHH 3, isCond := b }).push { q := mkHH 3, isCond := b' })[i]? = some gd →
    a[i]? = some gd ∨ (gd.observers = [] ∧ gd.q = mkHH 3) :=
  fun i gd hg => (fresh1 _ b' i gd hg).elim (fresh1 a b i gd) Or.inr

theorem LInv.addRes {w : World} (h : LInv w) : LInv (addRes w) := by
  have hsub : ∀ (i : Nat) (gd : Guard), w.guards[i]? = some gd → (S3.addRes w).guards[i]? = some gd :=
    fun i gd hg => push_sub _ _ _ _ hg
  obtain ⟨o1, o2, o3, o4, o5, o6⟩ := h.og_grow hsub
  exact h.grow rfl rfl rfl rfl hsub (fresh1 _ _) h.hq (forall_push h.rq rfl) h.kq
    ⟨forall_push o1 ⟨{ q := mkHH 3, isCond := false }, push_new _ _, rfl⟩, o2, o3, o4, o5⟩ o6 (by simp [S3.addRes, newGuardW])

theorem LInv.addPool {w : World} (h : LInv w) (cap : Nat) : LInv (addPool w cap) := by
  have hsub : ∀ (i : Nat) (gd : Guard), w.guards[i]? = some gd → (S3.addPool w cap).guards[i]? = some gd :=
    fun i gd hg => push_sub _ _ _ _ hg
  obtain ⟨o1, o2, o3, o4, o5, o6⟩ := h.og_grow hsub
  exact h.grow rfl rfl rfl rfl hsub (fresh1 _ _) (forall_push h.hq rfl) h.rq h.kq
    ⟨o1, forall_push o2 ⟨{ q := mkHH 3, isCond := false }, push_new _ _, rfl⟩, o3, o4, o5⟩ o6 (Nat.le_refl _)

theorem two_new (w : World) : Plain { w with guards := (w.guards.push { q := mkHH 3, isCond := false }).push { q := mkHH 3, isCond := false } } w.guards.size ∧
    Plain { w with guards := (w.guards.push { q := mkHH 3, isCond := false }).push { q := mkHH 3, isCond := false } } (w.guards.size + 1) := by
  constructor
  · exact ⟨{ q := mkHH 3, isCond := false }, push_sub _ _ _ _ (push_new _ _), rfl⟩
  · refine ⟨{ q := mkHH 3, isCond := false }, ?_, rfl⟩
    have := push_new (w.guards.push { q := mkHH 3, isCond := false }) ({ q := mkHH 3, isCond := false } : Guard)
    simpa using this

theorem LInv.addBuf {w : World} (h : LInv w) (cap : Nat) : LInv (addBuf w cap) := by
  have hsub : ∀ (i : Nat) (gd : Guard), w.guards[i]? = some gd → (S3.addBuf w cap).guards[i]? = some gd :=
    fun i gd hg => push2_sub _ _ _ _ _ hg
  obtain ⟨o1, o2, o3, o4, o5, o6⟩ := h.og_grow hsub
  exact h.grow rfl rfl rfl rfl hsub (fresh2 _ _ _) h.hq h.rq h.kq ⟨o1, o2, forall_push o3 (two_new w), o4, o5⟩ o6 (Nat.le_refl _)

theorem LInv.addOQ {w : World} (h : LInv w) (cap : Nat) : LInv (addOQ w cap) := by
  have hsub : ∀ (i : Nat) (gd : Guard), w.guards[i]? = some gd → (S3.addOQ w cap).guards[i]? = some gd :=
    fun i gd hg => push2_sub _ _ _ _ _ hg
  obtain ⟨o1, o2, o3, o4, o5, o6⟩ := h.og_grow hsub
  exact h.grow rfl rfl rfl rfl hsub (fresh2 _ _ _) h.hq h.rq h.kq ⟨o1, o2, o3, forall_push o4 (two_new w), o5⟩ o6 (Nat.le_refl _)

theorem LInv.addPQ {w : World} (h : LInv w) (cap : Nat) : LInv (addPQ w cap) := by
  have hsub : ∀ (i : Nat) (gd : Guard), w.guards[i]? = some gd → (S3.addPQ w cap).guards[i]? = some gd :=
    fun i gd hg => push2_sub _ _ _ _ _ hg
  obtain ⟨o1, o2, o3, o4, o5, o6⟩ := h.og_grow hsub
  exact h.grow rfl rfl rfl rfl hsub (fresh2 _ _ _) h.hq h.rq (forall_push h.kq ⟨rfl, rfl⟩)
    ⟨o1, o2, o3, o4, forall_push o5 (two_new w)⟩ o6 (Nat.le_refl _)

theorem LInv.addCond {w : World} (h : LInv w) : LInv (addCond w) := by
  have hsub : ∀ (i : Nat) (gd : Guard), w.guards[i]? = some gd → (S3.addCond w).guards[i]? = some gd :=
    fun i gd hg => push_sub _ _ _ _ hg
  obtain ⟨o1, o2, o3, o4, o5, o6⟩ := h.og_grow hsub
  refine h.grow rfl rfl rfl rfl hsub (fresh1 _ _) h.hq h.rq h.kq ⟨o1, o2, o3, o4, o5⟩ ?_ (Nat.le_refl _)
  intro c g hc
  rcases push_get _ _ _ _ hc with h1 | ⟨_, rfl⟩
  · exact o6 c g h1
  · exact ⟨{ q := mkHH 3, isCond := true }, push_new _ _, rfl⟩

theorem zeros_getD (n i : Nat) : (Array.replicate n 0).getD i 0 = 0 := by
  simp [Array.getD_eq_getD_getElem?, Array.getElem?_replicate]
  split <;> rfl

theorem LInv.addProc {w : World} (h : LInv w) (pr : Int) (cmds : Array (Cmd × String))
    (hok : ∀ (i : Nat) (c : Cmd) (t : String), cmds[i]? = some (c, t) → CmdValid w c) : LInv (addProc w pr cmds) := by
  have hproc : ∀ p, (S3.addProc w pr cmds).proc p = w.proc p ∨
      (S3.addProc w pr cmds).proc p = ({ prio := pr, script := cmds } : Proc) := by
    intro p
    unfold World.proc S3.addProc
    simp only [Array.getD_eq_getD_getElem?, Array.getElem?_push]
    split
    · right; rfl
    · left; rfl
  refine ⟨h.nf, fun p => ?_, h.gv, fun e he => ⟨(h.pend e he).1, ?_⟩, h.uq, h.hq, h.rq, h.kq, h.og, h.cg, h.obs, ?_⟩
  rotate_left 2
  · intro p i c t hs
    rcases hproc p with e | e <;> rw [e] at hs
    · exact h.ok p i c t hs
    · exact hok i c t hs
  · rcases hproc p with e | e <;> rw [e]
    · exact h.pr p
    · exact ⟨rfl, rfl, zeros_getD 16⟩
  · have := (h.pend e he).2
    simp only [S3.addProc, Array.size_push]; omega

theorem LInv.subscribe {w : World} (h : LInv w) (g cg : Nat) (hg : Plain w g) (hc : CondG w cg) : LInv (subscribe w g cg) := by
  have hget : ∀ (i : Nat) (gd' : Guard), (S3.subscribe w g cg).guards[i]? = some gd' →
      ∃ gd, w.guards[i]? = some gd ∧ gd'.isCond = gd.isCond ∧
        ((i ≠ g ∧ gd' = gd) ∨ (i = g ∧ gd'.observers = cg :: gd.observers)) := by
    intro i gd' hi
    simp only [S3.subscribe, Array.getElem?_modify] at hi
    split at hi
    · rename_i e
      cases hx : w.guards[i]? with
      | none => rw [hx] at hi; cases hi
      | some gd0 =>
        rw [hx] at hi
        simp only [Option.map_some, Option.some.injEq] at hi
        subst hi
        exact ⟨gd0, rfl, rfl, Or.inr ⟨e.symm, rfl⟩⟩
    · rename_i e
      exact ⟨gd', hi, rfl, Or.inl ⟨fun e' => e e'.symm, rfl⟩⟩
  have hflag : ∀ (b : Bool) (i : Nat), (∃ gd : Guard, w.guards[i]? = some gd ∧ gd.isCond = b) →
      ∃ gd : Guard, (S3.subscribe w g cg).guards[i]? = some gd ∧ gd.isCond = b := by
    intro b i ⟨gd, hi, hb⟩
    simp only [S3.subscribe, Array.getElem?_modify]
    split
    · exact ⟨{ gd with observers := cg :: gd.observers }, by rw [hi]; rfl, hb⟩
    · exact ⟨gd, hi, hb⟩
  refine ⟨h.nf, h.pr, h.gv, h.pend, h.uq, h.hq, h.rq, h.kq, ⟨?_, ?_, ?_, ?_, ?_⟩, fun c g' hc' => hflag true g' (h.cg c g' hc'), ?_, h.ok⟩
  · exact fun r x hx => hflag false _ (h.og.1 r x hx)
  · exact fun r x hx => hflag false _ (h.og.2.1 r x hx)
  · exact fun r x hx => ⟨hflag false _ (h.og.2.2.1 r x hx).1, hflag false _ (h.og.2.2.1 r x hx).2⟩
  · exact fun r x hx => ⟨hflag false _ (h.og.2.2.2.1 r x hx).1, hflag false _ (h.og.2.2.2.1 r x hx).2⟩
  · exact fun r x hx => ⟨hflag false _ (h.og.2.2.2.2 r x hx).1, hflag false _ (h.og.2.2.2.2 r x hx).2⟩
  · intro i gd' hi
    obtain ⟨gd, hgd, hcnd, hcase⟩ := hget i gd' hi
    obtain ⟨h1, h2⟩ := h.obs i gd hgd
    rcases hcase with ⟨_, rfl⟩ | ⟨rfl, hobs⟩
    · exact ⟨h1, fun o ho => hflag true o (h2 o ho)⟩
    · obtain ⟨gd0, hg0, hplain⟩ := hg
      rw [hgd] at hg0; cases hg0
      refine ⟨fun hc' => ?_, fun o ho => ?_⟩
      · rw [hcnd, hplain] at hc'; cases hc'
      · rw [hobs] at ho
        rcases List.mem_cons.1 ho with rfl | ho'
        · exact hflag true _ hc
        · exact hflag true o (h2 o ho')

theorem LInv.autostart {w : World} (h : LInv w) (p : Pid) (hp : p < w.procs.size) (hfresh : ∀ e ∈ w.ev.pending, e.item.b ≠ p + 1) :
    LInv (autostart w p) := by
  unfold S3.autostart
  rw [S3.sched_now]
  refine ⟨h.nf, h.pr, h.gv, ?_, ?_, h.hq, h.rq, h.kq, h.og, h.cg, h.obs, h.ok⟩
  · intro e he
    simp only [pushEv_pending, List.mem_cons] at he
    rcases he with rfl | he
    · simp only [mkEv, pushEv_procs]; exact ⟨Nat.succ_le_succ (Nat.zero_le _), Nat.succ_le_of_lt hp⟩
    · exact h.pend e he
  · intro e1 h1 e2 h2 hb
    simp only [pushEv_pending, List.mem_cons] at h1 h2
    rcases h1 with rfl | h1 <;> rcases h2 with rfl | h2
    · rfl
    · exact absurd hb.symm (by simpa [mkEv] using hfresh e2 h2)
    · exact absurd hb (by simpa [mkEv] using hfresh e1 h1)
    · exact h.uq e1 h1 e2 h2 hb

theorem LInv.empty : LInv {} :=
  ⟨rfl, fun _ => ⟨rfl, rfl, zeros_getD 16⟩, zeros_getD 16, fun e he => (by cases he), fun e he => (by cases he),
    fun pl x hx => (by cases hx), fun r x hx => (by cases hx), fun k x hx => (by cases hx),
    ⟨fun r x hx => (by cases hx), fun r x hx => (by cases hx), fun r x hx => (by cases hx), fun r x hx => (by cases hx),
     fun r x hx => (by cases hx)⟩, fun c g hc => (by cases hc), fun g gd hg => (by cases hg), fun p i c t hs => (by cases hs)⟩

theorem Loaded.linv {w : World} (h : Loaded w) : LInv w := by
  induction h with
  | empty => exact LInv.empty
  | res _ ih => exact ih.addRes
  | pool cap _ ih => exact ih.addPool cap
  | buf cap _ ih => exact ih.addBuf cap
  | oq cap _ ih => exact ih.addOQ cap
  | pq cap _ ih => exact ih.addPQ cap
  | cond _ ih => exact ih.addCond
  | proc pr cmds _ hok ih => exact ih.addProc pr cmds hok
  | sub g cg _ hg hc ih => exact ih.subscribe g cg hg hc
  | start p _ hp hf ih => exact ih.autostart p hp hf

end CimbaModel.Sim.S4
