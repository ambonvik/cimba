/-
  S4 — `RunBlocked` (between dispatches every running process is suspended in some call) is preserved by `dispatch`
  (fault "resume of a process that is not suspended").

  * `RBo p w`: the invariant for every process other than the executing one; kept by every command / resumed call of `p`;
  * `Out p r`: what the outcome of a command / resumed call says about `p` itself: `.blocked` ⇒ a frame is recorded,
    `.ended` ⇒ `p` is not running any more;  `RetOrBlk r`: a resumed call never skips and never ends the process.
-/
import CimbaModel.Sim.S4StartRun
import CimbaModel.Sim.S4Run
import CimbaModel.Sim.S1WaitRun

namespace CimbaModel.Sim.S4
open CimbaModel CimbaModel.Sim CimbaModel.Event CimbaModel.Generated
open CimbaModel.HashHeap (HTag Item Order HH)

def RBo (p : Pid) (w : World) : Prop := ∀ q, q ≠ p → (w.proc q).status = .running → (w.proc q).blocked ≠ none

theorem RunBlocked.rbo {w : World} (h : RunBlocked w) (p : Pid) : RBo p w := fun q _ hq => h q hq

theorem RBo.close {p : Pid} {w : World} (h : RBo p w) (hp : (w.proc p).status = .running → (w.proc p).blocked ≠ none) :
    RunBlocked w := by
  intro q hq
  by_cases e : q = p
  · subst e; exact hp hq
  · exact h q e hq

theorem RBo.of_keep {p : Pid} {w w' : World} (h : RBo p w)
    (hk : ∀ q, q ≠ p → (w'.proc q).status = .running →
      (w.proc q).status = .running ∧ (w'.proc q).blocked = (w.proc q).blocked) : RBo p w' := by
  intro q hq hr
  obtain ⟨a, b⟩ := hk q hq hr
  rw [b]; exact h q hq a

theorem RBo.of_same {p : Pid} {w w' : World} (h : RBo p w) (hp : ∀ q, q ≠ p → w'.proc q = w.proc q) : RBo p w' :=
  h.of_keep (fun q hq hr => by rw [hp q hq] at hr ⊢; exact ⟨hr, rfl⟩)

theorem RunBlocked.of_same {w w' : World} (h : RunBlocked w)
    (hp : ∀ q, (w'.proc q).status = (w.proc q).status ∧ (w'.proc q).blocked = (w.proc q).blocked) : RunBlocked w' := by
  intro q hq
  rw [(hp q).2]; exact h q (by rw [← (hp q).1]; exact hq)

theorem RBo.emit {p : Pid} {w : World} (h : RBo p w) (l : String) : RBo p (w.emit l) := h.of_same (fun q _ => by simp)

theorem RBo.modSelf {p : Pid} {w : World} (h : RBo p w) (f : Proc → Proc) : RBo p (w.modProc p f) :=
  h.of_same (fun _ hq => proc_modProc_ne _ _ _ _ hq)

theorem finishProc_blocked_ne (w : World) (z : Pid) (val : Int) (stopped : Bool) (q : Pid) (hq : q ≠ z) :
    ((finishProc w z val stopped).proc q).blocked = (w.proc q).blocked := by
  rw [Sim.finishProc_eq, proc_modProc_ne _ _ _ _ hq]
  unfold finishMid; split <;> simp

theorem finishProc_self_not_running (w : World) (z : Pid) (val : Int) (stopped : Bool) :
    ((finishProc w z val stopped).proc z).status ≠ .running := by
  rw [finishProc_status]
  split
  · decide
  · rename_i hn
    have : ¬ z < w.procs.size := fun hlt => hn ⟨rfl, hlt⟩
    rw [proc_oob w z this]; decide

theorem rbo_finishProc {p : Pid} {w : World} (h : RBo p w) (z : Pid) (val : Int) (stopped : Bool) :
    RBo p (finishProc w z val stopped) := by
  refine h.of_keep (fun q _ hr => ?_)
  by_cases e : q = z
  · subst e; exact absurd hr (finishProc_self_not_running w q val stopped)
  · exact ⟨finishProc_run_mono w z val stopped q hr, finishProc_blocked_ne w z val stopped q e⟩

theorem rbo_execCmd {p : Pid} {w : World} (h : RBo p w) (c : Cmd) : RBo p (execCmd w p c).1 := by
  by_cases h1 : ∃ z v, c = .stop z v
  · obtain ⟨z, v, rfl⟩ := h1
    simp only [execCmd]
    split
    · exact rbo_finishProc h p v true
    · split
      · exact rbo_finishProc h z v true
      · exact h
  by_cases h2 : ∃ v, c = .exit v
  · obtain ⟨v, rfl⟩ := h2
    exact rbo_finishProc h p v false
  refine h.of_keep (fun q hq hr => ⟨?_, ?_⟩)
  · rw [execCmd_status w p c q (fun z v e => h1 ⟨z, v, e⟩) (fun v e => h2 ⟨v, e⟩)] at hr; exact hr
  · exact execCmd_blocked_ne w p c (fun z v e => h1 ⟨z, v, e⟩) (fun v e => h2 ⟨v, e⟩) q hq

theorem rbo_resumeFrame {p : Pid} {w : World} (h : RBo p w) (f : Frame) (sig : Int) : RBo p (resumeFrame w p f sig).1 :=
  h.of_keep (fun q hq hr => ⟨by rw [resumeFrame_status] at hr; exact hr, resumeFrame_blocked_ne w p f sig q hq⟩)

def Out (p : Pid) (r : World × Outcome) : Prop :=
  (r.2 = .blocked → (r.1.proc p).status = .running → (r.1.proc p).blocked ≠ none) ∧
  (r.2 = .ended → (r.1.proc p).status ≠ .running)

theorem Out.ret {p : Pid} (w : World) (v : Int) (e : String) : Out p (w, .ret v e) :=
  ⟨fun h => (by cases h), fun h => (by cases h)⟩
theorem Out.skip {p : Pid} (w : World) : Out p (w, .skip) := ⟨fun h => (by cases h), fun h => (by cases h)⟩
theorem Out.block {p : Pid} (w : World) (f : Frame) : Out p (Sim.block w p f) := by
  refine ⟨fun _ hr => ?_, fun h => (by cases h)⟩
  have hp : p < (Sim.block w p f).1.procs.size := lt_np_of_status _ p (by rw [hr]; decide)
  have hp' : p < w.procs.size := by simpa using hp
  rw [block_blocked]; simp [hp']
theorem Out.ended {p : Pid} (w : World) (v : Int) (s : Bool) : Out p (finishProc w p v s, .ended) :=
  ⟨fun h => (by cases h), fun _ => finishProc_self_not_running w p v s⟩

theorem Out.ofCalled {k : Bool} {p : Pid} {s : Scope} {w0 : World} {r : World × Outcome} (c : Called k p p s w0 r) :
    Out p r := by
  cases c with
  | ret _ v e => exact Out.ret _ v e
  | skip _ _ => exact Out.skip _
  | wait _ _ _ f _ _ _ => exact Out.block _ f
  | blk _ f _ _ _ => exact Out.block _ f
  | ended _ v st _ _ => exact Out.ended _ v st

def RetOrBlk (r : World × Outcome) : Prop := r.2 ≠ .skip ∧ r.2 ≠ .ended

theorem RetOrBlk.ret (w : World) (v : Int) (e : String) : RetOrBlk (w, .ret v e) :=
  ⟨fun h => (by cases h), fun h => (by cases h)⟩
theorem RetOrBlk.block (w : World) (p : Pid) (f : Frame) : RetOrBlk (Sim.block w p f) :=
  ⟨fun h => (by cases h), fun h => (by cases h)⟩

/-- a continuation is neither skipped nor does it end the process (EffCall.lean) -/
theorem RetOrBlk.ofCalled {p q : Pid} {s : Scope} {w0 : World} {r : World × Outcome} (c : Called false p q s w0 r) :
    RetOrBlk r := by
  cases c with
  | ret _ v e => exact .ret _ v e
  | skip _ hk => cases hk
  | wait _ _ _ f _ _ _ => exact .block _ q f
  | blk _ f _ _ _ => exact .block _ q f
  | ended _ _ _ hk => cases hk

theorem runScript_runBlocked (fuel : Nat) {w : World} (p : Pid) (h : RBo p w) (hm : scriptLeft w p < fuel) :
    RunBlocked (runScript fuel w p) := by
  have step : ∀ (w : World) (c : Cmd) (l0 : String), RBo p w → RBo p (execCmd (w.emit l0) p c).1 ∧ Out p (execCmd (w.emit l0) p c) :=
    fun w c l0 h => ⟨rbo_execCmd (h.emit l0) c, Out.ofCalled (Called.execCmd (w.emit l0) p c)⟩
  refine S4.runScript_induct p (RBo p) RunBlocked ?_ ?_ ?_ ?_ ?_ fuel w h hm
  · intro w l h _
    exact (rbo_finishProc (h.emit l) p 0 false).close (fun hr => absurd hr (finishProc_self_not_running _ p 0 false))
  · intro w c _ l0 w1 _ _ l h _ heq
    have := (step w c l0 h).1
    rw [heq] at this
    exact (this.emit l).modSelf _
  · intro w c _ l0 w1 l h _ heq
    have := (step w c l0 h).1
    rw [heq] at this
    exact (this.emit l).modSelf _
  · intro w c _ l0 w1 h _ heq
    have := step w c l0 h
    rw [heq] at this
    exact this.1.close (this.2.1 rfl)
  · intro w c _ l0 w1 l h _ heq
    have := step w c l0 h
    rw [heq] at this
    exact (this.1.emit l).close (fun hr => absurd hr (this.2.2 rfl))

theorem runScript_end (fuel : Nat) {w : World} (p : Pid) (h : RBo p w)
    (hm : (w.proc p).script.size - (w.proc p).pc < fuel) (hr : ((runScript fuel w p).proc p).status = .running) :
    ((runScript fuel w p).proc p).blocked ≠ none :=
  runScript_runBlocked fuel p h hm p hr

theorem RunBlocked.resumeProc {w : World} (h : RunBlocked w) (p : Pid) (sig : Int) : RunBlocked (resumeProc w p sig) := by
  have hx : ∀ f, RBo p (resumeFrame (w.modProc p fun y => { y with blocked := none }) p f sig).1 :=
    fun f => rbo_resumeFrame ((h.rbo p).modSelf _) f sig
  refine resumeProc_cases_stat RunBlocked w p sig (fun _ m => h.of_same (fun q => by simp)) ?_ ?_
  · intro f w1 o _ _ _ heq ho
    have hx := hx f
    have hc := Called.resumeFrame (w.modProc p fun y => { y with blocked := none }) p f sig
    have hout := Out.ofCalled hc
    have hrb := RetOrBlk.ofCalled hc
    rw [heq] at hx hout hrb
    cases o with
    | ret v extra => exact absurd rfl (ho v extra)
    | skip => exact absurd rfl hrb.1
    | blocked => exact hx.close (hout.1 rfl)
    | ended => exact absurd rfl hrb.2
  · intro f w1 v extra l _ _ _ heq hst
    have hx := hx f
    rw [heq] at hx
    refine runScript_runBlocked _ p ((hx.emit l).modSelf _) ?_
    unfold scriptLeft
    rw [hst.script p]
    omega

theorem RunBlocked.dispatchBody {w : World} (h : RunBlocked w) (t : HTag) : RunBlocked (S3.dispatchBody w t) := by
  have same : ∀ {w1 : World}, (∀ q, (w1.proc q).status = (w.proc q).status ∧ (w1.proc q).blocked = (w.proc q).blocked) →
      ∀ p sig, RunBlocked (Sim.resumeProc w1 p sig) ∧ RunBlocked w1 :=
    fun hp p sig => ⟨(h.of_same hp).resumeProc p sig, h.of_same hp⟩
  exact Sim.dispatchBody_cases RunBlocked w t (fun _ _ m => h.of_same (fun q => by simp))
    (fun _ _ => runScript_runBlocked _ _ ((h.rbo _).modSelf _) (scriptLeft_start _ _ _))
    (fun _ => (same (fun q => by simp) _ _).1)
    (fun k _ => ite_of (fun _ => (same (fun q => by simp) _ _).1) (fun _ => (same (fun q => by simp) 0 0).2))
    (fun _ => ite_of (fun _ => h.resumeProc _ _) (fun _ => h))
    (fun _ => (same (fun q => by simp) _ _).1) (fun _ => h.resumeProc _ _) (fun _ => h)

theorem RunBlocked.dispatch {w w' : World} (h : RunBlocked w) (hd : dispatch w = some w') : RunBlocked w' := by
  rw [S3.dispatch_eq] at hd
  split at hd
  · cases hd
  · rename_i t ev' hex
    injection hd with hd
    subst hd
    exact RunBlocked.dispatchBody (h.of_same (fun q => by rw [takeNext_proc]; exact ⟨rfl, rfl⟩)) t

theorem RunBlocked.init {w : World} (hnr : ∀ q, (w.proc q).status ≠ .running) : RunBlocked w :=
  fun q hq => absurd hq (hnr q)

/-- the fault "resume of a process that is not suspended" does not occur in a `RunBlocked` world (nor in the worlds
    `dispatch` derives from it before it calls `resumeProc`: they have the same statuses and frames) -/
theorem RunBlocked.no_resume_fault {w : World} (h : RunBlocked w) (p : Pid) (hr : (w.proc p).status = .running) :
    ∃ f, (w.proc p).blocked = some f := by
  cases hb : (w.proc p).blocked with
  | none => exact absurd hb (h p hr)
  | some f => exact ⟨f, rfl⟩

end CimbaModel.Sim.S4
