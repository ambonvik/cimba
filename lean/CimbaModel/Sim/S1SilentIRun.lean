/-
  S1 — `SilentI` through resumptions, scripts, dispatch and the run loop; the S1 invariants together, `FullInv`.
-/
import CimbaModel.Sim.S1SilentI
import CimbaModel.Sim.S1SilentRun
import CimbaModel.Sim.S1PoolRun

namespace CimbaModel.Sim
open CimbaModel CimbaModel.Event CimbaModel.Generated
open CimbaModel.HashHeap (HTag Item Order HH WF)

structure FullInv (w : World) : Prop where
  all : AllInv w
  pool : PInv w
  intr : SilentI w

theorem tgti_resumeFrame {st : Pid → Status} {w : World} (h : TgtI st w) (hp : PInv w) (p : Pid) (hd : DeadRecA p w)
    (hst : ∀ q, (w.proc q).status = st q) (f : Frame) (sig : Int) : TgtI st (resumeFrame w p f sig).1 := by
  cases f
  case pool pl rem initially preempt =>
    simp only [resumeFrame]
    split
    · exact h
    · rename_i x hx
      have hA := allButIntr_notIntr
      have h1 : TgtI st (guardWaitLeave w x.guard p sig) :=
        ec_guardWaitLeave (tgti_closed st) hA.event ⟨hA.res, hA.cond⟩ _ _ _ _ h
      split
      · exact ec_poolRollback (tgti_closed st) ⟨hA.res, hA.cond⟩ _ _ _ _ h1
      · exact tgti_poolLoop h1 (pinv_guardWaitLeave hp _ _ _) p (dra_guardWaitLeave hd _ _ _)
          (fun q => by rw [← hst q]; simp) _ _ _ _
  all_goals exact ec_resumeFrame (tgti_closed st) w p _ sig rfl h

theorem fullinv_finishProc {w : World} (h : FullInv w) (z : Pid) (val : Int) (stopped : Bool) :
    FullInv (finishProc w z val stopped) :=
  ⟨allinv_finishProc h.all z val stopped, pinv_finishProc h.pool z val stopped, silentI_finishProc h.intr z val stopped⟩

theorem fullinv_execCmd {w : World} (h : FullInv w) (p : Pid) (hp : p < w.procs.size)
    (hrun : (w.proc p).status = .running) (hpa : w.pa p = []) (c : Cmd) : FullInv (execCmd w p c).1 :=
  ⟨allinv_execCmd h.all p hp hrun hpa c, pinv_execCmd h.pool p hp c,
   silentI_execCmd h.intr h.pool h.all.dead p hrun c⟩

theorem silentI_pop {w : World} (h : SilentI w) {t : HTag} {ev' : EvQ} (hex : executeNext w.ev = some (t, ev')) :
    SilentI (S3.takeNext w t ev') :=
  show SilentI (afterPop w t ev') from
    SilentI.of_tgt (ec_afterPop (tgti_closed _) allButIntr_notIntr.event hex h) (fun q => by rw [afterPop_proc])

/-- `SilentI` among a set of invariants that contains `PInv` and `DeadRec` (the victims of a preempting pool acquisition
    are holders, hence running) -/
theorem silentI_conjunct {J : World → Prop} (hJ : ∀ {w}, J w → FullInv w) : Run J SilentI AtCmd fun _ _ _ => True :=
  wd_conjunct (fun hw => ⟨(hJ hw).all.wait, (hJ hw).all.dead⟩)
    (fun hw l => silentI_of_same (hJ hw).intr rfl (fun _ => rfl))
    (fun hw m => silentI_of_same (hJ hw).intr (by simp) (fun q => by simp))
    (fun hw p n => silentI_of_same (hJ hw).intr rfl (fun q => by simp))
    (fun hw p => silentI_finishProc (hJ hw).intr p 0 false)
    (fun {w} hw p hc c _ hs l =>
      silentI_execCmd (w := w.emit l) (silentI_of_same (hJ hw).intr rfl (fun _ => rfl)) ((hJ hw).pool.same (poolSame_emit w l))
        ((hJ hw).all.dead.of_procs rfl) p (hc.1 (lt_np_of_script w p _ _ hs)) c)
    (fun {w} hw p f hrun _ sig =>
      have hD0 : DeadRecA p (w.modProc p fun y => { y with blocked := none }) :=
        ⟨dr_modProc_shrink (hJ hw).all.dead p _ ⟨rfl, fun e => e, fun e => e, fun e => e, fun _ => rfl⟩, by simpa using hrun⟩
      SilentI.of_tgt (tgti_resumeFrame (st := fun q => (w.proc q).status)
          ((tgti_closed _).ev_only (w' := w.modProc p fun y => { y with blocked := none }) (hJ hw).intr rfl)
          (pinv_modProc_keep (hJ hw).pool _ _ (fun _ => rfl)) p hD0 (fun q => by simp) f sig)
        (fun q => by rw [resumeFrame_status]; simp))
    (fun hw t ev' hex => silentI_pop (hJ hw).intr hex)
    (fun h z _ => tgti_mono ((tgti_closed _).ev_only h rfl) (fun q hq => by
      rw [proc_modProc]; split
      · rfl
      · exact hq))
    (fun h z k => silentI_of_same h (by simp) (fun q => by simp))
    (fun hw t ev' hex k _ => silentI_of_same (silentI_pop (hJ hw).intr hex) (by simp) (fun q => by simp))
    (fun {w} h z => SilentI.of_tgt (w := w)
      (ec_cancelAwaiteds (tgti_closed _) allButIntr_notIntr.event ⟨allButIntr_notIntr.res, allButIntr_notIntr.cond⟩ _ _ h)
      (fun q => by simp))

theorem fullinv_run : Run FullInv FullInv AtCmd fun _ _ _ => True :=
  (((allinv_run.mono (fun h => h.all) id ⟨fun _ => trivial, fun _ => trivial⟩).and
      (wd_conjunct_kept PInv.carried.kept (fun h => h.pool) (fun h => ⟨h.all.wait, h.all.dead⟩))).and (silentI_conjunct id)).mono id
    (fun h => ⟨h.1.1, h.1.2, h.2⟩) ⟨fun _ => ⟨⟨trivial, trivial⟩, trivial⟩, fun _ => trivial⟩

theorem fullinv_dispatch {w w' : World} (h : FullInv w) (hd : dispatch w = some w') : FullInv w' := fullinv_run.dispatch h hd

theorem fullinv_runAll (fuel : Nat) {w : World} (h : FullInv w) : FullInv (runAll fuel w) := fullinv_run.runAll fuel h

end CimbaModel.Sim
