/-
  S4 — shared definitions for the "no fault" proof (C10): the static validity of programs beyond `S3.CmdOk`, and the
  extra invariants that the fault sites of `dispatch` / `priority_set` need.
-/
import CimbaModel.Sim.Shape
import CimbaModel.HashHeap.Inv

namespace CimbaModel.Sim.S4
open CimbaModel CimbaModel.Sim CimbaModel.Sim.S3 CimbaModel.Event CimbaModel.Generated CimbaModel.KPQ
open CimbaModel.HashHeap (HTag Item Order HH WF abs liveTags)

/-- durations are not negative (`cmb_process_hold`, `cmb_process_timer_add/set`, `cmb_event_schedule` release-assert it) -/
def DurOk : Cmd → Prop
  | .hold d => 0 ≤ d
  | .timerAdd _ d _ => 0 ≤ d
  | .timerSet _ d _ => 0 ≤ d
  | .timerAddOf _ d _ => 0 ≤ d
  | .schedUser _ d _ => 0 ≤ d
  | _ => True

/-- the variable discipline of the scenario language (as used by tools/gen_sim.py): handle variables 0..3 hold the
    process's own timer handles, 4..7 priority-queue handles, 8.. (shared) user-event handles.  It makes the static
    statement "`cmb_event_cancel` / `cmb_process_timer_cancel` are only applied to handles of the right kind" -/
def VarsOk : Cmd → Prop
  | .timerAdd v _ _ => v < 4
  | .timerSet v _ _ => v < 4
  | .timerCancel v => v < 4
  | .pqPut _ _ _ v => 4 ≤ v ∧ v < 8
  | .schedUser v _ _ => 8 ≤ v
  | .cancelUser v => 8 ≤ v
  | _ => True

/-- every armed timer of every process is still scheduled (I_timers without the "or was cancelled" escape) -/
def TL (w : World) : Prop :=
  ∀ q h, Await.time h ∈ (w.proc q).awaits → ∃ e ∈ w.ev.pending, e.key = h ∧ e.item.a = aTime ∧ e.item.b = q + 1

/-- what the handle variables can name: a private timer variable of `p` names (if anything pending) a timer of `p`;
    a shared user variable names (if anything pending) a user event; handles are never from the future -/
structure VarInv (w : World) : Prop where
  tv : ∀ p i, i < 4 → (w.proc p).vars.getD i 0 ≤ w.ev.counter ∧
    ∀ e ∈ w.ev.pending, e.key = (w.proc p).vars.getD i 0 → e.item.a = aTime ∧ e.item.b = p + 1
  uv : ∀ i, 8 ≤ i → w.gvars.getD i 0 ≤ w.ev.counter ∧
    ∀ e ∈ w.ev.pending, e.key = w.gvars.getD i 0 → e.item.a = aUser

/-- a pending start event is addressed to a process that is not running, and there is at most one per process -/
structure StartInv (w : World) : Prop where
  nr : ∀ e ∈ w.ev.pending, e.item.a = aStart → (w.proc (e.item.b - 1)).status ≠ .running
  uq : ∀ e1 ∈ w.ev.pending, ∀ e2 ∈ w.ev.pending, e1.item.a = aStart → e2.item.a = aStart → e1.item.b = e2.item.b → e1 = e2

/-- between dispatches every running process is suspended in some call -/
def RunBlocked (w : World) : Prop := ∀ q, (w.proc q).status = .running → (w.proc q).blocked ≠ none

end CimbaModel.Sim.S4
