/-
  S3 — `PInv`: `cmi_process_cancel_awaiteds` and the end of a process.
-/
import CimbaModel.Sim.S3PInvResume
import CimbaModel.Sim.S3PF
import CimbaModel.Sim.S3PInvWait

namespace CimbaModel.Sim.S3
open CimbaModel CimbaModel.Sim CimbaModel.Event CimbaModel.Generated CimbaModel.KPQ
open CimbaModel.HashHeap (HTag Item Order HH WF abs liveTags)

variable {ex : Pid → Prop} {fr : Pid → Option Frame}

theorem PInv.modFinish {w : World} (hp : PInv ex fr w) (p : Pid) (f : Proc → Proc)
    (hfa : ∀ x, (f x).awaits = x.awaits) (hfw : ∀ x, (f x).waiters = x.waiters)
    (hnil : procAw w p = [] ∧ evAw w p = []) : PInv ex fr (w.modProc p f) := by
  have hpr : ∀ x, ((w.modProc p f).proc x).awaits = (w.proc x).awaits ∧
      ((w.modProc p f).proc x).waiters = (w.proc x).waiters ∧
      (x ≠ p → ((w.modProc p f).proc x).status = (w.proc x).status ∧
        ((w.modProc p f).proc x).blocked = (w.proc x).blocked) := by
    intro x; rw [modProc_proc]; split
    · rename_i h; rw [h.1]; exact ⟨hfa _, hfw _, fun hn => absurd rfl hn⟩
    · exact ⟨rfl, rfl, fun _ => ⟨rfl, rfl⟩⟩
  have hpa : ∀ x, procAw (w.modProc p f) x = procAw w x := fun x => by unfold procAw; rw [(hpr x).1]
  have hea : ∀ x, evAw (w.modProc p f) x = evAw w x := fun x => by unfold evAw; rw [(hpr x).1]
  refine { hp with ap := ?_, ae := ?_, ar := ?_, fb := ?_, w1 := ?_, wn := ?_, e1 := ?_, op := ?_, oe := ?_, oh := ?_ }
  · intro x; rw [hpa]; exact hp.ap x
  · intro x; rw [hea]; exact hp.ae x
  · intro x hx; rw [hpa, hea]
    by_cases hxp : x = p
    · subst hxp; exact hnil
    · rw [((hpr x).2.2 hxp).1] at hx; exact hp.ar x hx
  · intro x hxx hx; rw [hpa, hea]
    by_cases hxp : x = p
    · subst hxp; exact hnil
    · rw [((hpr x).2.2 hxp).2] at hx; exact hp.fb x hxx hx
  · intro x q hq hx; rw [(hpr q).1]; exact hp.w1 x q (by rw [← (hpr x).2.1]; exact hq) hx
  · intro x; rw [(hpr x).2.1]; exact hp.wn x
  · intro h l q hm hq hx; rw [(hpr q).1]; exact hp.e1 h l q hm hq hx
  · intro e he ha x hb hx
    obtain ⟨q, h1, h2⟩ := hp.op e he ha x hb hx
    exact ⟨q, by rw [(hpr x).1]; exact h1, by rw [(hpr q).2.1]; exact h2⟩
  · intro e he ha x hb hx
    obtain ⟨h, h1, h2⟩ := hp.oe e he ha x hb hx
    exact ⟨h, by rw [(hpr x).1]; exact h1, h2⟩
  · intro e he ha x hb hx h hh
    exact hp.oh e he ha x hb hx h (by rw [← (hpr x).1]; exact hh)

/-- the loop invariant: `p` is exempt, has no registration of its own left, and whoever still lists it as a waiter is
    among the awaitables not yet processed -/
def CaInv (ex : Pid → Prop) (fr : Pid → Option Frame) (p : Pid) (rest : List Await) (w : World) : Prop :=
  PInv (exAdd ex p) fr w ∧ (procAw w p = [] ∧ evAw w p = []) ∧
  (∀ x, p ∈ (w.proc x).waiters → Await.proc x ∈ rest) ∧
  (∀ k l, (k, l) ∈ w.evWaiters → p ∈ l → Await.event k ∈ rest)

theorem CaInv.of_PF {p : Pid} {a : Await} {rest : List Await} {w w' : World} (h : CaInv ex fr p (a :: rest) w)
    (hpf : PF w w') (hp' : PInv (exAdd ex p) fr w') (ha : isProcA a = false ∧ isEventA a = false) :
    CaInv ex fr p rest w' := by
  obtain ⟨_, hnil, hw, he⟩ := h
  refine ⟨hp', by rw [procAw_congr hpf.ctl, evAw_congr hpf.ctl]; exact hnil, ?_, ?_⟩
  · intro x hx
    rw [(hpf.ctl x).2.1] at hx
    rcases List.mem_cons.1 (hw x hx) with h' | h'
    · rw [← h'] at ha; cases ha.1
    · exact h'
  · intro k l hm hpl
    rcases List.mem_cons.1 (he k l (hpf.evw _ hm) hpl) with h' | h'
    · rw [← h'] at ha; cases ha.2
    · exact h'

theorem CaInv.step {p : Pid} {a : Await} {rest : List Await} {w : World} (h : CaInv ex fr p (a :: rest) w) :
    CaInv ex fr p rest (Sim.cancelStep p w a) := by
  cases a with
  | time k => exact h.of_PF ((PF.refl w).evCancel_fst k) (h.1.evCancel_fst k) ⟨rfl, rfl⟩
  | guard g => exact h.of_PF ((PF.refl w).guardWithdraw g p) (PInv.foot.guardWithdraw w g p h.1) ⟨rfl, rfl⟩
  | proc q =>
    obtain ⟨hp, hnil, hw, he⟩ := h
    have hC := hp.shrinkWaiters q (fun l => (removeFirst l p).1) (fun l x hx => removeFirst_subset l p x hx)
      (fun l hl => (removeFirst_nodup l p hl).1)
    have hpr : ∀ x, ((Sim.cancelStep p w (.proc q)).proc x).awaits = (w.proc x).awaits := by
      intro x; unfold Sim.cancelStep; simp only; rw [modProc_proc]; split
      · rename_i h'; rw [h'.1]
      · rfl
    refine ⟨hC, ?_, ?_, fun k l hm hpl => ?_⟩
    · unfold procAw evAw; rw [hpr]; exact hnil
    · intro x hx
      unfold Sim.cancelStep at hx; simp only at hx
      rw [modProc_proc] at hx
      split at hx
      · rename_i h'
        exact absurd hx (removeFirst_nodup _ p (hp.wn q)).2
      · rename_i h'
        rcases List.mem_cons.1 (hw x hx) with heq | hr
        · have hxq : x = q := by injection heq
          subst hxq
          have hq : x < w.procs.size := by
            rcases Nat.lt_or_ge x w.procs.size with h'' | h''
            · exact h''
            · rw [proc_oob w h''] at hx; simp at hx
          exact absurd ⟨rfl, hq⟩ h'
        · exact hr
    · rcases List.mem_cons.1 (he k l hm hpl) with heq | hr
      · cases heq
      · exact hr
  | event k =>
    obtain ⟨hp, hnil, hw, he⟩ := h
    have hC := hp.dropEvWaiter k p
    refine ⟨hC, hnil, fun x hx => ?_, ?_⟩
    · rcases List.mem_cons.1 (hw x hx) with heq | hr
      · cases heq
      · exact hr
    · intro k' l' hm hpl
      obtain ⟨l, hl, heq⟩ := dropEvWaiter_mem hm
      rw [heq] at hpl
      split at hpl
      · exact absurd hpl (removeFirst_nodup l p (hp.en.2 k' l hl)).2
      · rename_i hk
        rcases List.mem_cons.1 (he k' l hl hpl) with heq' | hr
        · cases heq'; exact absurd rfl hk
        · exact hr

/-- `cmi_process_cancel_awaiteds`: the invariant is kept (whatever the frame of the process), and afterwards the process
    awaits no process and no event -/
theorem PInv.cancelAwaiteds {w : World} (hp : PInv ex fr w) (p : Pid) (hxp : ¬ ex p) :
    PInv ex fr (Sim.cancelAwaiteds w p) ∧ procAw (Sim.cancelAwaiteds w p) p = [] ∧ evAw (Sim.cancelAwaiteds w p) p = [] := by
  refine cancelAwaiteds_induct p (CaInv ex fr p) (fun w' => PInv ex fr w' ∧ procAw w' p = [] ∧ evAw w' p = []) w ?_
    (fun _ _ _ h => h.step) ?_
  · have hA : PInv (exAdd ex p) fr (w.modProc p fun x => { x with awaits := [] }) :=
      (hp.exempt p).modProcEx _ rfl rfl rfl rfl
    have hwt : ∀ x, ((w.modProc p fun x => { x with awaits := [] }).proc x).waiters = (w.proc x).waiters :=
      modProc_keep Proc.waiters _ _
    refine ⟨hA, ?_, ?_, ?_⟩
    · unfold procAw evAw
      by_cases hs : p < w.procs.size
      · rw [modProc_proc_self w _ hs]; exact ⟨rfl, rfl⟩
      · rw [modProc_proc]; simp only [hs, and_false, if_false]
        rw [proc_oob w (Nat.le_of_not_lt hs)]; exact ⟨rfl, rfl⟩
    · intro x hx; rw [hwt] at hx; exact hp.w1 x p hx hxp
    · intro k l hm hpl; exact hp.e1 k l p hm hpl hxp
  intro w1 ⟨hE, hnil, hnw, hne⟩
  have hnw' : ∀ x, p ∉ (w1.proc x).waiters := fun x hx => by cases hnw x hx
  have hne' : ∀ k l, (k, l) ∈ w1.evWaiters → p ∉ l := fun k l hm hpl => by cases hne k l hm hpl
  have hF := PInv.foot.cancelAllFor w1 p hE
  obtain ⟨hrel, hgone, _⟩ := cancelAllFor_spec w1 p hE.ei
  have hpf := (PF.refl w1).cancelAllFor p
  have hnil' : procAw (Sim.cancelAllFor w1 p) p = [] ∧ evAw (Sim.cancelAllFor w1 p) p = [] := by
    rw [procAw_congr hpf.ctl, evAw_congr hpf.ctl]; exact hnil
  refine ⟨hF.unexempt ?_ ?_ ?_ (fun _ => hnil'), hnil'⟩
  · intro e he _ hb
    rcases hrel.pend e he with hold | ⟨hc, k, l, x, hm, hx, heq⟩
    · exact hgone e he (EvInv.key_le hE.ei hold) hb
    · rw [heq] at hb
      simp only [mkEv] at hb
      have : x = p := Nat.add_right_cancel hb
      subst this
      exact hne' k l hm hx
  · intro x hx; rw [(hpf.ctl x).2.1] at hx; exact hnw' x hx
  · intro k l hm; exact hne' k l (hpf.evw _ hm)

theorem PInv.finishProc {w : World} (hp : PInv ex fr w) (p : Pid) (val : Int) (stopped : Bool) (hxp : ¬ ex p) :
    PInv ex fr (Sim.finishProc w p val stopped) := by
  rw [finishProc_eq]
  rw [← wakeWaiters_eq]
  have hpre : PInv ex fr (finishPre w p stopped) ∧ procAw (finishPre w p stopped) p = [] ∧ evAw (finishPre w p stopped) p = [] := by
    unfold finishPre
    split
    · obtain ⟨h1, h2, h3⟩ := hp.cancelAwaiteds p hxp
      have hpf := (PF.refl (Sim.cancelAwaiteds w p)).dropResources p
      exact ⟨PInv.foot.dropResources _ p h1, by rw [procAw_congr hpf.ctl]; exact h2, by rw [evAw_congr hpf.ctl]; exact h3⟩
    · exact (PInv.foot.dropResources w p hp).cancelAwaiteds p hxp
  have hW := hpre.1.wakeWaiters p (if stopped then sigStopped else sigSuccess)
  refine hW.modFinish p _ (fun _ => rfl) (fun _ => rfl) ?_
  rw [wakeWaiters_eq]
  unfold procAw evAw
  have : ∀ x, ((pushAll ((finishPre w p stopped).modProc p fun x => { x with waiters := [] })
      (procWakes (finishPre w p stopped) p (if stopped then sigStopped else sigSuccess))).proc x).awaits =
      ((finishPre w p stopped).proc x).awaits := by
    intro x; rw [pushAll_proc, modProc_proc]; split
    · rename_i h; rw [h.1]
    · rfl
  rw [this]; exact hpre.2

end CimbaModel.Sim.S3
