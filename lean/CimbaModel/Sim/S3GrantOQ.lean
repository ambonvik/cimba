/-
  S3 — the grant invariant: object queues (a consumer takes exactly one object / slot and does not signal its own
  end again, so the invariant counts: objects ≤ pending grants of the front guard, free slots ≤ those of the rear guard).
-/
import CimbaModel.Sim.S3GrantRes2

namespace CimbaModel.Sim.S3
open CimbaModel CimbaModel.Sim CimbaModel.Event CimbaModel.Generated CimbaModel.KPQ
open CimbaModel.HashHeap (HTag Item Order HH WF abs liveTags)

variable {fr : Pid → Option Frame} {df df' : Demand → Nat} {w : World} {p : Pid}

theorem gs_oqGetLoop (h : GS fr df w) (hes : EndSep w) (hsep : CondSep w) (hfr : fr p = none) (hlt : p < w.procs.size)
    (q : Nat) (hdf : ∀ d, d ≠ .oqContent q → df d ≤ df' d) (hdf1 : df (.oqContent q) ≤ df' (.oqContent q) + 1) :
    GH df' (oqGetLoop w p q).1 := by
  simp only [Sim.oqGetLoop]
  split
  · rename_i hn
    exact (h.gh.clear (.oqContent q) (by rw [need_eq]; simp [hn]) hdf).inert h.ginv.ei ((Inert.refl w).fail _)
  · rename_i x hx
    obtain ⟨hgf, hgr⟩ := gOf_oqs_of hx
    obtain ⟨hnf, hnr⟩ := need_oqs_of hx
    split
    · rename_i o rest hit
      -- one object is taken: one fewer available at the front, one more slot at the rear (signalled)
      have hst : Stat w { w with oqs := w.oqs.set! q { x with items := rest, gotLog := x.gotLog ++ [o] } } :=
        Stat.eff (Eff.setOQ .refl hx _ rfl)
      have h1 := h.moveUnit (df' := df') hst rfl rfl rfl (d0 := .oqContent q) (d1 := .oqSpace q) (by simp)
        (by rw [need_oqs_set hx, if_pos rfl, hnf]; unfold oqNeed; simp only [hit, List.length_cons]; omega)
        (by rw [need_oqs_set hx, if_neg (by simp), if_pos rfl, hnr]; unfold oqNeed; simp only [hit, List.length_cons]; omega)
        (fun d e0 e1 => by rw [need_oqs_set hx, if_neg e0, if_neg e1]; exact Nat.le_refl _) hdf hdf1
      dsimp only
      exact ((h1.recordOQ q).signal_settle (by rw [gOf_of_stat (hst.step (Eff.recordOQ .refl q))]; exact hgr)).gh
    · rename_i hit
      have h0 : need w (.oqContent q) = 0 := by rw [hnf]; unfold oqNeed; simp [hit]
      exact (h.clear (.oqContent q) h0 hdf).wait (Stat.refl w) hes hsep hfr hlt rfl hgf h0

theorem gs_oqPutLoop (h : GS fr df w) (hes : EndSep w) (hsep : CondSep w) (hfr : fr p = none) (hlt : p < w.procs.size)
    (q obj : Nat) (hdf : ∀ d, d ≠ .oqSpace q → df d ≤ df' d) (hdf1 : df (.oqSpace q) ≤ df' (.oqSpace q) + 1) :
    GH df' (oqPutLoop w p q obj).1 := by
  simp only [Sim.oqPutLoop]
  split
  · rename_i hn
    exact (h.gh.clear (.oqSpace q) (by rw [need_eq]; simp [hn]) hdf).inert h.ginv.ei ((Inert.refl w).fail _)
  · rename_i x hx
    obtain ⟨hgf, hgr⟩ := gOf_oqs_of hx
    obtain ⟨hnf, hnr⟩ := need_oqs_of hx
    split
    · rename_i hroom
      -- one slot is filled: one fewer free at the rear, one more object at the front (signalled)
      have hst : Stat w { w with oqs := w.oqs.set! q { x with items := x.items ++ [obj], putLog := x.putLog ++ [obj] } } :=
        Stat.eff (Eff.setOQ .refl hx _ rfl)
      have h1 := h.moveUnit (df' := df') hst rfl rfl rfl (d0 := .oqSpace q) (d1 := .oqContent q) (by simp)
        (by rw [need_oqs_set hx, if_neg (by simp), if_pos rfl, hnr]; unfold oqNeed
            simp only [List.length_append, List.length_cons, List.length_nil]; omega)
        (by rw [need_oqs_set hx, if_pos rfl, hnf]; unfold oqNeed
            simp only [List.length_append, List.length_cons, List.length_nil]; omega)
        (fun d e0 e1 => by rw [need_oqs_set hx, if_neg e1, if_neg e0]; exact Nat.le_refl _) hdf hdf1
      dsimp only
      exact ((h1.recordOQ q).signal_settle (by rw [gOf_of_stat (hst.step (Eff.recordOQ .refl q))]; exact hgf)).gh
    · rename_i hroom
      have h0 : need w (.oqSpace q) = 0 := by rw [hnr]; unfold oqNeed; simp only; omega
      exact (h.clear (.oqSpace q) h0 hdf).wait (Stat.refl w) hes hsep hfr hlt rfl hgr h0

theorem gs_cmd_oqGet (h : GS fr df w) (hes : EndSep w) (hsep : CondSep w) (hfr : fr p = none) (hlt : p < w.procs.size)
    (q : Nat) : GH df (execCmd w p (.oqGet q)).1 := by
  simp only [Sim.execCmd]
  split
  · exact h.gh
  · exact gs_oqGetLoop h hes hsep hfr hlt q (fun _ _ => Nat.le_refl _) (Nat.le_succ _)

theorem gs_cmd_oqPut (h : GS fr df w) (hes : EndSep w) (hsep : CondSep w) (hfr : fr p = none) (hlt : p < w.procs.size)
    (q obj : Nat) : GH df (execCmd w p (.oqPut q obj)).1 := by
  simp only [Sim.execCmd]
  split
  · exact h.gh
  · exact gs_oqPutLoop h hes hsep hfr hlt q obj (fun _ _ => Nat.le_refl _) (Nat.le_succ _)

theorem gs_resume_oqGet (h : GS fr df w) (hes : EndSep w) (hsep : CondSep w) {q : Nat}
    (hfr : fr p = some (.oqGet q)) (hlt : p < w.procs.size) (sig : Int) (hq : sig = sigSuccess → Quiet w p)
    (hdf : ∀ d, d ≠ .oqContent q → df d ≤ df' d) (hdf1 : df (.oqContent q) ≤ df' (.oqContent q) + 1)
    (hdf0 : sig ≠ sigSuccess → ∀ d, df d ≤ df' d) :
    GH df' (resumeFrame (w.modProc p fun y => { y with blocked := none }) p (.oqGet q) sig).1 :=
  gs_resume_plain rfl (fun _ => rfl) h hfr sig hq hdf hdf0 fun g hL =>
    have hst := stat_leave w p g sig
    gs_oqGetLoop hL (hes.ofStat hst) (hsep.ofStat hst) (setFrame_self _ _ _) (by rw [hst.psize]; exact hlt) q hdf hdf1

theorem gs_resume_oqPut (h : GS fr df w) (hes : EndSep w) (hsep : CondSep w) {q obj : Nat}
    (hfr : fr p = some (.oqPut q obj)) (hlt : p < w.procs.size) (sig : Int) (hq : sig = sigSuccess → Quiet w p)
    (hdf : ∀ d, d ≠ .oqSpace q → df d ≤ df' d) (hdf1 : df (.oqSpace q) ≤ df' (.oqSpace q) + 1)
    (hdf0 : sig ≠ sigSuccess → ∀ d, df d ≤ df' d) :
    GH df' (resumeFrame (w.modProc p fun y => { y with blocked := none }) p (.oqPut q obj) sig).1 :=
  gs_resume_plain rfl (fun _ => rfl) h hfr sig hq hdf hdf0 fun g hL =>
    have hst := stat_leave w p g sig
    gs_oqPutLoop hL (hes.ofStat hst) (hsep.ofStat hst) (setFrame_self _ _ _) (by rw [hst.psize]; exact hlt) q obj hdf hdf1

end CimbaModel.Sim.S3
