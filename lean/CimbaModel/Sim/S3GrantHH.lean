/-
  S3 — what the hashheap operations do to `count`, without any well-formedness hypothesis (the object priority queues
  are not covered by the guard invariants).
-/
import CimbaModel.HashHeap.Count

namespace CimbaModel.Sim.S3
open CimbaModel CimbaModel.HashHeap

theorem reprioritize_count {lt : Order} {s s' : HH} {key : Nat} {d i : Int} (h : reprioritize lt s key d i = .ok s') :
    s'.count = s.count := HashHeap.reprioritize_count h

theorem dequeue_count {lt : Order} {s s' : HH} {t : HTag} (h : dequeue lt s = .ok (s', some t)) : s'.count + 1 = s.count := by
  unfold dequeue at h
  split at h
  · cases h
  · rename_i hc
    obtain ⟨_, _, h⟩ := bind_ok h
    obtain ⟨_, _, h⟩ := bind_ok h
    obtain ⟨_, _, h⟩ := bind_ok h
    split at h
    · obtain ⟨_, _, h⟩ := bind_ok h
      obtain ⟨_, _, h⟩ := bind_ok h
      obtain ⟨_, _, h⟩ := bind_ok h
      obtain ⟨s2, h2, h⟩ := bind_ok h
      simp only [Except.ok.injEq, Prod.mk.injEq] at h
      obtain ⟨rfl, _⟩ := h
      split at h2
      · rw [heapDown_count h2]; show s.count - 1 + 1 = s.count; omega
      · cases h2; show s.count - 1 + 1 = s.count; omega
    · simp only [Except.ok.injEq, Prod.mk.injEq] at h
      obtain ⟨rfl, _⟩ := h
      show 0 + 1 = s.count; omega

theorem dequeue_none {lt : Order} {s s' : HH} (h : dequeue lt s = .ok (s', none)) : s.count = 0 := by
  unfold dequeue at h
  split at h
  · assumption
  · obtain ⟨_, _, h⟩ := bind_ok h
    obtain ⟨_, _, h⟩ := bind_ok h
    obtain ⟨_, _, h⟩ := bind_ok h
    split at h
    · obtain ⟨_, _, h⟩ := bind_ok h
      obtain ⟨_, _, h⟩ := bind_ok h
      obtain ⟨_, _, h⟩ := bind_ok h
      obtain ⟨s2, h2, h⟩ := bind_ok h
      simp at h
    · simp at h

theorem remove_count {lt : Order} {s s' : HH} {key : Nat} {r : Bool} (h : remove lt s key = .ok (s', r)) :
    s'.count + (if r then 1 else 0) = s.count ∧ (r = true → 0 < s.count) := by
  unfold remove at h
  split at h
  · cases h
  · split at h
    · cases h; simp
    · rename_i hc
      obtain ⟨hi, _, h⟩ := bind_ok h
      split at h
      · cases h; simp
      · obtain ⟨_, _, h⟩ := bind_ok h
        obtain ⟨_, _, h⟩ := bind_ok h
        split at h
        · simp only [Except.ok.injEq, Prod.mk.injEq] at h
          obtain ⟨rfl, rfl⟩ := h
          exact ⟨by show s.count - 1 + 1 = s.count; omega, fun _ => by omega⟩
        · obtain ⟨_, _, h⟩ := bind_ok h
          obtain ⟨_, _, h⟩ := bind_ok h
          obtain ⟨_, _, h⟩ := bind_ok h
          obtain ⟨s2, h2, h⟩ := bind_ok h
          simp only [Except.ok.injEq, Prod.mk.injEq] at h
          obtain ⟨rfl, rfl⟩ := h
          refine ⟨?_, fun _ => by omega⟩
          split at h2
          · rw [heapDown_count h2]; show s.count - 1 + 1 = s.count; omega
          · rw [heapUp_count h2]; show s.count - 1 + 1 = s.count; omega

theorem grow_count {s s' : HH} (h : grow s = .ok s') : s'.count = s.count := by
  unfold grow at h
  split at h
  · cases h
  · obtain ⟨⟨_, _⟩, _, h⟩ := bind_ok h
    cases h; rfl

theorem enqueue_count {lt : Order} {s s' : HH} {it : Item} {key k' : Nat} {d i : Int}
    (h : enqueue lt s it key d i = .ok (s', k')) : s'.count = s.count + 1 := by
  unfold enqueue at h
  split at h
  · cases h
  · obtain ⟨s1, h1, h⟩ := bind_ok h
    have hc1 : s1.count = s.count := by
      split at h1
      · exact grow_count h1
      · cases h1; rfl
    obtain ⟨_, _, h⟩ := bind_ok h
    obtain ⟨_, _, h⟩ := bind_ok h
    obtain ⟨_, _, h⟩ := bind_ok h
    obtain ⟨_, _, h⟩ := bind_ok h
    obtain ⟨s2, h2, h⟩ := bind_ok h
    simp only [Except.ok.injEq, Prod.mk.injEq] at h
    obtain ⟨rfl, _⟩ := h
    rw [heapUp_count h2]
    show s1.count + 1 = s.count + 1
    rw [hc1]

end CimbaModel.Sim.S3
