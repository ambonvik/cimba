/-
  S2 — C14, the arithmetic behind "time-weighted mean = exact time average": for a step function given by samples
  (x₀,t₀),…,(xₙ,tₙ) with nondecreasing times, the running weighted mean with weights tᵢ₊₁ − tᵢ (updated incrementally,
  as `cmb_wtdsummary_add` does) equals ∫/(tₙ − t₀), where ∫ is the sum of the rectangle areas xᵢ·(tᵢ₊₁ − tᵢ).
  Exact arithmetic over ℚ.
-/
import Mathlib.Tactic.Ring
import Mathlib.Tactic.FieldSimp
import Mathlib.Tactic.Linarith

namespace CimbaModel.TimeAvg

/-- area under the step function: Σ xᵢ·(tᵢ₊₁ − tᵢ) -/
def stepIntegral : List (ℚ × ℚ) → ℚ
  | (x, t) :: (y, u) :: rest => x * (u - t) + stepIntegral ((y, u) :: rest)
  | _ => 0

def lastTime (d : ℚ) : List (ℚ × ℚ) → ℚ
  | [] => d
  | (_, t) :: rest => lastTime t rest

/-- the weighted observations (value, weight) = (xᵢ, tᵢ₊₁ − tᵢ) a history is turned into -/
def weighted : List (ℚ × ℚ) → List (ℚ × ℚ)
  | (x, t) :: (y, u) :: rest => (x, u - t) :: weighted ((y, u) :: rest)
  | _ => []

/-- one incremental update of (total weight, mean), as in `cmb_wtdsummary_add` -/
def wadd (s : ℚ × ℚ) (o : ℚ × ℚ) : ℚ × ℚ :=
  let W' := s.1 + o.2
  (W', s.2 + o.2 / W' * (o.1 - s.2))

def wmean (obs : List (ℚ × ℚ)) : ℚ × ℚ := obs.foldl wadd (0, 0)

def Nondecreasing : List (ℚ × ℚ) → Prop
  | (_, t) :: (y, u) :: rest => t ≤ u ∧ Nondecreasing ((y, u) :: rest)
  | _ => True

theorem wadd_inv {W m S : ℚ} (hW : 0 ≤ W) (h : m * W = S) (x w : ℚ) (hw : 0 ≤ w) :
    (wadd (W, m) (x, w)).2 * (wadd (W, m) (x, w)).1 = S + x * w ∧ 0 ≤ (wadd (W, m) (x, w)).1 ∧
      (wadd (W, m) (x, w)).1 = W + w := by
  simp only [wadd]
  refine ⟨?_, by linarith, trivial⟩
  by_cases h0 : W + w = 0
  · have hw0 : w = 0 := by linarith
    have hW0 : W = 0 := by linarith
    subst hw0; subst hW0
    simp at h ⊢
    linarith
  · field_simp
    rw [← h]; ring

theorem foldl_wadd_inv : ∀ (s : List (ℚ × ℚ)) (W m S : ℚ), 0 ≤ W → m * W = S → Nondecreasing s →
    ((weighted s).foldl wadd (W, m)).2 * ((weighted s).foldl wadd (W, m)).1 = S + stepIntegral s ∧
    ((weighted s).foldl wadd (W, m)).1 = W + (lastTime 0 s - (match s with | [] => 0 | (_, t) :: _ => t)) := by
  intro s
  induction s with
  | nil => intro W m S _ h _; simp [weighted, stepIntegral, lastTime, h]
  | cons a rest ih =>
    intro W m S hW h hnd
    obtain ⟨x, t⟩ := a
    cases rest with
    | nil => simp [weighted, stepIntegral, lastTime, h]
    | cons b rest' =>
      obtain ⟨y, u⟩ := b
      obtain ⟨htu, hnd'⟩ := hnd
      have hw : 0 ≤ u - t := by linarith
      obtain ⟨h1, h2, h3⟩ := wadd_inv hW h x (u - t) hw
      have := ih (wadd (W, m) (x, u - t)).1 (wadd (W, m) (x, u - t)).2 (S + x * (u - t)) h2 h1 hnd'
      simp only [weighted, List.foldl_cons, stepIntegral, lastTime] at this ⊢
      obtain ⟨e1, e2⟩ := this
      refine ⟨by rw [e1]; ring, ?_⟩
      rw [e2, h3]
      ring

theorem wmean_spec (s : List (ℚ × ℚ)) (hnd : Nondecreasing s) (t0 : ℚ) (hs : ∃ x rest, s = (x, t0) :: rest) :
    (wmean (weighted s)).1 = lastTime 0 s - t0 ∧ (wmean (weighted s)).2 * (lastTime 0 s - t0) = stepIntegral s := by
  obtain ⟨x, rest, rfl⟩ := hs
  obtain ⟨e1, e2⟩ := foldl_wadd_inv ((x, t0) :: rest) 0 0 0 (le_refl _) (by ring) hnd
  simp only [zero_add] at e1 e2
  unfold wmean
  exact ⟨e2, by rw [← e2]; exact e1⟩

/-- **the time-weighted mean computed from the history equals the exact time average** of the step function over the
    recording interval [t₀, tₙ] (when that interval is not empty) -/
theorem time_weighted_mean_is_time_average (s : List (ℚ × ℚ)) (hnd : Nondecreasing s) (t0 : ℚ)
    (hs : ∃ x rest, s = (x, t0) :: rest) (hpos : t0 < lastTime 0 s) :
    (wmean (weighted s)).2 = stepIntegral s / (lastTime 0 s - t0) := by
  obtain ⟨_, h⟩ := wmean_spec s hnd t0 hs
  have hne : lastTime 0 s - t0 ≠ 0 := by linarith
  field_simp
  exact h

/-- a constant trajectory has that constant as its average -/
example : (wmean (weighted [(3, 0), (3, 2), (3, 5)])).2 = 3 := by
  rw [time_weighted_mean_is_time_average _ (by simp [Nondecreasing]; norm_num) 0 ⟨3, _, rfl⟩ (by simp [lastTime])]
  simp [stepIntegral, lastTime]
  norm_num

end CimbaModel.TimeAvg
