/-
  S3 — the grant invariant: `preempt` of a resource; the epilogue of a guard wait.
-/
import CimbaModel.Sim.S3GrantDrop
import CimbaModel.Sim.S3GInvCmd

namespace CimbaModel.Sim.S3
open CimbaModel CimbaModel.Sim CimbaModel.Event CimbaModel.Generated CimbaModel.KPQ
open CimbaModel.HashHeap (HTag Item Order HH WF abs liveTags)

variable {fr : Pid → Option Frame} {df df' : Demand → Nat} {w : World} {p : Pid}

def TimersOk (w : World) : Prop := ∀ q k, Await.time k ∈ (w.proc q).awaits → NGc w k

theorem TInv.timersOk {w : World} (h : TInvB w) : TimersOk w := by
  intro q k hk
  refine ⟨h.tle q k hk, ?_⟩
  intro e he hke hg
  by_cases hk0 : k = 0
  · subst hk0
    have := (NGc.zero h.ei).2 e he hke
    exact this hg
  · rcases h.t1 q k hk0 hk with ⟨e', he', hk', ha', _⟩ | hc
    · have : e = e' := HashHeap.eq_of_key_eq h.ei.part.keysNodup he he' (hke.trans hk'.symm)
      subst this
      rw [hg.1] at ha'; exact absurd ha' (by decide)
    · -- a cancelled handle is not pending
      have hnd := h.ei.part.nodup
      have hin : k ∈ keys w.ev.pending := Event.mem_keys.2 ⟨e, he, hke⟩
      rw [List.append_assoc] at hnd
      exact (List.nodup_append.1 hnd).2.2 k hin k (List.mem_append_right _ hc) rfl

/-- taking a resource over from a holder of lower priority: the victim's waits are cancelled, the resource changes
    hands without becoming available to anybody else -/
theorem gs_preemptTake (h : GS fr df w) (ht : TimersOk w) {r : Nat} {x : Res} (hx : w.res[r]? = some x) (victim : Pid)
    (t pri : Int) :
    GH df (grab (sched ({ (cancelAwaiteds (removeHeld w victim (.res r)).1 victim) with
        res := (cancelAwaiteds (removeHeld w victim (.res r)).1 victim).res.modify r fun y => { y with holder := none } })
      aPreempt (victim + 1) sigPreempted t pri).1 r p) := by
  have h1 : GS fr df (removeHeld w victim (.res r)).1 := h.removeHeld_fst victim _
  have ht1 : ∀ k, Await.time k ∈ ((removeHeld w victim (.res r)).1.proc victim).awaits → NGc (removeHeld w victim (.res r)).1 k := by
    intro k hk
    have hpf : PF w (removeHeld w victim (.res r)).1 := (PF.refl w).removeHeld_fst victim _
    rw [(hpf.ctl victim).1] at hk
    exact (ht victim k hk).ofEvo (Evo.eff (Eff.removeHeld .refl victim _))
  have h2 := h1.cancelAwaiteds victim ht1
  have hst2 : Stat w (cancelAwaiteds (removeHeld w victim (.res r)).1 victim) := Stat.eff (Eff.cancelAwaiteds (Eff.removeHeld .refl victim _) victim)
  generalize (cancelAwaiteds (removeHeld w victim (.res r)).1 victim) = W2 at h2 hst2
  obtain ⟨x2, hx2, hsx2⟩ : ∃ x2, W2.res[r]? = some x2 ∧ resStat x2 = resStat x := by
    have := hst2.res r
    rw [hx] at this
    cases h' : W2.res[r]? with
    | none => rw [h'] at this; cases this
    | some x2 => rw [h'] at this; exact ⟨x2, rfl, by simpa using this⟩
  have hst3 : Stat W2 { W2 with res := W2.res.modify r fun y => { y with holder := none } } :=
    Stat.eff (Eff.modRes .refl _)
  have h3 : GS fr (fun d => df d + (if d = .resAvail r then 1 else 0))
      { W2 with res := W2.res.modify r fun y => { y with holder := none } } := by
    refine h2.bump (h2.ginv.ofSame (Same.resMod _ r _)) rfl rfl (fun _ => rfl) (gOf_of_stat hst3) ?_
    intro d
    rw [need_res_modify hx2]
    split
    · rename_i hd; subst hd
      have := resNeed_le_one { x2 with holder := none }
      omega
    · omega
  have hx3 : ({ W2 with res := W2.res.modify r fun y => { y with holder := none } } : World).res[r]? = some { x2 with holder := none } := by
    show (W2.res.modify r _)[r]? = _
    rw [Array.getElem?_modify]; simp [hx2]
  generalize ({ W2 with res := W2.res.modify r fun y => { y with holder := none } } : World) = W3 at h3 hx3
  have h4 : GS fr (fun d => df d + (if d = .resAvail r then 1 else 0))
      (sched W3 aPreempt (victim + 1) sigPreempted t pri).1 :=
    h3.sched_harmless _ _ _ _ _ (by decide)
  have hx4 : (sched W3 aPreempt (victim + 1) sigPreempted t pri).1.res[r]? = some { x2 with holder := none } := by
    rw [sched_res]; exact hx3
  generalize (sched W3 aPreempt (victim + 1) sigPreempted t pri).1 = W4 at h4 hx4
  have hg : grab W4 r p = ({ W4 with res := W4.res.set! r { x2 with holder := some p } }).modProc p fun y => { y with held := .res r :: y.held } := by
    unfold grab; rw [hx4]; simp
  rw [hg]
  have hst5 : Stat W4 { W4 with res := W4.res.set! r { x2 with holder := some p } } :=
    Stat.eff (Eff.setRes .refl hx4 _)
  have h5 : GS fr df { W4 with res := W4.res.set! r { x2 with holder := some p } } := by
    refine h4.bump (h4.ginv.ofSame (Same.resSet hx4 _)) rfl rfl (fun _ => rfl)
      (gOf_of_stat hst5) ?_
    intro d
    rw [need_res_set hx4]
    split
    · rename_i hd; subst hd
      rw [need_res_of hx4]
      simp [resNeed]; omega
    · rename_i hd; simp
  exact (h5.inert (h5.ginv.modProc_ctl p (fun y => { y with held := .res r :: y.held }) (fun _ => ⟨rfl, rfl⟩))
    ((Inert.refl _).modProc p (fun y => { y with held := .res r :: y.held }) (fun _ => rfl))).gh

theorem gs_cmd_preempt (h : GS fr df w) (ht : TimersOk w) (hes : EndSep w) (hsep : CondSep w) (hfr : fr p = none)
    (hlt : p < w.procs.size) (r : Nat) : GH df (execCmd w p (.preempt r)).1 := by
  simp only [Sim.execCmd]
  split
  · exact h.gh
  · rename_i x hx
    split
    · exact h.gh
    · split
      · rename_i hh
        obtain ⟨hi, _⟩ := grab_record_inert (p := p) hx hh
        exact h.gh.inert h.ginv.ei hi
      · rename_i victim hv
        split
        · dsimp only
          exact gs_preemptTake h ht hx victim _ _
        · exact h.acquireStep hes hsep hfr hlt r (fun _ _ => Nat.le_refl _)

theorem gs_left {f : Frame} {d : Demand} {g : Nat} (h : GS fr df w) (hfd : frameDemand f = some d) (hg : gOf w d = some g)
    (hfr : fr p = some f) (sig : Int) (hq : sig = sigSuccess → Quiet w p) :
    GS (setFrame fr p none) df (guardWaitLeave (w.modProc p fun y => { y with blocked := none }) g p sig) := by
  have hon : FrameOn w f g := (frameOn_gOf hfd g).2 hg
  have hq' := h.ginv.quiet_guard (g := g) hq
  obtain ⟨h1, h2⟩ := h.leave hfr hon sig hq'
  exact ⟨h.ginv.left_plain (noEx_not p) hfr hon (fun c hc => by rw [hc] at hfd; cases hfd) sig hq', h1, h2⟩

/-- the resumption of a wait that gives nothing back when it is refused (`giveUp` does nothing): off its guard the call has
    no need left, on it the call leaves the guard and then retries (`again`) or stops -/
theorem gs_resume_plain {f : Frame} {d : Demand} (hfd : frameDemand f = some d) (hgu : ∀ W, giveUp f W p = W)
    (h : GS fr df w) (hfr : fr p = some f) (sig : Int) (hq : sig = sigSuccess → Quiet w p)
    (hdf : ∀ d', d' ≠ d → df d' ≤ df' d') (hdf0 : sig ≠ sigSuccess → ∀ d, df d ≤ df' d)
    (again : ∀ g, GS (setFrame fr p none) df (guardWaitLeave (w.modProc p fun y => { y with blocked := none }) g p sig) →
      GH df' (retry f (guardWaitLeave (w.modProc p fun y => { y with blocked := none }) g p sig) p).1) :
    GH df' (resumeFrame (w.modProc p fun y => { y with blocked := none }) p f sig).1 := by
  have hgo : ∀ g, FrameOn (w.modProc p fun y => { y with blocked := none }) f g ↔ gOf w d = some g := fun g =>
    (frameOn_gOf hfd g).trans (Eq.to_iff (congrArg (· = some g) (gOf_congr (w := w) rfl rfl rfl rfl rfl d)))
  refine resumeFrame_wait (GH df') (by cases f <;> first | rfl | cases hfd) p sig (fun hoff => ?_) (fun g hon _ => ?_)
    (fun g hon hs => ?_)
  · have hg : gOf w d = none := Option.eq_none_iff_forall_ne_some.2 fun g hg => hoff g ((hgo g).2 hg)
    exact (h.gh.clear d (need_of_gOf_none hg) hdf).inert h.ginv.ei ((Inert.refl w).modProc p _ (fun _ => rfl))
  · exact again g (gs_left h hfd ((hgo g).1 hon) hfr sig hq)
  · rw [hgu]; exact (gs_left h hfd ((hgo g).1 hon) hfr sig hq).gh.mono (hdf0 hs)

theorem gs_resume_acquire (h : GS fr df w) (hes : EndSep w) (hsep : CondSep w) {r : Nat} (hfr : fr p = some (.acquire r))
    (hlt : p < w.procs.size) (sig : Int) (hq : sig = sigSuccess → Quiet w p)
    (hdf : ∀ d, d ≠ .resAvail r → df d ≤ df' d) (hdf0 : sig ≠ sigSuccess → ∀ d, df d ≤ df' d) :
    GH df' (resumeFrame (w.modProc p fun y => { y with blocked := none }) p (.acquire r) sig).1 :=
  gs_resume_plain rfl (fun _ => rfl) h hfr sig hq hdf hdf0 fun g hL =>
    have hst := stat_leave w p g sig
    hL.acquireStep (hes.ofStat hst) (hsep.ofStat hst) (setFrame_self _ _ _) (by rw [hst.psize]; exact hlt) r hdf

end CimbaModel.Sim.S3
