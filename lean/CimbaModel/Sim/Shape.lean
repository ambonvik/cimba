/-
  The process-layer model (Sim/Model.lean, Sim/Run.lean) in named steps, each with its induction principle.
  A process that does not exist has the default record (`proc_oob`, `lt_np_of_*`).
  `Path R`: a reflexive and transitive relation `R` on worlds (for a predicate `P`: `R w w' := P w → P w'`); a loop or
  composite step keeps `R` when its steps do (`f_rel`).  The loops and composite steps: pools (victim loop `mugVictim` /
  `mugSettle`, acquisition `poolTake`), the guard signal with its forwarding (`frontStep`, `ownStep`, `fwdSignal`), the
  recording switch, dropping resources (`dropStep`), cancelling awaiteds (`cancelStep`; `cancelAwaiteds_induct` for a loop
  invariant), the end of a process (`finishMid`), the priority change (`reprioGuard`, `prioAwaitStep`, `prioHeldStep`);
  running a script (`runScript_induct`), resuming a suspended call (`resumeProc_cases`), and one `dispatch` as
  `S3.dispatchBody (S3.takeNext w t ev') t` (`S3.dispatch_eq`), by cases on the kind of the event (`dispatchBody_cases`).
  `Act J I C D`, `Run J I C D`: what the run asks of an invariant step by step, in two levels (one activation, one
  dispatch), for invariants that rely on each other or need legitimate resumptions; `Kept I C`: the same for a single
  invariant that asks nothing of a resumption.  `runScript`, `resumeProc`, `dispatch`, `runAll` keep such an invariant.
-/
import CimbaModel.Sim.Run

namespace CimbaModel.Sim
open CimbaModel CimbaModel.Event CimbaModel.Generated
open CimbaModel.HashHeap (HTag Item Order HH)

/-- a process that does not exist has the default record; so whatever tells a record from the default one (a status, a
    holding, a line of script) shows that the process exists -/
theorem proc_oob (w : World) (p : Pid) (hp : ¬ p < w.procs.size) : w.proc p = {} := by
  unfold World.proc
  simp [Array.getD_eq_getD_getElem?, Array.getElem?_eq_none (Nat.le_of_not_lt hp)]

theorem lt_np_of_ne (w : World) (p : Pid) (h : w.proc p ≠ {}) : p < w.procs.size :=
  Classical.byContradiction fun hp => h (proc_oob w p hp)

theorem lt_np_of_status (w : World) (p : Pid) (h : (w.proc p).status ≠ .created) : p < w.procs.size :=
  lt_np_of_ne w p fun e => h (by rw [e])

theorem lt_np_of_held (w : World) (p : Pid) (a : HoldRef) (h : a ∈ (w.proc p).held) : p < w.procs.size :=
  lt_np_of_ne w p fun e => by rw [e] at h; cases h

theorem lt_np_of_script (w : World) (p : Pid) (i : Nat) (c : Cmd × String)
    (h : (w.proc p).script[i]? = some c) : p < w.procs.size :=
  lt_np_of_ne w p fun e => by rw [e] at h; cases h

/-- an entry that is read lies within the array -/
theorem S3.lt_of_getElem? {α : Type} {xs : Array α} {i : Nat} {x : α} (h : xs[i]? = some x) : i < xs.size :=
  (Array.getElem?_eq_some_iff.1 h).1

/-- a reflexive and transitive relation on worlds: a loop or composite step keeps it when each of its steps does -/
structure Path (R : World → World → Prop) : Prop where
  refl : ∀ w, R w w
  trans : ∀ {a b c}, R a b → R b c → R a c

theorem Path.ofPred (P : World → Prop) : Path fun w w' => P w → P w' := ⟨fun _ h => h, fun h1 h2 h => h2 (h1 h)⟩

theorem Path.keeps {β : Type _} (k : World → β) : Path fun w w' => k w' = k w :=
  ⟨fun _ => rfl, fun h1 h2 => h2.trans h1⟩

theorem Path.foldl {R : World → World → Prop} (hR : Path R) {α : Type _} {f : World → α → World}
    (hf : ∀ w a, R w (f w a)) (l : List α) (w : World) : R w (l.foldl f w) := by
  induction l generalizing w with
  | nil => exact hR.refl w
  | cons a l ih => exact hR.trans (hf w a) (ih (f w a))

/-- one turn of the victim loop of `cmi_pool_acquire_inner`: the top holder `t` (remaining list `h'`) is taken off the
    list of pool `pl`; the pool forgets it, the victim forgets the pool and is interrupted with PREEMPTED at once -/
def mugVictim (w : World) (pl : Nat) (x : Pool) (h' : HH) (t : HTag) : World :=
  let w := { w with pools := w.pools.set! pl { x with holders := h' } }
  let w := (removeHeld w (t.key - 1) (.pool pl)).1
  (sched w aIntr (t.key - 1 + 1) sigPreempted w.now (w.proc (t.key - 1)).prio).1

/-- the loot covers what is left of the claim: the surplus goes back to the pool, which is offered to its waiters -/
def mugSettle (w : World) (p : Pid) (pl : Nat) (x : Pool) (rem surplus : Nat) : World :=
  let w := poolUpdateRecord w pl p rem
  let w := setPoolInUse w pl ((w.pools.getD pl x).inUse - surplus)
  signal (recordPool w pl) x.guard

theorem poolMug_zero (w : World) (p : Pid) (pl rem : Nat) : poolMug 0 w p pl rem = (w, some rem) := rfl

theorem poolMug_succ (fuel : Nat) (w : World) (p : Pid) (pl rem : Nat) :
    poolMug (fuel + 1) w p pl rem =
      match w.pools[pl]? with
      | none => (w, some rem)
      | some x =>
        if x.holders.count = 0 then (w, some rem) else
        match HashHeap.peek x.holders with
        | .ok (some top) =>
          if top.i < (w.proc p).prio then
            match HashHeap.dequeue holder_queue_check x.holders with
            | .ok (h', some t) =>
              if t.item.b < rem then
                poolMug fuel (poolUpdateRecord (mugVictim w pl x h' t) pl p t.item.b) p pl (rem - t.item.b)
              else (mugSettle (mugVictim w pl x h' t) p pl x rem (t.item.b - rem), none)
            | .ok (_, none) => (w, some rem)
            | .error f => (w.fail s!"pool mug: {f}", some rem)
          else (w, some rem)
        | _ => (w, some rem) := rfl

/-- **induction principle for the victim loop**, result included: `Q w r` for "started in `w`, the loop returns `r`".
    The loop stops (nothing to take), faults (the dequeue fails), takes a victim — the top of a non-empty list, of
    strictly lower priority than the caller's — and goes on, or takes a victim and settles the surplus. -/
theorem poolMug_induct (p : Pid) (pl : Nat) (Q : World → World × Option Nat → Prop)
    (stop : ∀ w rem, Q w (w, some rem))
    (fail : ∀ w x f m rem, w.pools[pl]? = some x → x.holders.count ≠ 0 →
      HashHeap.dequeue holder_queue_check x.holders = .error f → Q w (w.fail m, some rem))
    (next : ∀ w x top h' t rem r, w.pools[pl]? = some x → x.holders.count ≠ 0 → HashHeap.peek x.holders = .ok (some top) →
      top.i < (w.proc p).prio → HashHeap.dequeue holder_queue_check x.holders = .ok (h', some t) → t.item.b < rem →
      Q (poolUpdateRecord (mugVictim w pl x h' t) pl p t.item.b) r → Q w r)
    (settle : ∀ w x top h' t rem, w.pools[pl]? = some x → x.holders.count ≠ 0 → HashHeap.peek x.holders = .ok (some top) →
      top.i < (w.proc p).prio → HashHeap.dequeue holder_queue_check x.holders = .ok (h', some t) → ¬ t.item.b < rem →
      Q w (mugSettle (mugVictim w pl x h' t) p pl x rem (t.item.b - rem), none)) :
    ∀ (fuel : Nat) (w : World) (rem : Nat), Q w (poolMug fuel w p pl rem) := by
  intro fuel
  induction fuel with
  | zero => intro w rem; exact stop w rem
  | succ fuel ih =>
    intro w rem
    rw [poolMug_succ]
    split
    · exact stop w rem
    · rename_i x hx
      split
      · exact stop w rem
      · rename_i hc
        split
        · rename_i top hpk
          split
          · rename_i hlt
            split
            · rename_i h' t hdq
              split
              · rename_i hb; exact next w x top h' t rem _ hx hc hpk hlt hdq hb (ih _ _)
              · rename_i hb; exact settle w x top h' t rem hx hc hpk hlt hdq hb
            · exact stop w rem
            · rename_i f hdq; exact fail w x f _ rem hx hc hdq
          · exact stop w rem
        · exact stop w rem

theorem poolMug_rel {R : World → World → Prop} (hR : Path R) (p : Pid) (pl : Nat)
    (fail : ∀ w x f m, w.pools[pl]? = some x → x.holders.count ≠ 0 →
      HashHeap.dequeue holder_queue_check x.holders = .error f → R w (w.fail m))
    (victim : ∀ w x top h' t, w.pools[pl]? = some x → x.holders.count ≠ 0 → HashHeap.peek x.holders = .ok (some top) →
      top.i < (w.proc p).prio → HashHeap.dequeue holder_queue_check x.holders = .ok (h', some t) →
      R w (mugVictim w pl x h' t))
    (credit : ∀ w n, R w (poolUpdateRecord w pl p n))
    (settle : ∀ w x rem surplus, R w (mugSettle w p pl x rem surplus)) :
    ∀ (fuel : Nat) (w : World) (rem : Nat), R w (poolMug fuel w p pl rem).1 := by
  refine poolMug_induct p pl (fun w r => R w r.1) (fun w _ => hR.refl w)
    (fun w x f m _ hx hc hdq => fail w x f m hx hc hdq) ?_ ?_
  · intro w x top h' t _ _ hx hc hpk hlt hdq _ ih
    exact hR.trans (hR.trans (victim w x top h' t hx hc hpk hlt hdq) (credit (mugVictim w pl x h' t) t.item.b)) ih
  · intro w x top h' t rem hx hc hpk hlt hdq _
    dsimp only
    exact hR.trans (victim w x top h' t hx hc hpk hlt hdq) (settle (mugVictim w pl x h' t) x rem (t.item.b - rem))

/-- `cmi_pool_acquire_inner` first takes the free units of the pool: in use, recorded, booked at the holder record of `p`;
    the second component is what is left of the claim -/
def poolTake (w : World) (p : Pid) (pl : Nat) (x : Pool) (rem : Nat) : World × Nat :=
  if x.cap - x.inUse > 0 then
    (poolUpdateRecord (recordPool (setPoolInUse w pl (x.inUse + (x.cap - x.inUse))) pl) pl p (x.cap - x.inUse),
      rem - (x.cap - x.inUse))
  else (w, rem)

/-- … and, if it may preempt, goes on through the holders of lower priority (`poolMug`) -/
def poolTakeMug (w : World) (p : Pid) (pl : Nat) (x : Pool) (rem : Nat) (preempt : Bool) : World × Option Nat :=
  if preempt then poolMug (x.holders.count + 1) (poolTake w p pl x rem).1 p pl (poolTake w p pl x rem).2
  else ((poolTake w p pl x rem).1, some (poolTake w p pl x rem).2)

theorem poolLoop_eq (w : World) (p : Pid) (pl rem initially : Nat) (preempt : Bool) :
    poolLoop w p pl rem initially preempt =
      match w.pools[pl]? with
      | none => (w.fail "no such pool", .ret 0 "")
      | some x =>
        if x.cap - x.inUse ≥ rem then
          (signal (poolUpdateRecord (recordPool (setPoolInUse w pl (x.inUse + rem)) pl) pl p rem) x.guard,
            .ret sigSuccess "")
        else
          match (poolTakeMug w p pl x rem preempt).2 with
          | none => ((poolTakeMug w p pl x rem preempt).1, .ret sigSuccess "")
          | some rem' =>
            block (guardWaitEnter (poolTakeMug w p pl x rem preempt).1 x.guard p (.poolAvail pl)) p
              (.pool pl rem' initially preempt) := by
  unfold poolLoop
  cases w.pools[pl]? with
  | none => rfl
  | some x =>
    dsimp only
    split
    · rfl
    · rfl

theorem poolLoop_rel {R : World → World → Prop} (hR : Path R) (p : Pid) (pl initially : Nat) (preempt : Bool)
    (fail : ∀ w m, w.pools[pl]? = none → R w (w.fail m))
    (charge : ∀ w v, R w (recordPool (setPoolInUse w pl v) pl))
    (credit : ∀ w n, R w (poolUpdateRecord w pl p n))
    (signal : ∀ w g, R w (signal w g))
    (mug : preempt = true → ∀ fuel w rem, R w (poolMug fuel w p pl rem).1)
    (wait : ∀ w g rem', R w (block (guardWaitEnter w g p (.poolAvail pl)) p (.pool pl rem' initially preempt)).1)
    (w : World) (rem : Nat) : R w (poolLoop w p pl rem initially preempt).1 := by
  have take : ∀ x, R w (poolTake w p pl x rem).1 := by
    intro x; unfold poolTake; split
    · exact hR.trans (charge _ _) (credit _ _)
    · exact hR.refl w
  have takeMug : ∀ x, R w (poolTakeMug w p pl x rem preempt).1 := by
    intro x; unfold poolTakeMug; split
    · rename_i hp; exact hR.trans (take x) (mug hp _ _ _)
    · exact take x
  rw [poolLoop_eq]
  split
  · rename_i hx; exact fail w _ hx
  · rename_i x _
    split
    · dsimp only
      exact hR.trans (hR.trans (charge w (x.inUse + rem)) (credit _ rem)) (signal _ x.guard)
    · split
      · exact takeMug x
      · exact hR.trans (takeMug x) (wait _ _ _)

theorem setRecording_rel {R : World → World → Prop} (hR : Path R) (idx : Nat) (on : Bool)
    (res : ∀ w, R w (recordRes w idx)) (pool : ∀ w, R w (recordPool w idx)) (buf : ∀ w, R w (recordBuf w idx))
    (oq : ∀ w, R w (recordOQ w idx)) (pq : ∀ w, R w (recordPQ w idx))
    (fres : ∀ w : World, R w { w with res := w.res.modify idx fun x => { x with recording := on } })
    (fpool : ∀ w : World, R w { w with pools := w.pools.modify idx fun x => { x with recording := on } })
    (fbuf : ∀ w : World, R w { w with bufs := w.bufs.modify idx fun x => { x with recording := on } })
    (foq : ∀ w : World, R w { w with oqs := w.oqs.modify idx fun x => { x with recording := on } })
    (fpq : ∀ w : World, R w { w with pqs := w.pqs.modify idx fun x => { x with recording := on } })
    (w : World) (kind : Nat) : R w (setRecording w kind idx on) := by
  unfold setRecording
  cases on with
  | true =>
    match kind with
    | 0 => exact hR.trans (fres w) (res _)
    | 1 => exact hR.trans (fpool w) (pool _)
    | 2 => exact hR.trans (fbuf w) (buf _)
    | 3 => exact hR.trans (foq w) (oq _)
    | _ + 4 => exact hR.trans (fpq w) (pq _)
  | false =>
    match kind with
    | 0 => exact hR.trans (res w) (fres _)
    | 1 => exact hR.trans (pool w) (fpool _)
    | 2 => exact hR.trans (buf w) (fbuf _)
    | 3 => exact hR.trans (oq w) (foq _)
    | _ + 4 => exact hR.trans (pq w) (fpq _)

namespace S3

/-- the part of `cmb_resourceguard_signal` that concerns the guard's own queue.  `.cond 99 0 0` is the default of
    Sim/Model.lean for a key without a registered demand; `guardWaitEnter` registers a demand with every key it
    enqueues, so the default is never what is evaluated. -/
def frontStep (w : World) (g : Nat) (gd : Guard) : World :=
  if gd.q.count = 0 then w else
  match HashHeap.peek gd.q with
  | .ok (some t) =>
    let dem := (gd.demands.lookup t.key).getD (.cond 99 0 0)
    if evalDemand w dem then
      match HashHeap.dequeue guard_queue_check gd.q with
      | .ok (q', _) =>
        let w := setGuardQ w g q'
        let pid := t.key - 1
        (sched w aRes (pid + 1) sigSuccess w.now (w.proc pid).prio).1
      | .error f => w.fail s!"guard dequeue: {f}"
    else w
  | .ok none => w
  | .error f => w.fail s!"guard peek: {f}"

theorem guardSignalF_zero (fwd : Bool) (w : World) (g : Nat) :
    guardSignalF fwd 0 w g = w.fail "observer chain too deep (cycle?)" := rfl

/-- what a signal does at the guard itself: `cmb_resourceguard_signal` called directly (`fwd = false`) looks at the front
    waiter; a signal forwarded from an observed guard (`fwd = true`) to a guard with a handler (a condition's guard) is
    `cmb_condition_signal` — every waiter is evaluated —, to any other guard again the front step -/
def ownStep (fwd : Bool) (w : World) (g : Nat) (gd : Guard) : World :=
  if fwd && hasHandler w g then (condSignal w g).1 else frontStep w g gd

/-- the delivery of a forwarded signal to the observer `o` (the body of the loop of `forward_signal`) -/
abbrev fwdSignal (fuel : Nat) (w : World) (o : Nat) : World := guardSignalF true fuel w o

theorem guardSignalF_succ (fwd : Bool) (fuel : Nat) (w : World) (g : Nat) :
    guardSignalF fwd (fuel + 1) w g =
      match w.guards[g]? with
      | none => w
      | some gd => gd.observers.foldl (fun w o => fwdSignal fuel w o) (ownStep fwd w g gd) := by
  simp only [guardSignalF, ownStep, frontStep, fwdSignal]
  rfl

end S3

open S3 in
theorem frontStep_rel {R : World → World → Prop} (hR : Path R) (fail : ∀ w m, R w (w.fail m))
    (setq : ∀ w g q', R w (setGuardQ w g q')) (grant : ∀ w s pri, R w (sched w aRes s sigSuccess w.now pri).1)
    (w : World) (g : Nat) (gd : Guard) : R w (frontStep w g gd) := by
  unfold frontStep
  split
  · exact hR.refl w
  · split
    · dsimp only
      split
      · split
        · exact hR.trans (setq w g _) (grant _ _ _)
        · exact fail w _
      · exact hR.refl w
    · exact hR.refl w
    · exact fail w _

theorem guardRemove_rel {R : World → World → Prop} (hR : Path R) (fail : ∀ w m, R w (w.fail m))
    (setq : ∀ w g q', R w (setGuardQ w g q')) (w : World) (g : Nat) (p : Pid) : R w (guardRemove w g p).1 := by
  unfold guardRemove
  split
  · split
    · exact setq w g _
    · exact fail w _
  · exact hR.refl w

theorem condSignal_rel {R : World → World → Prop} (hR : Path R)
    (wake : ∀ w s pri, R w (sched w aCond s sigSuccess w.now pri).1) (remove : ∀ w g p, R w (guardRemove w g p).1)
    (w : World) (g : Nat) : R w (condSignal w g).1 := by
  unfold condSignal
  split
  · exact hR.refl w
  · split
    · exact hR.refl w
    · exact hR.trans (hR.foldl (fun w t => wake w _ _) _ w) (hR.foldl (fun w t => remove w g _) _ _)

open S3 in
theorem guardSignalF_rel {R : World → World → Prop} (hR : Path R) (fail : ∀ w m, R w (w.fail m))
    (front : ∀ w g gd, w.guards[g]? = some gd → R w (frontStep w g gd))
    (cond : ∀ w g, hasHandler w g = true → R w (condSignal w g).1) :
    ∀ (fuel : Nat) (fwd : Bool) (w : World) (g : Nat), R w (guardSignalF fwd fuel w g) := by
  intro fuel
  induction fuel with
  | zero => intro fwd w g; exact fail w _
  | succ fuel ih =>
    intro fwd w g
    rw [guardSignalF_succ]
    split
    · exact hR.refl w
    · rename_i gd hg
      refine hR.trans ?_ (hR.foldl (fun w o => ih true w o) _ _)
      unfold ownStep
      split
      · rename_i h
        rw [Bool.and_eq_true] at h
        exact cond w g h.2
      · exact front w g gd hg

/-- **induction principle for `runScript`**: `I n w` holds of the worlds in which the next command is fetched with fuel `n`,
    `Q` is what is to be shown of the world in which the run ends (fuel gone, script at its end, caller blocked or ended).
    An `I` that bounds the commands left by the fuel makes `hfuel` vacuous.
    The log lines are quantified so that the hypotheses do not mention the formatting. -/
theorem runScript_induct_fuel (p : Pid) (I : Nat → World → Prop) (Q : World → Prop)
    (hfuel : ∀ w m, I 0 w → Q (w.fail m))
    (hfin : ∀ n w l, I (n + 1) w → (w.proc p).script[(w.proc p).pc]? = none → Q (finishProc (w.emit l) p 0 false))
    (hnext : ∀ n w c text l0 w1 o l, I (n + 1) w → (w.proc p).script[(w.proc p).pc]? = some (c, text) →
      execCmd (w.emit l0) p c = (w1, o) → (∃ v extra, o = .ret v extra) ∨ o = .skip →
      I n ((w1.emit l).modProc p fun y => { y with pc := (w.proc p).pc + 1 }))
    (hblk : ∀ n w c text l0 w1, I (n + 1) w → (w.proc p).script[(w.proc p).pc]? = some (c, text) →
      execCmd (w.emit l0) p c = (w1, .blocked) → Q w1)
    (hended : ∀ n w c text l0 w1 l, I (n + 1) w → (w.proc p).script[(w.proc p).pc]? = some (c, text) →
      execCmd (w.emit l0) p c = (w1, .ended) → Q (w1.emit l)) :
    ∀ (fuel : Nat) (w : World), I fuel w → Q (runScript fuel w p) := by
  intro fuel
  induction fuel with
  | zero => intro w hI; exact hfuel w _ hI
  | succ n ih =>
    intro w hI
    unfold runScript
    dsimp only
    split
    · rename_i hc; exact hfin n w _ hI hc
    · rename_i c text hc
      split
      · rename_i w1 v extra heq
        exact ih _ (hnext n w c text _ w1 _ (_ ++ _) hI hc heq (Or.inl ⟨v, extra, rfl⟩))
      · rename_i w1 heq
        exact ih _ (hnext n w c text _ w1 _ _ hI hc heq (Or.inr rfl))
      · rename_i w1 heq; exact hblk n w c text _ w1 hI hc heq
      · rename_i w1 heq
        split
        · exact hended n w _ text _ w1 _ hI hc heq
        · exact hended n w _ text _ w1 _ hI hc heq

/-- … for an `I` that does not look at the fuel -/
theorem runScript_induct (p : Pid) (I Q : World → Prop)
    (hfuel : ∀ w m, I w → Q (w.fail m))
    (hfin : ∀ w l, I w → (w.proc p).script[(w.proc p).pc]? = none → Q (finishProc (w.emit l) p 0 false))
    (hnext : ∀ w c text l0 w1 o l, I w → (w.proc p).script[(w.proc p).pc]? = some (c, text) →
      execCmd (w.emit l0) p c = (w1, o) → (∃ v extra, o = .ret v extra) ∨ o = .skip →
      I ((w1.emit l).modProc p fun y => { y with pc := (w.proc p).pc + 1 }))
    (hblk : ∀ w c text l0 w1, I w → (w.proc p).script[(w.proc p).pc]? = some (c, text) →
      execCmd (w.emit l0) p c = (w1, .blocked) → Q w1)
    (hended : ∀ w c text l0 w1 l, I w → (w.proc p).script[(w.proc p).pc]? = some (c, text) →
      execCmd (w.emit l0) p c = (w1, .ended) → Q (w1.emit l)) :
    ∀ (fuel : Nat) (w : World), I w → Q (runScript fuel w p) :=
  runScript_induct_fuel p (fun _ => I) Q hfuel (fun _ => hfin) (fun _ => hnext) (fun _ => hblk) (fun _ => hended)

theorem runScript_rel {R : World → World → Prop} (hR : Path R) (p : Pid)
    (fail : ∀ w m, R w (w.fail m)) (emit : ∀ w l, R w (w.emit l))
    (finish : ∀ w, R w (finishProc w p 0 false))
    (exec : ∀ w c, R w (execCmd w p c).1)
    (next : ∀ w n, R w (w.modProc p fun y => { y with pc := n })) :
    ∀ (fuel : Nat) (w : World), R w (runScript fuel w p) := by
  intro fuel w
  refine runScript_induct p (R w) (R w) (fun w1 m h => hR.trans h (fail w1 m))
    (fun w1 l h _ => hR.trans (hR.trans h (emit w1 l)) (finish _)) ?_ ?_ ?_ fuel w (hR.refl w)
  · intro w0 c text l0 w1 o l h _ heq _
    have := exec (w0.emit l0) c
    rw [heq] at this
    exact hR.trans (hR.trans (hR.trans (hR.trans h (emit w0 l0)) this) (emit w1 l)) (next _ _)
  · intro w0 c text l0 w1 h _ heq
    have := exec (w0.emit l0) c
    rw [heq] at this
    exact hR.trans (hR.trans h (emit w0 l0)) this
  · intro w0 c text l0 w1 l h _ heq
    have := exec (w0.emit l0) c
    rw [heq] at this
    exact hR.trans (hR.trans (hR.trans h (emit w0 l0)) this) (emit w1 l)

/-- `resumeProc` by cases: the process is not running or not suspended (a fault); the continued call suspends again or
    ends the process; it returns and the script goes on -/
theorem resumeProc_cases (Q : World → Prop) (w : World) (p : Pid) (sig : Int)
    (hfail : (w.proc p).status ≠ .running ∨ (w.proc p).blocked = none → ∀ m, Q (w.fail m))
    (hstop : ∀ f w1 o, (w.proc p).status = .running → (w.proc p).blocked = some f →
      resumeFrame (w.modProc p fun y => { y with blocked := none }) p f sig = (w1, o) → (∀ v extra, o ≠ .ret v extra) → Q w1)
    (hret : ∀ f w1 v extra l, (w.proc p).status = .running → (w.proc p).blocked = some f →
      resumeFrame (w.modProc p fun y => { y with blocked := none }) p f sig = (w1, .ret v extra) →
      Q (runScript ((w.proc p).script.size + 2) ((w1.emit l).modProc p fun y => { y with pc := (w.proc p).pc + 1 }) p)) :
    Q (resumeProc w p sig) := by
  unfold resumeProc
  dsimp only
  split
  · rename_i hrun; exact hfail (Or.inl hrun) _
  · rename_i hrun
    have hrun : (w.proc p).status = .running := Decidable.of_not_not hrun
    split
    · rename_i hb; exact hfail (Or.inr hb) _
    · rename_i f hb
      split
      · rename_i w1 v extra heq; exact hret f w1 v extra _ hrun hb heq
      · rename_i w1 heq; exact hstop f w1 _ hrun hb heq (fun _ _ h => by cases h)
      · rename_i w1 heq; exact hstop f w1 _ hrun hb heq (fun _ _ h => by cases h)
      · rename_i w1 heq; exact hstop f w1 _ hrun hb heq (fun _ _ h => by cases h)

theorem resumeProc_rel {R : World → World → Prop} (hR : Path R) (p : Pid) (sig : Int)
    (fail : ∀ w m, R w (w.fail m)) (emit : ∀ w l, R w (w.emit l))
    (unblock : ∀ w, R w (w.modProc p fun y => { y with blocked := none }))
    (resume : ∀ w f, R w (resumeFrame w p f sig).1)
    (next : ∀ w n, R w (w.modProc p fun y => { y with pc := n }))
    (run : ∀ fuel w, R w (runScript fuel w p)) (w : World) : R w (resumeProc w p sig) := by
  refine resumeProc_cases (R w) w p sig (fun _ => fail w) ?_ ?_
  · intro f w1 o _ _ heq _
    have := resume (w.modProc p fun y => { y with blocked := none }) f
    rw [heq] at this
    exact hR.trans (unblock w) this
  · intro f w1 v extra l _ _ heq
    have := resume (w.modProc p fun y => { y with blocked := none }) f
    rw [heq] at this
    exact hR.trans (hR.trans (hR.trans (hR.trans (unblock w) this) (emit w1 l)) (next _ _)) (run _ _)

theorem ite_of {α : Sort _} {P : α → Prop} {c : Prop} [Decidable c] {a b : α} (ha : c → P a) (hb : ¬ c → P b) :
    P (if c then a else b) := by
  split
  · exact ha ‹_›
  · exact hb ‹_›

/-- the world right after `cmb_event_execute_next` has taken the next event off the queue -/
def S3.afterNext (w : World) (ev' : EvQ) : World := { w with ev := ev', dispatched := w.dispatched + 1 }

/-- … and has woken the processes waiting for that event (with SUCCESS) -/
def S3.takeNext (w : World) (t : HTag) (ev' : EvQ) : World :=
  wakeEventWaiters { S3.afterNext w ev' with evWaiters := (popWaiters w.evWaiters t.key).2 } (popWaiters w.evWaiters t.key).1 sigSuccess

/-- … and `(*tmp->action)(tmp->subject, tmp->object)` there, for the event `t` -/
def S3.dispatchBody (w : World) (t : HTag) : World :=
  let p := t.item.b - 1
  let sig := decSig t.item.c
  let act := t.item.a
  if act = aStart then
    if (w.proc p).status = .running then w.fail s!"start of a running process {p}"
    else
      let w := w.modProc p fun y => { y with status := .running, pc := 0, blocked := none }
      runScript ((w.proc p).script.size + 2) w p
  else if act = aTime then
    let (w, _) := removeAwait w p (.time t.key)
    resumeProc w p sig
  else if act = aProc then
    let (w, _) := removeAwaitKind w p isProcA
    if isRunning w p then resumeProc w p sig else w
  else if act = aEvent then
    let (w, _) := removeAwaitKind w p isEventA
    if isRunning w p then resumeProc w p sig else w
  else if act = aRes ∨ act = aPreempt then
    if isRunning w p then resumeProc w p sig else w
  else if act = aCond then
    let (w, _) := removeAwaitKind w p isGuardA
    if isRunning w p then resumeProc w p sig else w
  else if act = aIntr then
    let w := cancelAwaiteds w p
    resumeProc w p sig
  else if act = aResume then resumeProc w p sig
  else w

theorem S3.dispatch_eq (w : World) :
    dispatch w = match executeNext w.ev with
      | none => none
      | some (t, ev') => some (S3.dispatchBody (S3.takeNext w t ev') t) := by
  unfold dispatch
  cases executeNext w.ev with
  | none => rfl
  | some r => cases r; rfl

/-- the action kinds `S3.dispatchBody` acts on; an event of any other kind (a user event) leaves the world alone -/
def actKinds : List Nat := [aStart, aTime, aProc, aEvent, aRes, aPreempt, aCond, aIntr, aResume]

theorem dispatchBody_cases (Q : World → Prop) (w : World) (t : HTag)
    (startBad : t.item.a = aStart → (w.proc (t.item.b - 1)).status = .running → ∀ m, Q (w.fail m))
    (start : t.item.a = aStart → (w.proc (t.item.b - 1)).status ≠ .running →
      Q (runScript (((w.modProc (t.item.b - 1) fun y => { y with status := .running, pc := 0, blocked := none }).proc
            (t.item.b - 1)).script.size + 2)
          (w.modProc (t.item.b - 1) fun y => { y with status := .running, pc := 0, blocked := none }) (t.item.b - 1)))
    (time : t.item.a = aTime →
      Q (resumeProc (removeAwait w (t.item.b - 1) (.time t.key)).1 (t.item.b - 1) (decSig t.item.c)))
    (wake : ∀ k, (t.item.a = aProc ∧ k = isProcA) ∨ (t.item.a = aEvent ∧ k = isEventA) ∨ (t.item.a = aCond ∧ k = isGuardA) →
      Q (if isRunning (removeAwaitKind w (t.item.b - 1) k).1 (t.item.b - 1) = true then
          resumeProc (removeAwaitKind w (t.item.b - 1) k).1 (t.item.b - 1) (decSig t.item.c)
        else (removeAwaitKind w (t.item.b - 1) k).1))
    (grant : t.item.a = aRes ∨ t.item.a = aPreempt →
      Q (if isRunning w (t.item.b - 1) = true then resumeProc w (t.item.b - 1) (decSig t.item.c) else w))
    (intr : t.item.a = aIntr → Q (resumeProc (cancelAwaiteds w (t.item.b - 1)) (t.item.b - 1) (decSig t.item.c)))
    (resume : t.item.a = aResume → Q (resumeProc w (t.item.b - 1) (decSig t.item.c)))
    (other : (∀ a ∈ actKinds, t.item.a ≠ a) → Q w) :
    Q (S3.dispatchBody w t) := by
  unfold S3.dispatchBody
  dsimp only
  refine ite_of (fun h => ite_of (fun hr => startBad h hr _) (start h)) fun h1 =>
    ite_of time fun h2 => ite_of (fun h => wake isProcA (Or.inl ⟨h, rfl⟩)) fun h3 =>
    ite_of (fun h => wake isEventA (Or.inr (Or.inl ⟨h, rfl⟩))) fun h4 => ite_of grant fun h5 =>
    ite_of (fun h => wake isGuardA (Or.inr (Or.inr ⟨h, rfl⟩))) fun h6 => ite_of intr fun h7 =>
    ite_of resume fun h8 => other fun a ha => ?_
  simp only [actKinds, List.mem_cons, List.not_mem_nil, or_false] at ha
  rcases ha with rfl | rfl | rfl | rfl | rfl | rfl | rfl | rfl | rfl
  · exact h1
  · exact h2
  · exact h3
  · exact h4
  · exact fun h => h5 (Or.inl h)
  · exact fun h => h5 (Or.inr h)
  · exact h6
  · exact h7
  · exact h8

theorem dispatchBody_rel {R : World → World → Prop} (hR : Path R) (t : HTag)
    (fail : ∀ w m, R w (w.fail m))
    (start : ∀ w p, R w (w.modProc p fun y => { y with status := .running, pc := 0, blocked := none }))
    (run : ∀ fuel w p, R w (runScript fuel w p))
    (resume : ∀ w p sig, R w (resumeProc w p sig))
    (unawait : ∀ w p a, R w (removeAwait w p a).1)
    (unawaitKind : ∀ w p k, R w (removeAwaitKind w p k).1)
    (cancel : ∀ w p, R w (cancelAwaiteds w p))
    (w : World) : R w (S3.dispatchBody w t) := by
  have woken : ∀ w' p sig, R w w' → R w (if isRunning w' p then resumeProc w' p sig else w') :=
    fun w' p sig h => ite_of (fun _ => hR.trans h (resume w' p sig)) (fun _ => h)
  unfold S3.dispatchBody
  exact ite_of (fun _ => ite_of (fun _ => fail w _) (fun _ => hR.trans (start w _) (run _ _ _))) fun _ =>
    ite_of (fun _ => hR.trans (unawait w _ _) (resume _ _ _)) fun _ =>
    ite_of (fun _ => woken _ _ _ (unawaitKind w _ _)) fun _ =>
    ite_of (fun _ => woken _ _ _ (unawaitKind w _ _)) fun _ =>
    ite_of (fun _ => woken _ _ _ (hR.refl w)) fun _ =>
    ite_of (fun _ => woken _ _ _ (unawaitKind w _ _)) fun _ =>
    ite_of (fun _ => hR.trans (cancel w _) (resume _ _ _)) fun _ =>
    ite_of (fun _ => resume w _ _) fun _ => hR.refl w

/-- one step of the withdrawal loop of `cmi_process_cancel_awaiteds` -/
def cancelStep (z : Pid) (w : World) (a : Await) : World :=
  match a with
  | .time h => (evCancel w h).1
  | .guard g => guardWithdraw w g z
  | .proc q => w.modProc q fun x => { x with waiters := (removeFirst x.waiters z).1 }
  | .event h =>
    { w with evWaiters := w.evWaiters.map fun (k, l) => if k = h then (k, (removeFirst l z).1) else (k, l) }

theorem cancelAwaiteds_eq (w : World) (z : Pid) :
    cancelAwaiteds w z =
      cancelAllFor ((w.proc z).awaits.foldl (cancelStep z) (w.modProc z fun x => { x with awaits := [] })) z := rfl

/-- the final world of `finishProc`, before the status update, by the two orders of the C code -/
def finishMid (w : World) (p : Pid) (stopped : Bool) : World :=
  if stopped then dropResources (cancelAwaiteds w p) p else cancelAwaiteds (dropResources w p) p

namespace S3

/-- one step of `cmi_process_drop_resources` -/
def dropStep (p : Pid) (w : World) (h : HoldRef) : World :=
  match h with
  | .res r =>
    match w.res[r]? with
    | some x =>
      let w := { w with res := w.res.set! r { x with holder := none } }
      let w := recordRes w r
      signal w x.guard
    | none => w
  | .pool pl => poolDropHolder w pl p

theorem dropResources_eq (w : World) (p : Pid) :
    dropResources w p = (w.proc p).held.foldl (S3.dropStep p) (w.modProc p fun x => { x with held := [] }) := rfl

/-- the state in which a finishing process wakes its waiters -/
def finishPre (w : World) (p : Pid) (stopped : Bool) : World :=
  if stopped then dropResources (cancelAwaiteds w p) p else cancelAwaiteds (dropResources w p) p

theorem finishPre_eq : @finishPre = @finishMid := rfl

/-- what `cmb_process_priority_set` does for one awaited guard -/
def reprioGuard (w : World) (q : Pid) (v : Int) (g : Nat) : World :=
  match w.guards[g]? with
  | some gd =>
    if guardEnqueued w g q then
      match HashHeap.lookup gd.q (q + 1) with
      | .ok t =>
        match HashHeap.reprioritize guard_queue_check gd.q (q + 1) t.d v with
        | .ok q' => setGuardQ w g q'
        | .error f => w.fail s!"priority_set guard: {f}"
      | .error f => w.fail s!"priority_set guard lookup: {f}"
    else w
  | none => w

/-- what `cmb_process_priority_set` does for one awaited thing -/
def prioAwaitStep (q : Pid) (v : Int) (w : World) (a : Await) : World :=
  match a with
  | .time h =>
    match reprioritize w.ev h v with
    | .ok ev' => { w with ev := ev' }
    | .error f => w.fail s!"priority_set: timer event not scheduled: {f}"
  | .guard g => reprioGuard w q v g
  | _ => w

/-- … and for one holding: the holder record in a pool's list is repositioned (a held resource has no list) -/
def prioHeldStep (q : Pid) (v : Int) (w : World) (h : HoldRef) : World :=
  match h with
  | .pool pl =>
    match w.pools[pl]? with
    | some x =>
      match HashHeap.reprioritize holder_queue_check x.holders (q + 1) 0 v with
      | .ok h' => { w with pools := w.pools.set! pl { x with holders := h' } }
      | .error f => w.fail s!"priority_set holder: {f}"
    | none => w
  | .res _ => w

theorem prioSet_eq (w : World) (p q : Pid) (v : Int) (hq : q < w.procs.size) :
    execCmd w p (.prioSet q v) =
      (let w1 := w.modProc q fun y => { y with prio := v }
       let w2 := (w1.proc q).awaits.foldl (prioAwaitStep q v) w1
       ((w2.proc q).held.foldl (prioHeldStep q v) w2, .ret 0 "")) := by
  have : ¬ q ≥ w.procs.size := Nat.not_le.2 hq
  simp only [execCmd, this, if_false]
  rfl

end S3

open S3 in
theorem dropResources_rel {R : World → World → Prop} (hR : Path R) (p : Pid)
    (clear : ∀ w, R w (w.modProc p fun x => { x with held := [] }))
    (res : ∀ (w : World) r x, w.res[r]? = some x →
      R w (signal (recordRes { w with res := w.res.set! r { x with holder := none } } r) x.guard))
    (pool : ∀ w pl, R w (poolDropHolder w pl p)) (w : World) : R w (dropResources w p) := by
  rw [S3.dropResources_eq]
  refine hR.trans (clear w) (hR.foldl (fun w h => ?_) _ _)
  unfold S3.dropStep
  split
  · split
    · rename_i x hx; exact res w _ x hx
    · exact hR.refl w
  · exact pool w _

theorem cancelAwaiteds_rel {R : World → World → Prop} (hR : Path R) (z : Pid)
    (clear : ∀ w, R w (w.modProc z fun x => { x with awaits := [] }))
    (timer : ∀ w h, R w (evCancel w h).1)
    (guard : ∀ w g, R w (guardWithdraw w g z))
    (proc : ∀ w q, R w (w.modProc q fun x => { x with waiters := (removeFirst x.waiters z).1 }))
    (event : ∀ (w : World) h,
      R w { w with evWaiters := w.evWaiters.map fun (k, l) => if k = h then (k, (removeFirst l z).1) else (k, l) })
    (rest : ∀ w, R w (cancelAllFor w z)) (w : World) : R w (cancelAwaiteds w z) := by
  rw [cancelAwaiteds_eq]
  refine hR.trans (hR.trans (clear w) (hR.foldl (fun w a => ?_) _ _)) (rest _)
  cases a with
  | time h => exact timer w h
  | guard g => exact guard w g
  | proc q => exact proc w q
  | event h => exact event w h

/-- `cmi_process_cancel_awaiteds` with the awaitables that are still to be withdrawn: `J rest w` -/
theorem cancelAwaiteds_induct (z : Pid) (J : List Await → World → Prop) (Q : World → Prop) (w : World)
    (start : J (w.proc z).awaits (w.modProc z fun x => { x with awaits := [] }))
    (step : ∀ a rest w, J (a :: rest) w → J rest (cancelStep z w a))
    (last : ∀ w, J [] w → Q (cancelAllFor w z)) : Q (cancelAwaiteds w z) := by
  have fold : ∀ (l : List Await) (w : World), J l w → J [] (l.foldl (cancelStep z) w) := by
    intro l
    induction l with
    | nil => exact fun _ h => h
    | cons a l ih => exact fun w h => ih _ (step a l w h)
  rw [cancelAwaiteds_eq]
  exact last _ (fold _ _ start)

open S3 in
theorem prioAwaitStep_rel {R : World → World → Prop} (hR : Path R) (q : Pid) (v : Int) (fail : ∀ w m, R w (w.fail m))
    (retime : ∀ (w : World) ev' h, reprioritize w.ev h v = .ok ev' → R w { w with ev := ev' })
    (guard : ∀ w g, R w (reprioGuard w q v g)) (w : World) (a : Await) : R w (prioAwaitStep q v w a) := by
  unfold prioAwaitStep
  split
  · split
    · rename_i hr; exact retime w _ _ hr
    · exact fail w _
  · exact guard w _
  · exact hR.refl w

open S3 in
theorem prioSteps_rel {R : World → World → Prop} (hR : Path R) (q : Pid) (v : Int)
    (fail : ∀ w m, R w (w.fail m))
    (retime : ∀ (w : World) ev' h, reprioritize w.ev h v = .ok ev' → R w { w with ev := ev' })
    (requeue : ∀ w g q', R w (setGuardQ w g q'))
    (reholder : ∀ (w : World) pl x h', w.pools[pl]? = some x →
      HashHeap.reprioritize holder_queue_check x.holders (q + 1) 0 v = .ok h' →
      R w { w with pools := w.pools.set! pl { x with holders := h' } })
    (w : World) (p : Pid) (hq : q < w.procs.size) :
    R (w.modProc q fun y => { y with prio := v }) (execCmd w p (.prioSet q v)).1 := by
  have await : ∀ w a, R w (prioAwaitStep q v w a) := prioAwaitStep_rel hR q v fail retime fun w g => by
    unfold reprioGuard
    split
    · split
      · split
        · split
          · exact requeue w _ _
          · exact fail w _
        · exact fail w _
      · exact hR.refl w
    · exact hR.refl w
  have held : ∀ w h, R w (prioHeldStep q v w h) := by
    intro w h
    unfold prioHeldStep
    split
    · split
      · rename_i x hx
        split
        · rename_i h' hr; exact reholder w _ x h' hx hr
        · exact fail w _
      · exact hR.refl w
    · exact hR.refl w
  rw [prioSet_eq w p q v hq]
  exact hR.trans (hR.foldl await _ _) (hR.foldl held _ _)

theorem prioSet_rel {R : World → World → Prop} (hR : Path R) (q : Pid) (v : Int)
    (prio : ∀ w, R w (w.modProc q fun y => { y with prio := v }))
    (fail : ∀ w m, R w (w.fail m))
    (retime : ∀ (w : World) ev' h, reprioritize w.ev h v = .ok ev' → R w { w with ev := ev' })
    (requeue : ∀ w g q', R w (setGuardQ w g q'))
    (reholder : ∀ (w : World) pl x h', w.pools[pl]? = some x →
      HashHeap.reprioritize holder_queue_check x.holders (q + 1) 0 v = .ok h' →
      R w { w with pools := w.pools.set! pl { x with holders := h' } })
    (w : World) (p : Pid) : R w (execCmd w p (.prioSet q v)).1 := by
  by_cases hq : q < w.procs.size
  · exact hR.trans (prio w) (prioSteps_rel hR q v fail retime requeue reholder w p hq)
  · have : q ≥ w.procs.size := Nat.le_of_not_lt hq
    simp only [execCmd, this, if_true]
    exact hR.refl w

/-- what the run asks of an invariant, step by step, in a form that also serves invariants that rely on each other, are
    false for a moment inside a dispatch, or need a resumption to be legitimate.  `C p w` is what the invariant needs to
    know of the caller `p` when a command of its script is executed: it holds when a script is started, and again after
    every command that returns.  `J` is what may be assumed of the world a step starts in, `I` what is shown of the world
    it ends in (for the run: `J = I`; `Act.and`: each conjunct is shown under the conjunction).  `D p sig w`: resuming `p` with `sig` in `w`
    is legitimate — supplied by the action of the dispatched event, used by the continuation of the suspended call.
    `Act`: one activation (a script runs, a suspended call is continued). -/
structure Act (J I : World → Prop) (C : Pid → World → Prop) (D : Pid → Int → World → Prop) : Prop where
  emit : ∀ {w}, J w → ∀ l, I (w.emit l)
  fail : ∀ {w}, J w → ∀ m, I (w.fail m)
  pc : ∀ {w}, J w → ∀ p n, I (w.modProc p fun y => { y with pc := n })
  finish : ∀ {w}, J w → ∀ p, I (finishProc w p 0 false)
  exec : ∀ {w}, J w → ∀ p, C p w → ∀ c text, (w.proc p).script[(w.proc p).pc]? = some (c, text) → ∀ l,
    I (execCmd (w.emit l) p c).1
  next : ∀ {w}, J w → ∀ p, C p w → ∀ c text, (w.proc p).script[(w.proc p).pc]? = some (c, text) → ∀ l0 w1 o l n,
    execCmd (w.emit l0) p c = (w1, o) → (∃ v extra, o = .ret v extra) ∨ o = .skip →
    C p ((w1.emit l).modProc p fun y => { y with pc := n })
  resume : ∀ {w}, J w → ∀ p f sig, D p sig w → (w.proc p).status = .running → (w.proc p).blocked = some f →
    I (resumeFrame (w.modProc p fun y => { y with blocked := none }) p f sig).1 ∧
    ∀ w1 v extra l n, resumeFrame (w.modProc p fun y => { y with blocked := none }) p f sig = (w1, .ret v extra) →
      C p ((w1.emit l).modProc p fun y => { y with pc := n })

/-- … and one dispatch: the action of the dispatched event `t`, by kind.  `w` is the world before `t` is taken, so that an
    invariant that does not hold between `cmb_event_execute_next` and the action's own bookkeeping fits as well. -/
structure Run (J I : World → Prop) (C : Pid → World → Prop) (D : Pid → Int → World → Prop) : Prop extends Act J I C D where
  start : ∀ {w}, J w → ∀ t ev', executeNext w.ev = some (t, ev') → t.item.a = aStart →
    I (S3.takeNext w t ev') ∧ (((S3.takeNext w t ev').proc (t.item.b - 1)).status ≠ .running →
      I ((S3.takeNext w t ev').modProc (t.item.b - 1) fun y => { y with status := .running, pc := 0, blocked := none }) ∧
      C (t.item.b - 1) ((S3.takeNext w t ev').modProc (t.item.b - 1) fun y => { y with status := .running, pc := 0, blocked := none }))
  time : ∀ {w}, J w → ∀ t ev', executeNext w.ev = some (t, ev') → t.item.a = aTime →
    I (removeAwait (S3.takeNext w t ev') (t.item.b - 1) (.time t.key)).1 ∧
    D (t.item.b - 1) (decSig t.item.c) (removeAwait (S3.takeNext w t ev') (t.item.b - 1) (.time t.key)).1
  wake : ∀ {w}, J w → ∀ t ev', executeNext w.ev = some (t, ev') → ∀ k,
    (t.item.a = aProc ∧ k = isProcA) ∨ (t.item.a = aEvent ∧ k = isEventA) ∨ (t.item.a = aCond ∧ k = isGuardA) →
    I (removeAwaitKind (S3.takeNext w t ev') (t.item.b - 1) k).1 ∧
    D (t.item.b - 1) (decSig t.item.c) (removeAwaitKind (S3.takeNext w t ev') (t.item.b - 1) k).1
  grant : ∀ {w}, J w → ∀ t ev', executeNext w.ev = some (t, ev') → t.item.a = aRes ∨ t.item.a = aPreempt ∨ t.item.a = aResume →
    I (S3.takeNext w t ev') ∧ D (t.item.b - 1) (decSig t.item.c) (S3.takeNext w t ev')
  intr : ∀ {w}, J w → ∀ t ev', executeNext w.ev = some (t, ev') → t.item.a = aIntr →
    I (cancelAwaiteds (S3.takeNext w t ev') (t.item.b - 1)) ∧
    D (t.item.b - 1) (decSig t.item.c) (cancelAwaiteds (S3.takeNext w t ev') (t.item.b - 1))
  other : ∀ {w}, J w → ∀ t ev', executeNext w.ev = some (t, ev') → (∀ a ∈ actKinds, t.item.a ≠ a) → I (S3.takeNext w t ev')

section
variable {I : World → Prop} {C : Pid → World → Prop} {D : Pid → Int → World → Prop} (hI : Act I I C D)
include hI

theorem Act.runScript (p : Pid) (fuel : Nat) {w : World} (h : I w) (hc : C p w) : I (Sim.runScript fuel w p) := by
  refine runScript_induct p (fun w => I w ∧ C p w) I (fun w m h => hI.fail h.1 m)
    (fun w l h _ => hI.finish (hI.emit h.1 l) p) ?_ ?_ ?_ fuel w ⟨h, hc⟩
  · intro w c text l0 w1 o l h hs heq ho
    have h2 := hI.exec h.1 p h.2 c text hs l0
    rw [heq] at h2
    exact ⟨hI.pc (hI.emit h2 l) p _, hI.next h.1 p h.2 c text hs l0 w1 o l _ heq ho⟩
  · intro w c text l0 w1 h hs heq
    have h2 := hI.exec h.1 p h.2 c text hs l0
    rw [heq] at h2
    exact h2
  · intro w c text l0 w1 l h hs heq
    have h2 := hI.exec h.1 p h.2 c text hs l0
    rw [heq] at h2
    exact hI.emit h2 l

theorem Act.resumeProc {w : World} (h : I w) (p : Pid) (sig : Int) (hd : D p sig w) : I (Sim.resumeProc w p sig) := by
  refine resumeProc_cases I w p sig (fun _ => hI.fail h) ?_ ?_
  · intro f w1 o hrun hf heq _
    have h1 := (hI.resume h p f sig hd hrun hf).1
    rw [heq] at h1
    exact h1
  · intro f w1 v extra l hrun hf heq
    obtain ⟨h1, hc⟩ := hI.resume h p f sig hd hrun hf
    rw [heq] at h1
    exact hI.runScript p _ (hI.pc (hI.emit h1 l) p _) (hc w1 v extra l _ heq)

end

section
variable {I : World → Prop} {C : Pid → World → Prop} {D : Pid → Int → World → Prop} (hI : Run I I C D)
include hI

theorem Run.dispatch {w w' : World} (h : I w) (hd : Sim.dispatch w = some w') : I w' := by
  rw [S3.dispatch_eq] at hd
  cases hex : executeNext w.ev with
  | none => rw [hex] at hd; cases hd
  | some x =>
    obtain ⟨t, ev'⟩ := x
    rw [hex] at hd
    injection hd with hd
    subst hd
    have woken : ∀ {w1 : World}, I w1 ∧ D (t.item.b - 1) (decSig t.item.c) w1 →
        I (if isRunning w1 (t.item.b - 1) = true then Sim.resumeProc w1 (t.item.b - 1) (decSig t.item.c) else w1) :=
      fun h => ite_of (fun _ => hI.toAct.resumeProc h.1 _ _ h.2) (fun _ => h.1)
    exact Sim.dispatchBody_cases I _ t (fun ha _ => hI.fail (hI.start h t ev' hex ha).1)
      (fun ha hnr => hI.toAct.runScript _ _ ((hI.start h t ev' hex ha).2 hnr).1 ((hI.start h t ev' hex ha).2 hnr).2)
      (fun ha => hI.toAct.resumeProc (hI.time h t ev' hex ha).1 _ _ (hI.time h t ev' hex ha).2)
      (fun k hk => woken (hI.wake h t ev' hex k hk))
      (fun ha => woken (hI.grant h t ev' hex (ha.elim Or.inl fun h => Or.inr (Or.inl h))))
      (fun ha => hI.toAct.resumeProc (hI.intr h t ev' hex ha).1 _ _ (hI.intr h t ev' hex ha).2)
      (fun ha => hI.toAct.resumeProc (hI.grant h t ev' hex (Or.inr (Or.inr ha))).1 _ _ (hI.grant h t ev' hex (Or.inr (Or.inr ha))).2)
      (fun ho => hI.other h t ev' hex ho)

theorem Run.runAll (fuel : Nat) {w : World} (h : I w) : I (Sim.runAll fuel w) := by
  induction fuel generalizing w with
  | zero => exact hI.emit h _
  | succ n ih =>
    unfold Sim.runAll
    exact ite_of (fun _ => h) fun _ => by
      split
      · exact h
      · rename_i w' hd
        exact ih (hI.dispatch h hd)

end

/-- `Run` for a single invariant `I` that holds right after the event is taken and asks nothing of a resumption (`J = I`,
    `D` trivial; `C p w`: it exists, it is running, it awaits nothing …).  `exec`, `next`, `resume`, `start`, `unawaitKind`
    are stated under the conditions that are true where `runScript`, `resumeProc` and `dispatch` call the step
    (`unawaitKind` from the world before the event is taken, so that an instance knows from `executeNext` that the
    event was pending); `pop`, `untime`, `cancel` for every event and process, whatever the kind of the dispatched
    event (`Run` states them by kind). -/
structure Kept (I : World → Prop) (C : Pid → World → Prop) : Prop where
  emit : ∀ {w}, I w → ∀ l, I (w.emit l)
  fail : ∀ {w}, I w → ∀ m, I (w.fail m)
  pc : ∀ {w}, I w → ∀ p n, I (w.modProc p fun y => { y with pc := n })
  finish : ∀ {w}, I w → ∀ p, I (finishProc w p 0 false)
  exec : ∀ {w}, I w → ∀ p, C p w → ∀ c text, (w.proc p).script[(w.proc p).pc]? = some (c, text) → ∀ l,
    I (execCmd (w.emit l) p c).1
  next : ∀ {w}, I w → ∀ p, C p w → ∀ c text, (w.proc p).script[(w.proc p).pc]? = some (c, text) → ∀ l0 w1 o l n,
    execCmd (w.emit l0) p c = (w1, o) → (∃ v extra, o = .ret v extra) ∨ o = .skip →
    C p ((w1.emit l).modProc p fun y => { y with pc := n })
  resume : ∀ {w}, I w → ∀ p f, (w.proc p).status = .running → (w.proc p).blocked = some f → ∀ sig,
    I (resumeFrame (w.modProc p fun y => { y with blocked := none }) p f sig).1 ∧
    ∀ w1 v extra l n, resumeFrame (w.modProc p fun y => { y with blocked := none }) p f sig = (w1, .ret v extra) →
      C p ((w1.emit l).modProc p fun y => { y with pc := n })
  pop : ∀ {w}, I w → ∀ t ev', executeNext w.ev = some (t, ev') → I (S3.takeNext w t ev')
  start : ∀ {w}, I w → ∀ z, (w.proc z).status ≠ .running →
    I (w.modProc z fun y => { y with status := .running, pc := 0, blocked := none }) ∧
    C z (w.modProc z fun y => { y with status := .running, pc := 0, blocked := none })
  untime : ∀ {w}, I w → ∀ z k, I (removeAwait w z (.time k)).1
  unawaitKind : ∀ {w}, I w → ∀ t ev', executeNext w.ev = some (t, ev') → ∀ k,
    (t.item.a = aProc ∧ k = isProcA) ∨ (t.item.a = aEvent ∧ k = isEventA) ∨ (t.item.a = aCond ∧ k = isGuardA) →
    I (removeAwaitKind (S3.takeNext w t ev') (t.item.b - 1) k).1
  cancel : ∀ {w}, I w → ∀ z, I (cancelAwaiteds w z)

/-- a `Kept` is a `Run` with `J = I` and no condition on resumptions -/
theorem Kept.run {I : World → Prop} {C : Pid → World → Prop} (h : Kept I C) : Run I I C fun _ _ _ => True where
  emit := h.emit
  fail := h.fail
  pc := h.pc
  finish := h.finish
  exec := h.exec
  next := h.next
  resume hw p f sig _ hr hb := h.resume hw p f hr hb sig
  start hw t ev' hex _ := ⟨h.pop hw t ev' hex, fun hnr => h.start (h.pop hw t ev' hex) _ hnr⟩
  time hw t ev' hex _ := ⟨h.untime (h.pop hw t ev' hex) _ _, trivial⟩
  wake hw t ev' hex k hk := ⟨h.unawaitKind hw t ev' hex k hk, trivial⟩
  grant hw t ev' hex _ := ⟨h.pop hw t ev' hex, trivial⟩
  intr hw t ev' hex _ := ⟨h.cancel (h.pop hw t ev' hex) _, trivial⟩
  other hw t ev' hex _ := h.pop hw t ev' hex


section
variable {I : World → Prop} {C : Pid → World → Prop} (hI : Kept I C)
include hI

theorem Kept.runScript (p : Pid) (fuel : Nat) {w : World} (h : I w) (hc : C p w) : I (Sim.runScript fuel w p) :=
  hI.run.toAct.runScript p fuel h hc

theorem Kept.resumeProc {w : World} (h : I w) (p : Pid) (sig : Int) : I (Sim.resumeProc w p sig) :=
  hI.run.toAct.resumeProc h p sig trivial

theorem Kept.dispatch {w w' : World} (h : I w) (hd : Sim.dispatch w = some w') : I w' := hI.run.dispatch h hd

theorem Kept.runAll (fuel : Nat) {w : World} (h : I w) : I (Sim.runAll fuel w) := hI.run.runAll fuel h

end

namespace S3

/-- the states the run passes through: `w'` is reached from `w` by dispatching events -/
inductive Reach : World → World → Prop
  | refl (w : World) : Reach w w
  | step {w w1 w2 : World} : Reach w w1 → dispatch w1 = some w2 → Reach w w2

/-- what every `dispatch` keeps holds of every state reached -/
theorem Reach.keeps {I : World → Prop} (hI : ∀ {w w'}, I w → dispatch w = some w' → I w') {w w' : World}
    (h : Reach w w') (hw : I w) : I w' := by
  induction h with
  | refl => exact hw
  | step _ hd ih => exact hI ih hd

end S3

theorem Act.and {J I1 I2 : World → Prop} {C : Pid → World → Prop} {D1 D2 : Pid → Int → World → Prop}
    (h1 : Act J I1 C D1) (h2 : Act J I2 C D2) : Act J (fun w => I1 w ∧ I2 w) C fun p sig w => D1 p sig w ∧ D2 p sig w where
  emit hw l := ⟨h1.emit hw l, h2.emit hw l⟩
  fail hw m := ⟨h1.fail hw m, h2.fail hw m⟩
  pc hw p n := ⟨h1.pc hw p n, h2.pc hw p n⟩
  finish hw p := ⟨h1.finish hw p, h2.finish hw p⟩
  exec hw p hc c text hs l := ⟨h1.exec hw p hc c text hs l, h2.exec hw p hc c text hs l⟩
  next hw := h1.next hw
  resume hw p f sig hd hr hb := ⟨⟨(h1.resume hw p f sig hd.1 hr hb).1, (h2.resume hw p f sig hd.2 hr hb).1⟩, (h1.resume hw p f sig hd.1 hr hb).2⟩

/-- a stronger assumption, another name for what is kept, a stronger condition on resumptions -/
theorem Act.mono {J J' I I' : World → Prop} {C : Pid → World → Prop} {D D' : Pid → Int → World → Prop}
    (h : Act J I C D) (hJ : ∀ {w}, J' w → J w) (hI : ∀ {w}, I w → I' w) (hD : ∀ {p sig w}, D' p sig w → D p sig w) : Act J' I' C D' where
  emit hw l := hI (h.emit (hJ hw) l)
  fail hw m := hI (h.fail (hJ hw) m)
  pc hw p n := hI (h.pc (hJ hw) p n)
  finish hw p := hI (h.finish (hJ hw) p)
  exec hw p hc c text hs l := hI (h.exec (hJ hw) p hc c text hs l)
  next hw := h.next (hJ hw)
  resume hw p f sig hd hr hb := ⟨hI (h.resume (hJ hw) p f sig (hD hd) hr hb).1, (h.resume (hJ hw) p f sig (hD hd) hr hb).2⟩

/-- invariants that rely on each other: each is shown under the conjunction (`J`), the conjunction is kept -/
theorem Run.and {J I1 I2 : World → Prop} {C : Pid → World → Prop} {D1 D2 : Pid → Int → World → Prop}
    (h1 : Run J I1 C D1) (h2 : Run J I2 C D2) : Run J (fun w => I1 w ∧ I2 w) C fun p sig w => D1 p sig w ∧ D2 p sig w where
  emit hw l := ⟨h1.emit hw l, h2.emit hw l⟩
  fail hw m := ⟨h1.fail hw m, h2.fail hw m⟩
  pc hw p n := ⟨h1.pc hw p n, h2.pc hw p n⟩
  finish hw p := ⟨h1.finish hw p, h2.finish hw p⟩
  exec hw p hc c text hs l := ⟨h1.exec hw p hc c text hs l, h2.exec hw p hc c text hs l⟩
  next hw := h1.next hw
  resume hw p f sig hd hr hb := ⟨⟨(h1.resume hw p f sig hd.1 hr hb).1, (h2.resume hw p f sig hd.2 hr hb).1⟩, (h1.resume hw p f sig hd.1 hr hb).2⟩
  start hw t ev' hex ha :=
    ⟨⟨(h1.start hw t ev' hex ha).1, (h2.start hw t ev' hex ha).1⟩, fun hnr =>
      ⟨⟨((h1.start hw t ev' hex ha).2 hnr).1, ((h2.start hw t ev' hex ha).2 hnr).1⟩, ((h1.start hw t ev' hex ha).2 hnr).2⟩⟩
  time hw t ev' hex ha := ⟨⟨(h1.time hw t ev' hex ha).1, (h2.time hw t ev' hex ha).1⟩, (h1.time hw t ev' hex ha).2, (h2.time hw t ev' hex ha).2⟩
  wake hw t ev' hex k hk := ⟨⟨(h1.wake hw t ev' hex k hk).1, (h2.wake hw t ev' hex k hk).1⟩, (h1.wake hw t ev' hex k hk).2, (h2.wake hw t ev' hex k hk).2⟩
  grant hw t ev' hex ha := ⟨⟨(h1.grant hw t ev' hex ha).1, (h2.grant hw t ev' hex ha).1⟩, (h1.grant hw t ev' hex ha).2, (h2.grant hw t ev' hex ha).2⟩
  intr hw t ev' hex ha := ⟨⟨(h1.intr hw t ev' hex ha).1, (h2.intr hw t ev' hex ha).1⟩, (h1.intr hw t ev' hex ha).2, (h2.intr hw t ev' hex ha).2⟩
  other hw t ev' hex ho := ⟨h1.other hw t ev' hex ho, h2.other hw t ev' hex ho⟩

/-- a stronger assumption, another name for what is kept, another way to say when a resumption is legitimate: `D` is
    assumed by `resume` and supplied by the actions, so the two must be equivalent -/
theorem Run.mono {J J' I I' : World → Prop} {C : Pid → World → Prop} {D D' : Pid → Int → World → Prop}
    (h : Run J I C D) (hJ : ∀ {w}, J' w → J w) (hI : ∀ {w}, I w → I' w) (hD : ∀ {p sig w}, D' p sig w ↔ D p sig w) :
    Run J' I' C D' where
  emit hw l := hI (h.emit (hJ hw) l)
  fail hw m := hI (h.fail (hJ hw) m)
  pc hw p n := hI (h.pc (hJ hw) p n)
  finish hw p := hI (h.finish (hJ hw) p)
  exec hw p hc c text hs l := hI (h.exec (hJ hw) p hc c text hs l)
  next hw := h.next (hJ hw)
  resume hw p f sig hd hr hb := ⟨hI (h.resume (hJ hw) p f sig (hD.1 hd) hr hb).1, (h.resume (hJ hw) p f sig (hD.1 hd) hr hb).2⟩
  start hw t ev' hex ha := ⟨hI (h.start (hJ hw) t ev' hex ha).1, fun hnr =>
    ⟨hI ((h.start (hJ hw) t ev' hex ha).2 hnr).1, ((h.start (hJ hw) t ev' hex ha).2 hnr).2⟩⟩
  time hw t ev' hex ha := ⟨hI (h.time (hJ hw) t ev' hex ha).1, hD.2 (h.time (hJ hw) t ev' hex ha).2⟩
  wake hw t ev' hex k hk := ⟨hI (h.wake (hJ hw) t ev' hex k hk).1, hD.2 (h.wake (hJ hw) t ev' hex k hk).2⟩
  grant hw t ev' hex ha := ⟨hI (h.grant (hJ hw) t ev' hex ha).1, hD.2 (h.grant (hJ hw) t ev' hex ha).2⟩
  intr hw t ev' hex ha := ⟨hI (h.intr (hJ hw) t ev' hex ha).1, hD.2 (h.intr (hJ hw) t ev' hex ha).2⟩
  other hw t ev' hex ho := hI (h.other (hJ hw) t ev' hex ho)

end CimbaModel.Sim
