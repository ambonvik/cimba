/-
  S3 — the process-table footprint `PF`: functions that change no registration (awaits, waiter lists), no status and
  no recorded frame of any process, and at most shrink the event-waiter table.
-/
import CimbaModel.Sim.S3Foot

namespace CimbaModel.Sim.S3
open CimbaModel CimbaModel.Sim CimbaModel.Event CimbaModel.Generated CimbaModel.KPQ
open CimbaModel.HashHeap (HTag Item Order HH WF abs liveTags)

/-- the footprint on the process table of a function that registers nothing: same control state, no new event waiter -/
structure PF (w w' : World) : Prop where
  ctl : SameCtl w w'
  evw : ∀ x ∈ w'.evWaiters, x ∈ w.evWaiters
  psize : w'.procs.size = w.procs.size

theorem PF.refl (w : World) : PF w w := ⟨SameCtl.refl w, fun _ h => h, rfl⟩

theorem PF.trans {w w1 w2 : World} (h1 : PF w w1) (h2 : PF w1 w2) : PF w w2 :=
  ⟨fun p => ⟨(h2.ctl p).1.trans (h1.ctl p).1, (h2.ctl p).2.1.trans (h1.ctl p).2.1,
    (h2.ctl p).2.2.1.trans (h1.ctl p).2.2.1, (h2.ctl p).2.2.2.trans (h1.ctl p).2.2.2⟩,
   fun x hx => h1.evw x (h2.evw x hx), h2.psize.trans h1.psize⟩

theorem PF.same {w0 w w' : World} (h : PF w0 w) (hp : w'.procs = w.procs) (he : w'.evWaiters = w.evWaiters) : PF w0 w' :=
  h.trans ⟨sameCtl_of_procs hp, by rw [he]; exact fun _ h => h, by rw [hp]⟩

theorem PF.ofProcs {w w' : World} (hp : w'.procs = w.procs) (he : ∀ x ∈ w'.evWaiters, x ∈ w.evWaiters) : PF w w' :=
  ⟨sameCtl_of_procs hp, he, by rw [hp]⟩

theorem PF.schedAny (w : World) (a s : Nat) (sig t pri : Int) : PF w (sched w a s sig t pri).1 :=
  .ofProcs (sched_procs ..) (by rw [sched_evWaiters]; exact fun _ h => h)

/-- `PF` does not look at the waiting lists nor at the events: every function that registers nothing keeps it -/
theorem PF.guardFree : GuardFree PF where
  refl := PF.refl
  trans := PF.trans
  same := fun hs => ⟨hs.ctl, by rw [hs.evWaiters]; exact fun _ h => h, hs.stat.psize⟩
  evCancel := fun w k => .ofProcs (evCancel_rel w k).procs (evCancel_rel w k).evWaiters
  sched := fun w a s sig t pri _ => .schedAny w a s sig t pri
  guards := fun _ _ => .ofProcs rfl fun _ h => h
  wake := fun w a s t pri _ => .schedAny w a s sigSuccess t pri

theorem PF.foldl {α : Type} {f : World → α → World} (hf : ∀ w a, PF w (f w a)) {w0 : World}
    (l : List α) {w : World} (h : PF w0 w) : PF w0 (l.foldl f w) :=
  h.trans (Path.foldl ⟨PF.refl, PF.trans⟩ hf l w)

theorem PF.fail {w0 w : World} (h : PF w0 w) (m : String) : PF w0 (w.fail m) := h.trans (PF.guardFree.foot.fail w m)
theorem PF.emit {w0 w : World} (h : PF w0 w) (l : String) : PF w0 (w.emit l) := h.trans (PF.guardFree.foot.emit w l)
theorem PF.setGuards {w0 w : World} (h : PF w0 w) (x : Array Guard) : PF w0 { w with guards := x } := h.same rfl rfl
theorem PF.sched_fst {w0 w : World} (h : PF w0 w) (a s : Nat) (sig t pri : Int) : PF w0 (sched w a s sig t pri).1 := h.trans (.schedAny w a s sig t pri)
theorem PF.evCancel_fst {w0 w : World} (h : PF w0 w) (k : Nat) : PF w0 (evCancel w k).1 := h.trans (PF.guardFree.evCancel w k)
theorem PF.cancelAllFor {w0 w : World} (h : PF w0 w) (p : Pid) : PF w0 (cancelAllFor w p) := h.trans (PF.guardFree.foot.cancelAllFor w p)
theorem PF.wakeEventWaiters {w0 w : World} (h : PF w0 w) (ps : List Pid) (sig : Int) : PF w0 (wakeEventWaiters w ps sig) :=
  PF.foldl (fun w q => .schedAny w _ _ _ _ _) ps h
theorem PF.signal {w0 w : World} (h : PF w0 w) (g : Nat) : PF w0 (signal w g) := h.trans (PF.guardFree.foot.signal w g)
theorem PF.guardWithdraw {w0 w : World} (h : PF w0 w) (g : Nat) (p : Pid) : PF w0 (guardWithdraw w g p) := h.trans (PF.guardFree.foot.guardWithdraw w g p)
theorem PF.removeHeld_fst {w0 w : World} (h : PF w0 w) (p : Pid) (x : HoldRef) : PF w0 (removeHeld w p x).1 := h.trans (PF.guardFree.same (Same.removeHeld w p x))
theorem PF.dropResources {w0 w : World} (h : PF w0 w) (p : Pid) : PF w0 (dropResources w p) := h.trans (PF.guardFree.foot.dropResources w p)
theorem PF.prioAwaitStep {w0 w : World} (h : PF w0 w) (q : Pid) (v : Int) (a : Await) : PF w0 (prioAwaitStep q v w a) :=
  h.trans (prioAwaitStep_rel (R := PF) ⟨PF.refl, PF.trans⟩ q v PF.guardFree.foot.fail (fun _ _ _ _ => .ofProcs rfl fun _ h => h)
    (fun w g => PF.guardFree.reprioGuard w q v g) w a)
theorem PF.prioHeldStep {w0 w : World} (h : PF w0 w) (q : Pid) (v : Int) (x : HoldRef) : PF w0 (prioHeldStep q v w x) :=
  h.trans (PF.guardFree.same (Same.prioHeldStep q v w x))

end CimbaModel.Sim.S3
