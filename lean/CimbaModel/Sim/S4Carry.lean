/-
  S4 — "no fault" through `runScript` and `resumeProc`.

  `Carry X`: a family of invariants `X` that can be carried from command boundary to command boundary inside one
  dispatched event (the other invariants of the process layer: timers, pool holder records, priority queues).
  `Facts X`: what the no-fault argument needs from them at a command boundary.  With these, `Safe` (S4Safe*.lean) is
  carried along and gives `fault = none` at the end: `nf_runScript`, `nf_resumeProc`.
-/
import CimbaModel.Sim.S4SafeFrame
import CimbaModel.Sim.S4PqInv
import CimbaModel.Sim.S4Defs
import CimbaModel.Sim.S4Run
import CimbaModel.Sim.S3GInvCmd

namespace CimbaModel.Sim.S4
open CimbaModel CimbaModel.Sim CimbaModel.Sim.S3 CimbaModel.Event CimbaModel.Generated CimbaModel.KPQ
open CimbaModel.HashHeap (HTag Item Order HH WF abs liveTags KeysBelowCounter)

/-- every command of every script is valid in `w`: the four clauses are `CmdValid w c` of S4Init written out (`Loaded.progOk`
    reads it off the loader's invariant) -/
def ProgOk (w : World) : Prop :=
  ∀ (p : Pid) (i : Nat) (c : Cmd) (t : String), (w.proc p).script[i]? = some (c, t) →
    S3.CmdOk c ∧ DurOk c ∧ VarsOk c ∧ ∀ r, c = .acquire r → r < w.res.size

theorem stat_rsize {w w' : World} (hs : Stat w w') : w'.res.size = w.res.size := size_eq_of_map_eq hs.res

theorem ProgOk.ofStat {w w' : World} (h : ProgOk w) (hs : Stat w w') : ProgOk w' := by
  intro p i c t hc
  rw [hs.script] at hc
  obtain ⟨a, b, c', d⟩ := h p i c t hc
  exact ⟨a, b, c', fun r hr => by rw [stat_rsize hs]; exact d r hr⟩

theorem ProgOk.cmdSafe {w : World} (h : ProgOk w) {p : Pid} {i : Nat} {c : Cmd} {t : String}
    (hc : (w.proc p).script[i]? = some (c, t)) : CmdSafe w c := by
  obtain ⟨_, hd, _, ha⟩ := h p i c t hc
  cases c <;> first | exact hd | exact trivial | exact ha _ rfl

/-- the world in which `dispatchBody` starts / resumes the addressed process, for the action of the dispatched event -/
def prep (w1 : World) (t : HTag) : World :=
  if t.item.a = aTime then (removeAwait w1 (t.item.b - 1) (.time t.key)).1
  else if t.item.a = aProc then (removeAwaitKind w1 (t.item.b - 1) isProcA).1
  else if t.item.a = aEvent then (removeAwaitKind w1 (t.item.b - 1) isEventA).1
  else if t.item.a = aCond then (removeAwaitKind w1 (t.item.b - 1) isGuardA).1
  else if t.item.a = aIntr then cancelAwaiteds w1 (t.item.b - 1)
  else w1

theorem prep_cases (Q : World → Prop) (w1 : World) (t : HTag) (unreg : ∀ a, Q (removeAwait w1 (t.item.b - 1) a).1)
    (unregKind : ∀ k, Q (removeAwaitKind w1 (t.item.b - 1) k).1) (cancel : Q (cancelAwaiteds w1 (t.item.b - 1)))
    (same : Q w1) : Q (prep w1 t) := by
  unfold S4.prep
  split
  · exact unreg _
  · split
    · exact unregKind _
    · split
      · exact unregKind _
      · split
        · exact unregKind _
        · split
          · exact cancel
          · exact same

theorem prep_time {w1 : World} {t : HTag} (h : t.item.a = aTime) :
    prep w1 t = (removeAwait w1 (t.item.b - 1) (.time t.key)).1 := if_pos h

theorem prep_wake {w1 : World} {t : HTag} {k : Await → Bool}
    (hk : (t.item.a = aProc ∧ k = isProcA) ∨ (t.item.a = aEvent ∧ k = isEventA) ∨ (t.item.a = aCond ∧ k = isGuardA)) :
    prep w1 t = (removeAwaitKind w1 (t.item.b - 1) k).1 := by
  unfold S4.prep
  rcases hk with ⟨h, rfl⟩ | ⟨h, rfl⟩ | ⟨h, rfl⟩ <;> simp [h, aTime, aProc, aEvent, aCond]

theorem prep_intr {w1 : World} {t : HTag} (h : t.item.a = aIntr) : prep w1 t = cancelAwaiteds w1 (t.item.b - 1) := by
  unfold S4.prep
  simp [h, aTime, aProc, aEvent, aCond, aIntr]

theorem prep_same {w1 : World} {t : HTag} (h : ∀ a ∈ [aTime, aProc, aEvent, aCond, aIntr], t.item.a ≠ a) : prep w1 t = w1 := by
  unfold S4.prep
  simp only [List.mem_cons, List.not_mem_nil, or_false, forall_eq_or_imp, forall_eq] at h
  rw [if_neg h.1, if_neg h.2.1, if_neg h.2.2.1, if_neg h.2.2.2.1, if_neg h.2.2.2.2]

theorem prep_of_eq {w1 : World} {t : HTag} {a : Nat} (h : t.item.a = a) (ha : a ∉ [aTime, aProc, aEvent, aCond, aIntr]) :
    prep w1 t = w1 :=
  prep_same fun b hb e => ha (by rw [← h, e]; exact hb)

theorem prep_other {w1 : World} {t : HTag} (h : ∀ a ∈ actKinds, t.item.a ≠ a) : prep w1 t = w1 :=
  prep_same fun a ha => h a ((by decide : ∀ a ∈ [aTime, aProc, aEvent, aCond, aIntr], a ∈ actKinds) a ha)

structure Carry (X : World → Prop) : Prop where
  fail : ∀ {w : World} (m : String), X w → X (w.fail m)
  emit : ∀ {w : World} (l : String), X w → X (w.emit l)
  adv : ∀ {w : World} (p : Pid) (n : Nat), X w → X (w.modProc p fun y => { y with pc := n })
  exec : ∀ {w : World} {p : Pid} (c : Cmd), X w → p < w.procs.size → S3.CmdOk c → DurOk c → VarsOk c → X (execCmd w p c).1
  resume : ∀ {w0 : World} {p : Pid} {f : Frame} (sig : Int), X w0 → (w0.proc p).blocked = some f → p < w0.procs.size →
    X (resumeFrame (w0.modProc p fun y => { y with blocked := none }) p f sig).1
  finish : ∀ {w : World} (p : Pid) (v : Int) (s : Bool), X w → X (finishProc w p v s)
  start : ∀ {w : World} (p : Pid), X w → X (w.modProc p fun y => { y with status := .running, pc := 0, blocked := none })
  prep : ∀ {w : World} {t : HTag} {ev' : EvQ}, X w → executeNext w.ev = some (t, ev') → X (prep (S3.takeNext w t ev') t)

theorem Carry.and {X Y : World → Prop} (hX : Carry X) (hY : Carry Y) : Carry (fun w => X w ∧ Y w) := by
  refine ⟨?_, ?_, ?_, ?_, ?_, ?_, ?_, ?_⟩
  · intro w m h; exact ⟨hX.fail m h.1, hY.fail m h.2⟩
  · intro w l h; exact ⟨hX.emit l h.1, hY.emit l h.2⟩
  · intro w p n h; exact ⟨hX.adv p n h.1, hY.adv p n h.2⟩
  · intro w p c h hp h1 h2 h3; exact ⟨hX.exec c h.1 hp h1 h2 h3, hY.exec c h.2 hp h1 h2 h3⟩
  · intro w0 p f sig h hb hp; exact ⟨hX.resume sig h.1 hb hp, hY.resume sig h.2 hb hp⟩
  · intro w p v s h; exact ⟨hX.finish p v s h.1, hY.finish p v s h.2⟩
  · intro w p h; exact ⟨hX.start p h.1, hY.start p h.2⟩
  · intro w t ev' h hn; exact ⟨hX.prep h.1 hn, hY.prep h.2 hn⟩

structure Facts (X : World → Prop) : Prop where
  prio : ∀ {w : World}, X w → ∀ q, PrioPre w q
  pq : ∀ {w : World}, X w → PQS w

theorem prep_pqs (w1 : World) (t : HTag) : (prep w1 t).pqs = w1.pqs :=
  prep_cases (fun w' => w'.pqs = w1.pqs) w1 t (fun _ => by simp) (fun _ => by simp) (by simp) rfl

theorem PQS.carry : Carry PQS where
  fail m h := (PqEvo.of_eq (by simp)).pqs h
  emit _ h := (PqEvo.of_eq rfl).pqs h
  adv _ _ h := (PqEvo.of_eq rfl).pqs h
  exec c h _ _ _ _ := (PqEvo.execCmd _ _ c).pqs h
  resume sig h _ _ := ((PqEvo.of_eq rfl).trans (PqEvo.resumeFrame _ _ _ sig)).pqs h
  finish _ _ _ h := (PqEvo.of_eq (by simp)).pqs h
  start _ h := (PqEvo.of_eq rfl).pqs h
  prep h _ := (PqEvo.of_eq (by rw [prep_pqs, takeNext_pqs])).pqs h

theorem cmdPre_of {X : World → Prop} (hF : Facts X) {w : World} (hx : X w) (hroom : PqRoom w) (c : Cmd) : CmdPre w c := by
  have hq := hF.pq hx
  cases c <;> try exact trivial
  case prioSet q v => exact hF.prio hx q
  case pqGet k => intro x hxk; exact (hq.room hxk (hroom k x hxk)).1
  case pqPut k o pr v => intro x hxk; obtain ⟨a, b, c⟩ := hq.room hxk (hroom k x hxk); exact ⟨a, b, c⟩
  case pqCancel k v => intro x hxk; exact (hq.room hxk (hroom k x hxk)).1
  case pqReprio k v pr => intro x hxk; exact (hq.room hxk (hroom k x hxk)).1

theorem framePre_of {X : World → Prop} (hF : Facts X) {w : World} (hx : X w) (hroom : PqRoom w) (f : Frame) : FramePre w f := by
  have hq := hF.pq hx
  cases f <;> try exact trivial
  case pqGet k => intro x hxk; exact (hq.room hxk (hroom k x hxk)).1
  case pqPut k o pr v => intro x hxk; obtain ⟨a, b, c⟩ := hq.room hxk (hroom k x hxk); exact ⟨a, b, c⟩

/-- The bound `PqRoom` is only assumed of the world in which the run ends; the numbers of puts only grow, so it holds
    in every world on the way there.  Hence the invariant carried is "if the puts so far do not exceed those of the
    end (`wF`), then `Safe` and `X`". -/
theorem nf_runScript {X : World → Prop} (hX : Carry X) (hF : Facts X) : ∀ (fuel : Nat) (w : World) (p : Pid),
    Safe (isKey p) w → X w → ProgOk w → (w.proc p).script.size - (w.proc p).pc < fuel →
    PqRoom (runScript fuel w p) → (runScript fuel w p).fault = none := by
  intro fuel w p hs hx hprog hfuel hroom
  generalize hwF : runScript fuel w p = wF at hroom
  have step : ∀ {w1 : World} {c : Cmd} {text : String} (l0 : String), Stat w w1 →
      (PqMono w1 wF → Safe (isKey p) w1 ∧ X w1) → p < w1.procs.size →
      (w.proc p).script[(w1.proc p).pc]? = some (c, text) → PqMono (execCmd (w1.emit l0) p c).1 wF →
      SafeR (isKey p) (execCmd (w1.emit l0) p c) ∧ X (execCmd (w1.emit l0) p c).1 := by
    intro w1 c text l0 hst h hlt hc hm
    have hm1 : PqMono w1 wF := ((PqEvo.of_eq rfl).trans (PqEvo.execCmd (w1.emit l0) p c)).mono.trans hm
    obtain ⟨hs1, hx1⟩ := h hm1
    have hprog1 : ProgOk (w1.emit l0) := hprog.ofStat (hst.emit l0)
    have hc1 : ((w1.emit l0).proc p).script[(w1.proc p).pc]? = some (c, text) := by
      rw [(hst.emit l0).script]; exact hc
    obtain ⟨hok, hd, hv, _⟩ := hprog1 p _ c text hc1
    have hx0 := hX.emit l0 hx1
    exact ⟨SafeR.execCmd (hs1.emit l0) hlt c (hprog1.cmdSafe hc1) (cmdPre_of hF hx0 (hroom.of_mono hm1) c),
      hX.exec c hx0 hlt hok hd hv⟩
  -- the fuel bounds the commands left, so the branch `fuel = 0` is not reached
  have key := runScript_induct_fuel_static p w (fun n w1 => (PqMono w1 wF → Safe (isKey p) w1 ∧ X w1) ∧ scriptLeft w1 p < n)
    (fun w' => PqMono w' wF → w'.fault = none) (fun _ _ _ h => absurd h.2 (Nat.not_lt_zero _)) ?_ ?_ ?_ ?_ fuel w (Stat.refl w)
    ⟨fun _ => ⟨hs, hx⟩, hfuel⟩
  · rw [hwF] at key; exact key (PqMono.refl wF)
  · intro _ w1 l _ h hm
    have hm1 : PqMono w1 wF := PqMono.trans (PqEvo.of_eq (w' := finishProc (w1.emit l) p 0 false) (by simp)).mono hm
    exact ((h.1 hm1).1.emit l).finishProc p 0 false |>.nf
  · intro _ w1 c text l0 w2 o l hst h hlt hc hc' heq ho
    refine ⟨fun hm => ?_, scriptLeft_step hc' (stat_cmd heq) l h.2⟩
    have := step l0 hst h.1 hlt hc (by rw [heq]; exact (PqEvo.of_eq rfl).mono.trans hm)
    rw [heq] at this
    have hs2 : Safe (isKey p) w2 := by rcases ho with ⟨v, extra, rfl⟩ | rfl <;> exact this.1
    exact ⟨(hs2.emit l).modProc p _ (fun _ => rfl), hX.adv p _ (hX.emit l this.2)⟩
  · intro _ w1 c text l0 w2 hst h hlt hc heq hm
    have := (step l0 hst h.1 hlt hc (by rw [heq]; exact hm)).1
    rwa [heq] at this
  · intro _ w1 c text l0 w2 l hst h hlt hc heq hm
    have := (step l0 hst h.1 hlt hc (by rw [heq]; exact (PqEvo.of_eq rfl).mono.trans hm)).1
    rwa [heq] at this

theorem nf_resumeProc {X : World → Prop} (hX : Carry X) (hF : Facts X) (w : World) (p : Pid) (sig : Int)
    (hs : Safe noKey w) (hx : X w) (hprog : ProgOk w) (hrun : (w.proc p).status = .running)
    (hq : ∀ f, (w.proc p).blocked = some f → ResumePre w p f sig)
    (hbl : (w.proc p).blocked ≠ none)
    (hroom : PqRoom (resumeProc w p sig)) : (resumeProc w p sig).fault = none := by
  have hroomw : PqRoom w := hroom.of_mono (PqMono.resumeProc w p sig)
  have hx1 : ∀ f, (w.proc p).blocked = some f → p < w.procs.size →
      SafeR (isKey p) (resumeFrame (w.modProc p fun y => { y with blocked := none }) p f sig) ∧
        X (resumeFrame (w.modProc p fun y => { y with blocked := none }) p f sig).1 := by
    intro f hbf hlt
    have hq0 : ResumePre (w.modProc p fun y => { y with blocked := none }) p f sig := by
      intro g hqq
      have := hq f hbf g ((queued_congr (by rfl) g _).1 hqq)
      exact ⟨this.1, (frameOn_congr rfl rfl rfl rfl rfl rfl f g).2 this.2⟩
    have hfp : FramePre (w.modProc p fun y => { y with blocked := none }) f := by
      have := framePre_of hF hx hroomw f
      cases f <;> first | exact trivial | exact this
    exact ⟨SafeR.resumeFrame (hs.modProc p (fun y => { y with blocked := none }) (fun _ => rfl)) (by simpa using hlt) f sig hq0 hfp,
      hX.resume sig hx hbf hlt⟩
  revert hroom
  refine resumeProc_cases_stat (fun w' => PqRoom w' → w'.fault = none) w p sig ?_ ?_ ?_
  · intro hno
    exact (hno.elim (fun h => h hrun) hbl).elim
  · intro f w1 o _ hbf hlt heq _ _
    have := (hx1 f hbf hlt).1
    rw [heq] at this
    exact SafeR.nf this
  · intro f w1 v extra l _ hbf hlt heq hst hroom
    have := hx1 f hbf hlt
    rw [heq] at this
    refine nf_runScript hX hF _ _ p ((Safe.emit this.1 l).modProc p _ (fun _ => rfl)) (hX.adv p _ (hX.emit l this.2))
      (hprog.ofStat hst) ?_ hroom
    rw [hst.script p]
    omega

theorem progOk_prep {w1 : World} (h : ProgOk w1) (t : HTag) : ProgOk (prep w1 t) :=
  prep_cases ProgOk w1 t (fun _ => h.ofStat ((Stat.refl w1).step (.removeAwait .refl _ _)))
    (fun _ => h.ofStat ((Stat.refl w1).step (.removeAwaitKind .refl _ _))) (h.ofStat ((Stat.refl w1).cancelAwaiteds _)) h

section
variable {X : World → Prop} (hX : Carry X)
include hX

theorem Carry.prepped {w : World} {t : HTag} {ev' : EvQ} (h : X w ∧ ProgOk w) (hex : executeNext w.ev = some (t, ev')) :
    X (S4.prep (S3.takeNext w t ev') t) ∧ ProgOk (S4.prep (S3.takeNext w t ev') t) :=
  ⟨hX.prep h.1 hex, progOk_prep (h.2.ofStat (Stat.takeNext w t ev')) t⟩

/-- a carried family, together with the validity of the programs, is what the run keeps (Shape.lean): `prep` is the
    action's own bookkeeping, by kind -/
theorem Carry.run : Run (fun w => X w ∧ ProgOk w) (fun w => X w ∧ ProgOk w) (fun _ _ => True) (fun _ _ _ => True) where
  emit h l := ⟨hX.emit l h.1, h.2.ofStat ((Stat.refl _).emit l)⟩
  fail h m := ⟨hX.fail m h.1, h.2.ofStat ((Stat.refl _).fail m)⟩
  pc h p n := ⟨hX.adv p n h.1, h.2.ofStat ((Stat.refl _).modProc p _ fun _ => rfl)⟩
  finish h p := ⟨hX.finish p 0 false h.1, h.2.ofStat ((Stat.refl _).finishProc p 0 false)⟩
  exec {w} h p _ c text hc l := by
    have hp : ProgOk (w.emit l) := h.2.ofStat ((Stat.refl w).emit l)
    obtain ⟨hok, hd, hv, _⟩ := hp p _ c text hc
    exact ⟨hX.exec c (hX.emit l h.1) (lt_np_of_script _ _ _ _ hc) hok hd hv, hp.ofStat ((Stat.refl _).step (eff_execCmd .refl p c))⟩
  next _ _ _ _ _ _ _ _ _ _ _ _ _ := trivial
  resume {w} h p f sig _ _ hb :=
    ⟨⟨hX.resume sig h.1 hb (lt_of_blocked hb),
      h.2.ofStat (((Stat.refl w).modProc p (fun y => { y with blocked := none }) fun _ => rfl).step (eff_resumeFrame .refl p f sig))⟩,
      fun _ _ _ _ _ _ => trivial⟩
  start h t ev' hex ha := by
    have hT := hX.prepped h hex
    rw [prep_of_eq ha (by decide)] at hT
    exact ⟨hT, fun _ => ⟨⟨hX.start _ hT.1, hT.2.ofStat ((Stat.refl _).modProc _ _ fun _ => rfl)⟩, trivial⟩⟩
  time h t ev' hex ha := by
    have hT := hX.prepped h hex
    rw [prep_time ha] at hT
    exact ⟨hT, trivial⟩
  wake h t ev' hex k hk := by
    have hT := hX.prepped h hex
    rw [prep_wake hk] at hT
    exact ⟨hT, trivial⟩
  grant h t ev' hex ha := by
    have hT := hX.prepped h hex
    rw [show S4.prep (S3.takeNext _ t ev') t = S3.takeNext _ t ev' from
      ha.elim (prep_of_eq · (by decide)) (·.elim (prep_of_eq · (by decide)) (prep_of_eq · (by decide)))] at hT
    exact ⟨hT, trivial⟩
  intr h t ev' hex ha := by
    have hT := hX.prepped h hex
    rw [prep_intr ha] at hT
    exact ⟨hT, trivial⟩
  other h t ev' hex ho := by
    have hT := hX.prepped h hex
    rw [prep_other ho] at hT
    exact hT

end

theorem Carry.resumeProc {X : World → Prop} (hX : Carry X) (w : World) (p : Pid) (sig : Int) (hx : X w) (hprog : ProgOk w) :
    X (Sim.resumeProc w p sig) :=
  (hX.run.toAct.resumeProc ⟨hx, hprog⟩ p sig trivial).1

theorem Carry.dispatch {X : World → Prop} (hX : Carry X) {w w' : World} (hx : X w) (hprog : ProgOk w)
    (hd : dispatch w = some w') : X w' :=
  (hX.run.dispatch ⟨hx, hprog⟩ hd).1

end CimbaModel.Sim.S4
