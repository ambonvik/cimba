/-
  S3 — `PInv` (I_waiters + the process-end / event-done part of NoStaleInv): definition, congruence, the atomic
  updates, an event that stops being pending (`popWake`), cancelling an event.
-/
import CimbaModel.Sim.S3Reg

namespace CimbaModel.Sim.S3
open CimbaModel CimbaModel.Sim CimbaModel.Event CimbaModel.Generated CimbaModel.KPQ
open CimbaModel.HashHeap (HTag Item Order HH WF abs liveTags)

/-- the PROCESS(q) awaitables of `p` -/
def procAw (w : World) (p : Pid) : List Await := (w.proc p).awaits.filter isProcA
/-- the EVENT(h) awaitables of `p` -/
def evAw (w : World) (p : Pid) : List Await := (w.proc p).awaits.filter isEventA

/-- `fr p` is the frame process `p` is (logically) suspended in: between dispatches `fr = blockedOf w`; while a
    suspended call of `p` is being continued, `blocked` has already been cleared but `fr p` is still that frame. -/
structure PInv (ex : Pid → Prop) (fr : Pid → Option Frame) (w : World) : Prop where
  /-- the kernel invariant (handles unique, nothing pending in the past) -/
  ei : EvInv w.ev
  /-- a process awaits at most one process, and only while suspended in `wait_process` on it -/
  ap : ∀ p, procAw w p = [] ∨ ∃ q, fr p = some (.waitProc q) ∧ procAw w p = [.proc q]
  /-- … at most one event, and only while suspended in `wait_event` on it -/
  ae : ∀ p, evAw w p = [] ∨ ∃ h, fr p = some (.waitEvent h) ∧ evAw w p = [.event h]
  /-- only running processes await a process or an event -/
  ar : ∀ p, (w.proc p).status ≠ .running → procAw w p = [] ∧ evAw w p = []
  /-- the logical frame is the recorded one wherever it matters -/
  fb : ∀ p, ¬ ex p → (w.proc p).blocked ≠ fr p → procAw w p = [] ∧ evAw w p = []
  /-- I_waiters: a registered waiter awaits that process -/
  w1 : ∀ p q, q ∈ (w.proc p).waiters → ¬ ex q → Await.proc p ∈ (w.proc q).awaits
  wn : ∀ p, (w.proc p).waiters.Nodup
  /-- the same for event waiters -/
  e1 : ∀ h l q, (h, l) ∈ w.evWaiters → q ∈ l → ¬ ex q → Await.event h ∈ (w.proc q).awaits
  en : (w.evWaiters.map (·.1)).Nodup ∧ ∀ h l, (h, l) ∈ w.evWaiters → l.Nodup
  /-- process-end / event-done wake-ups are addressed to a process -/
  sb : ∀ e ∈ w.ev.pending, e.item.a = aProc ∨ e.item.a = aEvent → e.item.b ≠ 0
  /-- waiters are only registered with scheduled events -/
  es : ∀ h l, (h, l) ∈ w.evWaiters → h ∈ keys w.ev.pending
  /-- a pending process-end wake-up belongs to a process that awaits a process and is no longer registered with it -/
  op : ∀ e ∈ w.ev.pending, e.item.a = aProc → ∀ p, e.item.b = p + 1 → ¬ ex p →
    ∃ q, Await.proc q ∈ (w.proc p).awaits ∧ p ∉ (w.proc q).waiters
  /-- a pending event-done wake-up belongs to a process that awaits an event and is no longer registered with it -/
  oe : ∀ e ∈ w.ev.pending, e.item.a = aEvent → ∀ p, e.item.b = p + 1 → ¬ ex p →
    ∃ h, Await.event h ∈ (w.proc p).awaits ∧ p ∉ evWaitersOf w h
  /-- … whose event is no longer scheduled (it has been executed or cancelled) -/
  oh : ∀ e ∈ w.ev.pending, e.item.a = aEvent → ∀ p, e.item.b = p + 1 → ¬ ex p →
    ∀ h, Await.event h ∈ (w.proc p).awaits → h ∉ keys w.ev.pending ∧ h ≤ w.ev.counter
  /-- at most one of each per process -/
  up : ∀ e1 ∈ w.ev.pending, ∀ e2 ∈ w.ev.pending, e1.item.a = aProc → e2.item.a = aProc → e1.item.b = e2.item.b →
    ∀ p, e1.item.b = p + 1 → ¬ ex p → e1 = e2
  ue : ∀ e1 ∈ w.ev.pending, ∀ e2 ∈ w.ev.pending, e1.item.a = aEvent → e2.item.a = aEvent → e1.item.b = e2.item.b →
    ∀ p, e1.item.b = p + 1 → ¬ ex p → e1 = e2

theorem procAw_congr {w w' : World} (h : SameCtl w w') (p : Pid) : procAw w' p = procAw w p := by
  unfold procAw; rw [(h p).1]
theorem evAw_congr {w w' : World} (h : SameCtl w w') (p : Pid) : evAw w' p = evAw w p := by
  unfold evAw; rw [(h p).1]

/-- `PInv` only looks at registrations, the waiter table and the process/event wake-ups -/
theorem PInv.congr {ex : Pid → Prop} {fr : Pid → Option Frame} {w w' : World} (hp : PInv ex fr w) (hc : SameCtl w w')
    (hw : w'.evWaiters = w.evWaiters)
    (he : ∀ e' ∈ w'.ev.pending, e'.item.a = aProc ∨ e'.item.a = aEvent → ∃ e ∈ w.ev.pending, e.key = e'.key ∧ e.item = e'.item)
    (hei : EvInv w'.ev)
    (hkeys : ∀ e' ∈ w'.ev.pending, e'.key ≤ w.ev.counter → e'.key ∈ keys w.ev.pending)
    (hctr : w.ev.counter ≤ w'.ev.counter)
    (hkeep : ∀ k ∈ keys w.ev.pending, k ∈ keys w'.ev.pending) : PInv ex fr w' where
  ei := hei
  sb := fun e' he' hk => by
    obtain ⟨e, hem, _, hi⟩ := he e' he' hk
    rw [← hi]; exact hp.sb e hem (by rw [hi]; exact hk)
  es := fun h l hm => hkeep h (hp.es h l (by rw [← hw]; exact hm))
  oh := by
    intro e' he' ha p hb hx h hh
    obtain ⟨e, hem, _, hi⟩ := he e' he' (Or.inr ha)
    obtain ⟨h1, h2⟩ := hp.oh e hem (by rw [hi]; exact ha) p (by rw [hi]; exact hb) hx h (by rw [← (hc p).1]; exact hh)
    refine ⟨fun hm => ?_, Nat.le_trans h2 hctr⟩
    obtain ⟨e2, he2, hk2⟩ := Event.mem_keys.1 hm
    exact h1 (hk2 ▸ hkeys e2 he2 (by rw [hk2]; exact h2))
  ap := fun p => by rw [procAw_congr hc]; exact hp.ap p
  ae := fun p => by rw [evAw_congr hc]; exact hp.ae p
  ar := fun p h => by rw [procAw_congr hc, evAw_congr hc]; exact hp.ar p (by rw [← (hc p).2.2.1]; exact h)
  fb := fun p hx h => by rw [procAw_congr hc, evAw_congr hc]; exact hp.fb p hx (by rw [← (hc p).2.2.2]; exact h)
  w1 := fun p q h hx => by rw [(hc q).1]; exact hp.w1 p q (by rw [← (hc p).2.1]; exact h) hx
  wn := fun p => by rw [(hc p).2.1]; exact hp.wn p
  e1 := fun h l q hm hq hx => by rw [(hc q).1]; exact hp.e1 h l q (by rw [← hw]; exact hm) hq hx
  en := by rw [hw]; exact hp.en
  op := by
    intro e' he' ha p hb hx
    obtain ⟨e, hem, _, hi⟩ := he e' he' (Or.inl ha)
    obtain ⟨q, h1, h2⟩ := hp.op e hem (by rw [hi]; exact ha) p (by rw [hi]; exact hb) hx
    exact ⟨q, by rw [(hc p).1]; exact h1, by rw [(hc q).2.1]; exact h2⟩
  oe := by
    intro e' he' ha p hb hx
    obtain ⟨e, hem, _, hi⟩ := he e' he' (Or.inr ha)
    obtain ⟨h, h1, h2⟩ := hp.oe e hem (by rw [hi]; exact ha) p (by rw [hi]; exact hb) hx
    exact ⟨h, by rw [(hc p).1]; exact h1, by unfold evWaitersOf at *; rw [hw]; exact h2⟩
  up := by
    intro a ha b hb haa hba hbb p hbp hx
    obtain ⟨a0, ha0, hka, hia⟩ := he a ha (Or.inl haa)
    obtain ⟨b0, hb0, hkb, hib⟩ := he b hb (Or.inl hba)
    have : a0 = b0 := hp.up a0 ha0 b0 hb0 (by rw [hia]; exact haa) (by rw [hib]; exact hba) (by rw [hia, hib]; exact hbb)
      p (by rw [hia]; exact hbp) hx
    exact HashHeap.eq_of_key_eq hei.part.keysNodup ha hb (by rw [← hka, ← hkb, this])
  ue := by
    intro a ha b hb haa hba hbb p hbp hx
    obtain ⟨a0, ha0, hka, hia⟩ := he a ha (Or.inr haa)
    obtain ⟨b0, hb0, hkb, hib⟩ := he b hb (Or.inr hba)
    have : a0 = b0 := hp.ue a0 ha0 b0 hb0 (by rw [hia]; exact haa) (by rw [hib]; exact hba) (by rw [hia, hib]; exact hbb)
      p (by rw [hia]; exact hbp) hx
    exact HashHeap.eq_of_key_eq hei.part.keysNodup ha hb (by rw [← hka, ← hkb, this])


theorem PInv.same {ex : Pid → Prop} {fr : Pid → Option Frame} {w w' : World} (hp : PInv ex fr w) (hc : SameCtl w w')
    (hw : w'.evWaiters = w.evWaiters) (he : w'.ev = w.ev) : PInv ex fr w' :=
  hp.congr hc hw (by rw [he]; exact fun e h _ => ⟨e, h, rfl, rfl⟩) (by rw [he]; exact hp.ei)
    (by rw [he]; exact fun e h _ => Event.mem_keys.2 ⟨e, h, rfl⟩) (by rw [he]; exact Nat.le_refl _)
    (by rw [he]; exact fun _ h => h)

theorem PInv.fail {ex : Pid → Prop} {fr : Pid → Option Frame} {w : World} (h : PInv ex fr w) (m : String) : PInv ex fr (w.fail m) :=
  h.same (sameCtl_of_procs (by simp)) (by simp) (by simp)
theorem PInv.emit {ex : Pid → Prop} {fr : Pid → Option Frame} {w : World} (h : PInv ex fr w) (l : String) : PInv ex fr (w.emit l) :=
  h.same (SameCtl.refl _) rfl rfl
theorem PInv.modProc_ctl {ex : Pid → Prop} {fr : Pid → Option Frame} {w : World} (h : PInv ex fr w) (p : Pid) (f : Proc → Proc)
    (hf : ∀ x, (f x).awaits = x.awaits ∧ (f x).waiters = x.waiters ∧ (f x).status = x.status ∧ (f x).blocked = x.blocked) :
    PInv ex fr (w.modProc p f) :=
  h.same (sameCtl_modProc w p f hf) rfl rfl

theorem PInv.pushEv_other {ex : Pid → Prop} {fr : Pid → Option Frame} {w : World} (h : PInv ex fr w) (a s : Nat) (sig t pri : Int)
    (ht : w.now ≤ t) (ha : a ≠ aProc ∧ a ≠ aEvent) : PInv ex fr (pushEv w a s sig t pri) := by
  refine h.congr (SameCtl.refl _) rfl ?_ (pushEv_evinv a s sig t pri ht h.ei) ?_ (by simp)
    (fun k hk => by simp only [pushEv_pending, keys, List.map_cons]; exact List.mem_cons_of_mem _ hk)
  · intro e' he' hk
    simp only [pushEv_pending, List.mem_cons] at he'
    rcases he' with rfl | he'
    · simp only [mkEv] at hk
      rcases hk with hk | hk
      · exact absurd hk ha.1
      · exact absurd hk ha.2
    · exact ⟨e', he', rfl, rfl⟩
  · intro e' he' hk
    simp only [pushEv_pending, List.mem_cons] at he'
    rcases he' with rfl | he'
    · simp only [mkEv] at hk; omega
    · exact Event.mem_keys.2 ⟨e', he', rfl⟩

theorem PInv.sched_other {ex : Pid → Prop} {fr : Pid → Option Frame} {w : World} (h : PInv ex fr w) (a s : Nat) (sig t pri : Int)
    (ha : a ≠ aProc ∧ a ≠ aEvent) : PInv ex fr (sched w a s sig t pri).1 := by
  rcases sched_cases w a s sig t pri with ⟨ht, he⟩ | ⟨_, m, he⟩
  · rw [he]; exact h.pushEv_other a s sig t pri ht ha
  · rw [he]; exact h.fail m

theorem PInv.reprioEv {ex : Pid → Prop} {fr : Pid → Option Frame} {w : World} (h : PInv ex fr w) {k : Nat} {v : Int} {ev' : EvQ}
    (hr : reprioritize w.ev k v = .ok ev') : PInv ex fr { w with ev := ev' } := by
  obtain ⟨hctr, _, hto, hfrom⟩ := reprioritize_pending hr
  refine h.congr (SameCtl.refl _) rfl (fun e' he' _ => hto e' he') (reprioritize_inv h.ei hr).1 ?_ (Nat.le_of_eq hctr.symm) ?_
  · intro e' he' _
    obtain ⟨e, he, hk, _⟩ := hto e' he'
    exact Event.mem_keys.2 ⟨e, he, hk⟩
  · intro k' hk'
    obtain ⟨e, he, rfl⟩ := Event.mem_keys.1 hk'
    obtain ⟨e', he', hk, _⟩ := hfrom e he
    exact Event.mem_keys.2 ⟨e', he', hk⟩


theorem wakeEvs_subj_inj {c : Nat} {now : Int} {l : List Wake} (hnd : (l.map (·.subj)).Nodup) {e1 e2 : HTag}
    (h1 : e1 ∈ wakeEvs c now l) (h2 : e2 ∈ wakeEvs c now l) (hs : e1.item.b = e2.item.b) : e1 = e2 := by
  obtain ⟨i, hi, rfl⟩ := mem_wakeEvs.1 h1
  obtain ⟨j, hj, rfl⟩ := mem_wakeEvs.1 h2
  simp only [mkEv] at hs
  have : (l.map (·.subj))[i]'(by simpa using hi) = (l.map (·.subj))[j]'(by simpa using hj) := by simpa using hs
  have hij : i = j := (List.getElem_inj hnd).1 this
  subst hij; rfl

theorem evWaitersOf_mem {w : World} {h : Nat} {q : Pid} (hq : q ∈ evWaitersOf w h) :
    ∃ l, (h, l) ∈ w.evWaiters ∧ q ∈ l := by
  unfold evWaitersOf at hq
  cases hl : w.evWaiters.lookup h with
  | none => rw [hl] at hq; simp at hq
  | some l => rw [hl] at hq; exact ⟨l, lookup_mem hl, hq⟩

theorem evWakes_subj (w : World) (ps : List Pid) (sig : Int) : (evWakes w ps sig).map (·.subj) = ps.map (· + 1) := by
  simp [evWakes, List.map_map, Function.comp_def]

theorem PInv.evWaitersOf_nodup {ex : Pid → Prop} {fr : Pid → Option Frame} {w : World} (hp : PInv ex fr w) (h : Nat) : (evWaitersOf w h).Nodup := by
  unfold evWaitersOf
  cases hl : w.evWaiters.lookup h with
  | none => simp
  | some l => exact hp.en.2 h l (lookup_mem hl)

section
variable {ex : Pid → Prop} {fr : Pid → Option Frame} {w : World}

def procK : Kind where
  isA := isProcA
  of := .proc
  place w q p := p ∈ (w.proc q).waiters
  isWake e := e.item.a = aProc
  on _ f q := f = .waitProc q
  isA_of _ := rfl
  of_inj h := Await.proc.inj h

def eventK : Kind where
  isA := isEventA
  of := .event
  place w h p := p ∈ evWaitersOf w h
  isWake e := e.item.a = aEvent
  on _ f h := f = .waitEvent h
  isA_of _ := rfl
  of_inj h := Await.event.inj h

theorem procK.lawful : procK.Lawful :=
  ⟨fun w p g a x => by show x ∈ _ ↔ x ∈ _; rw [modProc_keep Proc.waiters], fun _ _ _ _ _ => Iff.rfl⟩
theorem eventK.lawful : eventK.Lawful := ⟨fun _ _ _ _ _ => Iff.rfl, fun _ _ _ _ _ => Iff.rfl⟩

theorem PInv.procs (hp : PInv ex fr w) : RInv procK ex fr w where
  one p := (hp.ap p).imp id fun ⟨q, h1, h2⟩ => ⟨q, _, h1, rfl, h2⟩
  fb p hx hb := (hp.fb p hx hb).1
  reg q p := hp.w1 q p
  sb e he ha := hp.sb e he (Or.inl ha)
  own := hp.op
  uniq := hp.up

theorem PInv.events (hp : PInv ex fr w) : RInv eventK ex fr w where
  one p := (hp.ae p).imp id fun ⟨q, h1, h2⟩ => ⟨q, _, h1, rfl, h2⟩
  fb p hx hb := (hp.fb p hx hb).2
  reg h p hq hx := (evWaitersOf_mem hq).elim fun l hl => hp.e1 h l p hl.1 hl.2 hx
  sb e he ha := hp.sb e he (Or.inr ha)
  own := hp.oe
  uniq := hp.ue

theorem PInv.event_unique' (hp : PInv ex fr w) {x : Pid} {a b : Nat}
    (ha : Await.event a ∈ (w.proc x).awaits) (hb : Await.event b ∈ (w.proc x).awaits) : a = b := (hp.events.unique ha hb).1

/-- `PInv` is two registries and what is particular to processes and events -/
theorem PInv.join {w : World} (hP : RInv procK ex fr w) (hE : RInv eventK ex fr w) (ei : EvInv w.ev)
    (ar : ∀ p, (w.proc p).status ≠ .running → procAw w p = [] ∧ evAw w p = []) (wn : ∀ p, (w.proc p).waiters.Nodup)
    (en : (w.evWaiters.map (·.1)).Nodup ∧ ∀ h l, (h, l) ∈ w.evWaiters → l.Nodup)
    (es : ∀ h l, (h, l) ∈ w.evWaiters → h ∈ keys w.ev.pending)
    (oh : ∀ e ∈ w.ev.pending, e.item.a = aEvent → ∀ p, e.item.b = p + 1 → ¬ ex p →
      ∀ h, Await.event h ∈ (w.proc p).awaits → h ∉ keys w.ev.pending ∧ h ≤ w.ev.counter) : PInv ex fr w where
  ei := ei
  ap p := (hP.one p).imp id fun ⟨q, _, h1, h2, h3⟩ => ⟨q, h2 ▸ h1, h3⟩
  ae p := (hE.one p).imp id fun ⟨q, _, h1, h2, h3⟩ => ⟨q, h2 ▸ h1, h3⟩
  ar := ar
  fb p hx hb := ⟨hP.fb p hx hb, hE.fb p hx hb⟩
  w1 := hP.reg
  wn := wn
  e1 h l q hm hq hx := hE.reg h q (by show q ∈ evWaitersOf w h; unfold evWaitersOf; rw [lookup_of_mem_nodup en.1 hm]; exact hq) hx
  en := en
  sb e he ha := ha.elim (hP.sb e he) (hE.sb e he)
  es := es
  op := hP.own
  oe := hE.own
  oh := oh
  up := hP.uniq
  ue := hE.uniq

end

/-- an event `h` stops being pending (it is executed, or cancelled): its registered waiters get their wake-ups, the
    registrations are taken off the table -/
theorem PInv.popWake {ex : Pid → Prop} {fr : Pid → Option Frame} {w w1 : World} (hp : PInv ex fr w) (h : Nat) (sig : Int)
    (hprocs : w1.procs = w.procs) (hwt : w1.evWaiters = w.evWaiters.filter (·.1 ≠ h))
    (hsub : ∀ e ∈ w1.ev.pending, e ∈ w.ev.pending) (hei : EvInv w1.ev)
    (hh : h ∈ keys w.ev.pending) (hgone : h ∉ keys w1.ev.pending) (hctr : w1.ev.counter = w.ev.counter)
    (hkeep : ∀ k ∈ keys w.ev.pending, k ≠ h → k ∈ keys w1.ev.pending) :
    PInv ex fr (pushAll w1 (evWakes w (evWaitersOf w h) sig)) := by
  have hpr : ∀ x, (pushAll w1 (evWakes w (evWaitersOf w h) sig)).proc x = w.proc x := fun x => by
    rw [pushAll_proc]; exact proc_congr hprocs x
  have hsc : SameCtl w (pushAll w1 (evWakes w (evWaitersOf w h) sig)) := fun x => by rw [hpr]; exact ⟨rfl, rfl, rfl, rfl⟩
  have hL : ∀ q ∈ evWaitersOf w h, ¬ ex q → Await.event h ∈ (w.proc q).awaits := fun q hq hx => hp.events.reg h q hq hx
  have hnew : ∀ e ∈ wakeEvs w1.ev.counter w1.now (evWakes w (evWaitersOf w h) sig),
      e.item.a = aEvent ∧ ∃ q ∈ evWaitersOf w h, e.item.b = q + 1 := by
    intro e he
    obtain ⟨_, _, _, _, x, hx, heq⟩ := wakeEvs_props he
    simp only [evWakes, List.mem_map] at hx
    obtain ⟨q, hq, rfl⟩ := hx
    rw [heq]; exact ⟨rfl, q, hq, rfl⟩
  have hpend : ∀ e ∈ (pushAll w1 (evWakes w (evWaitersOf w h) sig)).ev.pending,
      e ∈ w.ev.pending ∨ e ∈ wakeEvs w1.ev.counter w1.now (evWakes w (evWaitersOf w h) sig) := fun e he => by
    simp only [pushAll_pending, List.mem_append] at he
    exact he.symm.imp (hsub e) id
  -- the waiters of `h` are served; nothing changes for the registry of processes
  have hE : RInv eventK ex fr (pushAll w1 (evWakes w (evWaitersOf w h) sig)) := by
    refine hp.events.deliver h (· ∈ evWaitersOf w h) (· ∈ wakeEvs w1.ev.counter w1.now (evWakes w (evWaitersOf w h) sig))
      (fun _ hq => hq) (fun x => by rw [hpr]) (fun x => by rw [hpr]) (fun _ _ => Iff.rfl) ?_ hpend
      (fun e he => (hnew e he).2) ?_
    · intro b x
      show x ∈ evWaitersOf _ b ↔ x ∈ evWaitersOf w b ∧ ¬ (b = h ∧ x ∈ evWaitersOf w h)
      unfold evWaitersOf
      simp only [pushAll_evWaiters, hwt]
      by_cases hb : b = h
      · subst hb; rw [lookup_filter_self]; simp
      · rw [lookup_filter_ne _ _ _ hb]; simp [hb]
    · intro e1 _ e2 _ n1 n2 hbb
      refine wakeEvs_subj_inj ?_ n1 n2 hbb
      rw [evWakes_subj]; exact nodup_map_succ (hp.evWaitersOf_nodup h)
  have hP : RInv procK ex fr (pushAll w1 (evWakes w (evWaitersOf w h) sig)) :=
    hp.procs.frame (fun x => by rw [hpr]) (fun x => by rw [hpr]) (fun _ _ => Iff.rfl)
      (fun b x hx => by show x ∈ (w.proc b).waiters; rw [← hpr]; exact hx) fun e he hw =>
      (hpend e he).elim id fun hn => absurd ((hnew e hn).1.symm.trans hw) (by decide)
  refine PInv.join hP hE (pushAll_evinv _ hei)
    (fun x hx => by rw [procAw_congr hsc, evAw_congr hsc]; rw [hpr] at hx; exact hp.ar x hx)
    (fun x => by rw [hpr]; exact hp.wn x) ?_ ?_ ?_
  · simp only [pushAll_evWaiters, hwt]
    exact ⟨List.Nodup.sublist ((List.filter_sublist).map _) hp.en.1, fun h' l hm => hp.en.2 h' l (List.mem_filter.1 hm).1⟩
  · intro h' l hm
    simp only [pushAll_evWaiters, hwt, List.mem_filter] at hm
    have hne : h' ≠ h := by simpa using hm.2
    obtain ⟨e2, he2, hk2⟩ := Event.mem_keys.1 (hkeep h' (hp.es h' l hm.1) hne)
    exact Event.mem_keys.2 ⟨e2, by simp only [pushAll_pending]; exact List.mem_append_right _ he2, hk2⟩
  · -- the awaited event of a pending event-done wake-up is no longer scheduled
    have hhle : h ≤ w.ev.counter := by
      obtain ⟨e0, he0, hk0⟩ := Event.mem_keys.1 hh
      rw [← hk0]; exact EvInv.key_le hp.ei he0
    have hfresh : ∀ k, k ≤ w.ev.counter → k ∉ keys w.ev.pending →
        k ∉ keys (pushAll w1 (evWakes w (evWaitersOf w h) sig)).ev.pending := by
      intro k hk hkn hm
      obtain ⟨e2, he2, hk2⟩ := Event.mem_keys.1 hm
      simp only [pushAll_pending, List.mem_append] at he2
      rcases he2 with he2 | he2
      · have := (wakeEvs_props he2).1
        rw [hctr] at this; omega
      · exact hkn (Event.mem_keys.2 ⟨e2, hsub e2 he2, hk2⟩)
    intro e he ha p hb hx h' hh'
    rw [hpr] at hh'
    simp only [pushAll_pending, List.mem_append] at he
    rcases he with he | he
    · obtain ⟨_, q, hq, hbq⟩ := hnew e he
      have : q = p := Nat.add_right_cancel (hbq.symm.trans hb)
      subst this
      have : h' = h := (hp.event_unique' hh' (hL q hq hx))
      subst this
      refine ⟨fun hm => ?_, by simp only [pushAll_counter]; rw [hctr]; omega⟩
      obtain ⟨e2, he2, hk2⟩ := Event.mem_keys.1 hm
      simp only [pushAll_pending, List.mem_append] at he2
      rcases he2 with he2 | he2
      · have := (wakeEvs_props he2).1
        rw [hctr] at this; omega
      · exact hgone (Event.mem_keys.2 ⟨e2, he2, hk2⟩)
    · obtain ⟨h1, h2⟩ := hp.oh e (hsub e he) ha p hb hx h' hh'
      exact ⟨hfresh h' h2 h1, by simp only [pushAll_counter]; rw [hctr]; omega⟩

theorem PInv.evCancel_fst {ex : Pid → Prop} {fr : Pid → Option Frame} {w : World} (hp : PInv ex fr w) (h : Nat) :
    PInv ex fr (evCancel w h).1 := by
  rw [evCancel_eq]
  split
  · rename_i hk
    change PInv ex fr (pushAll (cancelEv w h) (evWakes w (evWaitersOf w h) sigCancelled))
    exact hp.popWake h sigCancelled rfl rfl (fun e he => (mem_remove.1 he).1) (cancelEv_evinv hk hp.ei) hk
      (fun hm => by
        obtain ⟨e2, he2, hk2⟩ := Event.mem_keys.1 hm
        exact (mem_remove.1 he2).2 hk2) rfl
      (fun k hk' hne => by
        obtain ⟨e2, he2, hk2⟩ := Event.mem_keys.1 hk'
        exact Event.mem_keys.2 ⟨e2, mem_remove.2 ⟨he2, by rw [hk2]; exact hne⟩, hk2⟩)
  · exact hp

end CimbaModel.Sim.S3
