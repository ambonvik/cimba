/-
  S3 — the functions of the process layer that register and deregister nothing, for all registration invariants at
  once.  `Same w w'`: nothing such an invariant speaks of differs between `w` and `w'`.  A relation `R` with `Foot R` holds
  across `Same` steps, cancellations, events that are nobody's wake-up and the operations on the waiting lists, hence
  across the functions of Sim/Model.lean and Sim/Run.lean built from these; an invariant that does not look at the
  waiting lists gets the last from `GuardFree`.
-/
import CimbaModel.Sim.S3Stat

namespace CimbaModel.Sim.S3
open CimbaModel CimbaModel.Sim CimbaModel.Event CimbaModel.Generated CimbaModel.KPQ
open CimbaModel.HashHeap (HTag Item Order HH WF abs liveTags)

/-- the control state of every process is the same: what it awaits, who waits for it, its status, its recorded frame -/
def SameCtl (w w' : World) : Prop :=
  ∀ p, (w'.proc p).awaits = (w.proc p).awaits ∧ (w'.proc p).waiters = (w.proc p).waiters ∧
    (w'.proc p).status = (w.proc p).status ∧ (w'.proc p).blocked = (w.proc p).blocked

theorem SameCtl.refl (w : World) : SameCtl w w := fun _ => ⟨rfl, rfl, rfl, rfl⟩

theorem SameCtl.trans {w w1 w2 : World} (h1 : SameCtl w w1) (h2 : SameCtl w1 w2) : SameCtl w w2 := fun p =>
  ⟨(h2 p).1.trans (h1 p).1, (h2 p).2.1.trans (h1 p).2.1, (h2 p).2.2.1.trans (h1 p).2.2.1, (h2 p).2.2.2.trans (h1 p).2.2.2⟩

theorem proc_congr {w w' : World} (h : w'.procs = w.procs) (p : Pid) : w'.proc p = w.proc p := by
  unfold World.proc; rw [h]

theorem sameCtl_of_procs {w w' : World} (h : w'.procs = w.procs) : SameCtl w w' := by
  intro p; rw [proc_congr h]; exact ⟨rfl, rfl, rfl, rfl⟩

theorem sameCtl_modProc (w : World) (p : Pid) (f : Proc → Proc)
    (hf : ∀ x, (f x).awaits = x.awaits ∧ (f x).waiters = x.waiters ∧ (f x).status = x.status ∧ (f x).blocked = x.blocked) :
    SameCtl w (w.modProc p f) := by
  intro q
  rw [modProc_proc]
  split
  · rename_i h; rw [h.1]; exact hf _
  · exact ⟨rfl, rfl, rfl, rfl⟩

theorem modProc_keep {α : Type} (F : Proc → α) (w : World) (p : Pid) {f : Proc → Proc} (hf : ∀ y, F (f y) = F y := by intro; rfl)
    (x : Pid) :
    F ((w.modProc p f).proc x) = F (w.proc x) := modProc_field F w p f hf x

theorem modProc_self_or (w : World) (p : Pid) (f : Proc → Proc) :
    (w.modProc p f).proc p = f (w.proc p) ∨ (w.modProc p f).proc p = {} := by
  by_cases hs : p < w.procs.size
  · exact Or.inl (modProc_proc_self w f hs)
  · right
    rw [modProc_proc]
    simp only [hs, and_false, if_false]
    exact proc_oob w (Nat.le_of_not_lt hs)

/-- nothing that a registration invariant speaks of differs (the dynamic part of the objects, held lists, variables,
    priorities, program counters, flags, log and fault may) -/
structure Same (w w' : World) : Prop where
  stat : Stat w w'
  ctl : SameCtl w w'
  guards : w'.guards = w.guards
  ev : w'.ev = w.ev
  evWaiters : w'.evWaiters = w.evWaiters

theorem Same.refl (w : World) : Same w w := ⟨Stat.refl w, SameCtl.refl w, rfl, rfl, rfl⟩

theorem Same.trans {w w1 w2 : World} (h1 : Same w w1) (h2 : Same w1 w2) : Same w w2 :=
  ⟨h1.stat.trans h2.stat, h1.ctl.trans h2.ctl, h2.guards.trans h1.guards, h2.ev.trans h1.ev, h2.evWaiters.trans h1.evWaiters⟩

theorem Same.ofStat {w w' : World} (hs : Stat w w') (hp : w'.procs = w.procs) (hg : w'.guards = w.guards) (he : w'.ev = w.ev)
    (hw : w'.evWaiters = w.evWaiters) : Same w w' := ⟨hs, sameCtl_of_procs hp, hg, he, hw⟩

/-- what a `Same` step may touch: the objects but not the guards, the priority, holdings, program counter and variables
    of a process, flags and shared variables -/
def Same.scope : Scope :=
  { prio := .any, heldR := .any, heldP := .any, pc := .any, vars := .any, res := true, avail := true, pools := true,
    ph := true, bufs := true, oqs := true, pqs := true, flags := true, gvars := true, pqVars := none }

theorem Same.ofEff {p : Pid} {w w' : World} (h : Eff p Same.scope w w') : Same w w' :=
  have o := h.outside
  ⟨Stat.ofEff h, fun q => ⟨o.awaits q ⟨.inl rfl, .inl rfl, .inl rfl, .inl rfl⟩, o.waiters q (.inl rfl), o.status q (.inl rfl), o.blocked q (.inl rfl)⟩,
    o.guards rfl, o.ev rfl rfl rfl, o.evWaiters rfl⟩

theorem Same.fail (w : World) (m : String) : Same w (w.fail m) := Same.ofEff (p := 0) (.fail .refl m)

theorem Same.emit (w : World) (l : String) : Same w (w.emit l) := Same.ofEff (p := 0) (.emit .refl l)

theorem Same.modProc (w : World) (p : Pid) (f : Proc → Proc)
    (hf : ∀ x, (f x).awaits = x.awaits ∧ (f x).waiters = x.waiters ∧ (f x).status = x.status ∧ (f x).blocked = x.blocked ∧
      (f x).script = x.script := by intro; exact ⟨rfl, rfl, rfl, rfl, rfl⟩) : Same w (w.modProc p f) :=
  ⟨(Stat.refl w).modProc p f fun x => (hf x).2.2.2.2,
    sameCtl_modProc w p f fun x => ⟨(hf x).1, (hf x).2.1, (hf x).2.2.1, (hf x).2.2.2.1⟩, rfl, rfl, rfl⟩

theorem Same.flags (w : World) (x : Array Int) : Same w { w with flags := x } := Same.ofEff (p := 0) (.flags .refl rfl x)

section
variable {w : World} {i : Nat}

theorem Same.resSet {x : Res} (hx : w.res[i]? = some x) (y : Res) (hy : resStat y = resStat x := by rfl) :
    Same w { w with res := w.res.set! i y } := Same.ofEff (p := 0) (Eff.setRes .refl hx y hy)
theorem Same.poolSet {x : Pool} (hx : w.pools[i]? = some x) (y : Pool) (hy : poolStat y = poolStat x := by rfl) :
    Same w { w with pools := w.pools.set! i y } := Same.ofEff (p := 0) (Eff.setPool .refl hx y hy)
theorem Same.bufSet {x : Buf} (hx : w.bufs[i]? = some x) (y : Buf) (hy : bufStat y = bufStat x := by rfl) :
    Same w { w with bufs := w.bufs.set! i y } := Same.ofEff (p := 0) (Eff.setBuf .refl hx y hy)
theorem Same.oqSet {x : OQ} (hx : w.oqs[i]? = some x) (y : OQ) (hy : oqStat y = oqStat x := by rfl) :
    Same w { w with oqs := w.oqs.set! i y } := Same.ofEff (p := 0) (Eff.setOQ .refl hx y hy)
theorem Same.pqSet {x : PQ} (hx : w.pqs[i]? = some x) (y : PQ) (hy : pqStat y = pqStat x := by rfl) :
    Same w { w with pqs := w.pqs.set! i y } :=
  -- any `y`: more than the library does to a priority queue (`Eff.setPQ` asks for a `PqStep`)
  Same.ofStat ⟨rfl, rfl, fun _ => rfl, fun _ => rfl, fun _ => rfl, fun _ => rfl, fun _ => rfl, map_set!_of _ hx _ _ hy, fun _ => rfl⟩
    rfl rfl rfl rfl

end

theorem Same.resMod (w : World) (i : Nat) (g : Res → Res) (hg : ∀ x, resStat (g x) = resStat x := by intro; rfl) :
    Same w { w with res := w.res.modify i g } := Same.ofEff (p := 0) (Eff.modRes .refl g hg)
theorem Same.poolMod (w : World) (i : Nat) (g : Pool → Pool) (hg : ∀ x, poolStat (g x) = poolStat x := by intro; rfl) :
    Same w { w with pools := w.pools.modify i g } := Same.ofEff (p := 0) (Eff.modPool .refl g hg)

theorem Same.recordRes (w : World) (r : Nat) : Same w (recordRes w r) := Same.ofEff (p := 0) (.recordRes .refl r)
theorem Same.recordPool (w : World) (r : Nat) : Same w (recordPool w r) := Same.ofEff (p := 0) (.recordPool .refl r)
theorem Same.recordBuf (w : World) (r : Nat) : Same w (recordBuf w r) := Same.ofEff (p := 0) (.recordBuf .refl r)
theorem Same.recordOQ (w : World) (r : Nat) : Same w (recordOQ w r) := Same.ofEff (p := 0) (.recordOQ .refl r)
theorem Same.recordPQ (w : World) (r : Nat) : Same w (recordPQ w r) := Same.ofEff (p := 0) (.recordPQ .refl r)

theorem Same.setRecording (w : World) (kind idx : Nat) (on : Bool) : Same w (setRecording w kind idx on) :=
  Same.ofEff (p := 0) (.setRecording .refl kind idx on (by match kind with | 0 | 1 | 2 | 3 | _ + 4 => exact rfl))

theorem Same.setPoolInUse (w : World) (pl v : Nat) : Same w (setPoolInUse w pl v) := Same.ofEff (p := 0) (.setPoolInUse .refl pl v)

theorem Same.setHeldAmount (w : World) (pl : Nat) (p : Pid) (a : Nat) : Same w (setHeldAmount w pl p a) :=
  Same.ofEff (p := 0) (.setHeldAmount .refl pl p a)

theorem Same.removeHeld (w : World) (p : Pid) (x : HoldRef) : Same w (removeHeld w p x).1 :=
  Same.ofEff (p := 0) (.removeHeld .refl p x (by cases x <;> exact trivial))

theorem Same.setVar (w : World) (p : Pid) (v x : Nat) : Same w (setVar w p v x) :=
  Same.ofEff (p := 0) (.setVar .refl p v x trivial rfl (.inl trivial))

theorem Same.grab (w : World) (r : Nat) (p : Pid) : Same w (grab w r p) := Same.ofEff (p := 0) (.grab .refl r p)

theorem Same.poolUpdateRecord (w : World) (pl : Nat) (p : Pid) (a : Nat) : Same w (poolUpdateRecord w pl p a) :=
  Same.ofEff (p := 0) (.poolUpdateRecord .refl pl p a)

theorem Same.prioHeldStep (q : Pid) (v : Int) (w : World) (x : HoldRef) : Same w (prioHeldStep q v w x) := by
  unfold S3.prioHeldStep
  split
  · split
    · rename_i y hy
      split
      · exact Same.poolSet hy _
      · exact Same.fail w _
    · exact Same.refl w
  · exact Same.refl w

/-- an event that is nobody's wake-up: not a timer, not the end of an awaited process or event, not a condition wake-up,
    not a grant (a resource wake-up with the success code); interrupts, resumes and preemptions do not carry the success
    code (the last conjunct: `GInv.nz`) -/
def PlainEv (a : Nat) (sig : Int) : Prop :=
  a ≠ aTime ∧ a ≠ aProc ∧ a ≠ aEvent ∧ a ≠ aCond ∧ (a = aRes → encSig sig ≠ 0) ∧
    (encSig sig = 0 → a ≠ aIntr ∧ a ≠ aResume ∧ a ≠ aPreempt)

instance (a : Nat) (sig : Int) : Decidable (PlainEv a sig) := by unfold PlainEv; infer_instance

/-- `R` holds across every step that registers and deregisters nothing -/
structure Foot (R : World → World → Prop) : Prop extends Path R where
  same : ∀ {w w'}, Same w w' → R w w'
  evCancel : ∀ w h, R w (Sim.evCancel w h).1
  sched : ∀ w a s sig t pri, PlainEv a sig → R w (Sim.sched w a s sig t pri).1
  guardRemove : ∀ w g p, R w (Sim.guardRemove w g p).1
  signal : ∀ w g, R w (Sim.signal w g)

section
variable {R : World → World → Prop} (hR : Foot R)
include hR

theorem Foot.fail (w : World) (m : String) : R w (w.fail m) := hR.same (Same.fail w m)
theorem Foot.emit (w : World) (l : String) : R w (w.emit l) := hR.same (Same.emit w l)

theorem Foot.cancelAllFor (w : World) (p : Pid) : R w (cancelAllFor w p) :=
  hR.toPath.foldl (fun w h => hR.evCancel w h) _ w

theorem Foot.cancelKindFor (w : World) (p : Pid) (act : Nat) (sig : Option Int) : R w (cancelKindFor w p act sig).1 :=
  hR.toPath.foldl (fun w h => hR.evCancel w h) _ w

theorem Foot.cancelUserAll (w : World) : R w (cancelUserAll w).1 := hR.toPath.foldl (fun w h => hR.evCancel w h) _ w

theorem Foot.guardWithdraw (w : World) (g : Nat) (p : Pid) : R w (guardWithdraw w g p) := by
  have h1 := hR.guardRemove w g p
  have h2 := hR.trans h1 (hR.cancelKindFor (Sim.guardRemove w g p).1 p aRes (some sigSuccess))
  show R w (if (Sim.guardRemove w g p).2 = true then (Sim.guardRemove w g p).1 else
    if (Sim.cancelKindFor (Sim.guardRemove w g p).1 p aRes (some sigSuccess)).2 > 0 then
      Sim.signal (Sim.cancelKindFor (Sim.guardRemove w g p).1 p aRes (some sigSuccess)).1 g
    else (Sim.cancelKindFor (Sim.guardRemove w g p).1 p aRes (some sigSuccess)).1)
  split
  · exact h1
  · split
    · exact hR.trans h2 (hR.signal _ g)
    · exact h2

theorem Foot.poolDropHolder (w : World) (pl : Nat) (p : Pid) : R w (poolDropHolder w pl p) := by
  unfold Sim.poolDropHolder
  split
  · exact hR.refl w
  · rename_i x hx
    split
    · exact hR.refl w
    · split
      · dsimp only
        exact hR.trans (hR.same ((Same.poolSet hx _).trans (Same.recordPool _ pl))) (hR.signal _ _)
      · exact hR.fail w _
    · exact hR.fail w _

theorem Foot.dropStep (p : Pid) (w : World) (h : HoldRef) : R w (S3.dropStep p w h) := by
  cases h with
  | res r =>
    unfold S3.dropStep
    dsimp only
    split
    · rename_i x hx
      exact hR.trans (hR.same ((Same.resSet hx _).trans (Same.recordRes _ r))) (hR.signal _ _)
    · exact hR.refl w
  | pool pl => exact hR.poolDropHolder w pl p

theorem Foot.dropResources (w : World) (p : Pid) : R w (dropResources w p) := by
  rw [dropResources_eq]
  exact hR.trans (hR.same (Same.modProc w p _)) (hR.toPath.foldl (fun w h => hR.dropStep p w h) _ _)

theorem Foot.poolMug (fuel : Nat) (w : World) (p : Pid) (pl rem : Nat) : R w (poolMug fuel w p pl rem).1 := by
  refine poolMug_rel hR.toPath p pl (fun w _ _ m _ _ _ => hR.fail w m) ?_ (fun w n => hR.same (Same.poolUpdateRecord w pl p n)) ?_ fuel w rem
  · intro w x top h' t hx _ _ _ _
    exact hR.trans (hR.same ((Same.poolSet hx _).trans (Same.removeHeld _ _ _))) (hR.sched _ aIntr _ sigPreempted _ _ (by decide))
  · intro w x rem surplus
    exact hR.trans (hR.same ((Same.poolUpdateRecord w pl p rem).trans ((Same.setPoolInUse _ pl _).trans (Same.recordPool _ pl))))
      (hR.signal _ _)

theorem Foot.poolRollback (w : World) (p : Pid) (pl ini : Nat) : R w (poolRollback w p pl ini) := by
  unfold Sim.poolRollback
  split
  · exact hR.refl w
  · rename_i x hx
    dsimp only
    split
    · split
      · exact hR.trans (hR.same ((Same.setHeldAmount w pl p ini).trans ((Same.setPoolInUse _ pl _).trans (Same.recordPool _ pl))))
          (hR.signal _ _)
      · exact hR.refl w
    · have h1 := (Same.setPoolInUse w pl (x.inUse - heldAmount w pl p)).trans (Same.recordPool _ pl)
      split
      · refine hR.trans (hR.same (h1.trans ?_)) (hR.signal _ _)
        split
        · exact (Same.poolMod _ pl _).trans (Same.removeHeld _ p _)
        · exact Same.poolMod _ pl _
      · exact hR.trans (hR.same h1) (hR.fail _ _)

end

/-- `R` holds across any change of the waiting lists and across grants and condition wake-ups -/
structure GuardFree (R : World → World → Prop) : Prop extends Path R where
  same : ∀ {w w'}, Same w w' → R w w'
  evCancel : ∀ w h, R w (Sim.evCancel w h).1
  sched : ∀ w a s sig t pri, PlainEv a sig → R w (Sim.sched w a s sig t pri).1
  guards : ∀ (w : World) (x : Array Guard), R w { w with guards := x }
  wake : ∀ w a s t pri, a = aRes ∨ a = aCond → R w (Sim.sched w a s sigSuccess t pri).1

section
variable {R : World → World → Prop} (hR : GuardFree R)
include hR

theorem GuardFree.guardRemove (w : World) (g : Nat) (p : Pid) : R w (guardRemove w g p).1 := by
  unfold Sim.guardRemove
  split
  · split
    · exact hR.guards w _
    · exact hR.same (Same.fail w _)
  · exact hR.refl w

theorem GuardFree.reprioGuard (w : World) (q : Pid) (v : Int) (g : Nat) : R w (reprioGuard w q v g) := by
  unfold S3.reprioGuard
  split
  · split
    · split
      · split
        · exact hR.guards w _
        · exact hR.same (Same.fail w _)
      · exact hR.same (Same.fail w _)
    · exact hR.refl w
  · exact hR.refl w

theorem GuardFree.frontStep (w : World) (g : Nat) (gd : Guard) : R w (frontStep w g gd) :=
  Sim.frontStep_rel hR.toPath (fun w m => hR.same (Same.fail w m)) (fun w _ _ => hR.guards w _)
    (fun w s pri => hR.wake w _ s w.now pri (Or.inl rfl)) w g gd

theorem GuardFree.condSignal (w : World) (g : Nat) : R w (condSignal w g).1 :=
  Sim.condSignal_rel hR.toPath (fun w s pri => hR.wake w _ s w.now pri (Or.inr rfl)) hR.guardRemove w g

theorem GuardFree.guardSignalF (fuel : Nat) (fwd : Bool) (w : World) (g : Nat) : R w (guardSignalF fwd fuel w g) :=
  Sim.guardSignalF_rel hR.toPath (fun w m => hR.same (Same.fail w m)) (fun w g gd _ => hR.frontStep w g gd)
    (fun w g _ => hR.condSignal w g) fuel fwd w g

theorem GuardFree.foot : Foot R :=
  { hR.toPath with same := hR.same, evCancel := hR.evCancel, sched := hR.sched, guardRemove := hR.guardRemove,
                   signal := hR.guardSignalF 8 false }

end

theorem Foot.and {R1 R2 : World → World → Prop} (h1 : Foot R1) (h2 : Foot R2) : Foot fun w w' => R1 w w' ∧ R2 w w' where
  refl := fun w => ⟨h1.refl w, h2.refl w⟩
  trans := fun a b => ⟨h1.trans a.1 b.1, h2.trans a.2 b.2⟩
  same := fun h => ⟨h1.same h, h2.same h⟩
  evCancel := fun w h => ⟨h1.evCancel w h, h2.evCancel w h⟩
  sched := fun w a s sig t pri h => ⟨h1.sched w a s sig t pri h, h2.sched w a s sig t pri h⟩
  guardRemove := fun w g p => ⟨h1.guardRemove w g p, h2.guardRemove w g p⟩
  signal := fun w g => ⟨h1.signal w g, h2.signal w g⟩

theorem Stat.foot : Foot Stat where
  refl := Stat.refl
  trans := Stat.trans
  same := fun h => h.stat
  evCancel := fun _ h => Stat.eff (.evCancel .refl h)
  sched := fun w a s sig t pri _ => (Stat.refl w).sched_fst a s sig t pri
  guardRemove := fun _ g p => Stat.eff (.guardRemove .refl g p)
  signal := fun w g => (Stat.refl w).signal g

end CimbaModel.Sim.S3
