/-
  S2 — recorded histories (C14): resource pools.  `HoldersOnly`: the primitives that keep a holder's record write
  nothing else of a pool.
-/
import CimbaModel.Sim.S2HistInv

namespace CimbaModel.Sim
open CimbaModel CimbaModel.Event CimbaModel.Generated CimbaModel.KPQ
open CimbaModel.HashHeap (HTag Item Order HH)

def HoldersOnly (a a' : Array Pool) : Prop :=
  a' = a ∨ ∃ pl x h', a[pl]? = some x ∧ a' = a.setIfInBounds pl { x with holders := h' }

theorem HoldersOnly.exc {a a' : Array Pool} (ho : HoldersOnly a a') {n : Int} {i : Nat} (h : OKexc poolOps n i a) :
    OKexc poolOps n i a' := by
  rcases ho with rfl | ⟨pl, x, h', hx, rfl⟩
  · exact h
  · exact OKexc.set_same _ h hx rfl rfl rfl

theorem holdersOnly_set {a : Array Pool} {pl : Nat} {x : Pool} (hx : a[pl]? = some x) (h' : HH) :
    HoldersOnly a (a.set! pl { x with holders := h' }) := by
  rw [Array.set!_eq_setIfInBounds]; exact Or.inr ⟨pl, x, h', hx, rfl⟩

theorem holdersOnly_modify (a : Array Pool) (pl : Nat) (h' : HH) :
    HoldersOnly a (a.modify pl fun y => { y with holders := h' }) := by
  cases hx : a[pl]? with
  | none =>
    left
    apply Array.ext
    · simp
    · intro i h1 h2
      have : a[pl]? = none := hx
      rw [Array.getElem_modify]
      split
      · rename_i e; subst e
        rw [Array.getElem?_eq_getElem h2] at this; cases this
      · rfl
  | some x =>
    right
    refine ⟨pl, x, h', hx, ?_⟩
    apply Array.ext
    · simp
    · intro i h1 h2
      rw [Array.getElem_modify, Array.getElem_setIfInBounds]
      split
      · rename_i e; subst e
        obtain ⟨hlt, hget⟩ := Array.getElem?_eq_some_iff.1 hx
        rw [hget]
      · rfl

theorem poolUpdateRecord_holdersOnly (w : World) (pl : Nat) (p : Pid) (amt : Nat) :
    HoldersOnly w.pools (poolUpdateRecord w pl p amt).pools := by
  unfold poolUpdateRecord
  cases hx : w.pools[pl]? with
  | none => exact Or.inl rfl
  | some x =>
    dsimp only
    have henq : HoldersOnly w.pools
        (match HashHeap.enqueue holder_queue_check x.holders ⟨p + 1, amt, 0, 0⟩ (p + 1) 0
            ((w.modProc p fun y => { y with held := .pool pl :: y.held }).proc p).prio with
        | .ok (h', _) => { (w.modProc p fun y => { y with held := .pool pl :: y.held }) with
            pools := (w.modProc p fun y => { y with held := .pool pl :: y.held }).pools.set! pl { x with holders := h' } }
        | .error f => (w.modProc p fun y => { y with held := .pool pl :: y.held }).fail s!"pool record enqueue: {f}").pools := by
      split
      · exact holdersOnly_set (a := w.pools) hx _
      · exact Or.inl (by simp)
    by_cases hc : x.holders.count = 0
    · simp only [hc, if_true, Bool.false_eq_true, if_false]
      exact henq
    · cases hfi : HashHeap.findIndex x.holders (p + 1) with
      | error f =>
        simp only [hc, if_false, Bool.false_eq_true]
        exact henq
      | ok i =>
        by_cases hi0 : i = 0
        · simp only [hc, if_false, hi0, ne_eq, not_true_eq_false, decide_false, Bool.false_eq_true]
          exact henq
        · simp only [hc, if_false, ne_eq, hi0, not_false_eq_true, decide_true, if_true]
          exact holdersOnly_set hx _

theorem setHeldAmount_holdersOnly (w : World) (pl : Nat) (p : Pid) (a : Nat) :
    HoldersOnly w.pools (setHeldAmount w pl p a).pools := by
  unfold setHeldAmount
  cases hx : w.pools[pl]? with
  | none => exact Or.inl rfl
  | some x =>
    dsimp only
    cases hfi : HashHeap.findIndex x.holders (p + 1) with
    | error f => exact Or.inl (by simp)
    | ok i =>
      dsimp only
      split
      · exact Or.inl (by simp)
      · exact holdersOnly_set hx _

theorem recPool : RecKind poolOps World.pools where
  same hs := hs.pools_eq
  tick _ _ _ := rfl
  clear _ _ _ := rfl
  exec w p c := (execCmd_ft w p c).toRecPool
  resume w p f sig := (resumeFrame_ft w p f sig).toRecPool
  finish w p v st := (finishProc_ft w p v st).toRecPool

theorem HistPool.update {w : World} (pl : Nat) (p : Pid) (amt : Nat) (h : HistPool w) : HistPool (poolUpdateRecord w pl p amt) :=
  (poolUpdateRecord_ft w pl p amt).toRecPool.hist h

theorem HistPool.finishProc {w : World} (p : Pid) (v : Int) (st : Bool) (h : HistPool w) : HistPool (finishProc w p v st) :=
  (recPool.finish w p v st).hist h

theorem HistPool.preserved : Preserved (fun w => TimeOk w.ev ∧ HistPool w) := recPool.preserved

end CimbaModel.Sim
