/-
  S2 — footprints.  `Fp m w w'`: the step from `w` to `w'` changed at most the object arrays and the process fields
  `held`, `blocked`, `prio` flagged in the mask `m`; the clock, "nothing pending in the past" and the number of
  processes are always kept.  Here: the relation and the atomic updates; the functions built from them are walked in
  S2Ft, for `Fp` and its finer columns at once.
-/
import CimbaModel.Sim.S2Frame

namespace CimbaModel.Sim
open CimbaModel CimbaModel.Event CimbaModel.Generated
open CimbaModel.HashHeap (HTag Item Order HH)

/-- `true` = may change -/
structure Mask where
  res : Bool := false
  pools : Bool := false
  bufs : Bool := false
  oqs : Bool := false
  pqs : Bool := false
  held : Bool := false
  blocked : Bool := false
  prio : Bool := false
  deriving DecidableEq, Repr

def Mask.le (a b : Mask) : Bool :=
  (!a.res || b.res) && (!a.pools || b.pools) && (!a.bufs || b.bufs) && (!a.oqs || b.oqs) && (!a.pqs || b.pqs) &&
  (!a.held || b.held) && (!a.blocked || b.blocked) && (!a.prio || b.prio)

/-- a reducible conjunction like `Same`, not a structure: a `simp` lemma `f_fp` then is one rewrite rule per conjunct,
    each under its side condition `m.x = false`, which `simp` closes by evaluating the literal mask.  Read it through
    `Fp.res_eq` … `Fp.prio_eq` below. -/
@[reducible] def Fp (m : Mask) (w w' : World) : Prop :=
  (m.res = false → w'.res = w.res) ∧ (m.pools = false → w'.pools = w.pools) ∧ (m.bufs = false → w'.bufs = w.bufs) ∧
  (m.oqs = false → w'.oqs = w.oqs) ∧ (m.pqs = false → w'.pqs = w.pqs) ∧
  w'.now = w.now ∧ (TimeOk w.ev → TimeOk w'.ev) ∧ w'.procs.size = w.procs.size ∧
  (m.held = false → ∀ p, (w'.proc p).held = (w.proc p).held) ∧
  (m.blocked = false → ∀ p, (w'.proc p).blocked = (w.proc p).blocked) ∧
  (m.prio = false → ∀ p, (w'.proc p).prio = (w.proc p).prio)

theorem Fp.refl (m : Mask) (w : World) : Fp m w w :=
  ⟨fun _ => rfl, fun _ => rfl, fun _ => rfl, fun _ => rfl, fun _ => rfl, rfl, id, rfl, fun _ _ => rfl, fun _ _ => rfl,
    fun _ _ => rfl⟩

theorem Fp.trans {m : Mask} {a b c : World} (h1 : Fp m a b) (h2 : Fp m b c) : Fp m a c := by
  obtain ⟨r1, p1, b1, o1, k1, n1, t1, s1, e1, f1, g1⟩ := h1
  obtain ⟨r2, p2, b2, o2, k2, n2, t2, s2, e2, f2, g2⟩ := h2
  exact ⟨fun h => (r2 h).trans (r1 h), fun h => (p2 h).trans (p1 h), fun h => (b2 h).trans (b1 h),
    fun h => (o2 h).trans (o1 h), fun h => (k2 h).trans (k1 h), n2.trans n1, fun h => t2 (t1 h),
    s2.trans s1, fun h p => (e2 h p).trans (e1 h p), fun h p => (f2 h p).trans (f1 h p), fun h p => (g2 h p).trans (g1 h p)⟩

theorem Fp.path (m : Mask) : Path (Fp m) := ⟨Fp.refl m, Fp.trans⟩

theorem Fp.mono {m m' : Mask} {w w' : World} (hm : m.le m' = true) (h : Fp m w w') : Fp m' w w' := by
  obtain ⟨r1, p1, b1, o1, k1, n1, t1, s1, e1, f1, g1⟩ := h
  simp only [Mask.le, Bool.and_eq_true] at hm
  obtain ⟨⟨⟨⟨⟨⟨⟨hr, hp⟩, hb⟩, ho⟩, hk⟩, hh⟩, hbl⟩, hpr⟩ := hm
  -- a field that `m'` keeps is kept by `m` as well
  have sub : ∀ {a b : Bool}, (!a || b) = true → b = false → a = false := by
    intro a b hab hb; subst hb; cases a
    · rfl
    · cases hab
  exact ⟨fun h => r1 (sub hr h), fun h => p1 (sub hp h), fun h => b1 (sub hb h), fun h => o1 (sub ho h),
    fun h => k1 (sub hk h), n1, t1, s1, fun h => e1 (sub hh h), fun h => f1 (sub hbl h), fun h => g1 (sub hpr h)⟩

theorem Same.fp (m : Mask) {w w' : World} (h : Same w w') : Fp m w w' := by
  obtain ⟨r1, p1, b1, o1, k1, n1, t1, s1, e1, f1, g1⟩ := h
  exact ⟨fun _ => r1, fun _ => p1, fun _ => b1, fun _ => o1, fun _ => k1, n1, t1, s1, fun _ => e1, fun _ => f1, fun _ => g1⟩

theorem Fp.same {w w' : World} (h : Fp {} w w') : Same w w' := by
  obtain ⟨r1, p1, b1, o1, k1, n1, t1, s1, e1, f1, g1⟩ := h
  exact ⟨r1 rfl, p1 rfl, b1 rfl, o1 rfl, k1 rfl, n1, t1, s1, e1 rfl, f1 rfl, g1 rfl⟩

theorem Fp.res_eq {m : Mask} {w w' : World} (h : Fp m w w') (hm : m.res = false) : w'.res = w.res := h.1 hm
theorem Fp.pools_eq {m : Mask} {w w' : World} (h : Fp m w w') (hm : m.pools = false) : w'.pools = w.pools := h.2.1 hm
theorem Fp.bufs_eq {m : Mask} {w w' : World} (h : Fp m w w') (hm : m.bufs = false) : w'.bufs = w.bufs := h.2.2.1 hm
theorem Fp.oqs_eq {m : Mask} {w w' : World} (h : Fp m w w') (hm : m.oqs = false) : w'.oqs = w.oqs := h.2.2.2.1 hm
theorem Fp.pqs_eq {m : Mask} {w w' : World} (h : Fp m w w') (hm : m.pqs = false) : w'.pqs = w.pqs := h.2.2.2.2.1 hm
theorem Fp.now_eq {m : Mask} {w w' : World} (h : Fp m w w') : w'.now = w.now := h.2.2.2.2.2.1
theorem Fp.timeOk {m : Mask} {w w' : World} (h : Fp m w w') : TimeOk w.ev → TimeOk w'.ev := h.2.2.2.2.2.2.1
theorem Fp.size_eq {m : Mask} {w w' : World} (h : Fp m w w') : w'.procs.size = w.procs.size := h.2.2.2.2.2.2.2.1
theorem Fp.held_eq {m : Mask} {w w' : World} (h : Fp m w w') (hm : m.held = false) (q : Pid) :
    (w'.proc q).held = (w.proc q).held := h.2.2.2.2.2.2.2.2.1 hm q
theorem Fp.blocked_eq {m : Mask} {w w' : World} (h : Fp m w w') (hm : m.blocked = false) (q : Pid) :
    (w'.proc q).blocked = (w.proc q).blocked := h.2.2.2.2.2.2.2.2.2.1 hm q
theorem Fp.prio_eq {m : Mask} {w w' : World} (h : Fp m w w') (hm : m.prio = false) (q : Pid) :
    (w'.proc q).prio = (w.proc q).prio := h.2.2.2.2.2.2.2.2.2.2 hm q

/-! The masks in use, named by the columns that may change.  A final `B`: the caller may also be suspended
    (`blocked`); `mEndNB` is `mEnd` without it. -/
@[reducible] def mRes : Mask := { res := true }
@[reducible] def mPools : Mask := { pools := true }
@[reducible] def mBufs : Mask := { bufs := true }
@[reducible] def mOqs : Mask := { oqs := true }
@[reducible] def mPqs : Mask := { pqs := true }
@[reducible] def mHeld : Mask := { held := true }
@[reducible] def mResHeld : Mask := { res := true, held := true }
@[reducible] def mPoolsHeld : Mask := { pools := true, held := true }
@[reducible] def mEnd : Mask := { res := true, pools := true, held := true, blocked := true }
@[reducible] def mBlocked : Mask := { blocked := true }
@[reducible] def mEndNB : Mask := { res := true, pools := true, held := true }
@[reducible] def mHeldB : Mask := { held := true, blocked := true, prio := true }
@[reducible] def mPoolsPrio : Mask := { pools := true, prio := true }
@[reducible] def mPrio : Mask := { prio := true }
@[reducible] def mResHeldB : Mask := { res := true, held := true, blocked := true }
@[reducible] def mPoolsHeldB : Mask := { pools := true, held := true, blocked := true }
@[reducible] def mBufsB : Mask := { bufs := true, blocked := true }
@[reducible] def mOqsB : Mask := { oqs := true, blocked := true }
@[reducible] def mPqsB : Mask := { pqs := true, blocked := true }
attribute [simp] mRes mPools mBufs mOqs mPqs mHeld mResHeld mPoolsHeld mEnd mBlocked mHeldB mResHeldB mPoolsHeldB mBufsB mOqsB mPqsB mEndNB mPoolsPrio mPrio

theorem fp_res (w : World) (a : Array Res) : Fp mRes w { w with res := a } :=
  ⟨nofun, fun _ => rfl, fun _ => rfl, fun _ => rfl, fun _ => rfl, rfl, id, rfl, fun _ _ => rfl, fun _ _ => rfl, fun _ _ => rfl⟩

theorem fp_pools (w : World) (a : Array Pool) : Fp mPools w { w with pools := a } :=
  ⟨fun _ => rfl, nofun, fun _ => rfl, fun _ => rfl, fun _ => rfl, rfl, id, rfl, fun _ _ => rfl, fun _ _ => rfl, fun _ _ => rfl⟩

theorem fp_bufs (w : World) (a : Array Buf) : Fp mBufs w { w with bufs := a } :=
  ⟨fun _ => rfl, fun _ => rfl, nofun, fun _ => rfl, fun _ => rfl, rfl, id, rfl, fun _ _ => rfl, fun _ _ => rfl, fun _ _ => rfl⟩

theorem fp_oqs (w : World) (a : Array OQ) : Fp mOqs w { w with oqs := a } :=
  ⟨fun _ => rfl, fun _ => rfl, fun _ => rfl, nofun, fun _ => rfl, rfl, id, rfl, fun _ _ => rfl, fun _ _ => rfl, fun _ _ => rfl⟩

theorem fp_pqs (w : World) (a : Array PQ) : Fp mPqs w { w with pqs := a } :=
  ⟨fun _ => rfl, fun _ => rfl, fun _ => rfl, fun _ => rfl, nofun, rfl, id, rfl, fun _ _ => rfl, fun _ _ => rfl, fun _ _ => rfl⟩

/-- a change of a field that no mask speaks of (guards, waiters of events, variables, flags) -/
theorem same_mk (w : World) (evw g c fl gv) :
    Same w ⟨w.ev, evw, w.procs, g, w.res, w.pools, w.bufs, w.oqs, w.pqs, c, fl, gv, w.log, w.fault, w.dispatched⟩ :=
  ⟨rfl, rfl, rfl, rfl, rfl, rfl, id, rfl, fun _ => rfl, fun _ => rfl, fun _ => rfl⟩

theorem removeHeld_proc (w : World) (p q : Pid) (h : HoldRef) :
    ((removeHeld w p h).1.proc q).held =
      if q = p then (w.proc q).held.filter (· ≠ h) else (w.proc q).held := by
  unfold removeHeld
  simp only [proc_modProc]
  by_cases hq : q = p
  · subst hq
    by_cases hs : q < w.procs.size
    · simp [hs]
    · have : w.proc q = {} := by
        unfold World.proc
        simp [Array.getD_eq_getD_getElem?, Array.getElem?_eq_none (Nat.le_of_not_lt hs)]
      simp [hs, this]
  · simp [hq]

@[simp] theorem modProc_fp (w : World) (p : Pid) (f : Proc → Proc) : Fp mHeldB w (w.modProc p f) :=
  ⟨fun _ => rfl, fun _ => rfl, fun _ => rfl, fun _ => rfl, fun _ => rfl, rfl, id, modProc_size w p f, nofun, nofun, nofun⟩

theorem modProc_fp_held (w : World) (p : Pid) (f : Proc → Proc) (hb : ∀ x, (f x).blocked = x.blocked)
    (hp : ∀ x, (f x).prio = x.prio) : Fp mHeld w (w.modProc p f) :=
  ⟨fun _ => rfl, fun _ => rfl, fun _ => rfl, fun _ => rfl, fun _ => rfl, rfl, id, modProc_size w p f, nofun,
    fun _ q => modProc_blocked w p q f hb, fun _ q => modProc_prio w p q f hp⟩

theorem modProc_fp_prio (w : World) (p : Pid) (f : Proc → Proc) (hf : ∀ x, (f x).held = x.held)
    (hb : ∀ x, (f x).blocked = x.blocked) : Fp mPrio w (w.modProc p f) :=
  ⟨fun _ => rfl, fun _ => rfl, fun _ => rfl, fun _ => rfl, fun _ => rfl, rfl, id, modProc_size w p f,
    fun _ q => modProc_held w p q f hf, fun _ q => modProc_blocked w p q f hb, nofun⟩

theorem modProc_fp_blocked (w : World) (p : Pid) (f : Proc → Proc) (hf : ∀ x, (f x).held = x.held)
    (hp : ∀ x, (f x).prio = x.prio) : Fp mBlocked w (w.modProc p f) :=
  ⟨fun _ => rfl, fun _ => rfl, fun _ => rfl, fun _ => rfl, fun _ => rfl, rfl, id, modProc_size w p f,
    fun _ q => modProc_held w p q f hf, nofun, fun _ q => modProc_prio w p q f hp⟩

theorem removeHeld_fp (w : World) (p : Pid) (h : HoldRef) : Fp mHeld w (removeHeld w p h).1 :=
  modProc_fp_held w p _ (fun _ => rfl) (fun _ => rfl)

theorem block_fp (w : World) (p : Pid) (f : Frame) : Fp mBlocked w (block w p f).1 :=
  modProc_fp_blocked w p _ (fun _ => rfl) (fun _ => rfl)

/-- the scope of a mask: what the mask keeps is out of reach -/
def Scope.ofMask (m : Mask) : Scope :=
  { Same.scope with
    prio := if m.prio then .any else .no
    heldR := if m.held then .any else .no
    heldP := if m.held then .any else .no
    blocked := if m.blocked then .any else .no
    res := m.res, pools := m.pools, bufs := m.bufs, oqs := m.oqs, pqs := m.pqs, avail := true, ph := true }

theorem Fp.ofEff {m : Mask} {p : Pid} {w w' : World} (h : Eff p (Scope.ofMask m) w w') : Fp m w w' :=
  have o := h.outside
  have no : ∀ {b : Bool}, b = false → (if b then Who.any else Who.no) = .no := fun e => by rw [e]; rfl
  ⟨o.res, o.pools, o.bufs, o.oqs, o.pqs, o.now, TimeOk.ofEff h, o.psize, fun e q => o.held q ⟨.inl (no e), .inl (no e)⟩,
    fun e q => o.blocked q (.inl (no e)), fun e q => o.prio q (.inl (no e))⟩

theorem recordRes_fp (w : World) (r : Nat) : Fp mRes w (recordRes w r) := Fp.ofEff (p := 0) (Eff.recordRes .refl r)
theorem recordPool_fp (w : World) (r : Nat) : Fp mPools w (recordPool w r) := Fp.ofEff (p := 0) (Eff.recordPool .refl r)
theorem recordBuf_fp (w : World) (r : Nat) : Fp mBufs w (recordBuf w r) := Fp.ofEff (p := 0) (Eff.recordBuf .refl r)
theorem recordOQ_fp (w : World) (r : Nat) : Fp mOqs w (recordOQ w r) := Fp.ofEff (p := 0) (Eff.recordOQ .refl r)
theorem recordPQ_fp (w : World) (r : Nat) : Fp mPqs w (recordPQ w r) := Fp.ofEff (p := 0) (Eff.recordPQ .refl r)

@[simp] theorem recordRes_proc (w : World) (r : Nat) (q : Pid) : (recordRes w r).proc q = w.proc q := by
  unfold recordRes
  split
  · split
    · rfl
    · rfl
  · rfl
@[simp] theorem recordPool_proc (w : World) (r : Nat) (q : Pid) : (recordPool w r).proc q = w.proc q := by
  unfold recordPool
  split
  · split
    · rfl
    · rfl
  · rfl
@[simp] theorem recordBuf_proc (w : World) (r : Nat) (q : Pid) : (recordBuf w r).proc q = w.proc q := by
  unfold recordBuf
  split
  · split
    · rfl
    · rfl
  · rfl
@[simp] theorem recordOQ_proc (w : World) (r : Nat) (q : Pid) : (recordOQ w r).proc q = w.proc q := by
  unfold recordOQ
  split
  · split
    · rfl
    · rfl
  · rfl
@[simp] theorem recordPQ_proc (w : World) (r : Nat) (q : Pid) : (recordPQ w r).proc q = w.proc q := by
  unfold recordPQ
  split
  · split
    · rfl
    · rfl
  · rfl

theorem grab_fp (w : World) (r : Nat) (p : Pid) : Fp mResHeld w (grab w r p) := Fp.ofEff (p := p) (Eff.grab .refl r p)

theorem setPoolInUse_fp (w : World) (pl v : Nat) : Fp mPools w (setPoolInUse w pl v) := fp_pools w _

/-- what `recStart` / `recStop` on an object of kind `kind` may touch -/
def recMask (kind : Nat) : Mask :=
  match kind with
  | 0 => mRes | 1 => mPools | 2 => mBufs | 3 => mOqs | _ => mPqs

theorem recMask_procs (k : Nat) : (recMask k).held = false ∧ (recMask k).blocked = false ∧ (recMask k).prio = false :=
  match k with
  | 0 => ⟨rfl, rfl, rfl⟩ | 1 => ⟨rfl, rfl, rfl⟩ | 2 => ⟨rfl, rfl, rfl⟩ | 3 => ⟨rfl, rfl, rfl⟩ | _ + 4 => ⟨rfl, rfl, rfl⟩

@[simp] theorem proc_mk (ev evw) (w : World) (g r pl b o k c fl gv lg ft d) (p : Pid) :
    World.proc ⟨ev, evw, w.procs, g, r, pl, b, o, k, c, fl, gv, lg, ft, d⟩ p = w.proc p := by
  unfold World.proc; exact rfl
@[simp] theorem now_mk (evw pr) (w : World) (g r pl b o k c fl gv lg ft d) :
    World.now ⟨w.ev, evw, pr, g, r, pl, b, o, k, c, fl, gv, lg, ft, d⟩ = w.now := rfl

end CimbaModel.Sim
