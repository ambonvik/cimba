/-
  S3 — the grant invariant: handles that are cancelled by value never name a grant.
  `KRel S w w'`: besides `Evo`, a newly recorded `hold h` frame or a newly written handle variable in `S` holds a
  handle that is not the handle of a pending grant and never will be (`NGc`), and a newly recorded `pqPut … v` frame has
  `v ∉ S`.  `S` = the variables read by `cancelUser` / `timerCancel`.  The two side conditions are what the atoms `block`
  and `setVar` of `Eff` say at the call site (the handle is the one `sched` has just returned for a timer or user event),
  so `KRel` holds across every function of the library within a scope that stores queue handles outside `S` (`KRel.ofEff`).
-/
import CimbaModel.Sim.S3GrantBase

namespace CimbaModel.Sim.S3
open CimbaModel CimbaModel.Sim CimbaModel.Event CimbaModel.Generated CimbaModel.KPQ
open CimbaModel.HashHeap (HTag Item Order HH WF abs liveTags)

/-- no pending grant has handle `h` -/
def NG (w : World) (h : Nat) : Prop := ∀ e ∈ w.ev.pending, e.key = h → ¬ isG01 e

/-- … and none ever will: `h` has already been issued -/
def NGc (w : World) (h : Nat) : Prop := h ≤ w.ev.counter ∧ NG w h

theorem NGc.ofEvo {w w' : World} {h : Nat} (hn : NGc w h) (he : Evo w w') : NGc w' h := by
  refine ⟨Nat.le_trans hn.1 he.counter, ?_⟩
  intro e' he' hk hg
  obtain ⟨e, hm, hk', _, hi⟩ := he.stable e' he' (by rw [hk]; exact hn.1)
  exact hn.2 e hm (hk'.trans hk) (by unfold isG01 at *; rw [hi]; exact hg)

theorem NGc.zero {w : World} (hi : EvInv w.ev) : NGc w 0 := by
  refine ⟨Nat.zero_le _, ?_⟩
  intro e he hk
  have : e.key ∈ List.range' 1 w.ev.counter := by
    apply hi.part.mem_iff.1
    simp only [List.mem_append]
    exact Or.inl (Or.inl (Event.mem_keys.2 ⟨e, he, rfl⟩))
  simp [List.mem_range'] at this
  omega

/-- what a recorded frame may hold: the handle of a `hold` names no grant, the variable of a `pqPut` is not in `S` -/
def FrameOk (S : Nat → Prop) (w : World) : Frame → Prop
  | .hold h => NGc w h
  | .pqPut _ _ _ v => ¬ S v
  | _ => True

theorem FrameOk.ofEvo {S : Nat → Prop} {w w' : World} {f : Frame} (h : FrameOk S w f) (he : Evo w w') : FrameOk S w' f := by
  cases f <;> first | exact h | exact NGc.ofEvo h he

structure KRel (S : Nat → Prop) (w w' : World) : Prop where
  evo : Evo w w'
  /-- a frame recorded since `w` is in order -/
  fo : ∀ p f, (w'.proc p).blocked = some f → (w.proc p).blocked = some f ∨ FrameOk S w' f
  /-- a variable in `S` written since `w` holds a handle that names no grant -/
  cv : ∀ v, S v → ∀ p, getVar w' p v = getVar w p v ∨ NGc w' (getVar w' p v)

variable {S : Nat → Prop}

theorem KRel.refl (w : World) : KRel S w w := ⟨Evo.refl w, fun _ _ h => Or.inl h, fun _ _ _ => Or.inl rfl⟩

theorem KRel.trans {w w1 w2 : World} (h1 : KRel S w w1) (h2 : KRel S w1 w2) : KRel S w w2 := by
  refine ⟨h1.evo.trans h2.evo, ?_, ?_⟩
  · intro p f hb
    rcases h2.fo p f hb with h | h
    · rcases h1.fo p f h with h' | h'
      · exact Or.inl h'
      · exact Or.inr (h'.ofEvo h2.evo)
    · exact Or.inr h
  · intro v hv p
    rcases h2.cv v hv p with h | h
    · rcases h1.cv v hv p with h' | h'
      · exact Or.inl (h.trans h')
      · right; rw [h]; exact h'.ofEvo h2.evo
    · exact Or.inr h

theorem getVar_congr {w w' : World} (hg : w'.gvars = w.gvars) (hp : ∀ p, (w'.proc p).vars = (w.proc p).vars) (p : Pid) (v : Nat) :
    getVar w' p v = getVar w p v := by
  unfold getVar; rw [hg, hp]

theorem KRel.step {w0 w w' : World} (h : KRel S w0 w) (hevo : Evo w w')
    (hb : ∀ p, (w'.proc p).blocked = (w.proc p).blocked ∨ (w'.proc p).blocked = none)
    (hg : w'.gvars = w.gvars) (hv : ∀ p, (w'.proc p).vars = (w.proc p).vars) : KRel S w0 w' := by
  refine h.trans ⟨hevo, ?_, fun v _ p => Or.inl (getVar_congr hg hv p v)⟩
  intro p f hf
  rcases hb p with e | e
  · rw [e] at hf; exact Or.inl hf
  · rw [e] at hf; cases hf

theorem KRel.same {w0 w w' : World} (h : KRel S w0 w) (hevo : Evo w w') (hp : w'.procs = w.procs) (hg : w'.gvars = w.gvars) :
    KRel S w0 w' :=
  h.step hevo (fun p => Or.inl (by unfold World.proc; rw [hp])) hg (fun p => by unfold World.proc; rw [hp])

theorem KRel.fail {w0 w : World} (h : KRel S w0 w) (m : String) : KRel S w0 (w.fail m) :=
  h.same ((Evo.refl w).fail m) (by simp) (by unfold World.fail; split <;> rfl)

theorem KRel.emit {w0 w : World} (h : KRel S w0 w) (l : String) : KRel S w0 (w.emit l) := h.same ((Evo.refl w).emit l) rfl rfl

theorem KRel.modProc {w0 w : World} (h : KRel S w0 w) (p : Pid) (f : Proc → Proc)
    (hf : ∀ x, ((f x).blocked = x.blocked ∨ (f x).blocked = none) ∧ (f x).vars = x.vars) : KRel S w0 (w.modProc p f) := by
  refine h.step ((Evo.refl w).modProc p f) (fun q => ?_) rfl (fun q => ?_)
  · rw [modProc_proc]; split
    · rename_i hq; rw [hq.1]; exact (hf _).1
    · exact Or.inl rfl
  · rw [modProc_proc]; split
    · rename_i hq; rw [hq.1]; exact (hf _).2
    · rfl

theorem KRel.setEvWaiters {w0 w : World} (h : KRel S w0 w) (x : List (Nat × List Pid)) : KRel S w0 { w with evWaiters := x } :=
  h.same ((Evo.refl w).same rfl rfl rfl rfl rfl rfl) rfl rfl

theorem KRel.setRes {w0 w : World} (h : KRel S w0 w) (x : Array Res) : KRel S w0 { w with res := x } :=
  h.same ((Evo.refl w).same rfl rfl rfl rfl rfl rfl) rfl rfl

theorem KRel.setPools {w0 w : World} (h : KRel S w0 w) (x : Array Pool) : KRel S w0 { w with pools := x } :=
  h.same ((Evo.refl w).same rfl rfl rfl rfl rfl rfl) rfl rfl

theorem KRel.setPqs {w0 w : World} (h : KRel S w0 w) (x : Array PQ) : KRel S w0 { w with pqs := x } :=
  h.same ((Evo.refl w).same rfl rfl rfl rfl rfl rfl) rfl rfl

theorem KRel.setFlags {w0 w : World} (h : KRel S w0 w) (x : Array Int) : KRel S w0 { w with flags := x } :=
  h.same ((Evo.refl w).same rfl rfl rfl rfl rfl rfl) rfl rfl

theorem KRel.sched_fst {w0 w : World} (h : KRel S w0 w) (a s : Nat) (sig t pri : Int) : KRel S w0 (sched w a s sig t pri).1 :=
  h.same ((Evo.refl w).sched_fst a s sig t pri) (by simp) (by simp)

theorem KRel.evCancel_fst {w0 w : World} (h : KRel S w0 w) (k : Nat) : KRel S w0 (evCancel w k).1 :=
  h.same ((Evo.refl w).evCancel_fst k) (evCancel_rel w k).procs (evCancel_rel w k).gvars

theorem KRel.reprioEv {w0 w : World} (h : KRel S w0 w) {k : Nat} {v : Int} {ev' : EvQ}
    (hr : reprioritize w.ev k v = .ok ev') : KRel S w0 { w with ev := ev' } :=
  h.same ((Evo.refl w).reprioEv hr) rfl rfl

theorem KRel.foldl {α : Type} {f : World → α → World} (hf : ∀ w a, KRel S w (f w a)) {w0 : World} :
    ∀ (l : List α) {w : World}, KRel S w0 w → KRel S w0 (l.foldl f w) :=
  fun l w h => h.trans (Path.foldl ⟨KRel.refl, KRel.trans⟩ hf l w)

theorem KRel.block_fst {w0 w : World} (h : KRel S w0 w) (p : Pid) (f : Frame) (hf : FrameOk S w f) : KRel S w0 (block w p f).1 := by
  refine h.trans ⟨(Evo.refl w).modProc p _, ?_, fun v _ q => Or.inl ?_⟩
  · intro q f' hb
    unfold Sim.block at hb
    simp only at hb
    rw [modProc_proc] at hb
    split at hb
    · cases hb; exact Or.inr hf
    · exact Or.inl hb
  · refine getVar_congr (w := w) (w' := (block w p f).1) rfl ?_ q v
    intro q'
    unfold Sim.block
    simp only
    rw [modProc_proc]; split
    · rename_i hq; rw [hq.1]
    · rfl

theorem KRel.setVar {w0 w : World} (h : KRel S w0 w) (p : Pid) (v x : Nat) (hx : S v → NGc w x) : KRel S w0 (setVar w p v x) := by
  refine h.trans ⟨Evo.eff (.setVar .refl p v x trivial rfl (.inl trivial)), ?_, ?_⟩
  · intro q f hb
    left
    unfold Sim.setVar at hb
    split at hb
    · exact hb
    · rw [modProc_proc] at hb; split at hb
      · rename_i hq; rw [hq.1]; exact hb
      · exact hb
  · intro v' hv' q
    by_cases hvv : v' = v
    · subst hvv
      by_cases hsame : getVar (Sim.setVar w p v' x) q v' = getVar w q v'
      · exact Or.inl hsame
      · right
        have hval : getVar (Sim.setVar w p v' x) q v' = x := by
          unfold Sim.setVar getVar at hsame ⊢
          by_cases h8 : v' ≥ 8
          · simp only [h8, if_true] at hsame ⊢
            rw [Array.set!_eq_setIfInBounds, Array.getD_eq_getD_getElem?, Array.getElem?_setIfInBounds] at hsame ⊢
            by_cases hlt : v' < w.gvars.size
            · simp [hlt]
            · simp [hlt] at hsame
          · simp only [h8, if_false] at hsame ⊢
            rw [modProc_proc] at hsame ⊢
            by_cases hq : q = p ∧ p < w.procs.size
            · simp only [hq, and_self, if_true] at hsame ⊢
              rw [Array.set!_eq_setIfInBounds, Array.getD_eq_getD_getElem?, Array.getElem?_setIfInBounds] at hsame ⊢
              by_cases hlt : v' < (w.proc p).vars.size
              · simp [hlt]
              · simp [hlt] at hsame
            · rw [if_neg hq] at hsame
              exact absurd rfl hsame
        rw [hval]
        exact (hx hv').ofEvo (Evo.eff (.setVar .refl p v' x trivial rfl (.inl trivial)))
    · left
      unfold Sim.setVar getVar
      by_cases h8 : v ≥ 8
      · simp only [h8, if_true]
        by_cases h8' : v' ≥ 8
        · simp only [h8', if_true]
          rw [Array.set!_eq_setIfInBounds, Array.getD_eq_getD_getElem?, Array.getElem?_setIfInBounds]
          simp [Ne.symm hvv, Array.getD_eq_getD_getElem?]
        · simp only [h8', if_false]; rfl
      · simp only [h8, if_false]
        by_cases h8' : v' ≥ 8
        · simp only [h8', if_true]; rfl
        · simp only [h8', if_false]
          rw [modProc_proc]; split
          · rename_i hq
            rw [Array.set!_eq_setIfInBounds, Array.getD_eq_getD_getElem?, Array.getElem?_setIfInBounds]
            simp [Ne.symm hvv, Array.getD_eq_getD_getElem?, hq.1]
          · rfl

/-- the handle `sched` has just returned names the event it has just scheduled and no other (0: nothing was scheduled) -/
theorem JustScheduled.names {w : World} {a b x : Nat} (h : JustScheduled w a b x) (hi : EvInv w.ev) :
    x ≤ w.ev.counter ∧ ∀ e ∈ w.ev.pending, e.key = x → e.item.a = a ∧ e.item.b = b := by
  obtain ⟨w', sig, t, pri, hev, rfl⟩ := h
  rw [hev] at hi ⊢
  rcases sched_cases w' a b sig t pri with ⟨_, he⟩ | ⟨_, msg, he⟩
  · rw [he] at hi ⊢
    refine ⟨Nat.le_refl _, fun e hm hk => ?_⟩
    have : e = mkEv (w'.ev.counter + 1) a b sig t pri :=
      HashHeap.eq_of_key_eq hi.part.keysNodup hm (by simp only [pushEv_pending]; exact List.mem_cons_self) hk
    rw [this]; exact ⟨rfl, rfl⟩
  · rw [he] at hi ⊢
    exact ⟨Nat.zero_le _, fun e hm hk => absurd hk (by have := (EvInv.key_range hi hm).1; omega)⟩

theorem JustScheduled.ngc {w : World} {a b x : Nat} (h : JustScheduled w a b x) (hi : EvInv w.ev) (ha : a ≠ aRes) : NGc w x :=
  ⟨(JustScheduled.names h hi).1, fun e he hk hg => ha (((JustScheduled.names h hi).2 e he hk).1.symm.trans hg.1)⟩

/-- `KRel` across everything the library does within a scope that stores the handles of queued objects outside `S`; the
    kernel invariant is needed only where a handle is recorded -/
theorem KRel.ofEff {p : Pid} {s : Scope} {w0 w : World} (hS : ∀ v, s.PqVar v → ¬ S v) (hi : s.handles = true → EvInv w0.ev)
    (h : Eff p s w0 w) : KRel S w0 w := by
  induction h with
  | refl => exact KRel.refl w0
  | fail _ msg ih => exact ih.fail msg
  | emit _ l ih => exact ih.emit l
  | modProc _ q f hf ih => exact ih.modProc q f (fun x => ⟨Or.inl (hf.keeps x).2.2.2.1, (hf.keeps x).2.2.1⟩)
  | block _ q fr _ hv hh ih =>
    refine ih.block_fst q fr ?_
    cases fr <;> first
      | trivial
      | exact hS _ (hv _ _ _ _ rfl)
      | exact JustScheduled.ngc (hh _ rfl).2 (ih.evo.evinv (hi (hh _ rfl).1)) (by decide)
  | unblock _ q _ ih => exact ih.modProc q _ (fun _ => ⟨Or.inr rfl, rfl⟩)
  | setVar _ q v x _ _ hx ih =>
    refine ih.setVar q v x (fun hs => ?_)
    rcases hx with hx | ⟨hh, a, b, ha, hj⟩
    · exact absurd hs (hS v hx)
    · exact JustScheduled.ngc hj (ih.evo.evinv (hi hh)) (by rcases ha with rfl | rfl <;> decide)
  | ended _ q v _ _ _ ih => exact ih.modProc q _ (fun _ => ⟨Or.inr rfl, rfl⟩)
  | started _ q _ _ _ ih => exact ih.modProc q _ (fun _ => ⟨Or.inr rfl, rfl⟩)
  | evWaiters _ _ x ih => exact ih.setEvWaiters x
  | guards _ hs a ha ih => exact ih.same (Evo.ofEff (Eff.refl.guards (p := p) hs a ha)) rfl rfl
  | res _ _ a _ _ ih => exact ih.setRes a
  | pools _ _ a _ _ _ ih => exact ih.setPools a
  | bufs _ hs a ha hu ih => exact ih.same (Evo.ofEff (Eff.refl.bufs (p := p) hs a ha hu)) rfl rfl
  | oqs _ hs a ha hu ih => exact ih.same (Evo.ofEff (Eff.refl.oqs (p := p) hs a ha hu)) rfl rfl
  | pqs _ _ a _ _ _ ih => exact ih.setPqs a
  | flags _ _ x ih => exact ih.setFlags x
  | push _ hs he hr hn ih => exact ih.same (Evo.ofEff (Eff.refl.push (p := p) hs he hr hn)) rfl rfl
  | cancel _ hs k ih => exact ih.same (Evo.ofEff (Eff.refl.cancel (p := p) hs k)) rfl rfl
  | reprio _ _ he ih => exact ih.reprioEv he

/-- the largest scope `KRel` tolerates for any `S`: no handle is recorded, no variable receives the handle of a queued object -/
def KRel.scope : Scope := { Scope.top with handles := false, pqVars := some [] }

theorem KRel.lib {w w' : World} (h : Eff 0 KRel.scope w w') : KRel S w w' :=
  KRel.ofEff (fun _ hv => by cases hv) (fun e => by cases e) h


theorem KRel.setGuardQ {w0 w : World} (h : KRel S w0 w) (g : Nat) (q : HH) : KRel S w0 (setGuardQ w g q) :=
  h.trans (KRel.lib (Eff.setGuardQ .refl g q))

theorem KRel.wakeEventWaiters {w0 w : World} (h : KRel S w0 w) (ps : List Pid) (sig : Int) :
    KRel S w0 (wakeEventWaiters w ps sig) :=
  h.trans (KRel.lib (Eff.wakeEventWaiters .refl ps sig))

theorem KRel.cancelKindFor_fst {w0 w : World} (h : KRel S w0 w) (p : Pid) (act : Nat) (sig : Option Int) :
    KRel S w0 (cancelKindFor w p act sig).1 :=
  h.trans (KRel.lib (Eff.cancelKindFor .refl p act sig))

theorem KRel.cancelUserAll_fst {w0 w : World} (h : KRel S w0 w) :
    KRel S w0 (cancelUserAll w).1 :=
  h.trans (KRel.lib (Eff.cancelUserAll .refl))

theorem KRel.recordRes {w0 w : World} (h : KRel S w0 w) (r : Nat) : KRel S w0 (recordRes w r) :=
  h.trans (KRel.lib (Eff.recordRes .refl r))

theorem KRel.recordPool {w0 w : World} (h : KRel S w0 w) (r : Nat) : KRel S w0 (recordPool w r) :=
  h.trans (KRel.lib (Eff.recordPool .refl r))

theorem KRel.recordPQ {w0 w : World} (h : KRel S w0 w) (r : Nat) : KRel S w0 (recordPQ w r) :=
  h.trans (KRel.lib (Eff.recordPQ .refl r))

theorem KRel.guardRemove_fst {w0 w : World} (h : KRel S w0 w) (g : Nat) (p : Pid) : KRel S w0 (guardRemove w g p).1 :=
  h.trans (KRel.lib (Eff.guardRemove .refl g p))

theorem KRel.condSignal_fst {w0 w : World} (h : KRel S w0 w) (g : Nat) : KRel S w0 (condSignal w g).1 :=
  h.trans (KRel.lib (Eff.condSignal .refl g))

theorem KRel.guardSignal {w0 w : World} (h : KRel S w0 w) (fuel : Nat) (g : Nat) : KRel S w0 (guardSignal fuel w g) :=
  h.trans (KRel.lib (Eff.guardSignal .refl fuel g))

theorem KRel.signal {w0 w : World} (h : KRel S w0 w) (g : Nat) : KRel S w0 (signal w g) :=
  h.trans (KRel.lib (Eff.signal .refl g))

theorem KRel.addAwait {w0 w : World} (h : KRel S w0 w) (p : Pid) (a : Await) : KRel S w0 (addAwait w p a) :=
  h.trans (KRel.lib (Eff.addAwait .refl p a))

theorem KRel.removeAwait_fst {w0 w : World} (h : KRel S w0 w) (p : Pid) (a : Await) : KRel S w0 (removeAwait w p a).1 :=
  h.trans (KRel.lib (Eff.removeAwait .refl p a))

theorem KRel.removeAwaitKind_fst {w0 w : World} (h : KRel S w0 w) (p : Pid) (k : Await → Bool) :
    KRel S w0 (removeAwaitKind w p k).1 :=
  h.trans (KRel.lib (Eff.removeAwaitKind .refl p k))

theorem KRel.removeHeld_fst {w0 w : World} (h : KRel S w0 w) (p : Pid) (x : HoldRef) : KRel S w0 (removeHeld w p x).1 :=
  h.trans (KRel.lib (Eff.removeHeld .refl p x))

theorem KRel.timerAdd_fst {w0 w : World} (h : KRel S w0 w) (p : Pid) (d sig : Int) : KRel S w0 (timerAdd w p d sig).1 :=
  h.trans (KRel.lib (Eff.timerAdd .refl p d sig))

theorem KRel.timerCancel_fst {w0 w : World} (h : KRel S w0 w) (p : Pid) (k : Nat) : KRel S w0 (timerCancel w p k).1 :=
  h.trans (KRel.lib (Eff.timerCancel .refl p k))

theorem KRel.timersClear {w0 w : World} (h : KRel S w0 w) (p : Pid) : KRel S w0 (timersClear w p) :=
  h.trans (KRel.lib (Eff.timersClear .refl p))

theorem KRel.cancelAwaiteds {w0 w : World} (h : KRel S w0 w) (p : Pid) : KRel S w0 (cancelAwaiteds w p) :=
  h.trans (KRel.lib (Eff.cancelAwaiteds .refl p))

theorem KRel.wakeWaiters {w0 w : World} (h : KRel S w0 w) (p : Pid) (sig : Int) : KRel S w0 (wakeWaiters w p sig) :=
  h.trans (KRel.lib (Eff.wakeWaiters .refl p sig))

theorem KRel.finishProc {w0 w : World} (h : KRel S w0 w) (p : Pid) (v : Int) (s : Bool) : KRel S w0 (finishProc w p v s) :=
  h.trans (KRel.lib (Eff.finishProc .refl p v s))

theorem KRel.guardWaitEnter {w0 w : World} (h : KRel S w0 w) (g : Nat) (p : Pid) (d : Demand) :
    KRel S w0 (guardWaitEnter w g p d) :=
  h.trans (KRel.lib (Eff.guardWaitEnter .refl g p d))

theorem KRel.guardWaitLeave {w0 w : World} (h : KRel S w0 w) (g : Nat) (p : Pid) (sig : Int) :
    KRel S w0 (guardWaitLeave w g p sig) :=
  h.trans (KRel.lib (Eff.guardWaitLeave .refl g p sig))

theorem KRel.grab {w0 w : World} (h : KRel S w0 w) (r : Nat) (p : Pid) : KRel S w0 (grab w r p) :=
  h.trans (KRel.lib (Eff.grab .refl r p))

theorem KRel.setPoolInUse {w0 w : World} (h : KRel S w0 w) (pl v : Nat) : KRel S w0 (setPoolInUse w pl v) :=
  h.trans (KRel.lib (Eff.setPoolInUse .refl pl v))

theorem KRel.setHeldAmount {w0 w : World} (h : KRel S w0 w) (pl : Nat) (p : Pid) (a : Nat) :
    KRel S w0 (setHeldAmount w pl p a) :=
  h.trans (KRel.lib (Eff.setHeldAmount .refl pl p a))

theorem KRel.poolLoop_fst {w0 w : World} (h : KRel S w0 w) (p : Pid) (pl rem ini : Nat) (pre : Bool) :
    KRel S w0 (poolLoop w p pl rem ini pre).1 :=
  h.trans (KRel.lib (Eff.poolLoop .refl p pl rem ini pre))

theorem KRel.poolRollback {w0 w : World} (h : KRel S w0 w) (p : Pid) (pl ini : Nat) : KRel S w0 (poolRollback w p pl ini) :=
  h.trans (KRel.lib (Eff.poolRollback .refl p pl ini))

theorem KRel.bufGetLoop_fst {w0 w : World} (h : KRel S w0 w) (p : Pid) (b rem got : Nat) : KRel S w0 (bufGetLoop w p b rem got).1 :=
  h.trans (KRel.lib (Eff.bufGetLoop .refl p b rem got))

theorem KRel.bufPutLoop_fst {w0 w : World} (h : KRel S w0 w) (p : Pid) (b rem left : Nat) : KRel S w0 (bufPutLoop w p b rem left).1 :=
  h.trans (KRel.lib (Eff.bufPutLoop .refl p b rem left))

theorem KRel.oqGetLoop_fst {w0 w : World} (h : KRel S w0 w) (p : Pid) (q : Nat) : KRel S w0 (oqGetLoop w p q).1 :=
  h.trans (KRel.lib (Eff.oqGetLoop .refl p q))

theorem KRel.oqPutLoop_fst {w0 w : World} (h : KRel S w0 w) (p : Pid) (q obj : Nat) : KRel S w0 (oqPutLoop w p q obj).1 :=
  h.trans (KRel.lib (Eff.oqPutLoop .refl p q obj))

theorem KRel.pqGetLoop_fst {w0 w : World} (h : KRel S w0 w) (p : Pid) (k : Nat) : KRel S w0 (pqGetLoop w p k).1 :=
  h.trans (KRel.lib (Eff.pqGetLoop .refl p k))

theorem KRel.pqPutLoop_fst {w0 w : World} (h : KRel S w0 w) (p : Pid) (k obj : Nat) (pri : Int) (v : Nat) (hv : ¬ S v) :
    KRel S w0 (pqPutLoop w p k obj pri v).1 :=
  h.trans (KRel.ofEff (p := 0) (s := { KRel.scope with pqVars := some [v] })
    (fun v' hv' => by cases hv' with | head => exact hv | tail _ h' => cases h') (fun e => by cases e)
    (Eff.pqPutLoop .refl p k obj pri v))

theorem KRel.acquireStep_fst {w0 w : World} (h : KRel S w0 w) (p : Pid) (r : Nat) : KRel S w0 (acquireStep w p r).1 :=
  h.trans (KRel.lib (Eff.acquireStep .refl p r))

theorem KRel.setRecording {w0 w : World} (h : KRel S w0 w) (kind idx : Nat) (on : Bool) : KRel S w0 (setRecording w kind idx on) :=
  h.trans (KRel.lib (Eff.setRecording .refl kind idx on (by unfold Scope.Records; split <;> rfl)))

end CimbaModel.Sim.S3
