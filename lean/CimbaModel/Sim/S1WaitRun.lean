/-
  S1 — `WInv` through resumptions, scripts, dispatch and the run loop.  It travels with `DeadRec` (`wd_kept`): a process
  that is started awaits nothing.
-/
import CimbaModel.Sim.S1WaitStep
import CimbaModel.Sim.S1DeadStep

namespace CimbaModel.Sim
open CimbaModel CimbaModel.Event CimbaModel.Generated
open CimbaModel.HashHeap (HTag Item Order HH)

theorem frameScope_reg (f : Frame) :
    (frameScope f).blocked.le .self = true ∧ ((∀ q, f ≠ .waitProc q) → (frameScope f).awaitsP = .no ∧ (frameScope f).waiters = .no) := by
  cases f
  case waitProc q => exact ⟨rfl, fun h => absurd rfl (h q)⟩
  all_goals exact ⟨rfl, fun _ => ⟨rfl, rfl⟩⟩

section
variable (w : World) (p : Pid) (f : Frame) (sig : Int) (hf : ∀ q, f ≠ .waitProc q)
include hf

theorem resumeFrame_reg (z : Pid) :
    (resumeFrame w p f sig).1.pa z = w.pa z ∧ ((resumeFrame w p f sig).1.proc z).waiters = (w.proc z).waiters :=
  have o := (Eff.resumeFrame w p f sig).outside
  have k := (frameScope_reg f).2 hf
  ⟨o.pa z (.inl k.1), o.waiters z (.inl k.2)⟩

theorem resumeFrame_pa_other (z : Pid) : (resumeFrame w p f sig).1.pa z = w.pa z :=
  (resumeFrame_reg w p f sig hf z).1

end

theorem resumeFrame_blocked_ne (w : World) (p : Pid) (f : Frame) (sig : Int) (z : Pid) (hz : z ≠ p) :
    ((resumeFrame w p f sig).1.proc z).blocked = (w.proc z).blocked :=
  (Eff.resumeFrame w p f sig).outside.blocked z (Who.out_of_le (frameScope_reg f).1 hz)

theorem winv_resumeFrame_other {w : World} (h : WInv w) (p : Pid) (hpa : w.pa p = []) (f : Frame) (sig : Int)
    (hf : ∀ q, f ≠ .waitProc q) : WInv (resumeFrame w p f sig).1 :=
  h.of_step hpa (fun z => (resumeFrame_reg w p f sig hf z).1) (fun z => (resumeFrame_reg w p f sig hf z).2)
    (resumeFrame_blocked_ne w p f sig) (ec_resumeFrame (wev_closed w) w p f sig (by cases f <;> rfl) h.wev)

theorem winv_emit {w : World} (h : WInv w) (l : String) : WInv (w.emit l) := h.of_same rfl rfl

theorem winv_fail {w : World} (h : WInv w) (m : String) : WInv (w.fail m) := h.of_same (fail_procs w m) (fail_ev w m)

/-- **resuming the call a process is suspended in** restores the invariant with nothing awaited, whatever the call -/
theorem winv_resume_any {w : World} (h : WInv w) (p : Pid) (f : Frame) (hf : (w.proc p).blocked = some f) (sig : Int) :
    WInv (resumeFrame (w.modProc p fun y => { y with blocked := none }) p f sig).1 ∧
    (resumeFrame (w.modProc p fun y => { y with blocked := none }) p f sig).1.pa p = [] := by
  have h0pa : ∀ z, (w.modProc p fun y => { y with blocked := none }).pa z = w.pa z :=
    pa_modProc_keep w p _ (by intro; rfl)
  have h0wt : ∀ z, ((w.modProc p fun y => { y with blocked := none }).proc z).waiters = (w.proc z).waiters :=
    modProc_field Proc.waiters w p _ (by intro; rfl)
  have h0bl : ∀ z, z ≠ p → ((w.modProc p fun y => { y with blocked := none }).proc z).blocked = (w.proc z).blocked :=
    fun z hz => congrArg _ (proc_modProc_ne _ _ _ _ hz)
  by_cases hwp : ∃ q, f = .waitProc q
  · obtain ⟨q, rfl⟩ := hwp
    exact winv_resume_waitProc h p q hf h0pa h0wt h0bl rfl sig
  · have hne : ∀ q, f ≠ .waitProc q := fun q e => hwp ⟨q, e⟩
    have hpa : w.pa p = [] := by
      rcases h.frame p with e | ⟨q, _, b⟩
      · exact e
      · rw [hf] at b; injection b with b; exact absurd b (hne q)
    have hpa0 := (h0pa p).trans hpa
    exact ⟨winv_resumeFrame_other (h.of_step hpa h0pa h0wt h0bl ((wev_closed w).ev_only h.wev rfl)) p hpa0 f sig hne,
      (resumeFrame_pa_other _ p f sig hne p).trans hpa0⟩

theorem afterPop_pa (w : World) (t : HTag) (ev' : EvQ) (z : Pid) : (afterPop w t ev').pa z = w.pa z :=
  pa_congr (fun q => by rw [afterPop_proc]) z

/-- the world in which the action of the dispatched event runs keeps the invariant; a process-end wake-up that is
    being dispatched is no longer pending -/
theorem winv_afterPop {w : World} (h : WInv w) (t : HTag) (ev' : EvQ) (hex : executeNext w.ev = some (t, ev')) :
    WInv (afterPop w t ev') ∧ (∀ z, (afterPop w t ev').pa z = w.pa z) ∧
    (∀ z, ((afterPop w t ev').proc z).waiters = (w.proc z).waiters) ∧
    (t.item.a = aProc → np (afterPop w t ev') (t.item.b - 1) = 0 ∧ 0 < np w (t.item.b - 1)) := by
  obtain ⟨hmem, hpend⟩ := executeNext_spec hex
  have hev0 : WEv w { w with ev := ev' } :=
    (wev_closed w).sub w ev' (by rw [hpend]; exact List.filter_sublist) h.wev
  have hev : WEv w (afterPop w t ev') := by
    unfold afterPop
    apply ec_wakeEventWaiters (wev_closed w) rfl
    exact (wev_closed w).ev_only hev0 rfl
  refine ⟨h.of_views' (fun z => afterPop_pa w t ev' z) (fun q => by rw [afterPop_proc])
    (fun z _ => by rw [afterPop_proc]) hev, fun z => afterPop_pa w t ev' z, fun z => by rw [afterPop_proc], ?_⟩
  intro ha
  have hb : t.item.b = t.item.b - 1 + 1 := by have := h.subj t hmem ha; omega
  have hP : isAProc (t.item.b - 1) t.item = true := by
    unfold isAProc; simp [ha, ← hb]
  have h1 : np { w with ev := ev' } (t.item.b - 1) + 1 ≤ np w (t.item.b - 1) := by
    unfold np cnt
    show List.countP _ ev'.pending + 1 ≤ _
    rw [hpend]
    exact countP_filter_drop (fun e => isAProc (t.item.b - 1) e.item) (·.key ≠ t.key) hmem hP (by simp)
  have h2 : np (afterPop w t ev') (t.item.b - 1) ≤ np { w with ev := ev' } (t.item.b - 1) := by
    have hcl := npLe_closed { w with ev := ev' }
    have : ∀ z, np (afterPop w t ev') z ≤ np { w with ev := ev' } z := by
      unfold afterPop
      apply ec_wakeEventWaiters hcl rfl
      exact hcl.ev_only (w := { w with ev := ev' }) (fun _ => Nat.le_refl _) rfl
    exact this _
  have := h.one (t.item.b - 1)
  omega

theorem filterMap_go_proc (l : List Await) :
    (removeAwaitKind.go isProcA l).1.filterMap procOf = (l.filterMap procOf).tail := by
  induction l with
  | nil => rfl
  | cons x xs ih =>
    unfold removeAwaitKind.go
    cases x with
    | proc q => simp [isProcA]
    | time h => simp [isProcA, List.filterMap_cons, ih]
    | guard g => simp [isProcA, List.filterMap_cons, ih]
    | event h => simp [isProcA, List.filterMap_cons, ih]

theorem removeAwaitKind_pa_proc (w : World) (p z : Pid) :
    (removeAwaitKind w p isProcA).1.pa z = if z = p then (w.pa z).tail else w.pa z := by
  unfold removeAwaitKind; dsimp only
  rw [pa_modProc]
  by_cases e : z = p
  · subst e
    by_cases hlt : z < w.procs.size
    · simp only [hlt, and_self, if_true]
      exact filterMap_go_proc _
    · simp [hlt, World.pa, proc_oob w z hlt]
  · simp [e]

/-- consuming a process-end wake-up: the woken process stops awaiting -/
theorem winv_pop_proc {w : World} (h : WInv w) (t : HTag) (ev' : EvQ) (hex : executeNext w.ev = some (t, ev'))
    (ha : t.item.a = aProc) : WInv (removeAwaitKind (afterPop w t ev') (t.item.b - 1) isProcA).1 := by
  obtain ⟨h1, hpa1, hwt1, hproc⟩ := winv_afterPop h t ev' hex
  obtain ⟨hnp0, hnpw⟩ := hproc ha
  obtain ⟨hne, hout⟩ := h.woken _ hnpw
  have hpaq : ∃ q, (afterPop w t ev').pa (t.item.b - 1) = [q] := by
    rcases h.frame (t.item.b - 1) with e | ⟨q, e, _⟩
    · exact absurd e hne
    · exact ⟨q, by rw [hpa1]; exact e⟩
  obtain ⟨q, hq⟩ := hpaq
  refine h1.unregister (t.item.b - 1) q hq ?_ ?_ ?_ ?_ ?_ ?_ ?_
  · intro z; rw [removeAwaitKind_pa_proc]
    split
    · rename_i e; subst e; rw [hq]; rfl
    · rfl
  · intro z; rw [removeAwaitKind_waiters]; exact List.Sublist.refl _
  · rw [removeAwaitKind_waiters, hwt1]; exact hout q
  · intro z _; rw [removeAwaitKind_blocked]
  · intro z; exact Nat.le_of_eq (cnt_of_ev (by simp))
  · rw [show np (removeAwaitKind (afterPop w t ev') (t.item.b - 1) isProcA).1 (t.item.b - 1)
        = np (afterPop w t ev') (t.item.b - 1) from cnt_of_ev (by simp)]
    exact hnp0
  · intro e he
    rw [show (removeAwaitKind (afterPop w t ev') (t.item.b - 1) isProcA).1.ev = (afterPop w t ev').ev by simp] at he
    exact h1.subj e he

theorem winv_removeAwaitKind_other {w : World} (h : WInv w) (p : Pid) (k : Await → Bool)
    (hk : ∀ q, k (.proc q) = false) : WInv (removeAwaitKind w p k).1 :=
  h.of_views' (fun z => removeAwaitKind_pa_other _ _ _ hk z) (fun q => by simp)
    (fun z _ => by simp) ((wev_closed _).ev_only h.wev (by simp))

/-- what `WInv` and `DeadRec` know of the caller of a command: it runs if it exists, and awaits no process end -/
abbrev AtCmd (p : Pid) (w : World) : Prop := (p < w.procs.size → (w.proc p).status = .running) ∧ w.pa p = []

theorem wd_kept : Kept (fun w => WInv w ∧ DeadRec w) AtCmd where
  emit h l := ⟨winv_emit h.1 l, dr_kept.emit h.2 l⟩
  fail h m := ⟨winv_fail h.1 m, dr_kept.fail h.2 m⟩
  pc h p n := ⟨winv_modProc h.1 p _ (by intro; exact ⟨rfl, rfl, rfl⟩), dr_kept.pc h.2 p n⟩
  finish h p := ⟨(winv_finishProc h.1 p 0 false).1, dr_kept.finish h.2 p⟩
  exec {w} h p hc c text hs l :=
    ⟨(winv_execCmd (winv_emit h.1 l) p (by rw [emit_np]; exact lt_np_of_script w p _ _ hs)
      ((emit_pa ..).trans hc.2) c).1, dr_kept.exec h.2 p hc.1 c text hs l⟩
  next {w} h p hc c text hs l0 w1 o l n heq ho := by
    refine ⟨dr_kept.next h.2 p hc.1 c text hs l0 w1 o l n heq ho, ?_⟩
    have h3 := (winv_execCmd (winv_emit h.1 l0) p (by rw [emit_np]; exact lt_np_of_script w p _ _ hs)
      ((emit_pa ..).trans hc.2) c).2
    rw [heq] at h3
    have hpa1 : w1.pa p = [] := by
      rcases h3 with e | ⟨q, e⟩
      · exact e
      · injection e with _ e; rcases ho with ⟨_, _, rfl⟩ | rfl <;> cases e
    exact (pa_modProc_keep _ _ _ (by intro; rfl) p).trans ((emit_pa ..).trans hpa1)
  resume {w} h p f hrun hf sig := by
    obtain ⟨h2, hpa2⟩ := winv_resume_any h.1 p f hf sig
    obtain ⟨d2, dc⟩ := dr_kept.resume h.2 p f hrun hf sig
    refine ⟨⟨h2, d2⟩, fun w1 v extra l n heq => ⟨dc w1 v extra l n heq, ?_⟩⟩
    rw [heq] at hpa2
    exact (pa_modProc_keep _ _ _ (by intro; rfl) p).trans ((emit_pa ..).trans hpa2)
  pop h t ev' hex := ⟨(winv_afterPop h.1 t ev' hex).1, dr_kept.pop h.2 t ev' hex⟩
  start {w} h z hnr := by
    have hpa : w.pa z = [] := by unfold World.pa; rw [(h.2 z hnr).1]; rfl
    obtain ⟨d2, dc⟩ := dr_kept.start h.2 z hnr
    exact ⟨⟨h.1.of_step hpa (pa_modProc_keep _ _ _ (by intro; rfl)) (modProc_field Proc.waiters _ _ _ (by intro; rfl))
      (fun x hx => congrArg _ (proc_modProc_ne _ _ _ _ hx)) ((wev_closed _).ev_only h.1.wev rfl), d2⟩, dc,
      (pa_modProc_keep _ _ _ (by intro; rfl) _).trans hpa⟩
  untime h z k :=
    ⟨h.1.of_views' (fun x => removeAwait_pa_other _ _ _ (fun _ e => by cases e) x) (removeAwait_waiters _ _ _)
      (fun x _ => removeAwait_blocked _ _ _ x) ((wev_closed _).ev_only h.1.wev (removeAwait_ev ..)), dr_kept.untime h.2 z k⟩
  unawaitKind {w} h t ev' hex k hk := by
    refine ⟨?_, dr_kept.unawaitKind h.2 t ev' hex k hk⟩
    show WInv (removeAwaitKind (afterPop w t ev') (t.item.b - 1) k).1
    rcases hk with ⟨ha, rfl⟩ | ⟨_, rfl⟩ | ⟨_, rfl⟩
    · exact winv_pop_proc h.1 t ev' hex ha
    · exact winv_removeAwaitKind_other (winv_afterPop h.1 t ev' hex).1 _ _ (fun _ => rfl)
    · exact winv_removeAwaitKind_other (winv_afterPop h.1 t ev' hex).1 _ _ (fun _ => rfl)
  cancel h z := ⟨winv_cancelAwaiteds h.1 z, dr_kept.cancel h.2 z⟩

theorem winv_dispatch {w w' : World} (h : WInv w) (hdr : DeadRec w) (hd : dispatch w = some w') : WInv w' :=
  (wd_kept.dispatch ⟨h, hdr⟩ hd).1

theorem winv_runAll (fuel : Nat) {w : World} (h : WInv w) (hdr : DeadRec w) : WInv (runAll fuel w) :=
  (wd_kept.runAll fuel ⟨h, hdr⟩).1

end CimbaModel.Sim
