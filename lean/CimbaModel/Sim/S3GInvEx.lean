/-
  S3 — `GInv`: exempting one process, `hold`, entering a guard wait.
-/
import CimbaModel.Sim.S3GInvReg

namespace CimbaModel.Sim.S3
open CimbaModel CimbaModel.Sim CimbaModel.Event CimbaModel.Generated CimbaModel.KPQ
open CimbaModel.HashHeap (HTag Item Order HH WF abs liveTags)

variable {ex : Pid → Prop} {fr : Pid → Option Frame}

theorem GInv.exempt {w : World} (hp : GInv ex fr w) (p : Pid) : GInv (exAdd ex p) fr w :=
  { hp with
    gk := fun g k hq => ⟨(hp.gk g k hq).1, (hp.gk g k hq).2.1, fun hx => (hp.gk g k hq).2.2 (fun h => hx (Or.inl h))⟩
    gfb := fun x hx => hp.gfb x (fun h => hx (Or.inl h))
    gr := fun e he hgr => ⟨(hp.gr e he hgr).1, fun hx => (hp.gr e he hgr).2 (fun h => hx (Or.inl h))⟩
    gu := fun a ha b hb h1 h2 hab hx => hp.gu a ha b hb h1 h2 hab (fun h => hx (Or.inl h))
    gc := fun e he hea hx => hp.gc e he hea (fun h => hx (Or.inl h))
    gkc := fun c g hc k hq hx => hp.gkc c g hc k hq (fun h => hx (Or.inl h))
    oth := fun e he hea hec => ⟨(hp.oth e he hea hec).1, fun hx => (hp.oth e he hea hec).2 (fun h => hx (Or.inl h))⟩ }

theorem GInv.setAwaitsEx {w : World} {p : Pid} (hp : GInv (exAdd ex p) fr w) (f : List Await → List Await)
    (hf : (f (w.proc p).awaits).filter isGuardA = []) :
    GInv (exAdd ex p) fr (w.modProc p fun x => { x with awaits := f x.awaits }) := by
  have hpr : ∀ x, x ≠ p → (w.modProc p fun x => { x with awaits := f x.awaits }).proc x = w.proc x :=
    fun x hx => modProc_proc_ne w _ hx
  have hgp : guardAw (w.modProc p fun x => { x with awaits := f x.awaits }) p = [] := by
    unfold guardAw
    rcases modProc_self_or w p fun x => { x with awaits := f x.awaits } with h | h <;> rw [h]
    · exact hf
    · rfl
  refine { hp with gsz := by simpa using hp.gsz, gk := ?_, ga := ?_, gfb := ?_, gr := ?_ }
  · intro g' k hq
    obtain ⟨h1, h2, h3⟩ := hp.gk g' k hq
    refine ⟨h1, by simpa using h2, fun hx => ?_⟩
    have hkp : k - 1 ≠ p := fun h => hx (Or.inr h)
    rw [hpr _ hkp]; exact h3 hx
  · intro x
    by_cases hx : x = p
    · subst hx; exact Or.inl hgp
    · unfold guardAw; rw [hpr x hx]; exact hp.ga x
  · intro x hx hb
    have hxp : x ≠ p := fun h => hx (Or.inr h)
    unfold guardAw; rw [hpr x hxp] at hb ⊢; exact hp.gfb x hx hb
  · intro e he hgr
    obtain ⟨h1, h2⟩ := hp.gr e he hgr
    refine ⟨h1, fun hx => ?_⟩
    have hkp : e.item.b - 1 ≠ p := fun h => hx (Or.inr h)
    obtain ⟨g', h3, h4⟩ := h2 hx
    exact ⟨g', by rw [hpr _ hkp]; exact h3, h4⟩

theorem GInv.clearAwaitsEx {w : World} {p : Pid} (hp : GInv (exAdd ex p) fr w) :
    GInv (exAdd ex p) fr (w.modProc p fun x => { x with awaits := [] }) := hp.setAwaitsEx (fun _ => []) rfl

theorem pred_eq_iff {k p : Nat} (hk : k ≠ 0) : k - 1 = p ↔ k = p + 1 := by omega

/-- dropping the exemption of `p`: what has to hold for `p` itself -/
theorem GInv.unexempt {w : World} {p : Pid} (hp : GInv (exAdd ex p) fr w)
    (U1 : ∀ g, queued w g (p + 1) → Await.guard g ∈ (w.proc p).awaits)
    (U2 : (w.proc p).blocked ≠ fr p → guardAw w p = [] ∧ ∀ e ∈ w.ev.pending, e.item.a = aTime → e.item.c = 0 → e.item.b ≠ p + 1)
    (U3 : ∀ e ∈ w.ev.pending, isGrant e → e.item.b = p + 1 → ∃ g, Await.guard g ∈ (w.proc p).awaits ∧ ¬ queued w g (p + 1))
    (U4 : ∀ e1 ∈ w.ev.pending, ∀ e2 ∈ w.ev.pending, isGrant e1 → isGrant e2 → e1.item.b = p + 1 → e2.item.b = p + 1 → e1 = e2)
    (U5 : ∀ e ∈ w.ev.pending, e.item.a = aCond → e.item.b = p + 1 → ∃ c, fr p = some (.condWait c))
    (U6 : ∀ (c g : Nat), w.conds[c]? = some g → queued w g (p + 1) → ∃ c', fr p = some (.condWait c'))
    (U7 : ∀ e ∈ w.ev.pending, e.item.a = aTime → e.item.c = 0 → e.item.b = p + 1 → fr p = some (.hold e.key)) :
    GInv ex fr w := by
  have hsplit : ∀ x, ¬ ex x → x = p ∨ ¬ exAdd ex p x := by
    intro x hx
    by_cases hxp : x = p
    · exact Or.inl hxp
    · exact Or.inr (fun h => h.elim hx hxp)
  refine { hp with gk := ?_, gfb := ?_, gr := ?_, gu := ?_, gc := ?_, gkc := ?_, oth := ?_ }
  · intro g k hq
    obtain ⟨h1, h2, h3⟩ := hp.gk g k hq
    refine ⟨h1, h2, fun hx => ?_⟩
    rcases hsplit _ hx with h | h
    · have hk : k = p + 1 := (pred_eq_iff h1).1 h
      rw [h]; exact U1 g (hk ▸ hq)
    · exact h3 h
  · intro x hx
    rcases hsplit _ hx with h | h
    · subst h; exact U2
    · exact hp.gfb x h
  · intro e he hgr
    obtain ⟨h1, h2⟩ := hp.gr e he hgr
    refine ⟨h1, fun hx => ?_⟩
    rcases hsplit _ hx with h | h
    · have hb : e.item.b = p + 1 := (pred_eq_iff h1).1 h
      rw [h, hb]; exact U3 e he hgr hb
    · exact h2 h
  · intro a ha b hb h1 h2 hab hx
    rcases hsplit _ hx with h | h
    · have ha0 := (hp.gr a ha h1).1
      have hba : a.item.b = p + 1 := (pred_eq_iff ha0).1 h
      exact U4 a ha b hb h1 h2 hba (hab ▸ hba)
    · exact hp.gu a ha b hb h1 h2 hab h
  · intro e he hea hx
    rcases hsplit _ hx with h | h
    · have h0 := (hp.gr e he (Or.inr hea)).1
      rw [h]; exact U5 e he hea ((pred_eq_iff h0).1 h)
    · exact hp.gc e he hea h
  · intro c g hc k hq hx
    rcases hsplit _ hx with h | h
    · have h0 := (hp.gk g k hq).1
      have hk : k = p + 1 := (pred_eq_iff h0).1 h
      rw [h]; exact U6 c g hc (hk ▸ hq)
    · exact hp.gkc c g hc k hq h
  · intro e he hea hec
    obtain ⟨h1, h2⟩ := hp.oth e he hea hec
    refine ⟨h1, fun hx => ?_⟩
    rcases hsplit _ hx with h | h
    · rw [h]; exact U7 e he hea hec ((pred_eq_iff h1).1 h)
    · exact h2 h

theorem GInv.unexempt_clean {w : World} {p : Pid} (hp : GInv (exAdd ex p) fr w) (hc : Clean w p) : GInv ex fr w :=
  hp.unexempt (fun g hq => absurd hq (hc.nq g)) (fun _ => ⟨hc.aw, hc.nt⟩)
    (fun e he hgr hb => absurd hb (hc.ng e he hgr)) (fun a ha _ _ h1 _ hba _ => absurd hba (hc.ng a ha h1))
    (fun e he hea hb => absurd hb (hc.ng e he (Or.inr hea))) (fun _ g _ hq => absurd hq (hc.nq g))
    (fun e he hea hec hb => absurd hb (hc.nt e he hea hec))

theorem GInv.setFr_ex {w : World} {p : Pid} (hp : GInv (exAdd ex p) fr w) (x : Option Frame)
    (hga : guardAw w p = [] ∨ ∃ g f, x = some f ∧ FrameOn w f g ∧ guardAw w p = [.guard g]) :
    GInv (exAdd ex p) (setFrame fr p x) w := by
  have hne : ∀ y, ¬ exAdd ex p y → setFrame fr p x y = fr y := fun y hy => setFrame_ne fr x (fun h => hy (Or.inr h))
  refine { hp with ga := ?_, gfb := ?_, gc := ?_, gkc := ?_, oth := ?_ }
  · intro y
    by_cases hy : y = p
    · subst hy; rw [setFrame_self]; exact hga
    · rw [setFrame_ne fr x hy]; exact hp.ga y
  · intro y hxy hbl; rw [hne y hxy] at hbl; exact hp.gfb y hxy hbl
  · intro e he hea hxe; rw [hne _ hxe]; exact hp.gc e he hea hxe
  · intro c g hcg k hq hxk; rw [hne _ hxk]; exact hp.gkc c g hcg k hq hxk
  · intro e he hea hec
    obtain ⟨h1, h2⟩ := hp.oth e he hea hec
    exact ⟨h1, fun hxe => by rw [hne _ hxe]; exact h2 hxe⟩

theorem GInv.pushEv_ex {w : World} {p : Pid} (hp : GInv (exAdd ex p) fr w) (a : Nat) (sig t pri : Int) (ht : w.now ≤ t)
    (hnz : encSig sig = 0 → a ≠ aIntr ∧ a ≠ aResume ∧ a ≠ aPreempt) :
    GInv (exAdd ex p) fr (pushEv w a (p + 1) sig t pri) := by
  have hnew : ∀ e ∈ (pushEv w a (p + 1) sig t pri).ev.pending,
      e = mkEv (w.ev.counter + 1) a (p + 1) sig t pri ∨ e ∈ w.ev.pending := by
    intro e he; simpa using he
  have hexp : exAdd ex p ((mkEv (w.ev.counter + 1) a (p + 1) sig t pri).item.b - 1) := Or.inr (by simp [mkEv])
  refine { ei := pushEv_evinv _ _ _ _ _ ht hp.ei, gw := hp.gw, gsz := hp.gsz, gk := hp.gk, ga := hp.ga,
           gfb := ?_, gr := ?_, gu := ?_, gc := ?_, gkc := hp.gkc, nz := ?_, oth := ?_, cl := ?_ }
  · intro x hx hbl
    obtain ⟨h1, h2⟩ := hp.gfb x hx hbl
    refine ⟨h1, fun e he hea hec => ?_⟩
    rcases hnew e he with rfl | he
    · simp only [mkEv]; intro h
      exact hx (Or.inr (Nat.add_right_cancel h).symm)
    · exact h2 e he hea hec
  · intro e he hgr
    rcases hnew e he with rfl | he
    · exact ⟨by simp [mkEv], fun hx => absurd hexp hx⟩
    · exact hp.gr e he hgr
  · intro e1 he1 e2 he2 h1 h2 hb hx
    rcases hnew e1 he1 with rfl | he1
    · exact absurd hexp hx
    · rcases hnew e2 he2 with rfl | he2
      · exact absurd (hb ▸ hexp) hx
      · exact hp.gu e1 he1 e2 he2 h1 h2 hb hx
  · intro e he hea hx
    rcases hnew e he with rfl | he
    · exact absurd hexp hx
    · exact hp.gc e he hea hx
  · intro e he hec
    rcases hnew e he with rfl | he
    · exact hnz hec
    · exact hp.nz e he hec
  · intro e he hea hec
    rcases hnew e he with rfl | he
    · exact ⟨by simp [mkEv], fun hx => absurd hexp hx⟩
    · exact hp.oth e he hea hec
  · intro e he
    rcases hnew e he with rfl | he
    · exact encSig_lt sig
    · exact hp.cl e he


theorem block_addAwait_proc (w : World) (p : Pid) (a : Await) (f : Frame) (hlt : p < w.procs.size) (x : Pid) :
    ((block (addAwait w p a) p f).1.proc x).awaits = (if x = p then a :: (w.proc x).awaits else (w.proc x).awaits) ∧
    ((block (addAwait w p a) p f).1.proc x).blocked = (if x = p then some f else (w.proc x).blocked) := by
  unfold block addAwait
  simp only [modProc_proc, modProc_procs_size, hlt, and_true]
  by_cases h : x = p <;> simp [h]

theorem GInv.cmd_hold {w : World} (hp : GInv ex fr w) {p : Pid} (d : Int) (hx : ¬ ex p) (hfr : fr p = none)
    (hlt : p < w.procs.size) :
    GInv ex (setFrame fr p (some (.hold (timerAdd w p d sigSuccess).2))) (execCmd w p (.hold d)).1 := by
  have hc := hp.clean_of_none hx hfr
  have hE := hp.exempt p
  simp only [execCmd, Sim.timerAdd]
  rcases sched_cases w aTime (p + 1) sigSuccess (w.now + d) (w.proc p).prio with ⟨ht, he⟩ | ⟨_, m, he⟩
  · rw [he]
    have h1 := hE.pushEv_ex aTime sigSuccess (w.now + d) (w.proc p).prio ht (fun _ => by decide)
    have h2 := h1.addAwait_other p (.time (w.ev.counter + 1)) rfl
    have hga2 : guardAw (addAwait (pushEv w aTime (p + 1) sigSuccess (w.now + d) (w.proc p).prio) p (.time (w.ev.counter + 1))) p = [] := by
      unfold guardAw addAwait
      rw [modProc_proc]; split
      · simp only [List.filter_cons, isGuardA]; exact hc.aw
      · exact hc.aw
    have h3 := h2.setFr_ex (some (.hold (w.ev.counter + 1))) (Or.inl hga2)
    have h4 := h3.modBlocked p (some (.hold (w.ev.counter + 1))) (Or.inl (Or.inr rfl))
    have hpr := block_addAwait_proc (pushEv w aTime (p + 1) sigSuccess (w.now + d) (w.proc p).prio) p
      (.time (w.ev.counter + 1)) (.hold (w.ev.counter + 1)) hlt
    have hfin : (block (addAwait (pushEv w aTime (p + 1) sigSuccess (w.now + d) (w.proc p).prio) p (.time (w.ev.counter + 1))) p
        (.hold (w.ev.counter + 1))).1 =
        (addAwait (pushEv w aTime (p + 1) sigSuccess (w.now + d) (w.proc p).prio) p (.time (w.ev.counter + 1))).modProc p
          fun x => { x with blocked := some (.hold (w.ev.counter + 1)) } := rfl
    rw [hfin]
    have hgaF : guardAw ((addAwait (pushEv w aTime (p + 1) sigSuccess (w.now + d) (w.proc p).prio) p (.time (w.ev.counter + 1))).modProc p
          fun x => { x with blocked := some (.hold (w.ev.counter + 1)) }) p = [] := by
      unfold guardAw; rw [← hfin, (hpr p).1, if_pos rfl]
      simp only [List.filter_cons, isGuardA]; exact hc.aw
    have hnewev : ∀ e ∈ w.ev.pending, e ∈ (pushEv w aTime (p + 1) sigSuccess (w.now + d) (w.proc p).prio).ev.pending :=
      fun e he => List.mem_cons_of_mem _ he
    refine h4.unexempt ?_ ?_ ?_ ?_ ?_ ?_ ?_
    · intro g hq; exact absurd hq (hc.nq g)
    · intro hb; exfalso; apply hb
      rw [← hfin, (hpr p).2, if_pos rfl, setFrame_self]
    · intro e he hgr hb
      have he'' : e ∈ mkEv (w.ev.counter + 1) aTime (p + 1) sigSuccess (w.now + d) (w.proc p).prio :: w.ev.pending := he
      rcases List.mem_cons.1 he'' with rfl | he'
      · rcases hgr with ⟨h, _⟩ | h <;> simp [mkEv] at h <;> exact absurd h (by decide)
      · exact absurd hb (hc.ng e he' hgr)
    · intro a ha b hb h1' _ hba _
      have ha'' : a ∈ mkEv (w.ev.counter + 1) aTime (p + 1) sigSuccess (w.now + d) (w.proc p).prio :: w.ev.pending := ha
      rcases List.mem_cons.1 ha'' with rfl | ha'
      · rcases h1' with ⟨h, _⟩ | h <;> simp [mkEv] at h <;> exact absurd h (by decide)
      · exact absurd hba (hc.ng a ha' h1')
    · intro e he hea hb
      have he'' : e ∈ mkEv (w.ev.counter + 1) aTime (p + 1) sigSuccess (w.now + d) (w.proc p).prio :: w.ev.pending := he
      rcases List.mem_cons.1 he'' with rfl | he'
      · simp [mkEv] at hea; exact absurd hea (by decide)
      · exact absurd hb (hc.ng e he' (Or.inr hea))
    · intro c g _ hq; exact absurd hq (hc.nq g)
    · intro e he hea hec hb
      have he'' : e ∈ mkEv (w.ev.counter + 1) aTime (p + 1) sigSuccess (w.now + d) (w.proc p).prio :: w.ev.pending := he
      rcases List.mem_cons.1 he'' with rfl | he'
      · rw [setFrame_self]; rfl
      · exact absurd hb (hc.nt e he' hea hec)
  · rw [he]
    have h1 := hE.fail m
    have h2 := h1.addAwait_other p (.time 0) rfl
    have hga2 : guardAw (addAwait (w.fail m) p (.time 0)) p = [] := by
      unfold guardAw addAwait
      rw [modProc_proc]; split
      · simp only [List.filter_cons, isGuardA, fail_proc]; exact hc.aw
      · simp only [fail_proc]; exact hc.aw
    have h3 := h2.setFr_ex (some (.hold 0)) (Or.inl hga2)
    have h4 := h3.modBlocked p (some (.hold 0)) (Or.inl (Or.inr rfl))
    have hlt' : p < (w.fail m).procs.size := by simpa using hlt
    have hpr := block_addAwait_proc (w.fail m) p (.time 0) (.hold 0) hlt'
    have hfin : (block (addAwait (w.fail m) p (.time 0)) p (.hold 0)).1 =
        (addAwait (w.fail m) p (.time 0)).modProc p fun x => { x with blocked := some (.hold 0) } := rfl
    rw [hfin]
    have hgF : ((addAwait (w.fail m) p (.time 0)).modProc p fun x => { x with blocked := some (.hold 0) }).guards = w.guards := by
      simp [addAwait]
    have hevF : ((addAwait (w.fail m) p (.time 0)).modProc p fun x => { x with blocked := some (.hold 0) }).ev = w.ev := by
      simp [addAwait]
    refine h4.unexempt ?_ ?_ ?_ ?_ ?_ ?_ ?_
    · intro g hq; exact absurd ((queued_congr hgF g _).1 hq) (hc.nq g)
    · intro hb; exfalso; apply hb
      rw [← hfin, (hpr p).2, if_pos rfl, setFrame_self]
    · intro e he hgr hb; rw [hevF] at he; exact absurd hb (hc.ng e he hgr)
    · intro a ha b hb h1' _ hba _; rw [hevF] at ha; exact absurd hba (hc.ng a ha h1')
    · intro e he hea hb; rw [hevF] at he; exact absurd hb (hc.ng e he (Or.inr hea))
    · intro c g _ hq; exact absurd ((queued_congr hgF g _).1 hq) (hc.nq g)
    · intro e he hea hec hb; rw [hevF] at he; exact absurd hb (hc.nt e he hea hec)


theorem GInv.count_le {w : World} (hp : GInv ex fr w) {g : Nat} {gd : Guard} (hg : w.guards[g]? = some gd) :
    gd.q.count ≤ w.procs.size := by
  rw [← HashHeap.abs_length]
  have : (abs gd.q).length = (keys (abs gd.q)).length := by simp [keys]
  rw [this]
  apply nodup_bounded_length _ _ (hp.gw g gd hg).keys_nodup
  intro k hk
  have := hp.gk g k ⟨gd, hg, hk⟩
  exact ⟨by omega, this.2.1⟩

theorem queued_set! {w : World} {g : Nat} {gd : Guard} (hg : w.guards[g]? = some gd) (gd' : Guard) (g' k : Nat) :
    queued { w with guards := w.guards.set! g gd' } g' k ↔ if g' = g then k ∈ keys (abs gd'.q) else queued w g' k := by
  have hsz := guards_lt_of_some' hg
  unfold queued
  simp only [Array.set!_eq_setIfInBounds, Array.getElem?_setIfInBounds]
  by_cases h : g' = g
  · subst h
    simp only [if_true, hsz]
    constructor
    · rintro ⟨x, h1, h2⟩; cases h1; exact h2
    · intro h2; exact ⟨_, rfl, h2⟩
  · have : ¬ g = g' := fun e => h e.symm
    simp only [this, if_false, h]
where
  guards_lt_of_some' {w : World} {g : Nat} {gd : Guard} (hg : w.guards[g]? = some gd) : g < w.guards.size := by
    rcases Nat.lt_or_ge g w.guards.size with h | h
    · exact h
    · rw [Array.getElem?_eq_none h] at hg; cases hg

theorem GInv.enqueueEx {w : World} {p : Pid} (hp : GInv (exAdd ex p) fr w) {g : Nat} {gd : Guard} (hg : w.guards[g]? = some gd)
    (gd' : Guard) (hwf : GWF gd'.q) (hlt : p < w.procs.size)
    (hkeys : ∀ k, k ∈ keys (abs gd'.q) ↔ k = p + 1 ∨ k ∈ keys (abs gd.q)) :
    GInv (exAdd ex p) fr { w with guards := w.guards.set! g gd' } := by
  have hq : ∀ g' k, queued { w with guards := w.guards.set! g gd' } g' k → k = p + 1 ∨ queued w g' k := by
    intro g' k h
    rw [queued_set! hg] at h
    split at h
    · rename_i hgg; subst hgg
      rcases (hkeys k).1 h with h' | h'
      · exact Or.inl h'
      · exact Or.inr ⟨gd, hg, h'⟩
    · exact Or.inr h
  have hexp : exAdd ex p (p + 1 - 1) := Or.inr (by simp)
  refine { hp with gw := ?_, gk := ?_, gr := ?_, gkc := ?_ }
  · intro g' gd'' h'
    simp only [Array.set!_eq_setIfInBounds, Array.getElem?_setIfInBounds] at h'
    split at h'
    · split at h'
      · cases h'; exact hwf
      · cases h'
    · exact hp.gw g' gd'' h'
  · intro g' k h
    rcases hq g' k h with rfl | h'
    · exact ⟨Nat.succ_ne_zero p, hlt, fun hx => absurd hexp hx⟩
    · exact hp.gk g' k h'
  · intro e he hgr
    obtain ⟨h1, h2⟩ := hp.gr e he hgr
    refine ⟨h1, fun hx => ?_⟩
    obtain ⟨g', h3, h4⟩ := h2 hx
    refine ⟨g', h3, fun hqq => ?_⟩
    rcases hq g' _ hqq with h' | h'
    · exact hx (h' ▸ hexp)
    · exact h4 h'
  · intro c g' hc k h hx
    rcases hq g' k h with rfl | h'
    · exact absurd hexp hx
    · exact hp.gkc c g' hc k h' hx

theorem GInv.addGuardAwaitEx {w : World} {p : Pid} (hp : GInv (exAdd ex p) fr w) (g : Nat) (f : Frame)
    (hfr : fr p = some f) (hgf : FrameOn w f g) (haw : guardAw w p = []) (hlt : p < w.procs.size) :
    GInv (exAdd ex p) fr (addAwait w p (.guard g)) := by
  have hpr : ∀ x, ((addAwait w p (.guard g)).proc x).awaits = if x = p then .guard g :: (w.proc x).awaits else (w.proc x).awaits := by
    intro x; unfold addAwait; rw [modProc_proc]
    by_cases hx : x = p
    · subst hx; simp [hlt]
    · simp [hx]
  have hbl : ∀ x, ((addAwait w p (.guard g)).proc x).blocked = (w.proc x).blocked := by
    intro x; unfold addAwait; rw [modProc_proc]; split
    · rename_i h; rw [h.1]
    · rfl
  have hsub : ∀ x a, a ∈ (w.proc x).awaits → a ∈ ((addAwait w p (.guard g)).proc x).awaits := by
    intro x a ha; rw [hpr]; split
    · exact List.mem_cons_of_mem _ ha
    · exact ha
  refine { hp with gsz := by simpa [addAwait] using hp.gsz, gk := ?_, ga := ?_, gfb := ?_, gr := ?_ }
  · intro g' k hq
    obtain ⟨h1, h2, h3⟩ := hp.gk g' k hq
    exact ⟨h1, by simpa [addAwait] using h2, fun hx => hsub _ _ (h3 hx)⟩
  · intro x
    unfold guardAw; rw [hpr]
    by_cases hx : x = p
    · subst hx
      right
      refine ⟨g, f, hfr, hgf, ?_⟩
      simp only [if_true, List.filter_cons, isGuardA]
      have : (w.proc x).awaits.filter isGuardA = [] := haw
      rw [this]
    · rw [if_neg hx]; exact hp.ga x
  · intro x hx hb
    have hxp : x ≠ p := fun h => hx (Or.inr h)
    rw [hbl] at hb
    unfold guardAw; rw [hpr, if_neg hxp]
    exact hp.gfb x hx hb
  · intro e he hgr
    obtain ⟨h1, h2⟩ := hp.gr e he hgr
    refine ⟨h1, fun hx => ?_⟩
    obtain ⟨g', h3, h4⟩ := h2 hx
    exact ⟨g', hsub _ _ h3, h4⟩


def enterGuard (gd : Guard) (q' : HH) (p : Pid) (d : Demand) : Guard :=
  { gd with q := q', demands := (p + 1, d) :: gd.demands.filter (·.1 ≠ p + 1) }

/-- entering a guard wait and suspending: the caller (clean, existing, not exempt) is enqueued on `g`, awaits `g`, and its
    frame is the guard-wait frame `f`; for the guard of a condition `f` must be `cond_wait` -/
theorem GInv.enterBlock {w : World} (hp : GInv ex fr w) {p : Pid} (g : Nat) (d : Demand) (f : Frame) (hx : ¬ ex p)
    (hfr : fr p = none) (hlt : p < w.procs.size) (hgf : FrameOn w f g)
    (hcond : ∀ c : Nat, w.conds[c]? = some g → ∃ c', f = .condWait c') :
    GInv ex (setFrame fr p (some f)) (block (guardWaitEnter w g p d) p f).1 := by
  have hc := hp.clean_of_none hx hfr
  cases hg : w.guards[g]? with
  | none =>
    have : guardWaitEnter w g p d = w.fail "no such guard" := by unfold guardWaitEnter; rw [hg]
    rw [this]
    exact (hp.fail _).block_fst p f hx hfr
  | some gd =>
    have hwf := hp.gw g gd hg
    have h64 : p + 1 < 2 ^ 64 :=
      Nat.lt_of_le_of_lt (show p + 1 ≤ w.procs.size from hlt) (Nat.lt_trans hp.gsz (by decide))
    have hfresh : p + 1 ∉ keys (abs gd.q) := fun hk => hc.nq g ⟨gd, hg, hk⟩
    have hroom : gd.q.count < 2 ^ gd.q.exp ∨ gd.q.exp < 31 := by
      by_cases he : gd.q.exp < 31
      · exact Or.inr he
      · left
        have h31 : gd.q.exp = 31 := by have := hwf.expLe; omega
        rw [h31]
        exact Nat.lt_of_le_of_lt (hp.count_le hg) hp.gsz
    obtain ⟨q', _, hwf', hperm, heq⟩ := guardWaitEnter_spec hg hwf p d h64 hfresh hroom
    rw [heq]
    unfold enterWorld
    have hkeys : ∀ k, k ∈ keys (abs q') ↔ k = p + 1 ∨ k ∈ keys (abs gd.q) := by
      intro k
      have : (keys (abs q')).Perm ((p + 1) :: keys (abs gd.q)) := by
        have := hperm.map (·.key); simpa [keys] using this
      rw [this.mem_iff]; simp
    have h1 := (hp.exempt p).setFr_ex (some f) (Or.inl hc.aw)
    have h2 := h1.enqueueEx hg (enterGuard gd q' p d) hwf' hlt hkeys
    have h3 := h2.addGuardAwaitEx g f (setFrame_self _ _ _) hgf hc.aw hlt
    have h4 := h3.modBlocked p (some f) (Or.inl (Or.inr rfl))
    have hpr := block_addAwait_proc { w with guards := w.guards.set! g (enterGuard gd q' p d) } p (.guard g) f hlt
    have hqF : ∀ g' k, queued ((addAwait { w with guards := w.guards.set! g (enterGuard gd q' p d) } p (.guard g)).modProc p
            fun x => { x with blocked := some f }) g' k ↔
        if g' = g then (k = p + 1 ∨ k ∈ keys (abs gd.q)) else queued w g' k := by
      intro g' k
      have := queued_set! hg (enterGuard gd q' p d) g' k
      rw [← hkeys k]
      exact this
    refine h4.unexempt ?_ ?_ ?_ ?_ ?_ ?_ ?_
    · intro g' hq
      rw [hqF] at hq
      split at hq
      · rename_i hgg; subst hgg
        show Await.guard g' ∈ ((block _ p f).1.proc p).awaits
        rw [(hpr p).1, if_pos rfl]; exact List.mem_cons_self
      · exact absurd hq (hc.nq g')
    · intro hb; exfalso; apply hb
      show ((block _ p f).1.proc p).blocked = _
      rw [(hpr p).2, if_pos rfl, setFrame_self]
    · intro e he hgr hb; exact absurd hb (hc.ng e he hgr)
    · intro a ha b hb h1' _ hba _; exact absurd hba (hc.ng a ha h1')
    · intro e he hea hb; exact absurd hb (hc.ng e he (Or.inr hea))
    · intro c g' hcg hq
      rw [hqF] at hq
      split at hq
      · rename_i hgg; subst hgg
        obtain ⟨c', hc'⟩ := hcond c hcg
        exact ⟨c', by rw [setFrame_self, hc']⟩
      · exact absurd hq (hc.nq g')
    · intro e he hea hec hb; exact absurd hb (hc.nt e he hea hec)

end CimbaModel.Sim.S3
