/-
  S3 — conditions: the exact effect of `condSignal`; the footprint `SigRel` of a signal, observers included.
-/
import CimbaModel.Sim.S3GuardOps

namespace CimbaModel.Sim.S3
open CimbaModel CimbaModel.Sim CimbaModel.Event CimbaModel.Generated CimbaModel.KPQ
open CimbaModel.HashHeap (HTag Item Order HH WF abs liveTags)

/-- the waiters whose predicate is true now, in heap-array order -/
def condSat (w : World) (gd : Guard) : List HTag :=
  (liveTags gd.q).filter fun t => evalDemand w (demandOf gd t.key)

/-- their wake-ups; the key of a waiter is its pid + 1, and `condSignal` (Sim/Model.lean) writes the subject of the event
    as pid + 1 with pid = key − 1: `t.key - 1 + 1`, which is `t.key` only for a key that is not 0 -/
def condWakes (w : World) (sat : List HTag) : List Wake :=
  sat.map fun t => ⟨aCond, t.key - 1 + 1, sigSuccess, (w.proc (t.key - 1)).prio⟩

theorem mem_condSat {w : World} {gd : Guard} {t : HTag} :
    t ∈ condSat w gd ↔ t ∈ liveTags gd.q ∧ evalDemand w (demandOf gd t.key) = true := by
  simp [condSat]

theorem mem_condSat_keys {w : World} {gd : Guard} {k : Nat} :
    k ∈ (condSat w gd).map (·.key) ↔ k ∈ keys (abs gd.q) ∧ evalDemand w (demandOf gd k) = true := by
  constructor
  · intro hm
    obtain ⟨x, hx, rfl⟩ := List.mem_map.1 hm
    obtain ⟨hlive, hd⟩ := mem_condSat.1 hx
    obtain ⟨i, hi1, hi2, rfl⟩ := (HashHeap.mem_liveTags _ _).1 hlive
    exact ⟨(HashHeap.mem_keys_abs _ _).2 ⟨i, ⟨hi1, hi2⟩, rfl⟩, hd⟩
  · intro ⟨hk, hd⟩
    obtain ⟨i, ⟨hi1, hi2⟩, rfl⟩ := (HashHeap.mem_keys_abs _ _).1 hk
    exact List.mem_map.2 ⟨gd.q.tag i, mem_condSat.2 ⟨(HashHeap.mem_liveTags _ _).2 ⟨i, hi1, hi2, rfl⟩, hd⟩, rfl⟩

theorem condSignal_none {w : World} {g : Nat} (hg : w.guards[g]? = none) : condSignal w g = (w, false) := by
  unfold condSignal; rw [hg]

theorem condSignal_empty {w : World} {g : Nat} {gd : Guard} (hg : w.guards[g]? = some gd) (hc : gd.q.count = 0) :
    condSignal w g = (w, false) := by
  unfold condSignal; rw [hg]; simp [hc]

theorem condSignal_eq {w : World} {g : Nat} {gd : Guard} (hg : w.guards[g]? = some gd) (hc : gd.q.count ≠ 0) :
    condSignal w g =
      ((condSat w gd).foldl (fun w t => (guardRemove w g (t.key - 1)).1) (pushAll w (condWakes w (condSat w gd))),
       decide ((condSat w gd).length > 0)) := by
  unfold condSignal
  rw [hg]
  simp only [hc, if_false]
  have := foldl_sched_eq (fun (w : World) (t : HTag) => (⟨aCond, t.key - 1 + 1, sigSuccess, (w.proc (t.key - 1)).prio⟩ : Wake))
    (fun _ _ _ _ _ _ _ => rfl) (condSat w gd) w
  simp only at this
  unfold condSat demandOf at *
  rw [this]
  rfl

theorem setGuardQ_setGuardQ (w : World) (g : Nat) (q1 q2 : HH) : setGuardQ (setGuardQ w g q1) g q2 = setGuardQ w g q2 := by
  unfold setGuardQ
  simp only
  congr 1
  apply Array.ext_getElem?
  intro i
  simp only [Array.getElem?_modify]
  split
  · cases w.guards[i]? <;> rfl
  · rfl

theorem removeFold_spec (g : Nat) : ∀ (ts : List HTag) (w : World) (gd : Guard), w.guards[g]? = some gd → GWF gd.q →
    (∀ t ∈ ts, t.key ≠ 0) →
    ∃ q', GWF q' ∧ (abs q').Perm ((abs gd.q).filter fun x => decide (x.key ∉ ts.map (·.key))) ∧
      ts.foldl (fun w t => (guardRemove w g (t.key - 1)).1) w = setGuardQ w g q' := by
  intro ts
  induction ts with
  | nil =>
    intro w gd hg hwf _
    refine ⟨gd.q, hwf, ?_, (setGuardQ_self hg).symm⟩
    simp only [List.map_nil, List.not_mem_nil, not_false_eq_true, decide_true]
    rw [List.filter_eq_self.2 (fun _ _ => rfl)]
  | cons t ts ih =>
    intro w gd hg hwf hk
    have ht : t.key - 1 + 1 = t.key := by have := hk t List.mem_cons_self; omega
    obtain ⟨q1, _, hwf1, hperm1, heq1⟩ := guardRemove_spec hg hwf (t.key - 1)
    rw [ht] at hperm1
    have hg1 : (setGuardQ w g q1).guards[g]? = some { gd with q := q1 } := by
      rw [setGuardQ_guards_get]; simp [hg]
    obtain ⟨q', hwf', hperm', heq'⟩ := ih (setGuardQ w g q1) { gd with q := q1 } hg1 hwf1
      (fun t' ht' => hk t' (List.mem_cons_of_mem _ ht'))
    refine ⟨q', hwf', ?_, ?_⟩
    · refine hperm'.trans ?_
      refine (hperm1.filter _).trans ?_
      simp only [KPQ.remove, List.filter_filter]
      apply List.Perm.of_eq
      apply List.filter_congr
      intro x _
      simp only [List.map_cons, List.mem_cons, not_or, ne_eq]
      by_cases h1 : x.key = t.key <;> simp [h1]
    · simp only [List.foldl_cons, heq1]
      rw [heq', setGuardQ_setGuardQ]

/-- `cmb_condition_signal` on a well-formed queue: every waiter whose predicate holds (and no other) gets one
    (aCond, SUCCESS) wake-up at the current time, in heap-array order; exactly those entries leave the queue; the
    return value says whether anybody was woken -/
theorem condSignal_spec {w : World} {g : Nat} {gd : Guard} (hg : w.guards[g]? = some gd) (hwf : GWF gd.q)
    (hc : gd.q.count ≠ 0) :
    ∃ q', GWF q' ∧
      (abs q').Perm ((abs gd.q).filter fun x => !evalDemand w (demandOf gd x.key)) ∧
      condSignal w g = (setGuardQ (pushAll w (condWakes w (condSat w gd))) g q', decide ((condSat w gd).length > 0)) := by
  rw [condSignal_eq hg hc]
  have hkeys : ∀ t ∈ condSat w gd, t.key ≠ 0 := by
    intro t ht
    have hl := (List.mem_filter.1 ht).1
    obtain ⟨i, hi1, hi2, rfl⟩ := (HashHeap.mem_liveTags _ _).1 hl
    exact (hwf.keyOk i hi1 hi2).1
  obtain ⟨q', hwf', hperm, heq⟩ := removeFold_spec g (condSat w gd) (pushAll w (condWakes w (condSat w gd))) gd
    (by simpa using hg) hwf hkeys
  refine ⟨q', hwf', ?_, by rw [heq]⟩
  refine hperm.trans (List.Perm.of_eq ?_)
  apply List.filter_congr
  intro x hx
  have hk : x.key ∈ keys (abs gd.q) := Event.mem_keys.2 ⟨x, hx, rfl⟩
  cases hd : evalDemand w (demandOf gd x.key) <;> simp [mem_condSat_keys, hk, hd]

/-- the same closed form without the side condition: on an empty list nothing happens -/
theorem condSignal_closed {w : World} {g : Nat} {gd : Guard} (hg : w.guards[g]? = some gd) (hwf : GWF gd.q) :
    ∃ q', GWF q' ∧ (abs q').Perm ((abs gd.q).filter fun x => !evalDemand w (demandOf gd x.key)) ∧
      (condSignal w g).1 = setGuardQ (pushAll w (condWakes w (condSat w gd))) g q' := by
  by_cases hc : gd.q.count = 0
  · have hsat : condSat w gd = [] := by
      apply List.eq_nil_iff_forall_not_mem.2
      intro t ht
      obtain ⟨i, hi1, hi2, _⟩ := (HashHeap.mem_liveTags _ _).1 (List.mem_filter.1 ht).1
      omega
    have habs : abs gd.q = [] := List.length_eq_zero_iff.1 (by rw [HashHeap.abs_length]; exact hc)
    refine ⟨gd.q, hwf, by rw [habs]; exact List.Perm.refl _, ?_⟩
    rw [condSignal_empty hg hc, hsat]
    exact ((congrArg (setGuardQ · g gd.q) (pushAll_nil w)).trans (setGuardQ_self hg)).symm
  · obtain ⟨q', hwf', hperm, heq⟩ := condSignal_spec hg hwf hc
    exact ⟨q', hwf', hperm, by rw [heq]⟩

theorem condSignal_pending {w : World} {g : Nat} {gd : Guard} (hg : w.guards[g]? = some gd) (hwf : GWF gd.q)
    (hc : gd.q.count ≠ 0) :
    (condSignal w g).1.ev.pending = wakeEvs w.ev.counter w.now (condWakes w (condSat w gd)) ++ w.ev.pending ∧
    (condSignal w g).1.now = w.now ∧ (condSignal w g).1.procs = w.procs ∧ (condSignal w g).1.fault = w.fault ∧
    (condSignal w g).1.res = w.res ∧ (condSignal w g).1.pools = w.pools ∧ (condSignal w g).1.bufs = w.bufs ∧
    (condSignal w g).1.oqs = w.oqs ∧ (condSignal w g).1.pqs = w.pqs ∧ (condSignal w g).1.flags = w.flags ∧
    (condSignal w g).1.evWaiters = w.evWaiters ∧
    ∀ g', g' ≠ g → (condSignal w g).1.guards[g']? = w.guards[g']? := by
  obtain ⟨q', _, _, heq⟩ := condSignal_spec hg hwf hc
  rw [heq]
  refine ⟨rfl, rfl, rfl, rfl, rfl, rfl, rfl, rfl, rfl, rfl, rfl, ?_⟩
  intro g' hne
  simp [setGuardQ_guards_get, hne]

theorem mem_condBatch {w : World} {gd : Guard} (hwf : GWF gd.q) {c : Nat} {now : Int} {e : HTag}
    (he : e ∈ wakeEvs c now (condWakes w (condSat w gd))) :
    e.item.b ∈ keys (abs gd.q) ∧ evalDemand w (demandOf gd e.item.b) = true ∧
      e = mkEv e.key aCond e.item.b sigSuccess now (w.proc (e.item.b - 1)).prio := by
  obtain ⟨_, _, _, _, x, hx, hex⟩ := wakeEvs_props he
  obtain ⟨t, ht, rfl⟩ := List.mem_map.1 hx
  obtain ⟨hlive, hdem⟩ := mem_condSat.1 ht
  obtain ⟨i, hi1, hi2, rfl⟩ := (HashHeap.mem_liveTags _ _).1 hlive
  have hk1 : (gd.q.tag i).key - 1 + 1 = (gd.q.tag i).key := by have := (hwf.keyOk i hi1 hi2).1; omega
  have hb : e.item.b = (gd.q.tag i).key := by rw [hex]; simp [mkEv, hk1]
  rw [hb]
  exact ⟨(HashHeap.mem_keys_abs _ _).2 ⟨i, ⟨hi1, hi2⟩, rfl⟩, hdem, by rw [hex]; simp [mkEv, hk1]⟩

/-- the footprint of `cmb_condition_signal` on the guard of a condition: only that queue shrinks, the only new events are
    the condition wake-ups of its satisfied waiters -/
theorem condSignal_rel {w : World} {g : Nat} (hh : hasHandler w g = true) (hall : AllGWF w) : SigRel w (condSignal w g).1 := by
  cases hg : w.guards[g]? with
  | none => rw [condSignal_none hg]; exact SigRel.refl hall
  | some gd =>
    have hwf := hall g gd hg
    by_cases hc : gd.q.count = 0
    · rw [condSignal_empty hg hc]; exact SigRel.refl hall
    · obtain ⟨q', hwf', hperm, heq⟩ := condSignal_spec hg hwf hc
      rw [heq]
      refine sigRel_wake hall hg hwf' (fun x hx => (List.mem_filter.1 (hperm.mem_iff.1 hx)).1) _ (Or.inr ⟨rfl, hh⟩) ?_
      intro e he
      obtain ⟨hin, hdem, heq⟩ := mem_condBatch hwf he
      refine ⟨hin, fun hm => ?_, hdem, heq⟩
      -- what is left in the queue has a false predicate
      obtain ⟨y, hy, hyk⟩ := Event.mem_keys.1 hm
      have := (List.mem_filter.1 (hperm.mem_iff.1 hy)).2
      rw [hyk, hdem] at this
      exact absurd this (by simp)

theorem guardSignalF_rel (fuel : Nat) (fwd : Bool) (w : World) (g : Nat) (h : AllGWF w) : SigRel w (guardSignalF fwd fuel w g) :=
  Sim.guardSignalF_rel SigRel.path (fun _ m h => SigRel.fail h m) (fun _ _ _ hg h => frontStep_rel hg h)
    (fun _ _ hh h => condSignal_rel hh h) fuel fwd w g h

/-- the footprint of `cmb_resourceguard_signal`, observers included -/
theorem guardSignal_rel (fuel : Nat) (w : World) (g : Nat) (h : AllGWF w) : SigRel w (guardSignal fuel w g) :=
  guardSignalF_rel fuel false w g h

theorem signal_rel (w : World) (g : Nat) (h : AllGWF w) : SigRel w (signal w g) := guardSignal_rel 8 w g h

end CimbaModel.Sim.S3
