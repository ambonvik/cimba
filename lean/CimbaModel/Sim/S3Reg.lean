/-
  S3 — a kind of waiting and its registry.  A process that waits for something records an awaitable, the other side
  records the process (`place`), and when the wait is over a wake-up event is pending for it (`isWake`); its frame says
  what it waits for (`on`).  `RInv K ex fr w`: the six clauses that say "registration = ownership" for one kind `K`:
  `PInv` is this for processes and for events (plus what is particular to them), and what the invariants do at a
  registration, a delivery of wake-ups or the end of a wait is proved here once.
-/
import CimbaModel.Sim.S3Foot

namespace CimbaModel.Sim.S3
open CimbaModel.Event
open CimbaModel.HashHeap (HTag)

structure Kind where
  isA : Await → Bool
  of : Nat → Await
  /-- `p` is recorded as waiting for `a` on the other side -/
  place : World → Nat → Pid → Prop
  isWake : HTag → Prop
  /-- the frame is a wait for `a` -/
  on : World → Frame → Nat → Prop
  isA_of : ∀ a, isA (of a) = true
  of_inj : ∀ {a b}, of a = of b → a = b

def Kind.aw (K : Kind) (w : World) (p : Pid) : List Await := (w.proc p).awaits.filter K.isA

/-- the logical frames `fr` (the frame a process is suspended in, as the invariants see it) with that of `p` replaced.
    `fr` is not read off `blocked`: while a suspended call is continued the record is cleared first and the
    registrations are withdrawn after, and in between the invariants hold for the frame that was recorded. -/
def setFrame (fr : Pid → Option Frame) (p : Pid) (x : Option Frame) : Pid → Option Frame :=
  fun y => if y = p then x else fr y

theorem setFrame_self (fr : Pid → Option Frame) (p : Pid) (x : Option Frame) : setFrame fr p x p = x := by
  simp [setFrame]
theorem setFrame_ne (fr : Pid → Option Frame) {p y : Pid} (x : Option Frame) (h : y ≠ p) : setFrame fr p x y = fr y := by
  simp [setFrame, h]

/-- the recorded frames: the logical frames between activations -/
def blockedOf (w : World) : Pid → Option Frame := fun p => (w.proc p).blocked

/-- nobody is exempt -/
def noEx : Pid → Prop := fun _ => False

theorem noEx_not (x : Pid) : ¬ noEx x := fun h => h

/-- `p` is exempt as well: its own clauses are suspended while it withdraws its registrations one by one -/
def exAdd (ex : Pid → Prop) (p : Pid) : Pid → Prop := fun x => ex x ∨ x = p

theorem Kind.mem_aw (K : Kind) {w : World} {p : Pid} {a : Nat} : K.of a ∈ (w.proc p).awaits ↔ K.of a ∈ K.aw w p := by
  unfold Kind.aw; rw [List.mem_filter, K.isA_of]; simp

structure RInv (K : Kind) (ex : Pid → Prop) (fr : Pid → Option Frame) (w : World) : Prop where
  /-- at most one awaitable of the kind, and only while suspended in a wait for it -/
  one : ∀ p, K.aw w p = [] ∨ ∃ a f, fr p = some f ∧ K.on w f a ∧ K.aw w p = [K.of a]
  /-- the logical frame is the recorded one wherever something of the kind is awaited -/
  fb : ∀ p, ¬ ex p → (w.proc p).blocked ≠ fr p → K.aw w p = []
  /-- who is recorded on the other side awaits it -/
  reg : ∀ a p, K.place w a p → ¬ ex p → K.of a ∈ (w.proc p).awaits
  /-- a wake-up of the kind is addressed to a process (subject = pid + 1) -/
  sb : ∀ e ∈ w.ev.pending, K.isWake e → e.item.b ≠ 0
  /-- a pending wake-up belongs to a process that awaits something of the kind and is no longer recorded there -/
  own : ∀ e ∈ w.ev.pending, K.isWake e → ∀ p, e.item.b = p + 1 → ¬ ex p → ∃ a, K.of a ∈ (w.proc p).awaits ∧ ¬ K.place w a p
  uniq : ∀ e1 ∈ w.ev.pending, ∀ e2 ∈ w.ev.pending, K.isWake e1 → K.isWake e2 → e1.item.b = e2.item.b →
    ∀ p, e1.item.b = p + 1 → ¬ ex p → e1 = e2

variable {ex : Pid → Prop} {fr : Pid → Option Frame} {w : World}

section
variable {K : Kind} (h : RInv K ex fr w)
include h

theorem RInv.unique {p : Pid} {a b : Nat} (ha : K.of a ∈ (w.proc p).awaits) (hb : K.of b ∈ (w.proc p).awaits) :
    a = b ∧ ∃ f, fr p = some f ∧ K.on w f a := by
  rw [K.mem_aw] at ha hb
  rcases h.one p with h0 | ⟨c, f, hf, hon, h1⟩
  · rw [h0] at ha; cases ha
  · rw [h1, List.mem_singleton] at ha hb
    have := K.of_inj ha; subst this
    exact ⟨K.of_inj (hb ▸ rfl), f, hf, hon⟩

/-- a process whose frame waits for nothing of the kind: nothing of the kind is registered or pending for it -/
theorem RInv.idle {p : Pid} (hx : ¬ ex p) (hno : ∀ f a, fr p = some f → ¬ K.on w f a) :
    K.aw w p = [] ∧ (∀ a, ¬ K.place w a p) ∧ ∀ e ∈ w.ev.pending, K.isWake e → e.item.b ≠ p + 1 := by
  have h0 : K.aw w p = [] := (h.one p).elim id fun ⟨a, f, hf, hon, _⟩ => absurd hon (hno f a hf)
  have hnone : ∀ a, K.of a ∉ (w.proc p).awaits := fun a ha => by rw [K.mem_aw, h0] at ha; cases ha
  exact ⟨h0, fun a hp => hnone a (h.reg a p hp hx), fun e he hw hb => (h.own e he hw p hb hx).elim fun a ha => hnone a ha.1⟩

/-- a process whose frame waits for `a`: it awaits `a` or nothing, is recorded at most at `a`, and a pending wake-up
    finds it awaiting `a` and no longer recorded -/
theorem RInv.here {p : Pid} {f : Frame} {a : Nat} (hx : ¬ ex p) (hfr : fr p = some f)
    (hfun : ∀ b, K.on w f b → b = a) :
    (K.aw w p = [] ∨ K.aw w p = [K.of a]) ∧ (∀ b, K.place w b p → b = a ∧ K.of a ∈ (w.proc p).awaits) ∧
    ∀ e ∈ w.ev.pending, K.isWake e → e.item.b = p + 1 → K.of a ∈ (w.proc p).awaits ∧ ¬ K.place w a p := by
  have hmem : ∀ b, K.of b ∈ (w.proc p).awaits → b = a := fun b hb => by
    obtain ⟨_, f', hf', hon⟩ := h.unique hb hb
    rw [hfr] at hf'; cases hf'; exact hfun b hon
  refine ⟨?_, fun b hb => ?_, fun e he hw hb => ?_⟩
  · rcases h.one p with h0 | ⟨b, f', hf', hon, h1⟩
    · exact Or.inl h0
    · rw [hfr] at hf'; cases hf'; rw [hfun b hon] at h1; exact Or.inr h1
  · have := h.reg b p hb hx
    have hba := hmem b this; subst hba; exact ⟨rfl, this⟩
  · obtain ⟨b, h1, h2⟩ := h.own e he hw p hb hx
    have hba := hmem b h1; subst hba; exact ⟨h1, h2⟩

end

/-- what `place` and `on` of a kind may look at: not the awaitables, the recorded frame, the event queue … -/
structure Kind.Lawful (K : Kind) : Prop where
  place_awaits : ∀ (w : World) (p : Pid) (g : List Await → List Await) a x,
    K.place (w.modProc p fun y => { y with awaits := g y.awaits }) a x ↔ K.place w a x
  on_awaits : ∀ (w : World) (p : Pid) (g : List Await → List Await) f a,
    K.on (w.modProc p fun y => { y with awaits := g y.awaits }) f a ↔ K.on w f a

theorem aw_modAwaits (K : Kind) (w : World) (p : Pid) (g : List Await → List Await) (x : Pid) :
    K.aw (w.modProc p fun y => { y with awaits := g y.awaits }) x =
      if x = p ∧ p < w.procs.size then (g (w.proc p).awaits).filter K.isA else K.aw w x := by
  unfold Kind.aw; rw [modProc_proc]; split
  · rfl
  · rfl

section
variable {K : Kind} (hK : K.Lawful) (h : RInv K ex fr w)
include hK h

/-- … without touching those of the kind -/
theorem RInv.mapAwaits (p : Pid) (g : List Await → List Await) (hg : ∀ l, (g l).filter K.isA = l.filter K.isA) :
    RInv K ex fr (w.modProc p fun y => { y with awaits := g y.awaits }) := by
  have haw : ∀ x, K.aw (w.modProc p fun y => { y with awaits := g y.awaits }) x = K.aw w x := fun x => by
    rw [aw_modAwaits]; split
    · rename_i hx; rw [hx.1]; exact hg _
    · rfl
  have hmem : ∀ x a, K.of a ∈ ((w.modProc p fun y => { y with awaits := g y.awaits }).proc x).awaits ↔ K.of a ∈ (w.proc x).awaits :=
    fun x a => by
      have e1 : K.of a ∈ ((w.modProc p fun y => { y with awaits := g y.awaits }).proc x).awaits ↔
          K.of a ∈ K.aw (w.modProc p fun y => { y with awaits := g y.awaits }) x := by
        unfold Kind.aw; rw [List.mem_filter, K.isA_of]; simp
      rw [e1, haw, ← K.mem_aw]
  refine ⟨fun x => ?_, fun x hx hb => ?_, fun a x hp hx => ?_, h.sb, fun e he hw x hb hx => ?_, h.uniq⟩
  · rw [haw]; exact (h.one x).imp id fun ⟨a, f, h1, h2, h3⟩ => ⟨a, f, h1, (hK.on_awaits w p g f a).2 h2, h3⟩
  · rw [haw]; exact h.fb x hx (by rwa [modProc_keep Proc.blocked] at hb)
  · rw [hmem]; exact h.reg a x ((hK.place_awaits w p g a x).1 hp) hx
  · obtain ⟨a, h1, h2⟩ := h.own e he hw x hb hx
    exact ⟨a, (hmem x a).2 h1, fun hp => h2 ((hK.place_awaits w p g a x).1 hp)⟩

/-- … dropping those of the kind, for a process that is recorded nowhere and has no wake-up of the kind pending -/
theorem RInv.dropAwaits (p : Pid) (g : List Await → List Await) (hg : (g (w.proc p).awaits).filter K.isA = [])
    (hnp : ∀ a, ¬ K.place w a p) (hnw : ∀ e ∈ w.ev.pending, K.isWake e → e.item.b ≠ p + 1) :
    RInv K ex fr (w.modProc p fun y => { y with awaits := g y.awaits }) := by
  have hmem : ∀ x, x ≠ p → ((w.modProc p fun y => { y with awaits := g y.awaits }).proc x).awaits = (w.proc x).awaits :=
    fun x hx => by rw [modProc_proc_ne _ _ hx]
  refine ⟨fun x => ?_, fun x hx hb => ?_, fun a x hp hx => ?_, h.sb, fun e he hw x hb hx => ?_, h.uniq⟩
  · rw [aw_modAwaits]; split
    · exact Or.inl hg
    · exact (h.one x).imp id fun ⟨a, f, h1, h2, h3⟩ => ⟨a, f, h1, (hK.on_awaits w p g f a).2 h2, h3⟩
  · rw [aw_modAwaits]; split
    · exact hg
    · exact h.fb x hx (by rwa [modProc_keep Proc.blocked] at hb)
  · have hp' := (hK.place_awaits w p g a x).1 hp
    by_cases hxp : x = p
    · subst hxp; exact absurd hp' (hnp a)
    · rw [hmem x hxp]; exact h.reg a x hp' hx
  · by_cases hxp : x = p
    · subst hxp; exact absurd hb (hnw e he hw)
    · obtain ⟨a, h1, h2⟩ := h.own e he hw x hb hx
      exact ⟨a, by rw [hmem x hxp]; exact h1, fun hp => h2 ((hK.place_awaits w p g a x).1 hp)⟩

end

section
variable {K : Kind} {p : Pid}

theorem RInv.exempt (h : RInv K ex fr w) (p : Pid) : RInv K (exAdd ex p) fr w :=
  ⟨h.one, fun x hx => h.fb x fun e => hx (.inl e), fun a x hp hx => h.reg a x hp fun e => hx (.inl e), h.sb,
    fun e he hw x hb hx => h.own e he hw x hb fun e' => hx (.inl e'),
    fun e1 h1 e2 h2 w1 w2 hb x hbx hx => h.uniq e1 h1 e2 h2 w1 w2 hb x hbx fun e' => hx (.inl e')⟩

/-- the exemption can be dropped once the process is recorded nowhere and has no wake-up of the kind pending -/
theorem RInv.unexempt (h : RInv K (exAdd ex p) fr w) (hnw : ∀ e ∈ w.ev.pending, K.isWake e → e.item.b ≠ p + 1)
    (hnp : ∀ b, ¬ K.place w b p) (hfb : (w.proc p).blocked ≠ fr p → K.aw w p = []) : RInv K ex fr w := by
  have ne : ∀ {x}, ¬ ex x → x ≠ p → ¬ exAdd ex p x := fun hx hxp e => e.elim hx hxp
  refine ⟨h.one, fun x hx hb => ?_, fun a x hp hx => ?_, h.sb, fun e he hw x hb hx => ?_,
    fun e1 h1 e2 h2 w1 w2 hb x hbx hx => ?_⟩
  · by_cases hxp : x = p
    · subst hxp; exact hfb hb
    · exact h.fb x (ne hx hxp) hb
  · by_cases hxp : x = p
    · subst hxp; exact absurd hp (hnp a)
    · exact h.reg a x hp (ne hx hxp)
  · by_cases hxp : x = p
    · subst hxp; exact absurd hb (hnw e he hw)
    · exact h.own e he hw x hb (ne hx hxp)
  · by_cases hxp : x = p
    · subst hxp; exact absurd hbx (hnw e1 h1 w1)
    · exact h.uniq e1 h1 e2 h2 w1 w2 hb x hbx (ne hx hxp)

/-- the record of the exempt process may be rewritten as long as no awaitable of the kind is left -/
theorem RInv.modEx (h : RInv K (exAdd ex p) fr w) (f : Proc → Proc) (hl : (f (w.proc p)).awaits.filter K.isA = [])
    (hon : ∀ g b, K.on (w.modProc p f) g b ↔ K.on w g b) (hpl : ∀ b y, K.place (w.modProc p f) b y ↔ K.place w b y) :
    RInv K (exAdd ex p) fr (w.modProc p f) := by
  have hpr : ∀ x, x ≠ p → (w.modProc p f).proc x = w.proc x := fun x hx => modProc_proc_ne w _ hx
  have np : ∀ {x}, ¬ exAdd ex p x → x ≠ p := fun hx e => hx (.inr e)
  refine ⟨fun x => ?_, fun x hx hb => ?_, fun a x hp hx => ?_, h.sb, fun e he hw x hb hx => ?_, h.uniq⟩
  · by_cases hx : x = p ∧ p < w.procs.size
    · left; unfold Kind.aw; rw [hx.1, modProc_proc_self w _ hx.2]; exact hl
    · have : (w.modProc p f).proc x = w.proc x := by rw [modProc_proc, if_neg hx]
      unfold Kind.aw; rw [this]
      exact (h.one x).imp id fun ⟨b, g, a1, a2, a3⟩ => ⟨b, g, a1, (hon g b).2 a2, a3⟩
  · unfold Kind.aw; rw [hpr x (np hx)] at hb ⊢; exact h.fb x hx hb
  · rw [hpr x (np hx)]; exact h.reg a x ((hpl a x).1 hp) hx
  · obtain ⟨b, b1, b2⟩ := h.own e he hw x hb hx
    exact ⟨b, by rw [hpr x (np hx)]; exact b1, fun hp => b2 ((hpl b x).1 hp)⟩

end

section
variable {K : Kind} (h : RInv K ex fr w) {w' : World} {p : Pid}
include h

/-- the frame of `p`, which awaits nothing of the kind, changes; the registry is as it was -/
theorem RInv.reframe (x : Option Frame) (hidle : K.aw w p = []) (haw : ∀ y, K.aw w' y = K.aw w y)
    (hbl : ∀ y, y ≠ p → (w'.proc y).blocked = (w.proc y).blocked)
    (hon : ∀ f b, K.on w' f b ↔ K.on w f b) (hpl : ∀ b y, K.place w' b y ↔ K.place w b y)
    (hpend : ∀ e ∈ w'.ev.pending, K.isWake e → e ∈ w.ev.pending) : RInv K ex (setFrame fr p x) w' := by
  have hmem : ∀ y b, K.of b ∈ (w'.proc y).awaits ↔ K.of b ∈ (w.proc y).awaits := fun y b => by
    rw [K.mem_aw, K.mem_aw, haw]
  refine ⟨fun y => ?_, fun y hx hb => ?_, fun b y hp hx => (hmem y b).2 (h.reg b y ((hpl b y).1 hp) hx),
    fun e he hw => h.sb e (hpend e he hw) hw, fun e he hw y hb hx => ?_,
    fun e1 h1 e2 h2 w1 w2 => h.uniq e1 (hpend e1 h1 w1) e2 (hpend e2 h2 w2) w1 w2⟩
  · rw [haw]
    by_cases hy : y = p
    · subst hy; exact Or.inl hidle
    · rw [setFrame_ne _ _ hy]; exact (h.one y).imp id fun ⟨b, f, a1, a2, a3⟩ => ⟨b, f, a1, (hon f b).2 a2, a3⟩
  · rw [haw]
    by_cases hy : y = p
    · subst hy; exact hidle
    · rw [hbl y hy, setFrame_ne _ _ hy] at hb; exact h.fb y hx hb
  · obtain ⟨b, b1, b2⟩ := h.own e (hpend e he hw) hw y hb hx
    exact ⟨b, (hmem y b).2 b1, fun hp => b2 ((hpl b y).1 hp)⟩

/-- `p`, which awaits nothing of the kind, registers for `a`: it awaits `a`, is recorded there and suspended in `f` -/
theorem RInv.register (a : Nat) (f : Frame) (hidle : K.aw w p = [])
    (haw : ∀ y, K.aw w' y = if y = p then [K.of a] else K.aw w y)
    (hbl : ∀ y, y ≠ p → (w'.proc y).blocked = (w.proc y).blocked) (hblp : (w'.proc p).blocked = some f)
    (hona : K.on w' f a) (hon : ∀ f b, K.on w' f b ↔ K.on w f b)
    (hpl : ∀ b y, K.place w' b y ↔ K.place w b y ∨ (b = a ∧ y = p))
    (hpend : ∀ e ∈ w'.ev.pending, K.isWake e → e ∈ w.ev.pending) : RInv K ex (setFrame fr p (some f)) w' := by
  have hnone : ∀ b, K.of b ∉ (w.proc p).awaits := fun b hb => by rw [K.mem_aw, hidle] at hb; cases hb
  have hmem : ∀ y b, K.of b ∈ (w.proc y).awaits → K.of b ∈ (w'.proc y).awaits := fun y b hb => by
    rw [K.mem_aw, haw]; split
    · rename_i hy; subst hy; exact absurd hb (hnone b)
    · exact K.mem_aw.1 hb
  refine ⟨fun y => ?_, fun y hx hb => ?_, fun b y hp hx => ?_, fun e he hw => h.sb e (hpend e he hw) hw,
    fun e he hw y hb hx => ?_, fun e1 h1 e2 h2 w1 w2 => h.uniq e1 (hpend e1 h1 w1) e2 (hpend e2 h2 w2) w1 w2⟩
  · rw [haw]
    by_cases hy : y = p
    · subst hy; rw [if_pos rfl]; exact Or.inr ⟨a, f, setFrame_self _ _ _, hona, rfl⟩
    · rw [if_neg hy, setFrame_ne _ _ hy]
      exact (h.one y).imp id fun ⟨b, f', a1, a2, a3⟩ => ⟨b, f', a1, (hon f' b).2 a2, a3⟩
  · by_cases hy : y = p
    · subst hy; rw [hblp, setFrame_self] at hb; exact absurd rfl hb
    · rw [haw, if_neg hy]; rw [hbl y hy, setFrame_ne _ _ hy] at hb; exact h.fb y hx hb
  · rcases (hpl b y).1 hp with hp | ⟨rfl, rfl⟩
    · exact hmem y b (h.reg b y hp hx)
    · rw [K.mem_aw, haw, if_pos rfl]; exact List.mem_singleton.2 rfl
  · obtain ⟨b, b1, b2⟩ := h.own e (hpend e he hw) hw y hb hx
    refine ⟨b, hmem y b b1, fun hp => ?_⟩
    rcases (hpl b y).1 hp with hp | ⟨_, rfl⟩
    · exact b2 hp
    · exact hnone b b1

end

section
variable {K : Kind} (h : RInv K ex fr w) {w' : World}
include h

/-- nothing of the kind changes: same awaitables and frames, nobody newly recorded, no new wake-up of the kind -/
theorem RInv.frame (haw : ∀ x, (w'.proc x).awaits = (w.proc x).awaits) (hbl : ∀ x, (w'.proc x).blocked = (w.proc x).blocked)
    (hon : ∀ f b, K.on w' f b ↔ K.on w f b) (hpl : ∀ b x, K.place w' b x → K.place w b x)
    (hpend : ∀ e ∈ w'.ev.pending, K.isWake e → e ∈ w.ev.pending) : RInv K ex fr w' := by
  have haw' : ∀ x, K.aw w' x = K.aw w x := fun x => by unfold Kind.aw; rw [haw]
  refine ⟨fun x => ?_, fun x hx hb => ?_, fun a x hp hx => ?_, fun e he hw => h.sb e (hpend e he hw) hw,
    fun e he hw x hb hx => ?_, fun e1 h1 e2 h2 w1 w2 => h.uniq e1 (hpend e1 h1 w1) e2 (hpend e2 h2 w2) w1 w2⟩
  · rw [haw']; exact (h.one x).imp id fun ⟨a, f, a1, a2, a3⟩ => ⟨a, f, a1, (hon f a).2 a2, a3⟩
  · rw [haw']; exact h.fb x hx (by rwa [hbl] at hb)
  · rw [haw]; exact h.reg a x (hpl a x hp) hx
  · obtain ⟨a, a1, a2⟩ := h.own e (hpend e he hw) hw x hb hx
    exact ⟨a, by rw [haw]; exact a1, fun hp => a2 (hpl a x hp)⟩

/-- the recorded waiters `S` of `a` are taken off the record; each gets one wake-up (`New`) -/
theorem RInv.deliver (a : Nat) (S : Pid → Prop) (New : HTag → Prop) (hS : ∀ q, S q → K.place w a q)
    (haw : ∀ x, (w'.proc x).awaits = (w.proc x).awaits) (hbl : ∀ x, (w'.proc x).blocked = (w.proc x).blocked)
    (hon : ∀ f b, K.on w' f b ↔ K.on w f b)
    (hpl : ∀ b x, K.place w' b x ↔ K.place w b x ∧ ¬ (b = a ∧ S x))
    (hpend : ∀ e ∈ w'.ev.pending, e ∈ w.ev.pending ∨ New e)
    (hnew : ∀ e, New e → ∃ q, S q ∧ e.item.b = q + 1)
    (hinj : ∀ e1 ∈ w'.ev.pending, ∀ e2 ∈ w'.ev.pending, New e1 → New e2 → e1.item.b = e2.item.b → e1 = e2) : RInv K ex fr w' := by
  have haw' : ∀ x, K.aw w' x = K.aw w x := fun x => by unfold Kind.aw; rw [haw]
  have hclash : ∀ e ∈ w.ev.pending, K.isWake e → ∀ q, S q → ¬ ex q → e.item.b ≠ q + 1 := fun e he hw q hq hx hb => by
    obtain ⟨b, b1, b2⟩ := h.own e he hw q hb hx
    have := (h.unique b1 (h.reg a q (hS q hq) hx)).1
    subst this; exact b2 (hS q hq)
  refine ⟨fun x => ?_, fun x hx hb => ?_, fun b x hp hx => ?_, fun e he hw => ?_, fun e he hw x hb hx => ?_, ?_⟩
  · rw [haw']; exact (h.one x).imp id fun ⟨b, f, a1, a2, a3⟩ => ⟨b, f, a1, (hon f b).2 a2, a3⟩
  · rw [haw']; exact h.fb x hx (by rwa [hbl] at hb)
  · rw [haw]; exact h.reg b x ((hpl b x).1 hp).1 hx
  · rcases hpend e he with ho | hn
    · exact h.sb e ho hw
    · obtain ⟨q, _, hq⟩ := hnew e hn; rw [hq]; exact Nat.succ_ne_zero q
  · rcases hpend e he with ho | hn
    · obtain ⟨b, b1, b2⟩ := h.own e ho hw x hb hx
      exact ⟨b, by rw [haw]; exact b1, fun hp => b2 ((hpl b x).1 hp).1⟩
    · obtain ⟨q, hq, hbq⟩ := hnew e hn
      have : q = x := Nat.add_right_cancel (hbq.symm.trans hb)
      subst this
      exact ⟨a, by rw [haw]; exact h.reg a q (hS q hq) hx, fun hp => ((hpl a q).1 hp).2 ⟨rfl, hq⟩⟩
  · intro e1 h1 e2 h2 w1 w2 hbb x hbx hx
    rcases hpend e1 h1 with o1 | n1 <;> rcases hpend e2 h2 with o2 | n2
    · exact h.uniq e1 o1 e2 o2 w1 w2 hbb x hbx hx
    · obtain ⟨q, hq, hbq⟩ := hnew e2 n2
      have : q = x := Nat.add_right_cancel ((hbb.trans hbq).symm.trans hbx)
      subst this
      exact absurd (hbb.trans hbq) (hclash e1 o1 w1 q hq hx)
    · obtain ⟨q, hq, hbq⟩ := hnew e1 n1
      have : q = x := Nat.add_right_cancel (hbq.symm.trans hbx)
      subst this
      exact absurd (hbb.symm.trans hbq) (hclash e2 o2 w2 q hq hx)
    · exact hinj e1 h1 e2 h2 n1 n2 hbb

end

end CimbaModel.Sim.S3
