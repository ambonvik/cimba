/-
  S3 — `PInv`: temporarily exempting one process (while it withdraws all its registrations), and the
  uniqueness facts.
-/
import CimbaModel.Sim.S3PInvReg

namespace CimbaModel.Sim.S3
open CimbaModel CimbaModel.Sim CimbaModel.Event CimbaModel.Generated CimbaModel.KPQ
open CimbaModel.HashHeap (HTag Item Order HH WF abs liveTags)

variable {ex : Pid → Prop} {fr : Pid → Option Frame}

theorem PInv.proc_unique {w : World} (hp : PInv ex fr w) {x a b : Pid} (ha : Await.proc a ∈ (w.proc x).awaits)
    (hb : Await.proc b ∈ (w.proc x).awaits) : a = b ∧ fr x = some (.waitProc a) :=
  (hp.procs.unique ha hb).imp id fun ⟨_, hf, hon⟩ => hon ▸ hf

theorem PInv.event_unique {w : World} (hp : PInv ex fr w) {x : Pid} {a b : Nat} (ha : Await.event a ∈ (w.proc x).awaits)
    (hb : Await.event b ∈ (w.proc x).awaits) : a = b ∧ fr x = some (.waitEvent a) :=
  (hp.events.unique ha hb).imp id fun ⟨_, hf, hon⟩ => hon ▸ hf

theorem PInv.exempt {w : World} (hp : PInv ex fr w) (p : Pid) : PInv (exAdd ex p) fr w :=
  PInv.join (hp.procs.exempt p) (hp.events.exempt p) hp.ei hp.ar hp.wn hp.en hp.es
    fun e he ha x hb hx => hp.oh e he ha x hb fun h => hx (.inl h)

/-- the exemption can be dropped once the process is registered nowhere and has no process / event wake-up pending -/
theorem PInv.unexempt {w : World} {p : Pid} (hp : PInv (exAdd ex p) fr w)
    (hnoev : ∀ e ∈ w.ev.pending, e.item.a = aProc ∨ e.item.a = aEvent → e.item.b ≠ p + 1)
    (hnow : ∀ x, p ∉ (w.proc x).waiters) (hnoe : ∀ h l, (h, l) ∈ w.evWaiters → p ∉ l)
    (hfbp : (w.proc p).blocked ≠ fr p → procAw w p = [] ∧ evAw w p = []) : PInv ex fr w :=
  PInv.join (hp.procs.unexempt (fun e he ha => hnoev e he (.inl ha)) hnow fun hb => (hfbp hb).1)
    (hp.events.unexempt (fun e he ha => hnoev e he (.inr ha))
      (fun h hm => (evWaitersOf_mem hm).elim fun l hl => hnoe h l hl.1 hl.2) fun hb => (hfbp hb).2)
    hp.ei hp.ar hp.wn hp.en hp.es fun e he ha x hb hx => by
      by_cases hxp : x = p
      · subst hxp; exact absurd hb (hnoev e he (.inr ha))
      · exact hp.oh e he ha x hb fun h => h.elim hx hxp

theorem PInv.settle {w : World} {p : Pid} (h : PInv (exAdd ex p) fr w) (x : Option Frame)
    (hnil : procAw w p = [] ∧ evAw w p = [])
    (hne : ∀ e ∈ w.ev.pending, e.item.a = aProc ∨ e.item.a = aEvent → e.item.b ≠ p + 1)
    (hnw : ∀ y, p ∉ (w.proc y).waiters) (hnev : ∀ k l, (k, l) ∈ w.evWaiters → p ∉ l) : PInv ex (setFrame fr p x) w := by
  have h' : PInv (exAdd ex p) (setFrame fr p x) w := by
    refine h.setFr _ ?_ ?_
    · intro y hy
      by_cases hyp : y = p
      · subst hyp; exact hnil
      · rw [setFrame_ne _ _ hyp] at hy; exact absurd rfl hy
    · intro y hyy hy
      have hyp : y ≠ p := fun h => hyy (Or.inr h)
      rw [setFrame_ne _ _ hyp] at hy; exact h.fb y hyy hy
  exact h'.unexempt hne hnw hnev (fun _ => hnil)

/-- the record of an exempt process may be rewritten freely (awaits, recorded frame, …) as long as its waiter list
    and status stay and no process / event registration is left -/
theorem PInv.modProcEx {w : World} {p : Pid} (hp : PInv (exAdd ex p) fr w) (f : Proc → Proc)
    (hfw : (f (w.proc p)).waiters = (w.proc p).waiters) (hfs : (f (w.proc p)).status = (w.proc p).status)
    (hl1 : (f (w.proc p)).awaits.filter isProcA = []) (hl2 : (f (w.proc p)).awaits.filter isEventA = []) :
    PInv (exAdd ex p) fr (w.modProc p f) := by
  have hpr : ∀ x, x ≠ p → (w.modProc p f).proc x = w.proc x := fun x hx => modProc_proc_ne w _ hx
  have hrec : ∀ x, (w.modProc p f).proc x = w.proc x ∨ (x = p ∧ (w.modProc p f).proc p = f (w.proc p)) := fun x => by
    by_cases hx : x = p ∧ p < w.procs.size
    · exact .inr ⟨hx.1, modProc_proc_self w _ hx.2⟩
    · left; rw [modProc_proc, if_neg hx]
  have hw : ∀ x, ((w.modProc p f).proc x).waiters = (w.proc x).waiters := fun x => by
    rcases hrec x with h | ⟨rfl, h⟩ <;> rw [h]; exact hfw
  refine PInv.join (hp.procs.modEx f hl1 (fun _ _ => Iff.rfl) fun b y => by show y ∈ _ ↔ y ∈ _; rw [hw])
    (hp.events.modEx f hl2 (fun _ _ => Iff.rfl) fun _ _ => Iff.rfl) hp.ei (fun x hx => ?_) (fun x => by rw [hw]; exact hp.wn x)
    hp.en hp.es fun e he ha x hb hx h hh => ?_
  · unfold procAw evAw
    rcases hrec x with h | ⟨rfl, h⟩
    · rw [h] at hx ⊢; exact hp.ar x hx
    · rw [h]; exact ⟨hl1, hl2⟩
  · rw [hpr x fun e' => hx (.inr e')] at hh
    exact hp.oh e he ha x hb hx h hh

theorem PInv.shrinkWaiters {w : World} (hp : PInv ex fr w) (q : Pid) (g : List Pid → List Pid)
    (hsub : ∀ l x, x ∈ g l → x ∈ l) (hnd : ∀ l, l.Nodup → (g l).Nodup) :
    PInv ex fr (w.modProc q fun y => { y with waiters := g y.waiters }) := by
  have haw : ∀ x, ((w.modProc q fun y => { y with waiters := g y.waiters }).proc x).awaits = (w.proc x).awaits :=
    modProc_keep Proc.awaits _ _
  have hbl : ∀ x, ((w.modProc q fun y => { y with waiters := g y.waiters }).proc x).blocked = (w.proc x).blocked :=
    modProc_keep Proc.blocked _ _
  have hst : ∀ x, ((w.modProc q fun y => { y with waiters := g y.waiters }).proc x).status = (w.proc x).status :=
    modProc_keep Proc.status _ _
  have hwt : ∀ x, (∀ y, y ∈ ((w.modProc q fun y => { y with waiters := g y.waiters }).proc x).waiters → y ∈ (w.proc x).waiters) ∧
      ((w.modProc q fun y => { y with waiters := g y.waiters }).proc x).waiters.Nodup := by
    intro x; rw [modProc_proc]; split
    · rename_i h; rw [h.1]; exact ⟨hsub _, hnd _ (hp.wn q)⟩
    · exact ⟨fun _ h => h, hp.wn x⟩
  refine PInv.join (hp.procs.frame haw hbl (fun _ _ => Iff.rfl) (fun b x => (hwt b).1 x) fun _ he _ => he)
    (hp.events.frame haw hbl (fun _ _ => Iff.rfl) (fun _ _ h => h) fun _ he _ => he) hp.ei (fun x hx => ?_)
    (fun x => (hwt x).2) hp.en hp.es fun e he ha x hb hx h hh => hp.oh e he ha x hb hx h (by rwa [haw] at hh)
  unfold procAw evAw; rw [haw]; exact hp.ar x (by rwa [hst] at hx)

end CimbaModel.Sim.S3
