/-
  S4 — how the priority queues change.  A queue's record changes only by the library calls on it (`PqStep`), and the
  array of queues only record by record (`PqEvo`); this is read off the footprint of the library (`PqEvo.ofEff`).  Two consequences are drawn from it: the number of puts into a queue only grows (`PqMono`,
  here), so that the bound `PqRoom` ("fewer than 2³¹ − 1 puts so far": the growth limit of the hashheap, far below the
  2⁶⁴ handles) need only be stated for the final state; and the hashheaps stay well-formed (`PQS`, S4PqInv).
-/
import CimbaModel.Sim.S1Frame
import CimbaModel.Sim.S3Lists

namespace CimbaModel.Sim.S4
open CimbaModel CimbaModel.Sim CimbaModel.Event CimbaModel.Generated
open CimbaModel.HashHeap (HTag Item Order HH)

/-- every priority queue of `w` has seen fewer than 2³¹ − 1 puts: the bound under which no put finds the hashheap at its
    growth limit (it is assumed of the world in which a run ends; `PQRoom x`, S4SafeRun, is what one put needs of its queue) -/
def PqRoom (w : World) : Prop := ∀ (k : Nat) (x : PQ), w.pqs[k]? = some x → x.putLog.length + 1 < 2 ^ 31

def PqMono (w w' : World) : Prop :=
  ∀ (k : Nat) (x : PQ), w.pqs[k]? = some x → ∃ x' : PQ, w'.pqs[k]? = some x' ∧ x.putLog.length ≤ x'.putLog.length

theorem PqMono.refl (w : World) : PqMono w w := fun _ x h => ⟨x, h, Nat.le_refl _⟩

theorem PqMono.trans {a b c : World} (h1 : PqMono a b) (h2 : PqMono b c) : PqMono a c := by
  intro k x hx
  obtain ⟨y, hy, hl⟩ := h1 k x hx
  obtain ⟨z, hz, hl'⟩ := h2 k y hy
  exact ⟨z, hz, Nat.le_trans hl hl'⟩

theorem PqRoom.of_mono {w w' : World} (h : PqRoom w') (hm : PqMono w w') : PqRoom w := by
  intro k x hx
  obtain ⟨x', hx', hl⟩ := hm k x hx
  have := h k x' hx'
  omega

theorem _root_.CimbaModel.Sim.PqStep.putLog_le {x y : PQ} (h : PqStep x y) : x.putLog.length ≤ y.putLog.length := by
  induction h with
  | put _ hp => rw [hp, List.length_append]; exact Nat.le_add_right _ _
  | trans _ _ h1 h2 => exact Nat.le_trans h1 h2
  | _ => rename_i hp; rw [hp]; exact Nat.le_refl _

def PqEvo (w w' : World) : Prop :=
  w'.pqs.size = w.pqs.size ∧ ∀ (k : Nat) (x : PQ), w.pqs[k]? = some x → ∃ y : PQ, w'.pqs[k]? = some y ∧ PqStep x y

theorem PqEvo.of_eq {w w' : World} (h : w'.pqs = w.pqs) : PqEvo w w' :=
  ⟨by rw [h], fun _ x hx => ⟨x, by rw [h]; exact hx, .refl x⟩⟩

theorem PqEvo.refl (w : World) : PqEvo w w := .of_eq rfl

theorem PqEvo.trans {a b c : World} (h1 : PqEvo a b) (h2 : PqEvo b c) : PqEvo a c := by
  refine ⟨h2.1.trans h1.1, fun k x hx => ?_⟩
  obtain ⟨y, hy, s1⟩ := h1.2 k x hx
  obtain ⟨z, hz, s2⟩ := h2.2 k y hy
  exact ⟨z, hz, s1.trans s2⟩

theorem PqEvo.mono {w w' : World} (h : PqEvo w w') : PqMono w w' := fun k x hx =>
  let ⟨y, hy, s⟩ := h.2 k x hx
  ⟨y, hy, s.putLog_le⟩

/-- only the calls on a priority queue write it, each by its step: the `pqs` atom of the footprint says so (Eff.lean) -/
theorem PqEvo.ofEff {p : Pid} {s : Scope} {w0 w : World} (h : Eff p s w0 w) : PqEvo w0 w := by
  induction h with
  | refl => exact .refl _
  | pqs _ _ a ha _ hq ih => exact ih.trans ⟨S3.size_eq_of_map_eq ha, hq⟩
  | fail _ msg ih => exact ih.trans (.of_eq (by simp))
  | setVar _ q v x _ _ _ ih => exact ih.trans (.of_eq (by simp))
  | emit _ _ ih => exact ih.trans (.of_eq rfl)
  | modProc _ _ _ _ ih => exact ih.trans (.of_eq rfl)
  | block _ _ _ _ _ _ ih => exact ih.trans (.of_eq rfl)
  | unblock _ _ _ ih => exact ih.trans (.of_eq rfl)
  | ended _ _ _ _ _ _ ih => exact ih.trans (.of_eq rfl)
  | started _ _ _ _ _ ih => exact ih.trans (.of_eq rfl)
  | evWaiters _ _ _ ih => exact ih.trans (.of_eq rfl)
  | guards _ _ _ _ ih => exact ih.trans (.of_eq rfl)
  | res _ _ _ _ _ ih => exact ih.trans (.of_eq rfl)
  | pools _ _ _ _ _ _ ih => exact ih.trans (.of_eq rfl)
  | bufs _ _ _ _ _ ih => exact ih.trans (.of_eq rfl)
  | oqs _ _ _ _ _ ih => exact ih.trans (.of_eq rfl)
  | flags _ _ _ ih => exact ih.trans (.of_eq rfl)
  | push _ _ _ _ _ ih => exact ih.trans (.of_eq rfl)
  | cancel _ _ _ ih => exact ih.trans (.of_eq rfl)
  | reprio _ _ _ ih => exact ih.trans (.of_eq rfl)

theorem PqEvo.execCmd (w : World) (p : Pid) (c : Cmd) : PqEvo w (execCmd w p c).1 := .ofEff (Eff.execCmd w p c)

theorem PqEvo.resumeFrame (w : World) (p : Pid) (f : Frame) (sig : Int) : PqEvo w (resumeFrame w p f sig).1 :=
  .ofEff (Eff.resumeFrame w p f sig)

theorem PqEvo.runScript (fuel : Nat) (w : World) (p : Pid) : PqEvo w (runScript fuel w p) :=
  .ofEff (Eff.runScript (p := p) .refl fuel p)

theorem PqEvo.resumeProc (w : World) (p : Pid) (sig : Int) : PqEvo w (resumeProc w p sig) :=
  .ofEff (Eff.resumeProc (p := p) .refl p sig)

/-! what lies outside the scope of a command is untouched: the array of queues, for the commands that name none -/

theorem setRecording_pq (w : World) (n idx : Nat) (on : Bool) :
    Sim.setRecording w (n + 4) idx on =
      if on then Sim.recordPQ { w with pqs := w.pqs.modify idx fun x => { x with recording := on } } idx
      else { Sim.recordPQ w idx with pqs := (Sim.recordPQ w idx).pqs.modify idx fun x => { x with recording := on } } := rfl

theorem setRecording_pqs_other (w : World) (kind idx : Nat) (on : Bool) (hk : kind < 4) :
    (Sim.setRecording w kind idx on).pqs = w.pqs := by
  match kind, hk with
  | 0, _ | 1, _ | 2, _ | 3, _ => unfold Sim.setRecording; dsimp only; split <;> simp

@[simp] theorem acquireStep_pqs (w : World) (p : Pid) (r : Nat) : (acquireStep w p r).1.pqs = w.pqs :=
  (Eff.acquireStep (p := p) (s := cmdScope (.acquire r)) .refl p r).outside.pqs rfl

/-- the commands that name no priority queue and do not switch recording leave `pqs` alone -/
theorem execCmd_pqs (w : World) (p : Pid) (c : Cmd)
    (hc : (∀ k, c ≠ .pqGet k) ∧ (∀ k o pr v, c ≠ .pqPut k o pr v) ∧ (∀ k v, c ≠ .pqCancel k v) ∧ (∀ k v pr, c ≠ .pqReprio k v pr) ∧
      (∀ k i, c ≠ .recStart k i) ∧ (∀ k i, c ≠ .recStop k i)) : (Sim.execCmd w p c).1.pqs = w.pqs := by
  obtain ⟨h1, h2, h3, h4, h5, h6⟩ := hc
  refine (Eff.execCmd w p c).outside.pqs ?_
  cases c
  case pqGet k => exact absurd rfl (h1 k)
  case pqPut k o pr v => exact absurd rfl (h2 k o pr v)
  case pqCancel k v => exact absurd rfl (h3 k v)
  case pqReprio k v pr => exact absurd rfl (h4 k v pr)
  case recStart k i => exact absurd rfl (h5 k i)
  case recStop k i => exact absurd rfl (h6 k i)
  all_goals rfl

theorem PqMono.resumeProc (w : World) (p : Pid) (sig : Int) : PqMono w (resumeProc w p sig) :=
  (PqEvo.resumeProc w p sig).mono

@[simp] theorem takeNext_pqs (w : World) (t : HTag) (ev' : EvQ) : (S3.takeNext w t ev').pqs = w.pqs := by
  unfold S3.takeNext; simp [S3.afterNext]

theorem PqEvo.dispatch {w w' : World} (hd : dispatch w = some w') : PqEvo w w' := by
  rw [S3.dispatch_eq] at hd
  split at hd
  · cases hd
  · rename_i t ev' _
    cases hd
    -- at the scope `.top` everybody's record is in reach: on whose behalf (`p := 0`) the footprint is read does not matter
    exact (PqEvo.of_eq (takeNext_pqs w t ev')).trans (.ofEff (Eff.dispatchBody (p := 0) .refl t))

theorem PqMono.dispatch {w w' : World} (hd : dispatch w = some w') : PqMono w w' := (PqEvo.dispatch hd).mono

theorem PqMono.runAll : ∀ (fuel : Nat) (w : World), PqMono w (Sim.runAll fuel w) := by
  intro fuel
  induction fuel with
  | zero => intro w; exact PqMono.refl w
  | succ n ih =>
    intro w
    unfold Sim.runAll
    split
    · exact PqMono.refl w
    · split
      · exact PqMono.refl w
      · rename_i w' hd
        exact (PqMono.dispatch hd).trans (ih w')

end CimbaModel.Sim.S4
