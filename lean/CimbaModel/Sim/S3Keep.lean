/-
  S3 — a command that returns (does not block, does not end the caller) leaves the caller's recorded frame and status
  alone: `KeepP p` is a `Cmds` relation, `ContKeep p w` what a `Call` shows of world and outcome.  `Caller p w`: what the
  registration invariants need to know of the process whose script runs; it holds again after every command that returns.
-/
import CimbaModel.Sim.S3Call

namespace CimbaModel.Sim.S3
open CimbaModel CimbaModel.Sim CimbaModel.Event CimbaModel.Generated CimbaModel.KPQ
open CimbaModel.HashHeap (HTag Item Order HH WF abs liveTags)

/-- the recorded frame and the status of `p` are the same -/
def KeepP (p : Pid) (w w' : World) : Prop :=
  (w'.proc p).blocked = (w.proc p).blocked ∧ (w'.proc p).status = (w.proc p).status

theorem KeepP.refl (p : Pid) (w : World) : KeepP p w w := ⟨rfl, rfl⟩
theorem KeepP.trans {p : Pid} {w w1 w2 : World} (h1 : KeepP p w w1) (h2 : KeepP p w1 w2) : KeepP p w w2 :=
  ⟨h2.1.trans h1.1, h2.2.trans h1.2⟩
theorem KeepP.modProc {p : Pid} {w0 w : World} (h : KeepP p w0 w) (q : Pid) (f : Proc → Proc)
    (hf : q ≠ p ∨ ∀ x, (f x).blocked = x.blocked ∧ (f x).status = x.status) : KeepP p w0 (w.modProc q f) := by
  refine h.trans ?_
  unfold KeepP
  rw [modProc_proc]
  split
  · rename_i hq
    rcases hf with hf | hf
    · exact absurd hq.1.symm hf
    · rw [hq.1]; exact hf _
  · exact ⟨rfl, rfl⟩

/-- everything but the status and the recorded frame of a process -/
def KeepP.scope : Scope := { Scope.top with status := .no, blocked := .no }

/-- … and for the end of another process: status, recorded frame and exit value of the caller only -/
def KeepP.other : Scope := { Scope.top with status := .self, blocked := .self }

/-- the status and recorded frame of `p` are out of reach: of nobody's in the scope, or of the caller `c ≠ p` only -/
theorem KeepP.ofEff {p c : Pid} {s : Scope} {w0 w : World} (h : Eff c s w0 w) (hb : s.blocked.Out c p) (hs : s.status.Out c p) :
    KeepP p w0 w := ⟨h.outside.blocked p hb, h.outside.status p hs⟩

theorem KeepP.step {p : Pid} {w0 w w' : World} (h : KeepP p w0 w) (he : Eff 0 KeepP.scope w w') : KeepP p w0 w' :=
  h.trans (KeepP.ofEff he (.inl rfl) (.inl rfl))

theorem KeepP.removeAwait_fst {p : Pid} {w0 w : World} (h : KeepP p w0 w) (q : Pid) (a : Await) :
    KeepP p w0 (removeAwait w q a).1 := h.step (.removeAwait .refl q a)
theorem KeepP.timerAdd_fst {p : Pid} {w0 w : World} (h : KeepP p w0 w) (q : Pid) (d sig : Int) :
    KeepP p w0 (timerAdd w q d sig).1 := h.step (.timerAdd .refl q d sig)
theorem KeepP.timerCancel_fst {p : Pid} {w0 w : World} (h : KeepP p w0 w) (q : Pid) (k : Nat) :
    KeepP p w0 (timerCancel w q k).1 := h.step (.timerCancel .refl q k)
theorem KeepP.timersClear {p : Pid} {w0 w : World} (h : KeepP p w0 w) (q : Pid) : KeepP p w0 (timersClear w q) :=
  h.step (.timersClear .refl q)

theorem KeepP.cancelAwaiteds {p : Pid} {w0 w : World} (h : KeepP p w0 w) (q : Pid) : KeepP p w0 (cancelAwaiteds w q) :=
  h.step (.cancelAwaiteds .refl q)

theorem KeepP.wakeWaiters {p : Pid} {w0 w : World} (h : KeepP p w0 w) (q : Pid) (sig : Int) : KeepP p w0 (wakeWaiters w q sig) :=
  h.step (.wakeWaiters .refl q sig)

theorem KeepP.finishProc_other {p : Pid} {w0 w : World} (h : KeepP p w0 w) {q : Pid} (hq : q ≠ p) (v : Int) (s : Bool) :
    KeepP p w0 (finishProc w q v s) :=
  h.trans (KeepP.ofEff (c := q) (s := KeepP.other) (.finishProc .refl q v s) (.inr ⟨rfl, hq.symm⟩) (.inr ⟨rfl, hq.symm⟩))

/-- a call that returns (`isCont`) has kept the recorded frame and the status of `p`; one that suspends or ends the caller
    is not constrained -/
def ContKeep (p : Pid) (w0 : World) (r : World × Outcome) : Prop := isCont r.2 = true → KeepP p w0 r.1

theorem ContKeep.ret {p : Pid} {w0 w : World} (h : KeepP p w0 w) (v : Int) (e : String) : ContKeep p w0 (w, .ret v e) := fun _ => h
theorem ContKeep.blocked {p : Pid} {w0 w : World} : ContKeep p w0 (w, .blocked) := fun h => by cases h
theorem ContKeep.ended {p : Pid} {w0 w : World} : ContKeep p w0 (w, .ended) := fun h => by cases h
theorem ContKeep.block {p : Pid} {w0 w : World} (q : Pid) (f : Frame) : ContKeep p w0 (block w q f) := fun h => by cases h

theorem KeepP.guardWaitEnter {p : Pid} {w0 w : World} (h : KeepP p w0 w) (g : Nat) (q : Pid) (d : Demand) :
    KeepP p w0 (guardWaitEnter w g q d) := h.step (.guardWaitEnter .refl g q d)

theorem KeepP.guardWaitLeave {p : Pid} {w0 w : World} (h : KeepP p w0 w) (g : Nat) (q : Pid) (sig : Int) :
    KeepP p w0 (guardWaitLeave w g q sig) := h.step (.guardWaitLeave .refl g q sig)

variable {p : Pid}

theorem KeepP.ofCtl {w w' : World} (h : SameCtl w w') : KeepP p w w' := ⟨(h p).2.2.2, (h p).2.2.1⟩

theorem KeepP.guardFree : GuardFree (KeepP p) where
  refl := KeepP.refl p
  trans := KeepP.trans
  same := fun hs => .ofCtl hs.ctl
  evCancel := fun w k => .ofCtl (sameCtl_of_procs (evCancel_rel w k).procs)
  sched := fun w a s sig t pri _ => .ofCtl (sameCtl_of_procs (sched_procs w a s sig t pri))
  guards := fun _ _ => ⟨rfl, rfl⟩
  wake := fun w a s t pri _ => .ofCtl (sameCtl_of_procs (sched_procs w a s sigSuccess t pri))

theorem KeepP.cmds : Cmds (KeepP p) :=
  { KeepP.guardFree.foot with
    cancelAwaiteds := fun w q => (KeepP.refl p w).cancelAwaiteds q
    timersClear := fun w q => (KeepP.refl p w).timersClear q
    timerCancel := fun w q k => (KeepP.refl p w).timerCancel_fst q k
    prioAwait := fun w q v a => prioAwaitStep_rel (R := KeepP p) ⟨KeepP.refl p, KeepP.trans⟩ q v (fun w m => KeepP.guardFree.same (Same.fail w m))
      (fun _ _ _ _ => ⟨rfl, rfl⟩) (fun w g => KeepP.guardFree.reprioGuard w q v g) w a
    condSignal := fun w _ g _ => KeepP.guardFree.condSignal w g }

/-- a call of any process `q`: it returns across steps that keep `p`'s frame and status, or it blocks -/
theorem KeepP.call (w : World) (q : Pid) : Call (KeepP p) (ContKeep p w) w q where
  cmds := KeepP.cmds
  stay := fun _ _ _ h _ => h
  enter := fun _ _ _ _ _ _ => ContKeep.block _ _
  blk := fun _ _ _ _ => ContKeep.block _ _

/-- the commands of `p` itself -/
theorem KeepP.calls (w : World) : Calls (KeepP p) (ContKeep p w) (fun _ => True) w p where
  toCall := KeepP.call w p
  hold _ := ContKeep.block _ _
  arm q d sig _ _ := (KeepP.refl p w).timerAdd_fst q d sig
  rearm d sig _ := ((KeepP.refl p w).timersClear p).timerAdd_fst p d sig
  poke _ _ _ _ _ _ _ := .ofCtl (sameCtl_of_procs (sched_procs ..))
  finish _ v hq _ := (KeepP.refl p w).finishProc_other hq v true
  ended _ _ := ContKeep.ended
  waitProc _ _ _ := ContKeep.block _ _
  waitEvent _ _ _ := ContKeep.block _ _

theorem ContKeep.execCmd (w : World) (p : Pid) (c : Cmd) : ContKeep p w (execCmd w p c) :=
  (KeepP.calls w).execCmd c (Cmd.okSig_true c)

theorem ContKeep.resumeFrame (w : World) (p : Pid) (f : Frame) (sig : Int) : ContKeep p w (resumeFrame w p f sig) := by
  have h := KeepP.refl p w
  cases hg : isGuardFrame f with
  | true =>
    refine resumeFrame_wait_out (ContKeep p w) hg p sig (fun _ => ContKeep.ret h _ _) (fun g _ _ => ?_)
      (fun g _ _ => ContKeep.ret ((h.guardWaitLeave g p sig).trans (KeepP.cmds.giveUp f _ p)) _ _)
    exact fun ho => (h.guardWaitLeave g p sig).trans ((KeepP.call _ p).retry f ho)
  | false =>
    cases f with
    | hold k =>
      simp only [Sim.resumeFrame]
      split
      · exact ContKeep.ret ((h.timerCancel_fst p k).removeAwait_fst p _) _ _
      · exact ContKeep.ret h _ _
    | yield => exact ContKeep.ret h _ _
    | waitProc q =>
      have h1 := h.removeAwait_fst p (.proc q)
      simp only [Sim.resumeFrame]
      split
      · split
        · exact fun _ => h1.modProc q _ (Or.inr fun _ => ⟨rfl, rfl⟩)
        · exact ContKeep.ret (h1.trans (KeepP.cmds.cancelKindFor _ p aProc none)) _ _
      · exact ContKeep.ret h1 _ _
    | waitEvent k =>
      have h1 := h.removeAwait_fst p (.event k)
      simp only [Sim.resumeFrame]
      split
      · split
        · exact ContKeep.ret h1 _ _
        · exact ContKeep.ret (h1.trans (KeepP.cmds.cancelKindFor _ p aEvent none)) _ _
      · exact ContKeep.ret h1 _ _
    | _ => cases hg

/-- what every registration invariant needs to know of the process whose script runs: it is suspended nowhere, and
    it is running (if it exists) -/
def Caller (p : Pid) (w : World) : Prop := (w.proc p).blocked = none ∧ (p < w.procs.size → (w.proc p).status = .running)

theorem Caller.next {p : Pid} {w : World} (hc : Caller p w) {c : Cmd} {text : String}
    (hs : (w.proc p).script[(w.proc p).pc]? = some (c, text)) {l0 : String} {w1 : World} {o : Outcome}
    (heq : execCmd (w.emit l0) p c = (w1, o)) (ho : (∃ v extra, o = .ret v extra) ∨ o = .skip) (l : String) (n : Nat) :
    Caller p ((w1.emit l).modProc p fun y => { y with pc := n }) := by
  have hk := ContKeep.execCmd (w.emit l0) p c
  rw [heq] at hk
  have hk := hk (by rcases ho with ⟨v, e, rfl⟩ | rfl <;> rfl)
  obtain ⟨a1, a2, _⟩ := advance_proc w1 p l n
  exact ⟨a1.trans (hk.1.trans hc.1), fun _ => a2.trans (hk.2.trans (hc.2 (lt_np_of_script _ _ _ _ hs)))⟩

theorem Caller.resumed {p : Pid} {w : World} (hrun : (w.proc p).status = .running) {f : Frame} {sig : Int} {w1 : World}
    {v : Int} {extra : String} (heq : resumeFrame (w.modProc p fun y => { y with blocked := none }) p f sig = (w1, .ret v extra))
    (l : String) (n : Nat) : Caller p ((w1.emit l).modProc p fun y => { y with pc := n }) := by
  have hk := ContKeep.resumeFrame (w.modProc p fun y => { y with blocked := none }) p f sig
  rw [heq] at hk
  have hlt := lt_of_running hrun
  obtain ⟨a1, a2, _⟩ := advance_proc w1 p l n
  refine ⟨a1.trans ((hk rfl).1.trans ?_), fun _ => a2.trans ((hk rfl).2.trans ?_)⟩
  · rw [modProc_proc_self w _ hlt]
  · rw [modProc_proc_self w _ hlt]; exact hrun

theorem Caller.started (w : World) (z : Pid) :
    Caller z (w.modProc z fun y => { y with status := .running, pc := 0, blocked := none }) := by
  constructor
  · rw [modProc_proc]; split
    · rfl
    · rename_i h
      by_cases hs : z < w.procs.size
      · exact absurd ⟨rfl, hs⟩ h
      · rw [proc_oob _ (Nat.le_of_not_lt hs)]
  · intro hlt
    have hlt' : z < w.procs.size := by simpa using hlt
    rw [modProc_proc_self _ _ hlt']

end CimbaModel.Sim.S3
