/-
  S6 — forwarded signals: a signal forwarded from an observed guard reaches the guard of a condition as
  `cmb_condition_signal`. Closed forms for the usual shape of subscriptions (the observers of an object's
  guard are guards of conditions, which have no observers themselves) and the exact effect on the observing condition.
-/
import CimbaModel.Sim.S3Cond
import CimbaModel.Sim.S3Stat
import CimbaModel.Sim.S3Signals

namespace CimbaModel.Sim.S3
open CimbaModel CimbaModel.Sim CimbaModel.Event CimbaModel.Generated CimbaModel.KPQ
open CimbaModel.HashHeap (HTag Item Order HH WF abs liveTags)

def Leaf (w : World) (o : Nat) : Prop := ∀ od : Guard, w.guards[o]? = some od → od.observers = []

theorem Leaf.ofStat {w w' : World} {o : Nat} (h : Leaf w o) (hs : Stat w w') : Leaf w' o := by
  intro od' hod
  have := hs.guards o
  rw [hod] at this
  cases hg : w.guards[o]? with
  | none => rw [hg] at this; cases this
  | some od =>
    rw [hg] at this
    simp only [Option.map_some, Option.some.injEq, guardStat, Prod.mk.injEq] at this
    rw [this.2]; exact h od hg

theorem fwdSignal_cond_leaf {w : World} {o : Nat} (hh : hasHandler w o = true) (hl : Leaf w o) (fuel : Nat) :
    fwdSignal (fuel + 1) w o = (condSignal w o).1 := by
  rw [fwdSignal_handler hh]
  cases hg : w.guards[o]? with
  | none => simp [condSignal_none hg]
  | some od => simp [hl od hg]

theorem foldl_fwd_eq_condSignals (fuel : Nat) {w0 : World} : ∀ (os : List Nat) (w : World), Stat w0 w →
    (∀ o ∈ os, hasHandler w0 o = true ∧ Leaf w0 o) →
    os.foldl (fun w o => fwdSignal (fuel + 1) w o) w = os.foldl (fun w o => (condSignal w o).1) w := by
  intro os
  induction os with
  | nil => intro w _ _; rfl
  | cons o os ih =>
    intro w hs hos
    obtain ⟨hh, hl⟩ := hos o List.mem_cons_self
    simp only [List.foldl_cons]
    rw [fwdSignal_cond_leaf (by rw [hasHandler_congr hs.conds]; exact hh) (hl.ofStat hs)]
    exact ih _ (hs.step (.condSignal .refl o)) (fun o' ho' => hos o' (List.mem_cons_of_mem _ ho'))

theorem guardSignal_cond_observers {fuel : Nat} {w : World} {g : Nat} {gd : Guard} (hg : w.guards[g]? = some gd)
    (hobs : ∀ o ∈ gd.observers, hasHandler w o = true ∧ Leaf w o) :
    guardSignal (fuel + 2) w g = gd.observers.foldl (fun w o => (condSignal w o).1) (frontStep w g gd) := by
  rw [guardSignal_succ, hg]
  exact foldl_fwd_eq_condSignals fuel _ _ ((Stat.refl w).step (.frontStep .refl g gd)) hobs

theorem frontStep_guards_ne (w : World) (g : Nat) (gd : Guard) {g' : Nat} (hne : g' ≠ g) :
    (frontStep w g gd).guards[g']? = w.guards[g']? := by
  rcases frontStep_cases w g gd with h | ⟨m, h⟩ | ⟨q', k, pri, h⟩ <;> rw [h]
  · rw [fail_guards]
  · rw [sched_guards, setGuardQ_guards_get, if_neg hne]

theorem frontStep_frame (w : World) (g : Nat) (gd : Guard) :
    (∀ d, evalDemand (frontStep w g gd) d = evalDemand w d) ∧ (∀ p, (frontStep w g gd).proc p = w.proc p) ∧
    (frontStep w g gd).now = w.now := by
  rcases frontStep_cases w g gd with h | ⟨m, h⟩ | ⟨q', k, pri, h⟩ <;> rw [h]
  · exact ⟨fun _ => rfl, fun _ => rfl, rfl⟩
  · exact ⟨evalDemand_congr (by simp) (by simp) (by simp) (by simp) (by simp) (by simp), by simp, by simp⟩
  · exact ⟨evalDemand_congr (by simp) (by simp) (by simp) (by simp) (by simp) (by simp), by simp, by simp⟩

theorem condSat_congr {w w' : World} (h : ∀ d, evalDemand w' d = evalDemand w d) (gd : Guard) : condSat w' gd = condSat w gd := by
  unfold condSat; simp only [h]

theorem condWakes_congr {w w' : World} (h : ∀ p, w'.proc p = w.proc p) (l : List HTag) : condWakes w' l = condWakes w l := by
  unfold condWakes; simp only [h]

/-- `condSat`, `condWakes` and the demands are evaluated in `w`, the state the signal finds: the front step of `g` changes
    neither objects, processes nor clock -/
theorem guardSignal_one_cond_observer {fuel : Nat} {w : World} {g o : Nat} {gd od : Guard} (hg : w.guards[g]? = some gd)
    (hobs : gd.observers = [o]) (hh : hasHandler w o = true) (hl : Leaf w o) (hne : o ≠ g)
    (hod : w.guards[o]? = some od) (hwf : GWF od.q) :
    ∃ q', GWF q' ∧ (abs q').Perm ((abs od.q).filter fun x => !evalDemand w (demandOf od x.key)) ∧
      guardSignal (fuel + 2) w g = setGuardQ (pushAll (frontStep w g gd) (condWakes w (condSat w od))) o q' := by
  have hobs' : ∀ o' ∈ gd.observers, hasHandler w o' = true ∧ Leaf w o' := by
    intro o' ho'; rw [hobs] at ho'; simp only [List.mem_singleton] at ho'; subst ho'; exact ⟨hh, hl⟩
  rw [guardSignal_cond_observers hg hobs', hobs]
  simp only [List.foldl_cons, List.foldl_nil]
  have hod1 : (frontStep w g gd).guards[o]? = some od := by rw [frontStep_guards_ne w g gd hne]; exact hod
  obtain ⟨hev, hpr, _⟩ := frontStep_frame w g gd
  obtain ⟨q', hwf', hperm, heq⟩ := condSignal_closed hod1 hwf
  refine ⟨q', hwf', ?_, ?_⟩
  · simpa only [hev] using hperm
  · rw [heq, condSat_congr hev, condWakes_congr hpr]

theorem condBatch_count {w : World} {od : Guard} (hwf : GWF od.q) (c : Nat) (t : Int) (k : Nat) :
    ((wakeEvs c t (condWakes w (condSat w od))).map (·.item.b)).count k =
      if k ∈ keys (abs od.q) ∧ evalDemand w (demandOf od k) = true then 1 else 0 := by
  rw [wakeEvs_subjs, List.count_reverse]
  have hkeys : ∀ x ∈ condSat w od, x.key - 1 + 1 = x.key := by
    intro x hx
    obtain ⟨hlive, _⟩ := mem_condSat.1 hx
    obtain ⟨i, hi1, hi2, rfl⟩ := (HashHeap.mem_liveTags _ _).1 hlive
    have := (hwf.keyOk i hi1 hi2).1; omega
  have hmap : (condWakes w (condSat w od)).map (·.subj) = (condSat w od).map (·.key) := by
    simp only [condWakes, List.map_map, Function.comp_def]
    exact List.map_congr_left hkeys
  rw [hmap]
  have hnd : ((condSat w od).map (·.key)).Nodup := by
    have h1 : (keys (abs od.q)).Nodup := hwf.keys_nodup
    rw [HashHeap.keys_abs] at h1
    exact List.Nodup.sublist ((List.filter_sublist).map _) h1
  rw [hnd.count]
  by_cases hk : k ∈ (condSat w od).map (·.key)
  · rw [if_pos hk, if_pos (mem_condSat_keys.1 hk)]
  · rw [if_neg hk, if_neg (fun h => hk (mem_condSat_keys.2 h))]

/-- what is true after the complete signal of a guard `g` with one observing condition `o` -/
structure FwdWoken (w W : World) (g o : Nat) (gd od : Guard) : Prop where
  pending : W.ev.pending = wakeEvs (frontStep w g gd).ev.counter w.now (condWakes w (condSat w od)) ++ (frontStep w g gd).ev.pending
  batch : ∀ e ∈ wakeEvs (frontStep w g gd).ev.counter w.now (condWakes w (condSat w od)),
    w.ev.counter < e.key ∧ e = mkEv e.key aCond e.item.b sigSuccess w.now (w.proc (e.item.b - 1)).prio
  once : ∀ k, ((wakeEvs (frontStep w g gd).ev.counter w.now (condWakes w (condSat w od))).map (·.item.b)).count k =
    if k ∈ keys (abs od.q) ∧ evalDemand w (demandOf od k) = true then 1 else 0
  queue : ∃ od' : Guard, W.guards[o]? = some od' ∧ GWF od'.q ∧
    ∀ k, k ∈ keys (abs od'.q) ↔ k ∈ keys (abs od.q) ∧ evalDemand w (demandOf od k) = false
  others : ∀ g', g' ≠ o → W.guards[g']? = (frontStep w g gd).guards[g']?
  procs : W.procs = w.procs
  now : W.now = w.now
  objs : W.res = w.res ∧ W.pools = w.pools ∧ W.bufs = w.bufs ∧ W.oqs = w.oqs ∧ W.pqs = w.pqs ∧ W.flags = w.flags ∧
    W.conds = w.conds ∧ W.evWaiters = w.evWaiters

theorem fwdWoken_of_signal {fuel : Nat} {w : World} {g o : Nat} {gd od : Guard} (hg : w.guards[g]? = some gd)
    (hobs : gd.observers = [o]) (hh : hasHandler w o = true) (hl : Leaf w o) (hne : o ≠ g)
    (hod : w.guards[o]? = some od) (hall : AllGWF w) :
    FwdWoken w (guardSignal (fuel + 2) w g) g o gd od := by
  have hwf := hall o od hod
  have hrel := frontStep_rel hg hall
  obtain ⟨hev, hpr, hnow⟩ := frontStep_frame w g gd
  have hctr : w.ev.counter ≤ (frontStep w g gd).ev.counter := by
    obtain ⟨new, _, hc, _⟩ := hrel.pending; omega
  have hbatch : ∀ e ∈ wakeEvs (frontStep w g gd).ev.counter w.now (condWakes w (condSat w od)),
      w.ev.counter < e.key ∧ e = mkEv e.key aCond e.item.b sigSuccess w.now (w.proc (e.item.b - 1)).prio :=
    fun e he => ⟨Nat.lt_of_le_of_lt hctr (wakeEvs_props he).1, (mem_condBatch hwf he).2.2⟩
  obtain ⟨q', hwf', hperm, heq⟩ := guardSignal_one_cond_observer (fuel := fuel) hg hobs hh hl hne hod hwf
  rw [heq]
  refine { pending := by simp [hnow], batch := hbatch, once := fun k => condBatch_count hwf _ _ k,
           queue := ?_, others := fun g' hg' => by simp [setGuardQ_guards_get, hg'], procs := hrel.procs, now := hnow,
           objs := ⟨hrel.res, hrel.pools, hrel.bufs, hrel.oqs, hrel.pqs, hrel.flags, hrel.conds, hrel.evWaiters⟩ }
  have hod1 : (frontStep w g gd).guards[o]? = some od := by rw [frontStep_guards_ne w g gd hne]; exact hod
  refine ⟨{ od with q := q' }, by simp [setGuardQ_guards_get, hod1], hwf', ?_⟩
  intro k
  have hkp : (keys (abs q')).Perm (keys ((abs od.q).filter fun x => !evalDemand w (demandOf od x.key))) := hperm.map _
  rw [hkp.mem_iff]
  constructor
  · intro hm
    obtain ⟨x, hx, rfl⟩ := Event.mem_keys.1 hm
    obtain ⟨hx1, hx2⟩ := List.mem_filter.1 hx
    exact ⟨Event.mem_keys.2 ⟨x, hx1, rfl⟩, by simpa using hx2⟩
  · intro ⟨hk, hd⟩
    obtain ⟨x, hx, rfl⟩ := Event.mem_keys.1 hk
    exact Event.mem_keys.2 ⟨x, List.mem_filter.2 ⟨hx, by simp [hd]⟩, rfl⟩

theorem FwdWoken.resumed {w W : World} {g o : Nat} {gd od : Guard} (h : FwdWoken w W g o gd od) {k : Nat}
    (hk : k ∈ keys (abs od.q)) :
    (evalDemand w (demandOf od k) = true →
      (∃ e ∈ W.ev.pending, w.ev.counter < e.key ∧ e = mkEv e.key aCond k sigSuccess w.now (w.proc (k - 1)).prio) ∧
      ∃ od', W.guards[o]? = some od' ∧ k ∉ keys (abs od'.q)) ∧
    (evalDemand w (demandOf od k) = false → ∃ od', W.guards[o]? = some od' ∧ k ∈ keys (abs od'.q)) := by
  obtain ⟨od', hod', _, hq⟩ := h.queue
  constructor
  · intro hd
    refine ⟨?_, od', hod', fun hm => ?_⟩
    · have hcnt := h.once k
      rw [if_pos ⟨hk, hd⟩] at hcnt
      have hmem : k ∈ (wakeEvs (frontStep w g gd).ev.counter w.now (condWakes w (condSat w od))).map (·.item.b) :=
        List.count_pos_iff.1 (by omega)
      obtain ⟨e, he, hb⟩ := List.mem_map.1 hmem
      obtain ⟨h1, h2⟩ := h.batch e he
      refine ⟨e, by rw [h.pending]; exact List.mem_append_left _ he, h1, ?_⟩
      rw [← hb]; exact h2
    · have := ((hq k).1 hm).2
      rw [hd] at this; cases this
  · intro hd
    exact ⟨od', hod', (hq k).2 ⟨hk, hd⟩⟩

/-! ### the built-in objects: every state change that signals a guard reaches the observing condition

Each state-changing primitive is, as an equation, `signal w1 g` with `w1` the recorded updated state (S3Signals;
Props/C08); with a condition observing `g` (`Observes`), `FwdWoken w1 (signal w1 g) …` says what happens to the
condition's waiters, and the object state that their predicates see in `w1` is given next to it. -/

theorem getElem?_set!_self {α : Type} (xs : Array α) (i : Nat) (v : α) (h : i < xs.size) : (xs.set! i v)[i]? = some v := by
  rw [Array.set!_eq_setIfInBounds, Array.getElem?_setIfInBounds]; simp [h]

/-! Taking a sample for the statistics (`recordRes`, …) appends to the history of one object: no demand sees it, and
    neither the guards, the conditions, the event queue nor the processes are touched. -/

-- what the demands read of an object
def resView (x : Res) : Nat × Bool := (x.guard, x.holder.isNone)
def poolView (x : Pool) : Nat × Nat × Nat := (x.guard, x.cap, x.inUse)
def bufView (x : Buf) : Nat × Nat × Nat × Nat := (x.front, x.rear, x.cap, x.level)
def oqView (x : OQ) : Nat × Nat × Nat × Nat := (x.front, x.rear, x.cap, x.items.length)

/-- the objects look the same to every demand: histories, logs, holder lists, recording switches may differ -/
structure ViewSame (w w' : World) : Prop where
  res : ∀ i : Nat, (w'.res[i]?).map resView = (w.res[i]?).map resView
  pools : ∀ i : Nat, (w'.pools[i]?).map poolView = (w.pools[i]?).map poolView
  bufs : ∀ i : Nat, (w'.bufs[i]?).map bufView = (w.bufs[i]?).map bufView
  oqs : ∀ i : Nat, (w'.oqs[i]?).map oqView = (w.oqs[i]?).map oqView
  pqs : w'.pqs = w.pqs
  flags : w'.flags = w.flags

theorem ViewSame.refl (w : World) : ViewSame w w := ⟨fun _ => rfl, fun _ => rfl, fun _ => rfl, fun _ => rfl, rfl, rfl⟩

theorem ViewSame.evalDemand {w w' : World} (h : ViewSame w w') (d : Demand) : evalDemand w' d = evalDemand w d := by
  cases d with
  | resAvail r => exact congrArg (·.getD false) (map_of_map resView (·.2) (h.res r))
  | poolAvail p => exact congrArg (·.getD false) (map_of_map poolView (fun v => decide (v.2.1 - v.2.2 > 0)) (h.pools p))
  | bufContent b => exact congrArg (·.getD false) (map_of_map bufView (fun v => decide (v.2.2.2 > 0)) (h.bufs b))
  | bufSpace b => exact congrArg (·.getD false) (map_of_map bufView (fun v => decide (v.2.2.2 < v.2.2.1)) (h.bufs b))
  | oqContent q => exact congrArg (·.getD false) (map_of_map oqView (fun v => decide (v.2.2.2 > 0)) (h.oqs q))
  | oqSpace q => exact congrArg (·.getD false) (map_of_map oqView (fun v => decide (v.2.2.2 < v.2.2.1)) (h.oqs q))
  | pqContent k => simp only [Sim.evalDemand, h.pqs]
  | pqSpace k => simp only [Sim.evalDemand, h.pqs]
  | cond kind a b =>
    simp only [Sim.evalDemand]
    split
    · rw [h.flags]
    · exact congrArg (·.getD false) (map_of_map resView (·.2) (h.res a))
    · exact congrArg (·.getD false) (map_of_map poolView (fun v => decide (v.2.1 - v.2.2 ≥ b)) (h.pools a))
    · exact congrArg (·.getD false) (map_of_map bufView (fun v => decide (v.2.2.2 ≥ b)) (h.bufs a))
    · exact congrArg (·.getD false) (map_of_map oqView (fun v => decide (v.2.2.2 ≥ b)) (h.oqs a))
    · rfl

theorem evalDemand_recordRes (w : World) (r : Nat) (d : Demand) : evalDemand (recordRes w r) d = evalDemand w d := by
  refine ViewSame.evalDemand ?_ d
  unfold recordRes
  split
  · rename_i x hx
    split
    · exact { ViewSame.refl w with res := map_set!_of _ hx _ _ rfl }
    · exact ViewSame.refl w
  · exact ViewSame.refl w

theorem evalDemand_recordPool (w : World) (pl : Nat) (d : Demand) : evalDemand (recordPool w pl) d = evalDemand w d := by
  refine ViewSame.evalDemand ?_ d
  unfold recordPool
  split
  · rename_i x hx
    split
    · exact { ViewSame.refl w with pools := map_set!_of _ hx _ _ rfl }
    · exact ViewSame.refl w
  · exact ViewSame.refl w

theorem evalDemand_recordBuf (w : World) (b : Nat) (d : Demand) : evalDemand (recordBuf w b) d = evalDemand w d := by
  refine ViewSame.evalDemand ?_ d
  unfold recordBuf
  split
  · rename_i x hx
    split
    · exact { ViewSame.refl w with bufs := map_set!_of _ hx _ _ rfl }
    · exact ViewSame.refl w
  · exact ViewSame.refl w

theorem evalDemand_recordOQ (w : World) (q : Nat) (d : Demand) : evalDemand (recordOQ w q) d = evalDemand w d := by
  refine ViewSame.evalDemand ?_ d
  unfold recordOQ
  split
  · rename_i x hx
    split
    · exact { ViewSame.refl w with oqs := map_set!_of _ hx _ _ rfl }
    · exact ViewSame.refl w
  · exact ViewSame.refl w

theorem recordRes_keeps (w : World) (r : Nat) :
    (recordRes w r).guards = w.guards ∧ (recordRes w r).conds = w.conds ∧ (recordRes w r).ev = w.ev ∧
    (recordRes w r).procs = w.procs ∧ (recordRes w r).flags = w.flags :=
  have o := (Eff.recordRes (p := 0) (s := { res := true }) .refl r).outside
  ⟨o.guards rfl, o.conds, o.ev rfl rfl rfl, o.procs (by scope), o.flags rfl⟩

theorem recordPool_keeps (w : World) (pl : Nat) :
    (recordPool w pl).guards = w.guards ∧ (recordPool w pl).conds = w.conds ∧ (recordPool w pl).ev = w.ev ∧
    (recordPool w pl).procs = w.procs :=
  have o := (Eff.recordPool (p := 0) (s := { pools := true }) .refl pl).outside
  ⟨o.guards rfl, o.conds, o.ev rfl rfl rfl, o.procs (by scope)⟩

structure Observes (w : World) (g o : Nat) (gd od : Guard) : Prop where
  hg : w.guards[g]? = some gd
  one : gd.observers = [o]
  handler : hasHandler w o = true
  leaf : Leaf w o
  ne : o ≠ g
  hod : w.guards[o]? = some od
  wf : AllGWF w

theorem Observes.transfer {w w1 : World} {g o : Nat} {gd od : Guard} (h : Observes w g o gd od) (hgu : w1.guards = w.guards)
    (hc : w1.conds = w.conds) : Observes w1 g o gd od :=
  ⟨by rw [hgu]; exact h.hg, h.one, by rw [hasHandler_congr hc]; exact h.handler,
   fun od' hod' => h.leaf od' (by rw [← hgu]; exact hod'), h.ne, by rw [hgu]; exact h.hod,
   fun g' gd' hg' => h.wf g' gd' (by rw [← hgu]; exact hg')⟩

theorem Observes.signal {w : World} {g o : Nat} {gd od : Guard} (h : Observes w g o gd od) :
    FwdWoken w (signal w g) g o gd od :=
  fwdWoken_of_signal (fuel := 6) h.hg h.one h.handler h.leaf h.ne h.hod h.wf


/-- a state change `w1` within a scope that leaves guards, event queue and process records alone (an object table is
    written, a sample taken), followed by the signal of the observed guard -/
theorem Observes.fwd {w w1 : World} {g o : Nat} {gd od : Guard} (ho : Observes w g o gd od) {s : Scope} (h : Eff 0 s w w1)
    (hg : s.guards = false := by scope) (hp : s.push = [] := by scope) (hc : s.cancel = false := by scope)
    (hr : s.reprio = false := by scope) :
    FwdWoken w1 (Sim.signal w1 g) g o gd od ∧ w1.now = w.now ∧ w1.ev = w.ev :=
  ⟨(ho.transfer (h.outside.guards hg) h.outside.conds).signal, congrArg EvQ.now (h.outside.ev hp hc hr), h.outside.ev hp hc hr⟩

theorem release_fwd {w : World} {p : Pid} {r : Nat} {x : Res} (hx : w.res[r]? = some x) (hh : x.holder = some p)
    {o : Nat} {gd od : Guard} (ho : Observes w x.guard o gd od) :
    ∃ w1 : World, (execCmd w p (.release r)).1 = signal w1 x.guard ∧ FwdWoken w1 (signal w1 x.guard) x.guard o gd od ∧
      (∀ b, evalDemand w1 (.cond 1 r b) = true) ∧
      w1.now = w.now ∧ w1.ev = w.ev ∧ w1.flags = w.flags ∧ ∀ q, (w1.proc q).prio = (w.proc q).prio := by
  refine ⟨_, by rw [release_signals hx hh], (ho.transfer ?_ ?_).signal, ?_, ?_, ?_, ?_, ?_⟩
  · rw [(recordRes_keeps _ r).1]; rfl
  · rw [(recordRes_keeps _ r).2.1]; rfl
  · intro b
    rw [evalDemand_recordRes]
    simp only [evalDemand, removeHeld, modProc_res, getElem?_set!_self _ _ _ (lt_of_getElem? hx)]
    rfl
  · exact congrArg EvQ.now (recordRes_keeps _ r).2.2.1
  · rw [(recordRes_keeps _ r).2.2.1]; rfl
  · rw [(recordRes_keeps _ r).2.2.2.2]; rfl
  · intro q
    unfold World.proc
    rw [(recordRes_keeps _ r).2.2.2.1]
    exact (Eff.removeHeld (p := 0) (s := { heldR := .any }) .refl p (.res r)).outside.prio q (.inl rfl)

theorem dropRes_fwd {w : World} (p : Pid) {r : Nat} {x : Res} (hx : w.res[r]? = some x)
    {o : Nat} {gd od : Guard} (ho : Observes w x.guard o gd od) :
    ∃ w1 : World, dropStep p w (.res r) = signal w1 x.guard ∧ FwdWoken w1 (signal w1 x.guard) x.guard o gd od ∧
      (∀ b, evalDemand w1 (.cond 1 r b) = true) ∧ w1.now = w.now ∧ w1.ev = w.ev ∧ w1.procs = w.procs := by
  have he : Eff 0 { res := true, avail := true } w _ := Eff.recordRes (Eff.setRes .refl hx { x with holder := none }) r
  refine ⟨_, dropStep_res_signals p hx, (ho.fwd he).1, fun b => ?_, (ho.fwd he).2.1, (ho.fwd he).2.2, he.outside.procs (by scope)⟩
  rw [evalDemand_recordRes]
  simp only [evalDemand, getElem?_set!_self _ _ _ (lt_of_getElem? hx)]
  rfl

theorem oqPut_fwd {w : World} {p : Pid} {q obj : Nat} {x : OQ} (hx : w.oqs[q]? = some x) (hl : x.items.length < x.cap)
    {o : Nat} {gd od : Guard} (ho : Observes w x.front o gd od) :
    ∃ w1 : World, (oqPutLoop w p q obj).1 = signal w1 x.front ∧ FwdWoken w1 (signal w1 x.front) x.front o gd od ∧
      (∀ n, evalDemand w1 (.cond 4 q n) = decide (x.items.length + 1 ≥ n)) ∧ w1.now = w.now ∧ w1.ev = w.ev ∧ w1.procs = w.procs := by
  have he : Eff 0 { oqs := true, avail := true } w _ :=
    Eff.recordOQ (Eff.setOQ .refl hx { x with items := x.items ++ [obj], putLog := x.putLog ++ [obj] }) q
  refine ⟨_, oqPut_signals hx hl, (ho.fwd he).1, fun n => ?_, (ho.fwd he).2.1, (ho.fwd he).2.2, he.outside.procs (by scope)⟩
  rw [evalDemand_recordOQ]
  simp [evalDemand, lt_of_getElem? hx]

theorem oqGet_fwd {w : World} {p : Pid} {q : Nat} {x : OQ} {it : Nat} {rest : List Nat} (hx : w.oqs[q]? = some x)
    (hi : x.items = it :: rest) {o : Nat} {gd od : Guard} (ho : Observes w x.rear o gd od) :
    ∃ w1 : World, (oqGetLoop w p q).1 = signal w1 x.rear ∧ FwdWoken w1 (signal w1 x.rear) x.rear o gd od ∧
      (∀ n, evalDemand w1 (.cond 4 q n) = decide (rest.length ≥ n)) ∧ w1.now = w.now ∧ w1.ev = w.ev ∧ w1.procs = w.procs := by
  have he : Eff 0 { oqs := true, avail := true } w _ := Eff.recordOQ (Eff.setOQ .refl hx { x with items := rest, gotLog := x.gotLog ++ [it] }) q
  refine ⟨_, oqGet_signals hx hi, (ho.fwd he).1, fun n => ?_, (ho.fwd he).2.1, (ho.fwd he).2.2, he.outside.procs (by scope)⟩
  rw [evalDemand_recordOQ]
  simp [evalDemand, lt_of_getElem? hx]

theorem bufPut_fwd {w : World} {p : Pid} {b rem left : Nat} {x : Buf} (hx : w.bufs[b]? = some x) (hl : x.cap - x.level ≥ rem)
    {o : Nat} {gd od : Guard} (ho : Observes w x.front o gd od) :
    ∃ w1 : World, (bufPutLoop w p b rem left).1 = (if x.level + rem < x.cap then signal (signal w1 x.front) x.rear else signal w1 x.front) ∧
      FwdWoken w1 (signal w1 x.front) x.front o gd od ∧
      (∀ n, evalDemand w1 (.cond 3 b n) = decide (x.level + rem ≥ n)) ∧ w1.now = w.now ∧ w1.ev = w.ev ∧ w1.procs = w.procs := by
  have he : Eff 0 { bufs := true, avail := true } w _ :=
    Eff.recordBuf (Eff.setBuf .refl hx { x with level := x.level + rem, putTotal := x.putTotal + rem }) b
  refine ⟨_, bufPut_done_signals hx hl, (ho.fwd he).1, fun n => ?_, (ho.fwd he).2.1, (ho.fwd he).2.2, he.outside.procs (by scope)⟩
  rw [evalDemand_recordBuf]
  simp [evalDemand, lt_of_getElem? hx]

theorem bufGet_fwd {w : World} {p : Pid} {b rem got : Nat} {x : Buf} (hx : w.bufs[b]? = some x) (hl : x.level ≥ rem)
    {o : Nat} {gd od : Guard} (ho : Observes w x.rear o gd od) :
    ∃ w1 : World, (bufGetLoop w p b rem got).1 = (if x.level - rem > 0 then signal (signal w1 x.rear) x.front else signal w1 x.rear) ∧
      FwdWoken w1 (signal w1 x.rear) x.rear o gd od ∧
      (∀ n, evalDemand w1 (.cond 3 b n) = decide (x.level - rem ≥ n)) ∧ w1.now = w.now ∧ w1.ev = w.ev ∧ w1.procs = w.procs := by
  have he : Eff 0 { bufs := true, avail := true } w _ :=
    Eff.recordBuf (Eff.setBuf .refl hx { x with level := x.level - rem, getTotal := x.getTotal + rem }) b
  refine ⟨_, bufGet_done_signals hx hl, (ho.fwd he).1, fun n => ?_, (ho.fwd he).2.1, (ho.fwd he).2.2, he.outside.procs (by scope)⟩
  rw [evalDemand_recordBuf]
  simp [evalDemand, lt_of_getElem? hx]

theorem poolDrop_fwd {w : World} {pl : Nat} {p : Pid} {x : Pool} {i : Nat} {h' : HH} {bb : Bool}
    (hx : w.pools[pl]? = some x) (hi : HashHeap.findIndex x.holders (p + 1) = .ok (i + 1))
    (hr : HashHeap.remove holder_queue_check x.holders (p + 1) = .ok (h', bb))
    {o : Nat} {gd od : Guard} (ho : Observes w x.guard o gd od) :
    ∃ w1 : World, poolDropHolder w pl p = signal w1 x.guard ∧ FwdWoken w1 (signal w1 x.guard) x.guard o gd od ∧
      (∀ n, evalDemand w1 (.cond 2 pl n) = decide (x.cap - (x.inUse - (x.holders.heap.getD (i + 1) {}).item.b) ≥ n)) ∧
      w1.now = w.now ∧ w1.ev = w.ev ∧ w1.procs = w.procs := by
  have he : Eff 0 { pools := true, avail := true, ph := true } w _ := Eff.recordPool (Eff.setPool .refl hx
    { x with inUse := x.inUse - (x.holders.heap.getD (i + 1) {}).item.b, holders := h' }) pl
  refine ⟨_, poolDropHolder_signals hx hi hr, (ho.fwd he).1, fun n => ?_, (ho.fwd he).2.1, (ho.fwd he).2.2, he.outside.procs (by scope)⟩
  rw [evalDemand_recordPool]
  simp [evalDemand, lt_of_getElem? hx]

/-- the holder bookkeeping of `cmb_resourcepool_release` (before the units go back) -/
def relMid (w : World) (p : Pid) (pl n : Nat) (x : Pool) : World :=
  if heldAmount w pl p = n then
    match HashHeap.remove holder_queue_check x.holders (p + 1) with
    | .ok (h', _) => (removeHeld { w with pools := w.pools.set! pl { x with holders := h' } } p (.pool pl)).1
    | .error f => w.fail s!"pool release: {f}"
  else setHeldAmount w pl p (heldAmount w pl p - n)

theorem poolRelease_eq {w : World} {p : Pid} {pl n : Nat} {x : Pool} (hx : w.pools[pl]? = some x)
    (hn : ¬ (n = 0 ∨ n > heldAmount w pl p)) :
    execCmd w p (.poolRelease pl n) =
      (signal (recordPool (setPoolInUse (relMid w p pl n x) pl (x.inUse - n)) pl) x.guard, .ret 0 "") := by
  simp only [execCmd, hx, hn, if_false, relMid]
  rfl

theorem relMid_frame {w : World} (p : Pid) {pl : Nat} (n : Nat) {x : Pool} (hx : w.pools[pl]? = some x) :
    (relMid w p pl n x).guards = w.guards ∧ (relMid w p pl n x).conds = w.conds ∧ (relMid w p pl n x).ev = w.ev ∧
    (∀ q, ((relMid w p pl n x).proc q).prio = (w.proc q).prio) ∧
    ∃ y, (relMid w p pl n x).pools[pl]? = some y ∧ y.cap = x.cap := by
  have hlt := lt_of_getElem? hx
  unfold relMid
  split
  · split
    · refine ⟨by simp [removeHeld], by simp [removeHeld], by simp [removeHeld], fun q => ?_, ?_⟩
      · exact (Eff.removeHeld (p := 0) (s := { heldP := .any }) .refl p (.pool pl)).outside.prio q (.inl rfl)
      · rename_i h' _ _
        refine ⟨{ x with holders := h' }, ?_, rfl⟩
        simp only [removeHeld, modProc_pools]
        exact getElem?_set!_self _ _ _ hlt
    · exact ⟨by simp, by simp, by simp, fun q => by simp, x, by simpa using hx, rfl⟩
  · unfold setHeldAmount
    rw [hx]
    dsimp only
    split
    · split
      · exact ⟨by simp, by simp, by simp, fun q => by simp, x, by simpa using hx, rfl⟩
      · exact ⟨rfl, rfl, rfl, fun q => rfl, _, getElem?_set!_self _ _ _ hlt, rfl⟩
    · exact ⟨by simp, by simp, by simp, fun q => by simp, x, by simpa using hx, rfl⟩

theorem poolRelease_fwd {w : World} {p : Pid} {pl n : Nat} {x : Pool} (hx : w.pools[pl]? = some x)
    (hn : ¬ (n = 0 ∨ n > heldAmount w pl p)) {o : Nat} {gd od : Guard} (ho : Observes w x.guard o gd od) :
    ∃ w1 : World, (execCmd w p (.poolRelease pl n)).1 = signal w1 x.guard ∧ FwdWoken w1 (signal w1 x.guard) x.guard o gd od ∧
      (∀ b, evalDemand w1 (.cond 2 pl b) = decide (x.cap - (x.inUse - n) ≥ b)) ∧
      w1.now = w.now ∧ w1.ev = w.ev ∧ ∀ q, (w1.proc q).prio = (w.proc q).prio := by
  obtain ⟨hgu, hc, hev, hpr, y, hy, hcap⟩ := relMid_frame p n hx
  refine ⟨_, by rw [poolRelease_eq hx hn], (ho.transfer ?_ ?_).signal, ?_, ?_, ?_, ?_⟩
  · rw [(recordPool_keeps _ pl).1]; exact hgu
  · rw [(recordPool_keeps _ pl).2.1]; exact hc
  · intro b
    rw [evalDemand_recordPool]
    simp [evalDemand, setPoolInUse, Array.getElem?_modify, hy, hcap]
  · exact (congrArg EvQ.now (recordPool_keeps _ pl).2.2.1).trans (congrArg EvQ.now hev)
  · rw [(recordPool_keeps _ pl).2.2.1]; exact hev
  · intro q
    unfold World.proc
    rw [(recordPool_keeps _ pl).2.2.2]
    exact hpr q

/-- witness: a resource (guard 0) held by process 0 and observed by a condition (guard 1) on which process 1 (priority 5)
    and then process 2 (priority 0) have entered `cond_wait` for "resource 0 is free" — two waiters behind each other -/
def fwdWorld : World :=
  guardWaitEnter (guardWaitEnter
    { procs := #[{ prio := 0, status := .running, held := [.res 0] },
                 { prio := 5, status := .running, blocked := some (.condWait 0) },
                 { prio := 0, status := .running, blocked := some (.condWait 0) }],
      guards := #[{ q := mkHH 3, observers := [1] }, { q := mkHH 3, isCond := true }],
      res := #[{ holder := some 0, guard := 0 }],
      conds := #[1] } 1 1 (.cond 1 0 0)) 1 2 (.cond 1 0 0)

end CimbaModel.Sim.S3
