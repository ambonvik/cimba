/-
  S3 — what `PInvB` says in plain terms, and that the initial states satisfy it.
-/
import CimbaModel.Sim.S3PInvDispatch
import CimbaModel.Sim.S3TInvRun

namespace CimbaModel.Sim.S3
open CimbaModel CimbaModel.Sim CimbaModel.Event CimbaModel.Generated CimbaModel.KPQ
open CimbaModel.HashHeap (HTag Item Order HH WF abs liveTags)

/-- a state before anything has been registered: kernel invariant, no awaits, no waiters, no event waiters, no
    process-end / event-done wake-up and no timer event pending (start events, user events, … may be pending) -/
structure InitOk (w : World) : Prop where
  ei : EvInv w.ev
  aw : ∀ p, (w.proc p).awaits = []
  wt : ∀ p, (w.proc p).waiters = []
  ew : w.evWaiters = []
  nw : ∀ e ∈ w.ev.pending, e.item.a ≠ aProc ∧ e.item.a ≠ aEvent
  nt : ∀ e ∈ w.ev.pending, e.item.a ≠ aTime

theorem InitOk.pinv {w : World} (h : InitOk w) : PInvB w where
  ei := h.ei
  ap := fun p => Or.inl (by unfold procAw; rw [h.aw]; rfl)
  ae := fun p => Or.inl (by unfold evAw; rw [h.aw]; rfl)
  ar := fun p _ => ⟨by unfold procAw; rw [h.aw]; rfl, by unfold evAw; rw [h.aw]; rfl⟩
  fb := fun p _ hx => absurd rfl hx
  w1 := fun p q hq => by rw [h.wt] at hq; cases hq
  wn := fun p => by rw [h.wt]; exact List.nodup_nil
  e1 := fun k l q hm => by rw [h.ew] at hm; cases hm
  en := by rw [h.ew]; exact ⟨List.nodup_nil, fun _ _ hm => by cases hm⟩
  sb := fun e he hk => by
    rcases hk with hk | hk
    · exact absurd hk (h.nw e he).1
    · exact absurd hk (h.nw e he).2
  es := fun k l hm => by rw [h.ew] at hm; cases hm
  op := fun e he ha => absurd ha (h.nw e he).1
  oe := fun e he ha => absurd ha (h.nw e he).2
  oh := fun e he ha => absurd ha (h.nw e he).2
  up := fun a ha _ _ haa => absurd haa (h.nw a ha).1
  ue := fun a ha _ _ haa => absurd haa (h.nw a ha).2

theorem InitOk.tinv {w : World} (h : InitOk w) : TInvB w where
  ei := h.ei
  t1 := fun p k _ hk => by rw [h.aw] at hk; cases hk
  t2 := fun e he ha => absurd ha (h.nt e he)
  tle := fun p k hk => by rw [h.aw] at hk; cases hk
  tnd := fun p => by unfold timeAw; rw [h.aw]; exact List.nodup_nil
  tb := fun e he ha => absurd ha (h.nt e he)

/-- I_waiters: whoever is registered as a waiter of `p` awaits `p` and is suspended in `wait_process p`; nobody is
    registered twice -/
theorem PInvB.waiters {w : World} (h : PInvB w) (p q : Pid) (hq : q ∈ (w.proc p).waiters) :
    Await.proc p ∈ (w.proc q).awaits ∧ (w.proc q).blocked = some (.waitProc p) ∧ (w.proc q).status = .running ∧
    (w.proc p).waiters.Nodup := by
  have h1 := h.w1 p q hq (noEx_not q)
  refine ⟨h1, (h.proc_unique h1 h1).2, ?_, h.wn p⟩
  apply Classical.byContradiction
  intro hn
  have := (h.ar q hn).1
  rw [mem_awaits_proc, this] at h1; cases h1

/-- the same for event waiters; waiters are only registered with scheduled events -/
theorem PInvB.eventWaiters {w : World} (h : PInvB w) (k : Nat) (l : List Pid) (hm : (k, l) ∈ w.evWaiters) (q : Pid) (hq : q ∈ l) :
    Await.event k ∈ (w.proc q).awaits ∧ (w.proc q).blocked = some (.waitEvent k) ∧ (w.proc q).status = .running ∧
    k ∈ keys w.ev.pending ∧ l.Nodup := by
  have h1 := h.e1 k l q hm hq (noEx_not q)
  refine ⟨h1, (h.event_unique h1 h1).2, ?_, h.es k l hm, h.en.2 k l hm⟩
  apply Classical.byContradiction
  intro hn
  have := (h.ar q hn).2
  rw [mem_awaits_event, this] at h1; cases h1

/-- no stale process-end wake-ups: a pending (aProc) event addressed to `p` — whatever signal it carries — belongs to
    the `wait_process q` the process is suspended in right now: `p` is running, its recorded frame is `waitProc q`, it
    awaits `q`, it has already been taken off `q`'s waiter list, and it is the only such event for `p` -/
theorem PInvB.procWake_owned {w : World} (h : PInvB w) {e : HTag} (he : e ∈ w.ev.pending) (ha : e.item.a = aProc) :
    ∃ p q, e.item.b = p + 1 ∧ (w.proc p).blocked = some (.waitProc q) ∧ (w.proc p).status = .running ∧
      Await.proc q ∈ (w.proc p).awaits ∧ p ∉ (w.proc q).waiters ∧
      ∀ e' ∈ w.ev.pending, e'.item.a = aProc → e'.item.b = p + 1 → e' = e := by
  have hb0 := h.sb e he (Or.inl ha)
  have hb : e.item.b = (e.item.b - 1) + 1 := by omega
  obtain ⟨q, h1, h2⟩ := h.op e he ha (e.item.b - 1) hb (noEx_not _)
  refine ⟨e.item.b - 1, q, hb, (h.proc_unique h1 h1).2, ?_, h1, h2, ?_⟩
  · apply Classical.byContradiction
    intro hn
    have := (h.ar _ hn).1
    rw [mem_awaits_proc, this] at h1; cases h1
  · intro e' he' ha' hb'
    exact h.up e' he' e he ha' ha (by rw [hb', ← hb]) _ hb' (noEx_not _)

/-- no stale event-done wake-ups: a pending (aEvent) event addressed to `p` belongs to the `wait_event k` the process is
    suspended in right now; the awaited event `k` is no longer scheduled (it has been executed or cancelled), `p` is no
    longer registered with it, and it is the only such wake-up for `p` -/
theorem PInvB.eventWake_owned {w : World} (h : PInvB w) {e : HTag} (he : e ∈ w.ev.pending) (ha : e.item.a = aEvent) :
    ∃ p k, e.item.b = p + 1 ∧ (w.proc p).blocked = some (.waitEvent k) ∧ (w.proc p).status = .running ∧
      Await.event k ∈ (w.proc p).awaits ∧ p ∉ evWaitersOf w k ∧ k ∉ keys w.ev.pending ∧
      ∀ e' ∈ w.ev.pending, e'.item.a = aEvent → e'.item.b = p + 1 → e' = e := by
  have hb0 := h.sb e he (Or.inr ha)
  have hb : e.item.b = (e.item.b - 1) + 1 := by omega
  obtain ⟨k, h1, h2⟩ := h.oe e he ha (e.item.b - 1) hb (noEx_not _)
  refine ⟨e.item.b - 1, k, hb, (h.event_unique h1 h1).2, ?_, h1, h2, (h.oh e he ha _ hb (noEx_not _) k h1).1, ?_⟩
  · apply Classical.byContradiction
    intro hn
    have := (h.ar _ hn).2
    rw [mem_awaits_event, this] at h1; cases h1
  · intro e' he' ha' hb'
    exact h.ue e' he' e he ha' ha (by rw [hb', ← hb]) _ hb' (noEx_not _)

/-- once `wait_process` / `wait_event` has returned (the process is not suspended in it), nothing that belonged to it
    is left: no registration of the process with any process or event, no PROCESS / EVENT awaitable, and no pending
    process-end or event-done wake-up addressed to it -/
theorem PInvB.returned_clean {w : World} (h : PInvB w) (p : Pid)
    (hf : ∀ q, (w.proc p).blocked ≠ some (.waitProc q)) (hg : ∀ k, (w.proc p).blocked ≠ some (.waitEvent k)) :
    (∀ x, p ∉ (w.proc x).waiters) ∧ (∀ k l, (k, l) ∈ w.evWaiters → p ∉ l) ∧
    procAw w p = [] ∧ evAw w p = [] ∧
    (∀ e ∈ w.ev.pending, e.item.a = aProc ∨ e.item.a = aEvent → e.item.b ≠ p + 1) := by
  refine ⟨fun x hx => hf x (h.waiters x p hx).2.1, fun k l hm hpl => hg k (h.eventWaiters k l hm p hpl).2.1, ?_, ?_, ?_⟩
  · rcases h.ap p with h' | ⟨q, hq, _⟩
    · exact h'
    · exact absurd hq (hf q)
  · rcases h.ae p with h' | ⟨k, hk, _⟩
    · exact h'
    · exact absurd hk (hg k)
  · intro e he hk hb
    rcases hk with hk | hk
    · obtain ⟨p', q, hb', hbl, _⟩ := h.procWake_owned he hk
      have : p' = p := Nat.add_right_cancel (hb'.symm.trans hb)
      subst this; exact hf q hbl
    · obtain ⟨p', k, hb', hbl, _⟩ := h.eventWake_owned he hk
      have : p' = p := Nat.add_right_cancel (hb'.symm.trans hb)
      subst this; exact hg k hbl

end CimbaModel.Sim.S3
