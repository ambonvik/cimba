/-
  S7 — the timer API applied to ANOTHER process (`cmb_process_timers_clear(&procs[q])`, `cmb_process_timer_add(&procs[q], d, sig)`;
  commands `timersClearOf q`, `timerAddOf q d sig`): the exact effect of `timersClear` / `timerAdd` on a target that is
  typically suspended in a wait, so that its awaits list holds non-timer entries (RESOURCE / PROCESS / EVENT) too.

  `timersClear w q` is the fold of `cmb_event_cancel` (`cancelList`, Sim/S3GuardOps) over the handles of `q`'s TIME awaitables,
  after those awaitables have been dropped from `q`'s list.  Unlike S5 `cancelList_closed` nothing is assumed about the handles
  here (they need neither be distinct nor still scheduled): `cancelList_old` / `cancelList_new` describe the fold for any list.
-/
import CimbaModel.Sim.S5Pattern
import CimbaModel.Sim.S3Built
import CimbaModel.Sim.S3Hold

namespace CimbaModel.Sim.S7
open CimbaModel CimbaModel.Sim CimbaModel.Sim.S3 CimbaModel.Sim.S5 CimbaModel.Event CimbaModel.Generated CimbaModel.KPQ
open CimbaModel.HashHeap (HTag Item Order HH)

/-- the handles of the TIME awaitables of `q`, in list order (latest registration first) -/
def timerHandles (w : World) (q : Pid) : List Nat :=
  (w.proc q).awaits.filterMap fun a => match a with | .time h => some h | _ => none

def dropTimers (l : List Await) : List Await := l.filter fun a => match a with | .time _ => false | _ => true

theorem dropTimers_eq (l : List Await) : dropTimers l = l.filter fun a => !isTimeA a := by
  unfold dropTimers
  apply List.filter_congr
  intro a _; cases a <;> rfl

theorem mem_timerHandles {w : World} {q : Pid} {k : Nat} : k ∈ timerHandles w q ↔ Await.time k ∈ (w.proc q).awaits := by
  unfold timerHandles
  rw [List.mem_filterMap]
  constructor
  · rintro ⟨a, ha, hk⟩
    cases a <;> simp at hk
    subst hk; exact ha
  · intro h; exact ⟨_, h, rfl⟩

theorem mem_dropTimers {l : List Await} {a : Await} : a ∈ dropTimers l ↔ a ∈ l ∧ isTimeA a = false := by
  rw [dropTimers_eq]; simp [List.mem_filter]

theorem time_not_mem_dropTimers (l : List Await) (k : Nat) : Await.time k ∉ dropTimers l := by
  intro h; have := (mem_dropTimers.1 h).2; simp [isTimeA] at this

theorem timersClear_eq (w : World) (q : Pid) :
    timersClear w q = cancelList (w.modProc q fun x => { x with awaits := dropTimers x.awaits }) (timerHandles w q) := by
  rfl

theorem cancelList_new : ∀ (hs : List Nat) (w : World), ∀ e ∈ (cancelList w hs).ev.pending,
    e ∈ w.ev.pending ∨ (w.ev.counter < e.key ∧ ∃ h ∈ hs, ∃ q ∈ (w.evWaiters.lookup h).getD [],
      e = mkEv e.key aEvent (q + 1) sigCancelled w.now (w.proc q).prio) := by
  intro hs
  induction hs with
  | nil => intro w e he; exact Or.inl he
  | cons h hs ih =>
    intro w e he
    rw [cancelList_cons] at he
    have hrel := evCancel_rel w h
    rcases ih (evCancel w h).1 e he with h1 | ⟨hc, h', hh', q, hq, heq⟩
    · rw [evCancel_eq] at h1
      split at h1
      · simp only [pushAll_pending, cancelEv_pending, List.mem_append] at h1
        rcases h1 with h1 | h1
        · right
          obtain ⟨hlo, _, _, _, x, hx, hxe⟩ := wakeEvs_props h1
          simp only [evWakes, List.mem_map] at hx
          obtain ⟨q, hq, rfl⟩ := hx
          exact ⟨by simpa using hlo, h, List.mem_cons_self, q, hq, by simpa using hxe⟩
        · exact Or.inl (mem_remove.1 h1).1
      · exact Or.inl h1
    · -- a wake-up of a later cancel: the registration was there from the start
      right
      refine ⟨Nat.lt_of_le_of_lt hrel.counter hc, h', List.mem_cons_of_mem _ hh', q, ?_, ?_⟩
      · rw [evCancel_eq] at hq
        split at hq
        · simp only [pushAll_evWaiters, cancelEv_evWaiters] at hq
          by_cases hne : h' = h
          · subst hne; rw [lookup_filter_self] at hq; simp at hq
          · rw [lookup_filter_ne _ _ _ hne] at hq; exact hq
        · exact hq
      · rw [heq]; simp only [mkEv]; rw [hrel.now, hrel.proc]

theorem cancelList_lookup : ∀ (hs : List Nat) (w : World) (k : Nat), k ∉ hs →
    (cancelList w hs).evWaiters.lookup k = w.evWaiters.lookup k := by
  intro hs
  induction hs with
  | nil => intro w k _; rfl
  | cons h hs ih =>
    intro w k hk
    have hk' : k ≠ h ∧ k ∉ hs := by simpa [List.mem_cons, not_or] using hk
    rw [cancelList_cons, ih _ k hk'.2, evCancel_eq]
    split
    · simp only [pushAll_evWaiters, cancelEv_evWaiters]
      exact lookup_filter_ne _ _ _ hk'.1
    · rfl

theorem pending_not_cancelled {q : EvQ} (hi : EvInv q) {e : HTag} (he : e ∈ q.pending) : e.key ∉ q.cancelled := by
  have hnd := hi.part.nodup
  intro hc
  have h1 : e.key ∈ keys q.pending ++ q.executed := List.mem_append.2 (Or.inl (Event.mem_keys.2 ⟨e, he, rfl⟩))
  exact (List.nodup_append.1 hnd).2.2 _ h1 _ hc rfl

theorem key_mem_timerHandles {w : World} (ht : TInvB w) (q : Pid) {e : HTag} (he : e ∈ w.ev.pending) :
    e.key ∈ timerHandles w q ↔ (e.item.a = aTime ∧ e.item.b = q + 1) := by
  rw [mem_timerHandles]
  constructor
  · intro hk
    rcases ht.t1 q e.key (Nat.ne_of_gt (EvInv.key_range ht.ei he).1) hk with ⟨e', he', hkk, ha, hb⟩ | hc
    · have : e' = e := HashHeap.eq_of_key_eq ht.ei.part.keysNodup he' he hkk
      subst this; exact ⟨ha, hb⟩
    · exact absurd hc (pending_not_cancelled ht.ei he)
  · rintro ⟨ha, hb⟩
    exact ht.t2 e he ha q hb (noEx_not q)

/-- the state after `timersClear w q`, for ANY process `q` (running or suspended in whatever wait), in a state satisfying
    the kernel invariant -/
structure Cleared (w : World) (q : Pid) (w' : World) : Prop where
  target : q < w.procs.size → w'.proc q = { w.proc q with awaits := dropTimers (w.proc q).awaits }
  others : ∀ x, x ≠ q → w'.proc x = w.proc x
  psize : w'.procs.size = w.procs.size
  old : w'.ev.pending.filter (fun e => decide (e.key ≤ w.ev.counter)) =
    w.ev.pending.filter (fun e => decide (e.key ∉ timerHandles w q))
  new : ∀ e ∈ w'.ev.pending, w.ev.counter < e.key → ∃ h ∈ timerHandles w q, ∃ x ∈ (w.evWaiters.lookup h).getD [],
    e = mkEv e.key aEvent (x + 1) sigCancelled w.now (w.proc x).prio
  guards : w'.guards = w.guards
  res : w'.res = w.res
  pools : w'.pools = w.pools
  bufs : w'.bufs = w.bufs
  oqs : w'.oqs = w.oqs
  pqs : w'.pqs = w.pqs
  conds : w'.conds = w.conds
  flags : w'.flags = w.flags
  gvars : w'.gvars = w.gvars
  now : w'.now = w.now
  fault : w'.fault = w.fault
  log : w'.log = w.log
  evWaiters : ∀ x ∈ w'.evWaiters, x ∈ w.evWaiters
  kept : ∀ k, k ∉ timerHandles w q → w'.evWaiters.lookup k = w.evWaiters.lookup k

theorem timersClear_cleared (w : World) (q : Pid) (hi : EvInv w.ev) : Cleared w q (timersClear w q) := by
  rw [timersClear_eq]
  let w0 := w.modProc q fun x => { x with awaits := dropTimers x.awaits }
  have hi0 : EvInv w0.ev := hi
  have hrel : CanRel w0 (cancelList w0 (timerHandles w q)) := (cancelFold_spec (timerHandles w q) w0 hi0).1
  have hold := cancelList_old (timerHandles w q) w0 w.ev.counter (Nat.le_refl _)
  have hnew := cancelList_new (timerHandles w q) w0
  refine { target := ?_, others := ?_, psize := ?_, old := ?_, new := ?_, guards := hrel.guards, res := hrel.res,
           pools := hrel.pools, bufs := hrel.bufs, oqs := hrel.oqs, pqs := hrel.pqs, conds := hrel.conds,
           flags := hrel.flags, gvars := hrel.gvars, now := hrel.now, fault := hrel.fault, log := hrel.log,
           evWaiters := hrel.evWaiters, kept := fun k hk => cancelList_lookup (timerHandles w q) w0 k hk }
  · intro hlt; rw [hrel.proc]; exact modProc_proc_self w _ hlt
  · intro x hx; rw [hrel.proc]; exact modProc_proc_ne w _ hx
  · rw [hrel.procs]; exact modProc_procs_size w q _
  · rw [hold]
    have hall : w.ev.pending.filter (fun e => decide (e.key ≤ w.ev.counter)) = w.ev.pending :=
      List.filter_eq_self.2 (fun e he => by simpa using EvInv.key_le hi he)
    show (w.ev.pending.filter _).filter _ = _
    rw [hall]
  · intro e he hk
    rcases hnew e he with hm | ⟨_, h, hh, x, hx, heq⟩
    · have : e.key ≤ w.ev.counter := EvInv.key_le hi hm
      omega
    · refine ⟨h, hh, x, hx, ?_⟩
      rw [heq]; simp only [mkEv]
      have hp : (w0.proc x).prio = (w.proc x).prio := by
        show ((w.modProc q _).proc x).prio = _
        rw [modProc_proc]; split
        · rename_i hc; rw [hc.1]
        · rfl
      rw [hp]; rfl

theorem timersClear_exact {w : World} (ht : TInvB w) (q : Pid) :
    Cleared w q (timersClear w q) ∧
    (∀ e ∈ (timersClear w q).ev.pending, e.item.a = aTime → e.item.b ≠ q + 1) ∧
    (timersClear w q).ev.pending.filter (fun e => decide (e.key ≤ w.ev.counter)) =
      w.ev.pending.filter (fun e => !(decide (e.item.a = aTime) && decide (e.item.b = q + 1))) := by
  have hc := timersClear_cleared w q ht.ei
  refine ⟨hc, ?_, ?_⟩
  · intro e he ha hb
    by_cases hk : e.key ≤ w.ev.counter
    · have hm : e ∈ (timersClear w q).ev.pending.filter (fun e => decide (e.key ≤ w.ev.counter)) :=
        List.mem_filter.2 ⟨he, by simpa using hk⟩
      rw [hc.old] at hm
      obtain ⟨hm1, hm2⟩ := List.mem_filter.1 hm
      have := (key_mem_timerHandles ht q hm1).2 ⟨ha, hb⟩
      simp only [decide_eq_true_eq] at hm2
      exact hm2 this
    · obtain ⟨_, _, _, _, heq⟩ := hc.new e he (by omega)
      rw [heq] at ha
      simp [mkEv, aEvent, aTime] at ha
  · rw [hc.old]
    apply List.filter_congr
    intro e he
    simp [key_mem_timerHandles ht q he]

theorem timersClear_no_waiters {w : World} (ht : TInvB w) (q : Pid)
    (hnw : ∀ k, Await.time k ∈ (w.proc q).awaits → (w.evWaiters.lookup k).getD [] = []) :
    (timersClear w q).ev.pending =
      w.ev.pending.filter (fun e => !(decide (e.item.a = aTime) && decide (e.item.b = q + 1))) := by
  obtain ⟨hc, _, hold⟩ := timersClear_exact ht q
  rw [← hold]
  symm
  apply List.filter_eq_self.2
  intro e he
  simp only [decide_eq_true_eq]
  apply Classical.byContradiction
  intro hk
  obtain ⟨h, hh, x, hx, _⟩ := hc.new e he (by omega)
  rw [hnw h (mem_timerHandles.1 hh)] at hx
  cases hx

theorem timerAdd_exact (w : World) (q : Pid) (d sig : Int) (hd : 0 ≤ d) :
    timerAdd w q d sig =
      (addAwait (pushEv w aTime (q + 1) sig (w.now + d) (w.proc q).prio) q (.time (w.ev.counter + 1)), w.ev.counter + 1) :=
  timerAdd_eq w q d sig hd

theorem execCmd_timersClearOf (w : World) (p q : Pid) (hr : (w.proc q).status = .running) :
    execCmd w p (.timersClearOf q) = (timersClear w q, .ret 0 "") := by
  simp [execCmd, isRunning, hr]

theorem execCmd_timerAddOf (w : World) (p q : Pid) (d sig : Int) (hr : (w.proc q).status = .running) :
    execCmd w p (.timerAddOf q d sig) = ((timerAdd w q d sig).1, .ret 0 s!"h={(timerAdd w q d sig).2}") := by
  simp [execCmd, isRunning, hr]

theorem execCmd_timerOf_skip (w : World) (p q : Pid) (hr : (w.proc q).status ≠ .running) :
    execCmd w p (.timersClearOf q) = (w, .skip) ∧ ∀ d sig, execCmd w p (.timerAddOf q d sig) = (w, .skip) := by
  simp [execCmd, isRunning, hr]

/-- scenario: `res / proc 9: acq 0, hold 10 / proc 5: tadd 0 3 -5, tadd 1 4 -7, acq 0 / proc 1: hold 1, tclearo 1` -/
def clearOfScenario : World :=
  autostart (autostart (autostart (addProc (addProc (addProc (addRes {}) 9
    #[(.acquire 0, "acq 0"), (.hold 10, "hold 10")]) 5
    #[(.timerAdd 0 3 (-5), "tadd 0 3 -5"), (.timerAdd 1 4 (-7), "tadd 1 4 -7"), (.acquire 0, "acq 0")]) 1
    #[(.hold 1, "hold 1"), (.timersClearOf 1, "tclearo 1")]) 0) 1) 2

theorem clearOfScenario_built : Built clearOfScenario := by
  refine .start 2 (.start 1 (.start 0 (.proc 1 _ (.proc 5 _ (.proc 9 _ (.res .empty) ?_) ?_) ?_)))
  · intro i c t h
    rcases i with _ | _ | i <;> cases h <;> trivial
  · intro i c t h
    rcases i with _ | _ | _ | i
    · cases h; show encSig (-5) ≠ 0; decide
    · cases h; show encSig (-7) ≠ 0; decide
    · cases h; trivial
    · cases h
  · intro i c t h
    rcases i with _ | _ | i <;> cases h <;> trivial

/-- the state after the three start events (time 0): process 0 holds the resource and is in `hold`, process 1 is suspended in
    `acquire 0` with its two timers armed, process 2 is in `hold 1` -/
def clearOfWorld : World := runAll 3 clearOfScenario

theorem clearOfWorld_tinv : TInvB clearOfWorld := (clearOfScenario_built.run (by decide) 3).t

end CimbaModel.Sim.S7
