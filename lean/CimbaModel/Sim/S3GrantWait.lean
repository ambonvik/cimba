/-
  S3 — the grant invariant: entering and leaving a guard wait.
-/
import CimbaModel.Sim.S3GInvGuard
import CimbaModel.Sim.S3GrantSignal

namespace CimbaModel.Sim.S3
open CimbaModel CimbaModel.Sim CimbaModel.Event CimbaModel.Generated CimbaModel.KPQ
open CimbaModel.HashHeap (HTag Item Order HH WF abs liveTags)

variable {ex : Pid → Prop} {df : Demand → Nat} {w : World}

theorem QI.shrinkQueue (hq : QI ex w) {g : Nat} {gd : Guard} (hg : w.guards[g]? = some gd) {q' : HH} (hwf : GWF q')
    (hsub : ∀ k, k ∈ keys (abs q') → k ∈ keys (abs gd.q)) : QI ex (setGuardQ w g q') := by
  have hqd : ∀ g' k, queued (setGuardQ w g q') g' k → queued w g' k := by
    intro g' k h
    rw [queued_setGuardQ hg] at h
    split at h
    · rename_i hgg; subst hgg; exact ⟨gd, hg, hsub k h⟩
    · exact h
  refine ⟨hq.ei, ?_, fun g' k h => hq.gk g' k (hqd g' k h), ?_⟩
  · intro g' gd' h'
    rw [setGuardQ_guards_get] at h'
    split at h'
    · rw [hg] at h'; cases h'; exact hwf
    · exact hq.gwf g' gd' h'
  · intro d g' hd gd' h' k hk
    rw [setGuardQ_guards_get] at h'
    split at h'
    · rename_i hgg; subst hgg
      rw [hg] at h'; cases h'
      exact hq.hg d g' hd gd hg k (hsub k hk)
    · exact hq.hg d g' hd gd' h' k hk

theorem GI.shrinkQueue (hgi : GI df w) {g : Nat} {gd : Guard} (hg : w.guards[g]? = some gd) {q' : HH}
    (hsub : ∀ k, k ∈ keys (abs q') → k ∈ keys (abs gd.q)) : GI df (setGuardQ w g q') := by
  intro d g' hd hqn
  obtain ⟨k, hk⟩ := hqn
  have hk' : queued w g' k := by
    rw [queued_setGuardQ hg] at hk
    split at hk
    · rename_i hgg; subst hgg; exact ⟨gd, hg, hsub k hk⟩
    · exact hk
  exact hgi d g' hd ⟨k, hk'⟩

theorem GI.modAwaits (hgi : GI df w) (hi : EvInv w.ev) (p : Pid) (f : Proc → Proc)
    (hng : ∀ e ∈ w.ev.pending, isG01 e → e.item.b ≠ p + 1) (hb0 : ∀ e ∈ w.ev.pending, isG01 e → e.item.b ≠ 0) :
    GI df (w.modProc p f) := by
  intro d g hd hq
  have h1 := hgi d g hd hq
  have h2 : G w g ≤ G (w.modProc p f) g := by
    refine G_le_of_keep hi g ?_
    intro e he hg
    refine ⟨e, he, rfl, hg.1, ?_⟩
    have hne : e.item.b - 1 ≠ p := by
      have := hng e he hg.1; have := hb0 e he hg.1; omega
    rw [modProc_proc_ne w _ hne]; exact hg.2
  have h3 : need (w.modProc p f) d = need w d := rfl
  omega

/-- `GI` after the grants of `p` have been cancelled: a deficit of one at the guard `p` awaits -/
theorem GI.cancelOwn (hq : QI ex w) (hgi : GI df w) (g : Nat) (p : Pid)
    (hown : ∀ g', Await.guard g' ∈ (w.proc p).awaits → g' = g)
    (hu : ∀ e1 ∈ w.ev.pending, ∀ e2 ∈ w.ev.pending, isG01 e1 → isG01 e2 → e1.item.b = p + 1 → e2.item.b = p + 1 → e1 = e2)
    {df' : Demand → Nat} (h1 : ∀ d, gOf w d = some g → 0 < (cancelKindFor w p aRes (some sigSuccess)).2 →
      Await.guard g ∈ (w.proc p).awaits → df d + 1 ≤ df' d)
    (h2 : ∀ d, df d ≤ df' d) :
    GI df' (cancelKindFor w p aRes (some sigSuccess)).1 ∧ QI ex (cancelKindFor w p aRes (some sigSuccess)).1 := by
  obtain ⟨hrel, hgone, hstay, hn⟩ := cancelKindFor_spec w p aRes (some sigSuccess) hq.ei
  have hmatch : ∀ e, kindMatch p aRes (some sigSuccess) e = true ↔ (isG01 e ∧ e.item.b = p + 1) := by
    intro e
    unfold kindMatch isG01
    simp only [Bool.and_eq_true, decide_eq_true_eq]
    have : encSig sigSuccess = 0 := by decide
    rw [this]
    constructor
    · rintro ⟨⟨a, b⟩, c⟩; exact ⟨⟨b, c⟩, a⟩
    · rintro ⟨⟨b, c⟩, a⟩; exact ⟨⟨a, b⟩, c⟩
  generalize hW : (cancelKindFor w p aRes (some sigSuccess)).1 = w1 at hrel hgone hstay
  have hq1 : QI ex w1 := by
    refine ⟨hrel.evinv hq.ei, fun g' gd h' => hq.gwf g' gd (by rw [← hrel.guards]; exact h'), ?_, ?_⟩
    · intro g' k hk
      have := hq.gk g' k ((queued_congr hrel.guards g' k).1 hk)
      rw [hrel.proc]; exact this
    · intro d g' hd gd h' k hk
      rw [gOf_congr hrel.res hrel.pools hrel.bufs hrel.oqs hrel.pqs] at hd
      rw [hrel.guards] at h'
      exact hq.hg d g' hd gd h' k hk
  refine ⟨?_, hq1⟩
  intro d g' hd hqn
  rw [gOf_congr hrel.res hrel.pools hrel.bufs hrel.oqs hrel.pqs] at hd
  rw [need_congr hrel.res hrel.pools hrel.bufs hrel.oqs hrel.pqs]
  obtain ⟨k, hk⟩ := hqn
  have hold := hgi d g' hd ⟨k, (queued_congr hrel.guards g' k).1 hk⟩
  have hgo : ∀ e, grantOf w1 g' e ↔ grantOf w g' e := grantOf_congr (fun x => by rw [hrel.proc]) g'
  have hkeep : ∀ e ∈ w.ev.pending, e.item.b ≠ p + 1 → grantOf w g' e → ∃ e' ∈ w1.ev.pending, e'.key = e.key ∧ grantOf w1 g' e' := by
    intro e he hb hgr
    refine ⟨e, hstay e he ?_, rfl, (hgo e).2 hgr⟩
    cases hm : kindMatch p aRes (some sigSuccess) e with
    | false => rfl
    | true => exact absurd ((hmatch e).1 hm).2 hb
  by_cases hgg : g' = g
  · subst hgg
    by_cases hex0 : ∃ e0 ∈ w.ev.pending, isG01 e0 ∧ e0.item.b = p + 1
    · obtain ⟨e0, he0, hg0, hb0⟩ := hex0
      have hpos : 0 < (cancelKindFor w p aRes (some sigSuccess)).2 := by
        rw [hn]; exact List.length_pos_of_mem (List.mem_filter.2 ⟨he0, (hmatch e0).2 ⟨hg0, hb0⟩⟩)
      by_cases hpa : Await.guard g' ∈ (w.proc p).awaits
      · have hle : G w g' ≤ G w1 g' + 1 := by
          refine G_le_succ_of_keep_except hq.ei g' e0.key ?_
          intro e he hk hgr
          refine hkeep e he ?_ hgr
          intro hb
          exact hk (by rw [hu e he e0 he0 hgr.1 hg0 hb hb0])
        have := h1 d hd hpos hpa
        omega
      · have hle : G w g' ≤ G w1 g' := by
          refine G_le_of_keep hq.ei g' ?_
          intro e he hgr
          refine hkeep e he ?_ hgr
          intro hb
          have := hgr.2; rw [hb, Nat.add_sub_cancel] at this
          exact hpa this
        have := h2 d
        omega
    · have hle : G w g' ≤ G w1 g' := by
        refine G_le_of_keep hq.ei g' ?_
        intro e he hgr
        exact hkeep e he (fun hb => hex0 ⟨e, he, hgr.1, hb⟩) hgr
      have := h2 d
      omega
  · have hle : G w g' ≤ G w1 g' := by
      refine G_le_of_keep hq.ei g' ?_
      intro e he hgr
      refine hkeep e he ?_ hgr
      intro hb
      have : Await.guard g' ∈ (w.proc p).awaits := by
        have := hgr.2; rw [hb, Nat.add_sub_cancel] at this; exact this
      exact hgg (hown g' this)
    have := h2 d
    omega

/-- `guardWithdraw`: a queued entry is removed, or a pending grant is cancelled and passed on; `GI` survives.  If the
    process does not even await the guard any more (its awaits have been cleared, as in `cancel_awaiteds`) the signal
    settles a deficit of one. -/
theorem GI.guardWithdraw {df' : Demand → Nat} (hq : QI ex w) (hgi : GI df w) (g : Nat) (p : Pid)
    (hown : ∀ g', Await.guard g' ∈ (w.proc p).awaits → g' = g)
    (hu : ∀ e1 ∈ w.ev.pending, ∀ e2 ∈ w.ev.pending, isG01 e1 → isG01 e2 → e1.item.b = p + 1 → e2.item.b = p + 1 → e1 = e2)
    (hexq : ∀ k, queued w g k → k ≠ p + 1 → ¬ ex (k - 1))
    (hA : ∀ d, gOf w d ≠ some g → df d ≤ df' d)
    (hB : ∀ d, gOf w d = some g →
      ((¬ queued w g (p + 1) ∧ 0 < (cancelKindFor w p aRes (some sigSuccess)).2 ∧ Await.guard g ∉ (w.proc p).awaits) → df d ≤ df' d + 1) ∧
      (¬ (¬ queued w g (p + 1) ∧ 0 < (cancelKindFor w p aRes (some sigSuccess)).2 ∧ Await.guard g ∉ (w.proc p).awaits) → df d ≤ df' d)) :
    GI df' (guardWithdraw w g p) ∧ QI ex (guardWithdraw w g p) := by
  have hle : ∀ d, ¬ (¬ queued w g (p + 1) ∧ 0 < (cancelKindFor w p aRes (some sigSuccess)).2 ∧ Await.guard g ∉ (w.proc p).awaits) →
      df d ≤ df' d := by
    intro d hc
    cases hd : gOf w d with
    | none => exact hA d (by rw [hd]; simp)
    | some g' =>
      by_cases hgg : g' = g
      · subst hgg; exact (hB d hd).2 hc
      · exact hA d (by rw [hd]; intro h; exact hgg (Option.some.inj h))
  by_cases hqp : queued w g (p + 1)
  · obtain ⟨gd, hg, hk⟩ := hqp
    obtain ⟨q', hwf', hperm, heq⟩ := guardWithdraw_queued hg (hq.gwf g gd hg) hk
    rw [heq]
    have hsub : ∀ k, k ∈ keys (abs q') → k ∈ keys (abs gd.q) := by
      intro k hk'
      obtain ⟨e, he, rfl⟩ := Event.mem_keys.1 hk'
      have := (mem_remove.1 (hperm.mem_iff.1 he)).1
      exact Event.mem_keys.2 ⟨e, this, rfl⟩
    exact ⟨(hgi.shrinkQueue hg hsub).mono (fun d => hle d (fun hc => hc.1 ⟨gd, hg, hk⟩)), hq.shrinkQueue hg hwf' hsub⟩
  · have heq : Sim.guardWithdraw w g p =
        if (cancelKindFor w p aRes (some sigSuccess)).2 > 0 then Sim.signal (cancelKindFor w p aRes (some sigSuccess)).1 g
        else (cancelKindFor w p aRes (some sigSuccess)).1 := by
      cases hg : w.guards[g]? with
      | none => exact guardWithdraw_noguard hg p
      | some gd => exact guardWithdraw_granted hg (hq.gwf g gd hg) (fun hk => hqp ⟨gd, hg, hk⟩)
    rw [heq]
    obtain ⟨hrel, _, _, _⟩ := cancelKindFor_spec w p aRes (some sigSuccess) hq.ei
    have hgof : ∀ d, gOf (cancelKindFor w p aRes (some sigSuccess)).1 d = gOf w d :=
      gOf_congr hrel.res hrel.pools hrel.bufs hrel.oqs hrel.pqs
    split
    · rename_i hpos
      by_cases hpa : Await.guard g ∈ (w.proc p).awaits
      · obtain ⟨h1, hq1⟩ := GI.cancelOwn hq hgi g p hown hu
          (df' := fun d => if gOf w d = some g then df d + 1 else df d)
          (fun d hd _ _ => by simp [hd]) (fun d => by split <;> omega)
        refine ⟨GI.signal hq1 h1 g ?_ ?_ ?_, hq1.signal g⟩
        · intro k hk
          have hk' : queued w g k := (queued_congr hrel.guards g k).1 hk
          exact hexq k hk' (fun h => hqp (h ▸ hk'))
        · intro d hd; rw [hgof] at hd; simp only [hd, if_true]
          have := hle d (fun hc => hc.2.2 hpa); omega
        · intro d hd; rw [hgof] at hd; simp only [hd, if_false]
          exact hA d hd
      · obtain ⟨h1, hq1⟩ := GI.cancelOwn hq hgi g p hown hu (df' := df)
          (fun d _ _ ha => absurd ha hpa) (fun d => Nat.le_refl _)
        refine ⟨GI.signal hq1 h1 g ?_ ?_ ?_, hq1.signal g⟩
        · intro k hk
          have hk' : queued w g k := (queued_congr hrel.guards g k).1 hk
          exact hexq k hk' (fun h => hqp (h ▸ hk'))
        · intro d hd; rw [hgof] at hd
          exact (hB d hd).1 ⟨hqp, hpos, hpa⟩
        · intro d hd; rw [hgof] at hd
          exact hA d hd
    · rename_i hpos
      obtain ⟨h1, hq1⟩ := GI.cancelOwn hq hgi g p hown hu (df' := df) (fun d _ h => absurd h hpos) (fun d => Nat.le_refl _)
      exact ⟨h1.mono (fun d => hle d (fun hc => hpos hc.2.1)), hq1⟩

end CimbaModel.Sim.S3
