/-
  S3 — `GInv`: clean processes (`Clean`), the logical frames, rewriting the awaits, recording a frame and suspending.
-/
import CimbaModel.Sim.S3Reg
import CimbaModel.Sim.S3GInv

namespace CimbaModel.Sim.S3
open CimbaModel CimbaModel.Sim CimbaModel.Event CimbaModel.Generated CimbaModel.KPQ
open CimbaModel.HashHeap (HTag Item Order HH WF abs liveTags)

variable {ex : Pid → Prop} {fr : Pid → Option Frame}

/-- nothing of a guard wait or a hold is left for `p` -/
structure Clean (w : World) (p : Pid) : Prop where
  aw : guardAw w p = []
  nq : ∀ g, ¬ queued w g (p + 1)
  ng : ∀ e ∈ w.ev.pending, isGrant e → e.item.b ≠ p + 1
  nt : ∀ e ∈ w.ev.pending, e.item.a = aTime → e.item.c = 0 → e.item.b ≠ p + 1

theorem GInv.free_of_aw {w : World} (hp : GInv ex fr w) {p : Pid} (hx : ¬ ex p) (haw : guardAw w p = []) :
    (∀ g, ¬ queued w g (p + 1)) ∧ ∀ e ∈ w.ev.pending, isGrant e → e.item.b ≠ p + 1 := by
  have hxp : ¬ ex (p + 1 - 1) := by simpa using hx
  constructor
  · intro g hq
    have := (hp.gk g _ hq).2.2 hxp
    simp only [Nat.add_sub_cancel] at this
    rw [mem_awaits_guard, haw] at this; cases this
  · intro e he hgr hb
    obtain ⟨_, h2⟩ := hp.gr e he hgr
    rw [hb] at h2
    obtain ⟨g, h3, _⟩ := h2 hxp
    simp only [Nat.add_sub_cancel] at h3
    rw [mem_awaits_guard, haw] at h3; cases h3

/-- covers a process whose frame is a guard wait on a missing object (no `FrameOn`) -/
theorem GInv.clean_of_aw {w : World} (hp : GInv ex fr w) {p : Pid} (hx : ¬ ex p) (haw : guardAw w p = [])
    (hnh : ∀ h, fr p ≠ some (.hold h)) : Clean w p := by
  refine ⟨haw, (hp.free_of_aw hx haw).1, (hp.free_of_aw hx haw).2, ?_⟩
  intro e he hea hec hb
  obtain ⟨_, h2⟩ := hp.oth e he hea hec
  rw [hb] at h2
  have := h2 (by simpa using hx)
  simp only [Nat.add_sub_cancel] at this
  exact hnh _ this

theorem GInv.clean {w : World} (hp : GInv ex fr w) {p : Pid} (hx : ¬ ex p)
    (hf : ∀ f, fr p = some f → isGuardFrame f = false ∧ ∀ h, f ≠ .hold h) : Clean w p := by
  refine hp.clean_of_aw hx ?_ (fun h hh => (hf _ hh).2 h rfl)
  rcases hp.ga p with h | ⟨g, f, h1, h2, _⟩
  · exact h
  · have := frameOn_guardFrame h2
    rw [(hf f h1).1] at this; cases this

theorem GInv.clean_of_none {w : World} (hp : GInv ex fr w) {p : Pid} (hx : ¬ ex p) (hfr : fr p = none) : Clean w p :=
  hp.clean hx (fun f h => by rw [hfr] at h; cases h)

theorem GInv.setFr_clean {w : World} (hp : GInv ex fr w) {p : Pid} (hc : Clean w p) (x : Option Frame) :
    GInv ex (setFrame fr p x) w := by
  have hne : ∀ y, y ≠ p → setFrame fr p x y = fr y := fun y hy => setFrame_ne fr x hy
  refine { hp with ga := ?_, gfb := ?_, gc := ?_, gkc := ?_, oth := ?_ }
  · intro y
    by_cases hy : y = p
    · subst hy; exact Or.inl hc.aw
    · rw [hne y hy]; exact hp.ga y
  · intro y hxy hbl
    by_cases hy : y = p
    · subst hy; exact ⟨hc.aw, hc.nt⟩
    · rw [hne y hy] at hbl; exact hp.gfb y hxy hbl
  · intro e he hea hxe
    by_cases hy : e.item.b - 1 = p
    · exfalso
      have hb0 := (hp.gr e he (Or.inr hea)).1
      exact hc.ng e he (Or.inr hea) (by omega)
    · rw [hne _ hy]; exact hp.gc e he hea hxe
  · intro c g hcg k hq hxk
    by_cases hy : k - 1 = p
    · exfalso
      have hk0 := (hp.gk g k hq).1
      have : k = p + 1 := by omega
      exact hc.nq g (this ▸ hq)
    · rw [hne _ hy]; exact hp.gkc c g hcg k hq hxk
  · intro e he hea hec
    obtain ⟨h1, h2⟩ := hp.oth e he hea hec
    refine ⟨h1, fun hxe => ?_⟩
    by_cases hy : e.item.b - 1 = p
    · exfalso; exact hc.nt e he hea hec (by omega)
    · rw [hne _ hy]; exact h2 hxe

theorem GInv.toBlocked {w : World} (hp : GInv ex fr w) (hne : ∀ x, ¬ ex x) : GInv ex (blockedOf w) w := by
  -- wherever the two differ the process is clean
  have hcl : ∀ p, blockedOf w p ≠ fr p → Clean w p := fun p hd =>
    ⟨(hp.gfb p (hne p) hd).1, (hp.free_of_aw (hne p) (hp.gfb p (hne p) hd).1).1, (hp.free_of_aw (hne p) (hp.gfb p (hne p) hd).1).2,
      (hp.gfb p (hne p) hd).2⟩
  refine { hp with ga := ?_, gfb := fun p _ h => absurd rfl h, gc := ?_, gkc := ?_, oth := ?_ }
  · intro p
    by_cases hd : blockedOf w p = fr p
    · rw [hd]; exact hp.ga p
    · exact Or.inl (hcl p hd).aw
  · intro e he hea hxe
    by_cases hd : blockedOf w (e.item.b - 1) = fr (e.item.b - 1)
    · rw [hd]; exact hp.gc e he hea hxe
    · exfalso
      have hb0 := (hp.gr e he (Or.inr hea)).1
      exact (hcl _ hd).ng e he (Or.inr hea) (by omega)
  · intro c g hcg k hq hxk
    by_cases hd : blockedOf w (k - 1) = fr (k - 1)
    · rw [hd]; exact hp.gkc c g hcg k hq hxk
    · exfalso
      have hk0 := (hp.gk g k hq).1
      have : k = (k - 1) + 1 := by omega
      exact (hcl _ hd).nq g (this ▸ hq)
  · intro e he hea hec
    obtain ⟨h1, h2⟩ := hp.oth e he hea hec
    refine ⟨h1, fun hxe => ?_⟩
    by_cases hd : blockedOf w (e.item.b - 1) = fr (e.item.b - 1)
    · rw [hd]; exact h2 hxe
    · exfalso; exact (hcl _ hd).nt e he hea hec (by omega)

theorem GInv.mapAwaits {w : World} (hp : GInv ex fr w) (p : Pid) (g : List Await → List Await)
    (hg : ∀ l, (g l).filter isGuardA = l.filter isGuardA) :
    GInv ex fr (w.modProc p fun x => { x with awaits := g x.awaits }) := by
  have hga : ∀ x, guardAw (w.modProc p fun x => { x with awaits := g x.awaits }) x = guardAw w x := by
    intro x; unfold guardAw; rw [modProc_proc]; split
    · rename_i h; rw [h.1]; exact hg _
    · rfl
  have hm : ∀ x k, Await.guard k ∈ ((w.modProc p fun x => { x with awaits := g x.awaits }).proc x).awaits ↔
      Await.guard k ∈ (w.proc x).awaits := by
    intro x k; rw [mem_awaits_guard, mem_awaits_guard, hga]
  have hbl : ∀ x, ((w.modProc p fun x => { x with awaits := g x.awaits }).proc x).blocked = (w.proc x).blocked :=
    modProc_keep Proc.blocked _ _
  refine { hp with gsz := by simpa using hp.gsz, gk := ?_, ga := fun x => by rw [hga]; exact hp.ga x, gfb := ?_, gr := ?_ }
  · intro g' k hq
    obtain ⟨h1, h2, h3⟩ := hp.gk g' k hq
    exact ⟨h1, by simpa using h2, fun hx => (hm _ _).2 (h3 hx)⟩
  · intro x hx hb
    rw [hbl] at hb; rw [hga]; exact hp.gfb x hx hb
  · intro e he hgr
    obtain ⟨h1, h2⟩ := hp.gr e he hgr
    refine ⟨h1, fun hx => ?_⟩
    obtain ⟨g', h3, h4⟩ := h2 hx
    exact ⟨g', (hm _ _).2 h3, h4⟩

theorem GInv.addAwait_other {w : World} (hp : GInv ex fr w) (p : Pid) (a : Await) (ha : isGuardA a = false) :
    GInv ex fr (addAwait w p a) :=
  hp.mapAwaits p (fun l => a :: l) (fun l => by simp [ha])

theorem GInv.removeAwait_other {w : World} (hp : GInv ex fr w) (p : Pid) (a : Await) (ha : isGuardA a = false) :
    GInv ex fr (removeAwait w p a).1 := by
  rw [removeAwait_fst_eq]
  exact hp.mapAwaits p (fun l => (removeFirst l a).1) (fun l => removeFirst_filter_ne l _ _ ha)

theorem guardAw_removeAwait_other (w : World) (p : Pid) (a : Await) (ha : isGuardA a = false) (x : Pid) :
    guardAw (removeAwait w p a).1 x = guardAw w x := by
  rw [removeAwait_fst_eq]
  unfold guardAw
  rw [modProc_proc]
  split
  · rename_i h; rw [h.1]; exact removeFirst_filter_ne _ _ _ ha
  · rfl

theorem GInv.removeAwaitKind_other {w : World} (hp : GInv ex fr w) (p : Pid) (k : Await → Bool)
    (hk : ∀ a, k a = true → isGuardA a = false) : GInv ex fr (removeAwaitKind w p k).1 := by
  rw [removeAwaitKind_fst_eq]
  exact hp.mapAwaits p (fun l => (removeAwaitKind.go k l).1) (fun l => rak_go_filter _ _ hk l)

theorem GInv.modBlocked {w : World} (hp : GInv ex fr w) (p : Pid) (b : Option Frame)
    (hc : ex p ∨ b = fr p ∨ Clean w p) : GInv ex fr (w.modProc p fun x => { x with blocked := b }) := by
  have haw : ∀ x, ((w.modProc p fun x => { x with blocked := b }).proc x).awaits = (w.proc x).awaits :=
    modProc_keep Proc.awaits _ _
  have hga : ∀ x, guardAw (w.modProc p fun x => { x with blocked := b }) x = guardAw w x := fun x => by
    unfold guardAw; rw [haw]
  refine { hp with gsz := by simpa using hp.gsz, gk := ?_, ga := fun x => by rw [hga]; exact hp.ga x, gfb := ?_, gr := ?_ }
  · intro g' k hq
    obtain ⟨h1, h2, h3⟩ := hp.gk g' k hq
    exact ⟨h1, by simpa using h2, fun hx => by rw [haw]; exact h3 hx⟩
  · intro x hx hb
    rw [hga]
    rw [modProc_proc] at hb
    split at hb
    · rename_i h
      obtain ⟨rfl, _⟩ := h
      rcases hc with hc | hc | hc
      · exact absurd hc hx
      · exact absurd hc hb
      · exact ⟨hc.aw, hc.nt⟩
    · exact hp.gfb x hx hb
  · intro e he hgr
    obtain ⟨h1, h2⟩ := hp.gr e he hgr
    refine ⟨h1, fun hx => ?_⟩
    obtain ⟨g', h3, h4⟩ := h2 hx
    exact ⟨g', by rw [haw]; exact h3, h4⟩

theorem GInv.block_fst {w : World} (hp : GInv ex fr w) (p : Pid) (f : Frame) (hx : ¬ ex p) (hfr : fr p = none) :
    GInv ex (setFrame fr p (some f)) (block w p f).1 := by
  have hc := hp.clean_of_none hx hfr
  have h1 := hp.setFr_clean hc (some f)
  exact h1.modBlocked p (some f) (Or.inr (Or.inl (setFrame_self _ _ _).symm))

end CimbaModel.Sim.S3
