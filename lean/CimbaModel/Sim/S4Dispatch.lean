/-
  S4 — "no fault" through `dispatch`: given everything that holds between two dispatches (`Good`), a dispatched event
  records no fault (`nf_dispatch`), provided the priority queues stay below the growth limit (`PqRoom` of the result).
-/
import CimbaModel.Sim.S4Carry
import CimbaModel.Sim.S1SilentIRun
import CimbaModel.Sim.S4StartBlk
import CimbaModel.Sim.S3All

namespace CimbaModel.Sim.S4
open CimbaModel CimbaModel.Sim CimbaModel.Sim.S3 CimbaModel.Event CimbaModel.Generated CimbaModel.KPQ
open CimbaModel.HashHeap (HTag Item Order HH WF abs liveTags KeysBelowCounter)

structure Good (X : World → Prop) (w : World) : Prop where
  s3 : S3.AllInv w
  s1 : Sim.FullInv w
  start : StartOk w
  rb : RunBlocked w
  st : StaticOk w
  prog : ProgOk w
  x : X w

theorem safe_of_good {X : World → Prop} {w : World} (h : Good X w) (hnf : w.fault = none) : Safe noKey w := by
  refine ⟨hnf, h.st, ?_, ?_⟩
  · intro g gd hg
    refine ⟨h.s3.g.gw g gd hg, fun k hk => ⟨(h.s3.g.gk g k ⟨gd, hg, hk⟩).2.1, fun hx => hx⟩⟩
  · intro pl x hx
    have hph : w.ph pl = some x.holders := ph_eq w pl x hx
    have hwf := h.s1.pool.wf pl x.holders hph
    refine ⟨hwf, fun k hk => ?_⟩
    have hk0 := (hwf.keys_ne_zero hk).1
    have hm : (k - 1) + 1 ∈ w.hk pl := by
      rw [hk_eq w pl x hx]
      have : k - 1 + 1 = k := by omega
      rw [this]; exact hk
    have h2 : k - 1 < w.procs.size := lt_np_of_held w (k - 1) _ (h.s1.pool.listed pl (k - 1) hm)
    omega

theorem resumePre_of_ginv {W : World} {p : Pid} {f : Frame} {sig : Int} (hg : GInvB W) (hbf : (W.proc p).blocked = some f)
    (hq : sig = sigSuccess → Quiet W p) : ResumePre W p f sig := by
  intro g hqq
  obtain ⟨_, _, h3⟩ := hg.gk g (p + 1) hqq
  have haw : Await.guard g ∈ (W.proc p).awaits := by
    have := h3 (noEx_not _)
    simpa using this
  refine ⟨fun hs => (hq hs).nq g haw hqq, ?_⟩
  have haw' := mem_awaits_guard.1 haw
  rcases hg.ga p with h0 | ⟨g', f', hf', hon, hga⟩
  · rw [h0] at haw'; cases haw'
  · have : f' = f := by
      have : blockedOf W p = some f := hbf
      rw [this] at hf'; exact (Option.some.inj hf').symm
    subst this
    rw [hga] at haw'
    have : g = g' := by simpa using haw'
    subst this
    exact hon

theorem prep_ctl (w1 : World) (t : HTag) (x : Pid) :
    ((prep w1 t).proc x).status = (w1.proc x).status ∧ ((prep w1 t).proc x).blocked = (w1.proc x).blocked :=
  prep_cases (fun w' => (w'.proc x).status = (w1.proc x).status ∧ (w'.proc x).blocked = (w1.proc x).blocked) w1 t
    (fun _ => by constructor <;> simp) (fun _ => by constructor <;> simp) (by constructor <;> simp) ⟨rfl, rfl⟩

theorem safe_takeNext {w : World} (h : Safe noKey w) (t : HTag) (ev' : EvQ) : Safe noKey (S3.takeNext w t ev') := by
  unfold S3.takeNext
  apply Safe.wakeEventWaiters
  refine h.same rfl rfl rfl ((Stat.refl w).same rfl rfl rfl rfl rfl rfl rfl rfl)

theorem safe_prep {w1 : World} (h : Safe noKey w1) (t : HTag) : Safe noKey (prep w1 t) :=
  prep_cases (Safe noKey) w1 t (fun _ => h.removeAwait_fst _ _) (fun _ => h.removeAwaitKind_fst _ _) (h.cancelAwaiteds _) h

theorem nf_resume_at {X : World → Prop} (hX : Carry X) (hF : Facts X) {W : World} {p : Pid} {sig : Int}
    (hs : Safe noKey W) (hx : X W) (hprog : ProgOk W) (hg : GInvB W)
    (hrun : (W.proc p).status = .running) (hbl : (W.proc p).blocked ≠ none)
    (hq : ∀ f, (W.proc p).blocked = some f → sig = sigSuccess → Quiet W p)
    (hroom : PqRoom (resumeProc W p sig)) : (resumeProc W p sig).fault = none :=
  nf_resumeProc hX hF W p sig hs hx hprog hrun (fun f hbf => resumePre_of_ginv hg hbf (hq f hbf)) hbl hroom

/-- the world in which the action of a dispatched wake-up resumes its process: the guard invariant holds there and the
    resumption is legitimate — `S3.GInvB.run`, kind by kind -/
theorem prepped_ginv {w : World} (h : GRely w) {t : HTag} {ev' : EvQ} (hn : executeNext w.ev = some (t, ev'))
    (hk : t.item.a ∈ [aTime, aProc, aEvent, aRes, aPreempt, aCond, aIntr, aResume]) :
    GInvB (prep (S3.takeNext w t ev') t) ∧ Due (t.item.b - 1) (decSig t.item.c) (prep (S3.takeNext w t ev') t) := by
  simp only [List.mem_cons, List.not_mem_nil, or_false] at hk
  rcases hk with ha | ha | ha | ha | ha | ha | ha | ha
  · rw [prep_time ha]; exact GInvB.run.time h t ev' hn ha
  · rw [prep_wake (Or.inl ⟨ha, rfl⟩)]; exact GInvB.run.wake h t ev' hn _ (Or.inl ⟨ha, rfl⟩)
  · rw [prep_wake (Or.inr (Or.inl ⟨ha, rfl⟩))]; exact GInvB.run.wake h t ev' hn _ (Or.inr (Or.inl ⟨ha, rfl⟩))
  · rw [prep_of_eq ha (by decide)]; exact GInvB.run.grant h t ev' hn (Or.inl ha)
  · rw [prep_of_eq ha (by decide)]; exact GInvB.run.grant h t ev' hn (Or.inr (Or.inl ha))
  · rw [prep_wake (Or.inr (Or.inr ⟨ha, rfl⟩))]; exact GInvB.run.wake h t ev' hn _ (Or.inr (Or.inr ⟨ha, rfl⟩))
  · rw [prep_intr ha]; exact GInvB.run.intr h t ev' hn ha
  · rw [prep_of_eq ha (by decide)]; exact GInvB.run.grant h t ev' hn (Or.inr (Or.inr ha))

theorem nf_dispatch {X : World → Prop} (hX : Carry X) (hF : Facts X) {w w' : World} (hG : Good X w)
    (hnf : w.fault = none) (hd : dispatch w = some w') (hroom : PqRoom w') : w'.fault = none := by
  rw [S3.dispatch_eq] at hd
  split at hd
  · cases hd
  · rename_i t ev' hn
    cases hd
    have hp := hG.s3.g
    have hT := hp.takeNext hn
    obtain ⟨_, htm, _, _⟩ := executeNext_facts hp.ei hn
    have hW := prepped_ginv ⟨hp, hG.s3.p, hG.s3.nr, hG.s3.side⟩ hn
    have hprocT : ∀ x, (S3.takeNext w t ev').proc x = w.proc x := takeNext_proc w t ev'
    have hsT : Safe noKey (S3.takeNext w t ev') := safe_takeNext (safe_of_good hG hnf) t ev'
    have hxW : X (prep (S3.takeNext w t ev') t) := hX.prep hG.x hn
    have hprogT : ProgOk (S3.takeNext w t ev') := hG.prog.ofStat (Stat.takeNext w t ev')
    have hsW : Safe noKey (prep (S3.takeNext w t ev') t) := safe_prep hsT t
    have hctl := prep_ctl (S3.takeNext w t ev') t
    have hprogW : ProgOk (prep (S3.takeNext w t ev') t) := progOk_prep hprogT t
    generalize S3.takeNext w t ev' = wT at *
    generalize hpdef : t.item.b - 1 = p at *
    -- a resumption in the prepared world: `p` runs there, it is suspended, and what S3 says of the wake-up (the guard
    -- invariant there, `Due`) is what the continuation needs (`ResumePre`)
    have resume : ∀ {W : World}, prep wT t = W → t.item.a ∈ [aTime, aProc, aEvent, aRes, aPreempt, aCond, aIntr, aResume] →
        (w.proc p).status = .running →
        PqRoom (resumeProc W p (decSig t.item.c)) → (resumeProc W p (decSig t.item.c)).fault = none := by
      intro W hpw hk hrun hr
      subst hpw
      exact nf_resume_at hX hF hsW hxW hprogW (hW hk).1 (by rw [(hctl p).1, hprocT]; exact hrun)
        (by rw [(hctl p).2, hprocT]; exact hG.rb p hrun) (hW hk).2 hr
    have wake : ∀ {W : World}, prep wT t = W → t.item.a ∈ [aTime, aProc, aEvent, aRes, aPreempt, aCond, aIntr, aResume] →
        PqRoom (if isRunning W p = true then resumeProc W p (decSig t.item.c) else W) →
        (if isRunning W p = true then resumeProc W p (decSig t.item.c) else W).fault = none := by
      intro W hpw hk
      refine ite_of (P := fun w' => PqRoom w' → w'.fault = none) (fun hrun => ?_) (fun _ _ => hpw ▸ hsW.nf)
      refine resume hpw hk ?_
      rw [← hprocT, ← (hctl p).1, hpw]; simpa [isRunning] using hrun
    have hsil : t.item.a = aTime ∨ t.item.a = aIntr ∨ t.item.a = aResume → (w.proc p).status = .running := by
      intro ha
      rw [← hpdef]
      rcases ha with ha | ha | ha
      · exact (hG.s1.all.silent t htm (by rw [ha]; rfl)).2
      · exact (hG.s1.intr t htm ha).2
      · exact (hG.s1.all.silent t htm (by rw [ha]; rfl)).2
    revert hroom
    refine Sim.dispatchBody_cases (fun w' => PqRoom w' → w'.fault = none) wT t ?_ ?_ ?_ ?_ ?_ ?_ ?_ (fun _ _ => hsT.nf)
    · -- the start of a running process: excluded by `StartInv`
      intro ha hr
      exact absurd (hprocT _ ▸ hr) (hG.start.inv.nr t htm ha)
    · intro ha _ hroom
      rw [hpdef] at hroom ⊢
      have hin : (w.proc p).awaits = [] ∧ (w.proc p).blocked = none :=
        hG.s3.nr p (by have := hG.start.inv.nr t htm ha; rwa [hpdef] at this)
      have hnq : ∀ g, ¬ queued wT g (p + 1) := by
        intro g hqq
        have := (hT.gk g _ hqq).2.2 (noEx_not _)
        rw [Nat.add_sub_cancel, hprocT, hin.1] at this
        cases this
      have hx2 : X (wT.modProc p fun y => { y with status := .running, pc := 0, blocked := none }) := by
        rw [prep_of_eq ha (by decide)] at hxW; exact hX.start p hxW
      exact nf_runScript hX hF _ _ p ((hsT.toKey p hnq).modProc p _ (fun _ => rfl)) hx2
        (hprogT.ofStat ((Stat.refl wT).modProc _ _ (fun _ => rfl))) (scriptLeft_start _ _ _) hroom
    · intro ha hroom
      rw [hpdef] at hroom ⊢
      exact resume ((prep_time ha).trans (by rw [hpdef])) (by rw [ha]; decide) (hsil (Or.inl ha)) hroom
    · intro k hk hroom
      rw [hpdef] at hroom ⊢
      exact wake ((prep_wake hk).trans (by rw [hpdef])) (by rcases hk with ⟨ha, _⟩ | ⟨ha, _⟩ | ⟨ha, _⟩ <;> rw [ha] <;> decide)
        hroom
    · intro ha hroom
      rw [hpdef] at hroom ⊢
      exact wake (ha.elim (prep_of_eq · (by decide)) (prep_of_eq · (by decide))) (by rcases ha with ha | ha <;> rw [ha] <;> decide)
        hroom
    · intro ha hroom
      rw [hpdef] at hroom ⊢
      exact resume ((prep_intr ha).trans (by rw [hpdef])) (by rw [ha]; decide) (hsil (Or.inr (Or.inl ha))) hroom
    · intro ha hroom
      rw [hpdef] at hroom ⊢
      exact resume (prep_of_eq ha (by decide)) (by rw [ha]; decide) (hsil (Or.inr (Or.inr ha))) hroom

theorem Good.dispatch {X : World → Prop} (hX : Carry X) {w w' : World} (h : Good X w) (hd : dispatch w = some w') : Good X w' :=
  ⟨h.s3.dispatch hd, fullinv_dispatch h.s1 hd, h.start.dispatch hd, h.rb.dispatch hd, h.st.ofStat (Stat.dispatch hd),
   h.prog.ofStat (Stat.dispatch hd), hX.dispatch h.x h.prog hd⟩

theorem nf_reach {X : World → Prop} (hX : Carry X) (hF : Facts X) {w0 w : World} (hG : Good X w0) (hnf : w0.fault = none)
    (hr : Reach w0 w) : Good X w ∧ PqMono w0 w ∧ (PqRoom w → w.fault = none) := by
  induction hr with
  | refl => exact ⟨hG, PqMono.refl _, fun _ => hnf⟩
  | step _ hd ih =>
    obtain ⟨hg1, hm1, hn1⟩ := ih
    have hm := PqMono.dispatch hd
    exact ⟨hg1.dispatch hX hd, hm1.trans hm, fun hroom => nf_dispatch hX hF hg1 (hn1 (hroom.of_mono hm)) hd hroom⟩

theorem nf_runAll {X : World → Prop} (hX : Carry X) (hF : Facts X) : ∀ (fuel : Nat) (w : World), Good X w → w.fault = none →
    PqRoom (runAll fuel w) → (runAll fuel w).fault = none := by
  intro fuel
  induction fuel with
  | zero => intro w _ hnf _; exact hnf
  | succ n ih =>
    intro w hG hnf hroom
    unfold Sim.runAll at hroom ⊢
    rw [if_neg (by simp [hnf])] at hroom ⊢
    split
    · exact hnf
    · rename_i w' hd
      rw [hd] at hroom
      simp only at hroom
      exact ih w' (hG.dispatch hX hd) (nf_dispatch hX hF hG hnf hd (hroom.of_mono (PqMono.runAll n w'))) hroom

end CimbaModel.Sim.S4
