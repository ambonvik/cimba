/-
  S4 — `StartInv` through scripts, resumptions and `dispatch` (fault "start of a running process"): `StartOk`, i.e.
  `StartInv w ∧ StartPos w`, is preserved by every dispatched event without any other hypothesis (`StartOk.dispatch`),
  it holds in initial states (`StartOk.init`), and the fault branch of the start action is not taken
  (`StartInv.no_start_fault`).
-/
import CimbaModel.Sim.S4StartCmd

namespace CimbaModel.Sim.S4
open CimbaModel CimbaModel.Sim CimbaModel.Event CimbaModel.Generated
open CimbaModel.HashHeap (HTag Item Order HH)

theorem startOk_emit {w : World} (h : StartOk w) (l : String) : StartOk (w.emit l) :=
  h.of_same (by simp) (fun q => by simp)

theorem startOk_fail {w : World} (h : StartOk w) (m : String) : StartOk (w.fail m) :=
  h.of_same (by simp) (fun q => by simp)

theorem startOk_modProc {w : World} (h : StartOk w) (p : Pid) (f : Proc → Proc) (hf : ∀ x, (f x).status = x.status) :
    StartOk (w.modProc p f) :=
  h.of_same rfl (fun q => modProc_field Proc.status w p f hf q)

theorem startOk_runScript (fuel : Nat) {w : World} (h : StartOk w) (p : Pid) : StartOk (runScript fuel w p) :=
  runScript_rel (Path.ofPred StartOk) p (fun _ m h => startOk_fail h m) (fun _ l h => startOk_emit h l)
    (fun _ h => startOk_finishProc h p 0 false) (fun _ c h => startOk_execCmd h p c)
    (fun _ _ h => startOk_modProc h p _ (fun _ => rfl)) fuel w h

theorem startOk_resumeProc {w : World} (h : StartOk w) (p : Pid) (sig : Int) : StartOk (resumeProc w p sig) :=
  resumeProc_rel (Path.ofPred StartOk) p sig (fun _ m h => startOk_fail h m) (fun _ l h => startOk_emit h l)
    (fun _ h => startOk_modProc h p _ (fun _ => rfl)) (fun _ f h => startOk_resumeFrame h p f sig)
    (fun _ _ h => startOk_modProc h p _ (fun _ => rfl)) (fun fuel _ h => startOk_runScript fuel h p) w h

theorem startTgt_takeNext {N : Pid → Prop} {w : World} (t : HTag) (ev' : EvQ) (h : StartTgt N { w with ev := ev' }) :
    StartTgt N (S3.takeNext w t ev') := by
  unfold S3.takeNext S3.afterNext
  apply ec_wakeEventWaiters (startTgt_closed N) noStart_notStart.event
  exact (startTgt_closed N).ev_only h rfl

theorem takeNext_proc (w : World) (t : HTag) (ev' : EvQ) (q : Pid) : (S3.takeNext w t ev').proc q = w.proc q := by
  unfold S3.takeNext S3.afterNext; simp

theorem startOk_begin {w : World} (h : StartOk w) (p : Pid) (f : Proc → Proc)
    (hp : ∀ e ∈ w.ev.pending, e.item.a = aStart → e.item.b - 1 ≠ p) : StartOk (w.modProc p f) :=
  ⟨fun e he ha => ⟨(h.tgt e he ha).1, by
      show ((w.modProc p f).proc (e.item.b - 1)).status ≠ .running
      rw [proc_modProc_ne _ _ _ _ (hp e he ha)]; exact (h.tgt e he ha).2⟩, h.uq⟩

theorem startOk_dispatchBody {w : World} (t : HTag) (h : StartOk w)
    (ht : t.item.a = aStart → ∀ e ∈ w.ev.pending, e.item.a = aStart → e.item.b - 1 ≠ t.item.b - 1) :
    StartOk (S3.dispatchBody w t) := by
  have hrk : ∀ k, StartOk (removeAwaitKind w (t.item.b - 1) k).1 := fun k => h.of_same (by simp) (fun q => by simp)
  exact Sim.dispatchBody_cases StartOk w t (fun _ _ m => startOk_fail h m)
    (fun ha _ => startOk_runScript _ (startOk_begin h _ _ (ht ha)) _)
    (fun _ => startOk_resumeProc (h.of_same (by simp) (fun q => by simp)) _ _)
    (fun k _ => ite_of (fun _ => startOk_resumeProc (hrk k) _ _) (fun _ => hrk k))
    (fun _ => ite_of (fun _ => startOk_resumeProc h _ _) (fun _ => h))
    (fun _ => startOk_resumeProc (StartOk.of_tgt
      (ec_cancelAwaiteds (startTgt_closed _) noStart_notStart.event ⟨noStart_notStart.res, noStart_notStart.cond⟩ _ _ h)
      (fun q hq => by rw [cancelAwaiteds_status] at hq; exact hq)) _ _)
    (fun _ => startOk_resumeProc h _ _) (fun _ => h)

theorem StartOk.dispatch {w w' : World} (h : StartOk w) (hd : dispatch w = some w') : StartOk w' := by
  rw [S3.dispatch_eq] at hd
  split at hd
  · cases hd
  · rename_i t ev' hex
    injection hd with hd
    subst hd
    obtain ⟨hmem, hpend⟩ := Sim.executeNext_spec hex
    have hsub : ev'.pending.Sublist w.ev.pending := by rw [hpend]; exact List.filter_sublist
    apply startOk_dispatchBody
    · refine StartOk.of_tgt (startTgt_takeNext t ev' ((startTgt_closed _).sub w ev' hsub h))
        (fun q hq => by rw [takeNext_proc] at hq; exact hq)
    · intro ha
      -- the other pending start events are addressed to other processes
      have h0 : StartTgt (fun q => q ≠ t.item.b - 1) { w with ev := ev' } := by
        refine ⟨fun e he hs => ?_, fun e1 h1 e2 h2 => h.uq e1 (hsub.subset h1) e2 (hsub.subset h2)⟩
        have he' : e ∈ w.ev.pending.filter (·.key ≠ t.key) := by rw [← hpend]; exact he
        rw [List.mem_filter] at he'
        have hpe := (h.tgt e he'.1 hs).1
        have hpt := (h.tgt t hmem ha).1
        refine ⟨hpe, fun heq => ?_⟩
        have heq' : e.item.b - 1 = t.item.b - 1 := heq
        have : e = t := h.uq e he'.1 t hmem hs ha (by omega)
        rw [this] at he'
        simp at he'
      have h1 := startTgt_takeNext t ev' h0
      intro e he hs
      exact (h1.tgt e he hs).2

theorem StartInv.dispatch {w w' : World} (h : StartInv w) (hp : StartPos w) (hd : dispatch w = some w') : StartInv w' :=
  ((StartOk.mk h hp).dispatch hd).inv

theorem StartPos.dispatch {w w' : World} (h : StartInv w) (hp : StartPos w) (hd : dispatch w = some w') : StartPos w' :=
  ((StartOk.mk h hp).dispatch hd).pos

/-- the fault "start of a running process" does not occur: when a start event is dispatched, its process is not
    running in the world in which the action runs -/
theorem StartInv.no_start_fault {w : World} (h : StartInv w) {t : HTag} {ev' : EvQ}
    (hex : executeNext w.ev = some (t, ev')) (ha : t.item.a = aStart) :
    ((S3.takeNext w t ev').proc (t.item.b - 1)).status ≠ .running := by
  rw [takeNext_proc]
  exact h.nr t (Sim.executeNext_spec hex).1 ha

theorem StartInv.init {w : World} (hnr : ∀ q, (w.proc q).status ≠ .running)
    (huq : ∀ e1 ∈ w.ev.pending, ∀ e2 ∈ w.ev.pending, e1.item.a = aStart → e2.item.a = aStart →
      e1.item.b = e2.item.b → e1 = e2) : StartInv w :=
  ⟨fun _ _ _ => hnr _, huq⟩

theorem StartOk.init {w : World} (hnr : ∀ q, (w.proc q).status ≠ .running)
    (hpos : ∀ e ∈ w.ev.pending, e.item.a = aStart → 1 ≤ e.item.b)
    (huq : ∀ e1 ∈ w.ev.pending, ∀ e2 ∈ w.ev.pending, e1.item.a = aStart → e2.item.a = aStart →
      e1.item.b = e2.item.b → e1 = e2) : StartOk w :=
  StartOk.mk (StartInv.init hnr huq) hpos

theorem inj_of_nodup_map {α β : Type} (f : α → β) : ∀ (l : List α), (l.map f).Nodup →
    ∀ x ∈ l, ∀ y ∈ l, f x = f y → x = y
  | [], _, x, hx, _, _, _ => by cases hx
  | a :: l, hd, x, hx, y, hy, hxy => by
    rw [List.map_cons, List.nodup_cons] at hd
    rcases List.mem_cons.1 hx with ex | mx
    · rcases List.mem_cons.1 hy with ey | my
      · rw [ex, ey]
      · rw [ex] at hxy; exact absurd (List.mem_map.2 ⟨y, my, hxy.symm⟩) hd.1
    · rcases List.mem_cons.1 hy with ey | my
      · rw [ey] at hxy; exact absurd (List.mem_map.2 ⟨x, mx, hxy⟩) hd.1
      · exact inj_of_nodup_map f l hd.2 x mx y my hxy

theorem StartInv.init' {w : World} (hnr : ∀ q, (w.proc q).status ≠ .running)
    (huq : (w.ev.pending.map fun e => e.item.b).Nodup) : StartInv w :=
  StartInv.init hnr (fun e1 h1 e2 h2 _ _ hb => inj_of_nodup_map _ _ huq e1 h1 e2 h2 hb)

end CimbaModel.Sim.S4
