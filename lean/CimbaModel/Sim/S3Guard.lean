/-
  S3 — the waiting lists: the steps of `cmb_resourceguard_signal` (`frontStep`, `fwdSignal`; Sim/Shape.lean) in closed
  form, and the footprint `SigRel` of a signal, on top of the hashheap refinement (C02).
-/
import CimbaModel.Sim.S3Wake
import CimbaModel.HashHeap.GuardOrder
import CimbaModel.HashHeap.Use

namespace CimbaModel.Sim.S3
open CimbaModel CimbaModel.Sim CimbaModel.Event CimbaModel.Generated CimbaModel.KPQ
open CimbaModel.HashHeap (HTag Item Order HH WF abs liveTags)

/-- the waiting list of a guard is a well-formed hashheap under the regenerated guard order -/
abbrev GWF (q : HH) : Prop := WF guard_queue_check q

/-- the demand predicate registered for key `k` (the C code keeps it in the tag); for the default see `frontStep`,
    Shape.lean -/
def demandOf (gd : Guard) (k : Nat) : Demand := (gd.demands.lookup k).getD (.cond 99 0 0)

theorem guardSignal_zero (w : World) (g : Nat) : guardSignal 0 w g = w.fail "observer chain too deep (cycle?)" := rfl

theorem guardSignal_succ (fuel : Nat) (w : World) (g : Nat) :
    guardSignal (fuel + 1) w g =
      match w.guards[g]? with
      | none => w
      | some gd => gd.observers.foldl (fun w o => fwdSignal fuel w o) (frontStep w g gd) := by
  show guardSignalF false (fuel + 1) w g = _
  rw [guardSignalF_succ]
  cases w.guards[g]? with
  | none => rfl
  | some gd => simp [ownStep]

theorem ownStep_direct (w : World) (g : Nat) (gd : Guard) : ownStep false w g gd = frontStep w g gd := by
  simp [ownStep]

theorem ownStep_handler {w : World} {g : Nat} (h : hasHandler w g = true) (gd : Guard) :
    ownStep true w g gd = (condSignal w g).1 := by
  simp [ownStep, h]

theorem ownStep_plain {w : World} {g : Nat} (h : hasHandler w g = false) (gd : Guard) :
    ownStep true w g gd = frontStep w g gd := by
  simp [ownStep, h]

/-- a forwarded signal reaches an observer without a handler as a plain `cmb_resourceguard_signal` -/
theorem fwdSignal_plain {w : World} {o : Nat} (h : hasHandler w o = false) (fuel : Nat) :
    fwdSignal fuel w o = guardSignal fuel w o := by
  cases fuel with
  | zero => rfl
  | succ n =>
    show guardSignalF true (n + 1) w o = guardSignalF false (n + 1) w o
    rw [guardSignalF_succ, guardSignalF_succ]
    cases hg : w.guards[o]? with
    | none => rfl
    | some gd => simp only [ownStep_plain h, ownStep_direct]

/-- a forwarded signal reaches an observer with a handler (a condition) as `cmb_condition_signal`, and travels on -/
theorem fwdSignal_handler {w : World} {o : Nat} (h : hasHandler w o = true) (fuel : Nat) :
    fwdSignal (fuel + 1) w o =
      match w.guards[o]? with
      | none => w
      | some od => od.observers.foldl (fun w o' => fwdSignal fuel w o') (condSignal w o).1 := by
  show guardSignalF true (fuel + 1) w o = _
  rw [guardSignalF_succ]
  cases hg : w.guards[o]? with
  | none => rfl
  | some gd => simp only [ownStep_handler h]

theorem hasHandler_iff {w : World} {g : Nat} : hasHandler w g = true ↔ ∃ c : Nat, w.conds[c]? = some g := by
  unfold hasHandler
  rw [Array.contains_iff_mem, Array.mem_iff_getElem?]

theorem hasHandler_congr {w w' : World} (h : w'.conds = w.conds) (g : Nat) : hasHandler w' g = hasHandler w g := by
  unfold hasHandler; rw [h]

/-- a grant: the entry leaves the queue and its wake-up (aRes, SUCCESS) is scheduled at the current time
    with the waiter's current priority -/
def grant (w : World) (g : Nat) (q' : HH) (k : Nat) : World :=
  pushEv (setGuardQ w g q') aRes k sigSuccess w.now (w.proc (k - 1)).prio

theorem frontStep_spec (w : World) (g : Nat) (gd : Guard) (hwf : GWF gd.q) :
    (gd.q.count = 0 → frontStep w g gd = w) ∧
    (0 < gd.q.count →
      IsMin guard_queue_check (abs gd.q) (norm (gd.q.tag 1)) ∧
      (evalDemand w (demandOf gd (gd.q.tag 1).key) = false → frontStep w g gd = w) ∧
      (evalDemand w (demandOf gd (gd.q.tag 1).key) = true →
        ∃ q', HashHeap.dequeue guard_queue_check gd.q = .ok (q', some (gd.q.tag 1)) ∧ GWF q' ∧
          (abs gd.q).Perm (norm (gd.q.tag 1) :: abs q') ∧
          frontStep w g gd = grant w g q' (gd.q.tag 1).key)) := by
  constructor
  · intro h0; simp [frontStep, h0]
  · intro hpos
    have hne : gd.q.count ≠ 0 := by omega
    have hpeek := HashHeap.peek_spec hwf hpos
    refine ⟨HashHeap.root_isMin_abs hwf hpos, ?_, ?_⟩
    · intro hd
      unfold demandOf at hd
      simp [frontStep, hne, hpeek, hd]
    · intro hd
      unfold demandOf at hd
      obtain ⟨q', hdq, a⟩ := HashHeap.dequeue_abs hwf hpos
      refine ⟨q', hdq, a.wf, a.perm, ?_⟩
      have hk : (gd.q.tag 1).key ≠ 0 := (hwf.keyOk 1 (Nat.le_refl _) hpos).1
      have hk1 : (gd.q.tag 1).key - 1 + 1 = (gd.q.tag 1).key := by omega
      simp only [frontStep, hne, if_false, hpeek, hd, if_true, hdq, hk1]
      have := sched_now (setGuardQ w g q') aRes (gd.q.tag 1).key sigSuccess ((setGuardQ w g q').proc ((gd.q.tag 1).key - 1)).prio
      rw [this]
      rfl

/-- the three things a front step can be, whatever the state of the queue: nothing, a fault, or a grant (in its raw
    form, as the model schedules it) -/
theorem frontStep_cases (w : World) (g : Nat) (gd : Guard) :
    frontStep w g gd = w ∨ (∃ m, frontStep w g gd = w.fail m) ∨
      ∃ q' k pri, frontStep w g gd = (sched (setGuardQ w g q') aRes k sigSuccess w.now pri).1 := by
  unfold frontStep
  split
  · exact Or.inl rfl
  · split
    · dsimp only
      split
      · split
        · exact Or.inr (Or.inr ⟨_, _, _, rfl⟩)
        · exact Or.inr (Or.inl ⟨_, rfl⟩)
      · exact Or.inl rfl
    · exact Or.inl rfl
    · exact Or.inr (Or.inl ⟨_, rfl⟩)

def AllGWF (w : World) : Prop := ∀ (g : Nat) (gd : Guard), w.guards[g]? = some gd → GWF gd.q

/-- a wake-up with action `a` produced by a signal between `w` and `w'`: an (a, SUCCESS) event at the current time, with
    the waiter's priority, for a key that was waiting on some guard, whose demand held, and that is no longer queued
    there; a condition wake-up (`a = aCond`) only at a guard with a handler (a condition's guard) -/
def IsWakeEv (a : Nat) (w w' : World) (e : HTag) : Prop :=
  ∃ (g : Nat) (gd gd' : Guard), w.guards[g]? = some gd ∧ w'.guards[g]? = some gd' ∧
    e.item.b ∈ keys (abs gd.q) ∧ e.item.b ∉ keys (abs gd'.q) ∧
    evalDemand w (demandOf gd e.item.b) = true ∧ (a = aCond → hasHandler w g = true) ∧
    e = mkEv e.key a e.item.b sigSuccess w.now (w.proc (e.item.b - 1)).prio ∧ w.ev.counter < e.key

abbrev IsGrantEv (w w' : World) (e : HTag) : Prop := IsWakeEv aRes w w' e

abbrev IsCondEv (w w' : World) (e : HTag) : Prop := IsWakeEv aCond w w' e

/-- what `cmb_resourceguard_signal` (front step + observers, recursively) can do to the world -/
structure SigRel (w w' : World) : Prop where
  evWaiters : w'.evWaiters = w.evWaiters
  procs : w'.procs = w.procs
  res : w'.res = w.res
  pools : w'.pools = w.pools
  bufs : w'.bufs = w.bufs
  oqs : w'.oqs = w.oqs
  pqs : w'.pqs = w.pqs
  conds : w'.conds = w.conds
  flags : w'.flags = w.flags
  gvars : w'.gvars = w.gvars
  log : w'.log = w.log
  dispatched : w'.dispatched = w.dispatched
  gsize : w'.guards.size = w.guards.size
  /-- queues only shrink; observers, demands and kind of every guard are untouched -/
  guards : ∀ (g : Nat) (gd : Guard), w.guards[g]? = some gd → ∃ gd' : Guard, w'.guards[g]? = some gd' ∧ gd'.observers = gd.observers ∧
    gd'.demands = gd.demands ∧ gd'.isCond = gd.isCond ∧ GWF gd'.q ∧ ∀ x ∈ abs gd'.q, x ∈ abs gd.q
  evnow : w'.ev.now = w.ev.now
  executed : w'.ev.executed = w.ev.executed
  cancelled : w'.ev.cancelled = w.ev.cancelled
  current : w'.ev.current = w.ev.current
  /-- pending events are only added, and every added one is a grant (front step of the signalled guard or of a plain
      observer) or the condition wake-up of a satisfied waiter of an observing condition -/
  pending : ∃ new, w'.ev.pending = new ++ w.ev.pending ∧ w'.ev.counter = w.ev.counter + new.length ∧
    ∀ e ∈ new, IsGrantEv w w' e ∨ IsCondEv w w' e
  evinv : EvInv w.ev → EvInv w'.ev
  fault : w'.fault = none → w.fault = none
  wf : AllGWF w'

theorem SigRel.now {w w' : World} (h : SigRel w w') : w'.now = w.now := h.evnow

theorem SigRel.proc {w w' : World} (h : SigRel w w') (p : Pid) : w'.proc p = w.proc p := by
  unfold World.proc; rw [h.procs]

theorem SigRel.evalDemand {w w' : World} (h : SigRel w w') (d : Demand) : evalDemand w' d = evalDemand w d :=
  evalDemand_congr h.res h.pools h.bufs h.oqs h.pqs h.flags d

theorem keys_subset_of_subset {q q' : KPQ} (h : ∀ x ∈ q', x ∈ q) {k : Nat} (hk : k ∈ keys q') : k ∈ keys q := by
  obtain ⟨e, he, rfl⟩ := Event.mem_keys.1 hk
  exact Event.mem_keys.2 ⟨e, h e he, rfl⟩

theorem SigRel.refl {w : World} (h : AllGWF w) : SigRel w w where
  evWaiters := rfl
  procs := rfl
  res := rfl
  pools := rfl
  bufs := rfl
  oqs := rfl
  pqs := rfl
  conds := rfl
  flags := rfl
  gvars := rfl
  log := rfl
  dispatched := rfl
  gsize := rfl
  guards := fun g gd hg => ⟨gd, hg, rfl, rfl, rfl, h g gd hg, fun _ hx => hx⟩
  evnow := rfl
  executed := rfl
  cancelled := rfl
  current := rfl
  pending := ⟨[], rfl, rfl, by simp⟩
  evinv := id
  fault := id
  wf := h

theorem SigRel.trans {w w1 w2 : World} (h1 : SigRel w w1) (h2 : SigRel w1 w2) : SigRel w w2 where
  evWaiters := h2.evWaiters.trans h1.evWaiters
  procs := h2.procs.trans h1.procs
  res := h2.res.trans h1.res
  pools := h2.pools.trans h1.pools
  bufs := h2.bufs.trans h1.bufs
  oqs := h2.oqs.trans h1.oqs
  pqs := h2.pqs.trans h1.pqs
  conds := h2.conds.trans h1.conds
  flags := h2.flags.trans h1.flags
  gvars := h2.gvars.trans h1.gvars
  log := h2.log.trans h1.log
  dispatched := h2.dispatched.trans h1.dispatched
  gsize := h2.gsize.trans h1.gsize
  guards := by
    intro g gd hg
    obtain ⟨gd1, hg1, ho1, hd1, hc1, _, hs1⟩ := h1.guards g gd hg
    obtain ⟨gd2, hg2, ho2, hd2, hc2, hwf2, hs2⟩ := h2.guards g gd1 hg1
    exact ⟨gd2, hg2, ho2.trans ho1, hd2.trans hd1, hc2.trans hc1, hwf2, fun x hx => hs1 x (hs2 x hx)⟩
  evnow := h2.evnow.trans h1.evnow
  executed := h2.executed.trans h1.executed
  cancelled := h2.cancelled.trans h1.cancelled
  current := h2.current.trans h1.current
  pending := by
    obtain ⟨n1, hp1, hc1, hg1⟩ := h1.pending
    obtain ⟨n2, hp2, hc2, hg2⟩ := h2.pending
    refine ⟨n2 ++ n1, by rw [hp2, hp1, List.append_assoc], by rw [hc2, hc1, List.length_append]; omega, ?_⟩
    have second : ∀ (a : Nat) (e : HTag), IsWakeEv a w1 w2 e → IsWakeEv a w w2 e := by
      intro a e ⟨g, gd1, gd2, hgd1, hgd2, hin, hout, hdem, hh, heq, hctr⟩
      -- the guard existed before the first half, with a larger queue
      have hsz : g < w.guards.size := Nat.lt_of_lt_of_eq (Array.getElem?_eq_some_iff.1 hgd1).1 h1.gsize
      have hgd : w.guards[g]? = some w.guards[g] := Array.getElem?_eq_getElem hsz
      obtain ⟨gd1', hgd1', _, hd1, _, _, hs1⟩ := h1.guards g _ hgd
      have : gd1' = gd1 := by rw [hgd1] at hgd1'; exact (Option.some.inj hgd1').symm
      subst this
      refine ⟨g, _, gd2, hgd, hgd2, keys_subset_of_subset hs1 hin, hout, ?_, ?_, ?_, by omega⟩
      · rw [← h1.evalDemand]; unfold demandOf at hdem ⊢; rw [← hd1]; exact hdem
      · intro ha; rw [← hasHandler_congr h1.conds]; exact hh ha
      · rw [heq]; simp only [mkEv]; rw [h1.now, h1.proc]
    have first : ∀ (a : Nat) (e : HTag), IsWakeEv a w w1 e → IsWakeEv a w w2 e := by
      intro a e ⟨g, gd, gd1, hgd, hgd1, hin, hout, hdem, hh, heq, hctr⟩
      obtain ⟨gd2, hgd2, _, _, _, _, hs2⟩ := h2.guards g gd1 hgd1
      exact ⟨g, gd, gd2, hgd, hgd2, hin, fun hk => hout (keys_subset_of_subset hs2 hk), hdem, hh, heq, hctr⟩
    intro e he
    rcases List.mem_append.1 he with he | he
    · exact (hg2 e he).imp (second _ e) (second _ e)
    · exact (hg1 e he).imp (first _ e) (first _ e)
  evinv := fun h => h2.evinv (h1.evinv h)
  fault := fun h => h1.fault (h2.fault h)
  wf := h2.wf

/-- the footprint of a batch of wake-ups for waiters of guard `g` that leave its queue: action `a` is `aRes`, or `aCond`
    at the guard of a condition; each event of the batch is addressed to a former waiter whose demand holds -/
theorem sigRel_wake {w : World} (hall : AllGWF w) {g : Nat} {gd : Guard} (hg : w.guards[g]? = some gd) {q' : HH}
    (hwf' : GWF q') (hsub : ∀ x ∈ abs q', x ∈ abs gd.q) (l : List Wake) {a : Nat}
    (ha : a = aRes ∨ (a = aCond ∧ hasHandler w g = true))
    (hl : ∀ e ∈ wakeEvs w.ev.counter w.now l, e.item.b ∈ keys (abs gd.q) ∧ e.item.b ∉ keys (abs q') ∧
      evalDemand w (demandOf gd e.item.b) = true ∧
      e = mkEv e.key a e.item.b sigSuccess w.now (w.proc (e.item.b - 1)).prio) :
    SigRel w (setGuardQ (pushAll w l) g q') := by
  have hguards : ∀ (g' : Nat) (gd0 : Guard), w.guards[g']? = some gd0 →
      ∃ gd' : Guard, (setGuardQ (pushAll w l) g q').guards[g']? = some gd' ∧ gd'.observers = gd0.observers ∧
        gd'.demands = gd0.demands ∧ gd'.isCond = gd0.isCond ∧ GWF gd'.q ∧ ∀ x ∈ abs gd'.q, x ∈ abs gd0.q := by
    intro g' gd0 hg0
    simp only [setGuardQ_guards_get, pushAll_guards]
    by_cases hgg : g' = g
    · subst hgg
      have e : gd = gd0 := by rw [hg0] at hg; exact (Option.some.inj hg).symm
      subst e
      exact ⟨{ gd with q := q' }, by simp [hg0], rfl, rfl, rfl, hwf', hsub⟩
    · exact ⟨gd0, by simp [hgg, hg0], rfl, rfl, rfl, hall g' gd0 hg0, fun _ hx => hx⟩
  refine { evWaiters := rfl, procs := rfl, res := rfl, pools := rfl, bufs := rfl, oqs := rfl, pqs := rfl,
           conds := rfl, flags := rfl, gvars := rfl, log := rfl, dispatched := rfl,
           gsize := setGuardQ_guards_size _ g q', guards := hguards, evnow := rfl, executed := rfl, cancelled := rfl,
           current := rfl, pending := ⟨wakeEvs w.ev.counter w.now l, rfl, by simp, ?_⟩,
           evinv := pushAll_evinv l, fault := id, wf := ?_ }
  · intro e he
    obtain ⟨hin, hout, hdem, heq⟩ := hl e he
    have hw : IsWakeEv a w (setGuardQ (pushAll w l) g q') e :=
      ⟨g, gd, { gd with q := q' }, hg, by simp [setGuardQ_guards_get, hg], hin, hout, hdem,
        fun hc => ha.elim (fun hr => absurd (hr.symm.trans hc) (by decide)) (·.2), heq, (wakeEvs_props he).1⟩
    rcases ha with rfl | ⟨rfl, _⟩
    · exact Or.inl hw
    · exact Or.inr hw
  · -- every guard of the new world is one of the old ones
    intro g' gd' hg'
    have hsz : g' < w.guards.size :=
      Nat.lt_of_lt_of_eq (Array.getElem?_eq_some_iff.1 hg').1 (setGuardQ_guards_size (pushAll w l) g q')
    obtain ⟨gd'', hg'', _, _, _, hw'', _⟩ := hguards g' _ (Array.getElem?_eq_getElem hsz)
    rw [hg'] at hg''; cases hg''
    exact hw''

theorem frontStep_rel {w : World} {g : Nat} {gd : Guard} (hg : w.guards[g]? = some gd) (hwf : AllGWF w) :
    SigRel w (frontStep w g gd) := by
  have hq := hwf g gd hg
  obtain ⟨h0, hpos⟩ := frontStep_spec w g gd hq
  rcases Nat.eq_zero_or_pos gd.q.count with hc | hc
  · rw [h0 hc]; exact SigRel.refl hwf
  · obtain ⟨-, hfalse, htrue⟩ := hpos hc
    cases hd : evalDemand w (demandOf gd (gd.q.tag 1).key) with
    | false => rw [hfalse hd]; exact SigRel.refl hwf
    | true =>
      obtain ⟨q', hdq, hwf', hperm, heq⟩ := htrue hd
      rw [heq]
      obtain ⟨_, he, a⟩ := HashHeap.dequeue_inv hq (Nat.ne_of_gt hc) hdq
      cases he
      refine sigRel_wake hwf hg hwf' (fun x hx => hperm.mem_iff.2 (List.mem_cons_of_mem _ hx))
        [⟨aRes, (gd.q.tag 1).key, sigSuccess, (w.proc ((gd.q.tag 1).key - 1)).prio⟩] (Or.inl rfl) ?_
      intro e he
      simp only [wakeEvs, List.nil_append, List.mem_singleton] at he
      subst he
      exact ⟨a.key_mem, fun hm => ((a.keys hq _).1 hm).2 rfl, hd, rfl⟩

theorem SigRel.path : Path fun w w' => AllGWF w → SigRel w w' :=
  ⟨fun _ h => SigRel.refl h, fun h1 h2 h => (h1 h).trans (h2 (h1 h).wf)⟩

theorem SigRel.fail {w : World} (h : AllGWF w) (m : String) : SigRel w (w.fail m) := by
  refine { evWaiters := by simp, procs := by simp, res := by simp, pools := by simp, bufs := by simp,
           oqs := by simp, pqs := by simp, conds := by simp, flags := by simp, gvars := by simp, log := by simp,
           dispatched := by simp, gsize := by simp, guards := ?_, evnow := by simp, executed := by simp,
           cancelled := by simp, current := by simp, pending := ?_, evinv := by simp, fault := ?_, wf := ?_ }
  · intro g gd hg; exact ⟨gd, by simpa using hg, rfl, rfl, rfl, h g gd hg, fun _ hx => hx⟩
  · exact ⟨[], by simp, by simp, by simp⟩
  · intro hf; exact (fail_fault_none hf).elim
  · intro g gd hg; exact h g gd (by simpa using hg)

end CimbaModel.Sim.S3
