/-
  S2 — frame lemmas of the process-layer model.

  `Same w w'` says that the step from `w` to `w'` touched none of the five object arrays, did not move
  the clock, kept "nothing pending in the past", kept the number of processes and every process's
  `held`, `blocked` and `prio`.  Almost every primitive of Sim/Model.lean is of this kind (scheduling, cancelling,
  guard bookkeeping, await lists, timers, logging, faults): one `Same` lemma per primitive, read off the
  library's walk in Sim/Eff.lean (`Same.ofEff`: a step within `Same.scope` that schedules nothing in the past) and tagged
  `simp`, so that `simp` rewrites e.g. `(signal w g).bufs` to `w.bufs` (a conjunction is split into one rewrite rule
  per conjunct).
-/
import CimbaModel.Sim.Eff

namespace CimbaModel.Sim
open CimbaModel CimbaModel.Event CimbaModel.Generated
open CimbaModel.HashHeap (HTag Item Order HH)

/-- nothing is pending in the past -/
def TimeOk (q : EvQ) : Prop := ∀ e ∈ q.pending, q.now ≤ e.d

@[reducible] def Same (w w' : World) : Prop :=
  w'.res = w.res ∧ w'.pools = w.pools ∧ w'.bufs = w.bufs ∧ w'.oqs = w.oqs ∧ w'.pqs = w.pqs ∧
  w'.now = w.now ∧ (TimeOk w.ev → TimeOk w'.ev) ∧ w'.procs.size = w.procs.size ∧
  (∀ p, (w'.proc p).held = (w.proc p).held) ∧ (∀ p, (w'.proc p).blocked = (w.proc p).blocked) ∧
  ∀ p, (w'.proc p).prio = (w.proc p).prio

theorem Same.refl (w : World) : Same w w := ⟨rfl, rfl, rfl, rfl, rfl, rfl, id, rfl, fun _ => rfl, fun _ => rfl, fun _ => rfl⟩

theorem Same.trans {a b c : World} (h1 : Same a b) (h2 : Same b c) : Same a c := by
  obtain ⟨r1, p1, b1, o1, k1, n1, t1, s1, e1, f1, g1⟩ := h1
  obtain ⟨r2, p2, b2, o2, k2, n2, t2, s2, e2, f2, g2⟩ := h2
  exact ⟨r2.trans r1, p2.trans p1, b2.trans b1, o2.trans o1, k2.trans k1, n2.trans n1, fun h => t2 (t1 h),
    s2.trans s1, fun p => (e2 p).trans (e1 p), fun p => (f2 p).trans (f1 p), fun p => (g2 p).trans (g1 p)⟩

theorem Same.path : Path Same := ⟨Same.refl, Same.trans⟩

theorem Same.res_eq {w w' : World} (h : Same w w') : w'.res = w.res := h.1
theorem Same.pools_eq {w w' : World} (h : Same w w') : w'.pools = w.pools := h.2.1
theorem Same.bufs_eq {w w' : World} (h : Same w w') : w'.bufs = w.bufs := h.2.2.1
theorem Same.oqs_eq {w w' : World} (h : Same w w') : w'.oqs = w.oqs := h.2.2.2.1
theorem Same.pqs_eq {w w' : World} (h : Same w w') : w'.pqs = w.pqs := h.2.2.2.2.1
theorem Same.now_eq {w w' : World} (h : Same w w') : w'.now = w.now := h.2.2.2.2.2.1
theorem Same.timeOk {w w' : World} (h : Same w w') : TimeOk w.ev → TimeOk w'.ev := h.2.2.2.2.2.2.1
theorem Same.size_eq {w w' : World} (h : Same w w') : w'.procs.size = w.procs.size := h.2.2.2.2.2.2.2.1
theorem Same.held_eq {w w' : World} (h : Same w w') (q : Pid) : (w'.proc q).held = (w.proc q).held := h.2.2.2.2.2.2.2.2.1 q
theorem Same.blocked_eq {w w' : World} (h : Same w w') (q : Pid) : (w'.proc q).blocked = (w.proc q).blocked :=
  h.2.2.2.2.2.2.2.2.2.1 q

@[simp] theorem modProc_res (w : World) (p : Pid) (f : Proc → Proc) : (w.modProc p f).res = w.res := by
  unfold World.modProc; exact rfl
@[simp] theorem modProc_pools (w : World) (p : Pid) (f : Proc → Proc) : (w.modProc p f).pools = w.pools := by
  unfold World.modProc; exact rfl
@[simp] theorem modProc_bufs (w : World) (p : Pid) (f : Proc → Proc) : (w.modProc p f).bufs = w.bufs := by
  unfold World.modProc; exact rfl
@[simp] theorem modProc_oqs (w : World) (p : Pid) (f : Proc → Proc) : (w.modProc p f).oqs = w.oqs := by
  unfold World.modProc; exact rfl
@[simp] theorem modProc_pqs (w : World) (p : Pid) (f : Proc → Proc) : (w.modProc p f).pqs = w.pqs := by
  unfold World.modProc; exact rfl
@[simp] theorem modProc_ev (w : World) (p : Pid) (f : Proc → Proc) : (w.modProc p f).ev = w.ev := by
  unfold World.modProc; exact rfl
@[simp] theorem modProc_now (w : World) (p : Pid) (f : Proc → Proc) : (w.modProc p f).now = w.now := by
  unfold World.modProc; exact rfl
@[simp] theorem modProc_guards (w : World) (p : Pid) (f : Proc → Proc) : (w.modProc p f).guards = w.guards := by
  unfold World.modProc; exact rfl
@[simp] theorem modProc_size (w : World) (p : Pid) (f : Proc → Proc) : (w.modProc p f).procs.size = w.procs.size := by
  simp [World.modProc]

@[simp] theorem modProc_held (w : World) (p q : Pid) (f : Proc → Proc) (hf : ∀ x, (f x).held = x.held) :
    ((w.modProc p f).proc q).held = (w.proc q).held := modProc_field Proc.held w p f hf q

@[simp] theorem modProc_blocked (w : World) (p q : Pid) (f : Proc → Proc) (hf : ∀ x, (f x).blocked = x.blocked) :
    ((w.modProc p f).proc q).blocked = (w.proc q).blocked := modProc_field Proc.blocked w p f hf q

@[simp] theorem modProc_prio (w : World) (p q : Pid) (f : Proc → Proc) (hf : ∀ x, (f x).prio = x.prio) :
    ((w.modProc p f).proc q).prio = (w.proc q).prio := modProc_field Proc.prio w p f hf q

theorem modProc_same (w : World) (p : Pid) (f : Proc → Proc) (hf : ∀ x, (f x).held = x.held)
    (hb : ∀ x, (f x).blocked = x.blocked) (hp : ∀ x, (f x).prio = x.prio) : Same w (w.modProc p f) :=
  ⟨rfl, rfl, rfl, rfl, rfl, rfl, id, by simp, fun q => modProc_held w p q f hf, fun q => modProc_blocked w p q f hb,
    fun q => modProc_prio w p q f hp⟩

@[simp] theorem fail_guards (w : World) (m : String) : (w.fail m).guards = w.guards := by
  unfold World.fail; split <;> rfl
@[simp] theorem fail_procs (w : World) (m : String) : (w.fail m).procs = w.procs := by
  unfold World.fail; split <;> rfl
@[simp] theorem fail_ev (w : World) (m : String) : (w.fail m).ev = w.ev := by
  unfold World.fail; split <;> rfl
@[simp] theorem emit_procs (w : World) (m : String) : (w.emit m).procs = w.procs := by
  unfold World.emit; exact rfl
@[simp] theorem emit_ev (w : World) (m : String) : (w.emit m).ev = w.ev := by
  unfold World.emit; exact rfl

theorem timeOk_schedule {q q' : EvQ} {a s o : Nat} {t p : Int} {h : Nat} (hq : TimeOk q)
    (hs : schedule q a s o t p = .ok (q', h)) : TimeOk q' ∧ q'.now = q.now := by
  unfold schedule at hs
  split at hs
  · simp at hs
  · simp only [Except.ok.injEq, Prod.mk.injEq] at hs
    obtain ⟨rfl, rfl⟩ := hs
    refine ⟨?_, rfl⟩
    intro e he
    simp only [KPQ.insert, KPQ.norm, List.mem_cons] at he
    rcases he with rfl | he
    · simp; omega
    · exact hq e he

theorem timeOk_cancel {q : EvQ} (hq : TimeOk q) (h : Nat) : TimeOk (cancel q h).1 ∧ (cancel q h).1.now = q.now := by
  unfold cancel
  split
  · refine ⟨?_, rfl⟩
    intro e he
    simp only [KPQ.remove, List.mem_filter] at he
    exact hq e he.1
  · exact ⟨hq, rfl⟩

theorem timeOk_reprioritize {q q' : EvQ} {h : Nat} {p : Int} (hs : reprioritize q h p = .ok q') :
    q'.now = q.now ∧ (TimeOk q → TimeOk q') := by
  unfold reprioritize at hs
  split at hs
  · simp at hs
  · simp only [Except.ok.injEq] at hs; subst hs
    refine ⟨rfl, fun hq e he => ?_⟩
    simp only [List.mem_map] at he
    obtain ⟨e0, he0, rfl⟩ := he
    have := hq e0 he0
    split <;> exact this

/-- the library schedules no event in the past, and cancelling or reprioritising moves no event -/
theorem TimeOk.ofEff {p : Pid} {s : Scope} {w0 w : World} (h : Eff p s w0 w) : TimeOk w0.ev → TimeOk w.ev := by
  induction h with
  | refl => exact id
  | fail _ msg ih => rw [fail_ev]; exact ih
  | emit _ _ ih => exact ih
  | modProc _ _ _ _ ih => exact ih
  | block _ _ _ _ _ _ ih => exact ih
  | unblock _ _ _ ih => exact ih
  | setVar _ q v x _ _ _ ih =>
    unfold setVar
    split
    · exact ih
    · exact ih
  | ended _ _ _ _ _ _ ih => exact ih
  | started _ _ _ _ _ ih => exact ih
  | evWaiters _ _ _ ih => exact ih
  | guards _ _ _ _ ih => exact ih
  | res _ _ _ _ _ ih => exact ih
  | pools _ _ _ _ _ _ ih => exact ih
  | bufs _ _ _ _ _ ih => exact ih
  | oqs _ _ _ _ _ ih => exact ih
  | pqs _ _ _ _ _ _ ih => exact ih
  | flags _ _ _ ih => exact ih
  | push _ _ he _ _ ih => exact fun h0 => (timeOk_schedule (ih h0) he).1
  | cancel _ _ k ih => exact fun h0 => (timeOk_cancel (ih h0) k).1
  | reprio _ _ he ih => exact fun h0 => (timeOk_reprioritize he).2 (ih h0)

/-- what a `Same` step may touch: everything but the five object tables and the holdings, frame and priority of a
    process.  No entry is `.self`, here or in `Scope.ofMask`: whose walk it is does not matter, and the lemmas below
    take the caller `0`. -/
def Same.scope : Scope :=
  { status := .any, awaitsT := .any, awaitsG := .any, awaitsP := .any, awaitsE := .any, waiters := .any, pc := .any,
    vars := .any, exitVal := .any, evWaiters := true, guards := true, flags := true, gvars := true, cancel := true,
    reprio := true, notice := true, handles := true, pqVars := none,
    push := [aStart, aTime, aProc, aEvent, aRes, aPreempt, aCond, aIntr, aResume, aUser] }

theorem Same.ofEff {p : Pid} {w w' : World} (h : Eff p Same.scope w w') : Same w w' :=
  have o := h.outside
  ⟨o.res rfl, o.pools rfl, o.bufs rfl, o.oqs rfl, o.pqs rfl, o.now, TimeOk.ofEff h, o.psize,
    fun q => o.held q ⟨.inl rfl, .inl rfl⟩, fun q => o.blocked q (.inl rfl), fun q => o.prio q (.inl rfl)⟩

@[simp] theorem fail_same (w : World) (m : String) : Same w (w.fail m) := Same.ofEff (p := 0) (.fail .refl m)

@[simp] theorem emit_same (w : World) (m : String) : Same w (w.emit m) := Same.ofEff (p := 0) (.emit .refl m)

@[simp] theorem sched_same (w : World) (act subj : Nat) (sig t pri : Int) : Same w (sched w act subj sig t pri).1 := by
  unfold sched
  cases hs : schedule w.ev act subj (encSig sig) t pri with
  | error f => exact fail_same _ _
  | ok r =>
    obtain ⟨ev', h⟩ := r
    refine ⟨rfl, rfl, rfl, rfl, rfl, ?_, ?_, rfl, fun _ => rfl, fun _ => rfl, fun _ => rfl⟩
    · simp only [World.now]
      unfold schedule at hs; split at hs
      · simp at hs
      · simp only [Except.ok.injEq, Prod.mk.injEq] at hs; rw [← hs.1]
    · intro hq; exact (timeOk_schedule hq hs).1

@[simp] theorem sched_guards (w : World) (act subj : Nat) (sig t pri : Int) :
    (sched w act subj sig t pri).1.guards = w.guards := by
  unfold sched; split <;> simp
@[simp] theorem sched_procs (w : World) (act subj : Nat) (sig t pri : Int) :
    (sched w act subj sig t pri).1.procs = w.procs := by
  unfold sched; split <;> simp

@[simp] theorem wakeEventWaiters_same (w : World) (ps : List Pid) (sig : Int) : Same w (wakeEventWaiters w ps sig) :=
  Same.ofEff (p := 0) (Eff.wakeEventWaiters .refl ps sig)

@[simp] theorem evCancel_same (w : World) (h : Nat) : Same w (evCancel w h).1 := Same.ofEff (p := 0) (Eff.evCancel .refl h)

@[simp] theorem cancelKindFor_same (w : World) (p : Pid) (act : Nat) (sig : Option Int) :
    Same w (cancelKindFor w p act sig).1 := Same.ofEff (p := 0) (Eff.cancelKindFor .refl p act sig)

@[simp] theorem cancelUserAll_same (w : World) : Same w (cancelUserAll w).1 := Same.ofEff (p := 0) (Eff.cancelUserAll .refl)

@[simp] theorem setGuardQ_same (w : World) (g : Nat) (q : HH) : Same w (setGuardQ w g q) :=
  Same.ofEff (p := 0) (Eff.setGuardQ .refl g q)

@[simp] theorem guardRemove_same (w : World) (g : Nat) (p : Pid) : Same w (guardRemove w g p).1 :=
  Same.ofEff (p := 0) (Eff.guardRemove .refl g p)

@[simp] theorem condSignal_same (w : World) (g : Nat) : Same w (condSignal w g).1 := Same.ofEff (p := 0) (Eff.condSignal .refl g)

@[simp] theorem guardSignalF_same (fwd : Bool) (fuel : Nat) (w : World) (g : Nat) : Same w (guardSignalF fwd fuel w g) :=
  Same.ofEff (p := 0) (Eff.guardSignalF .refl fwd fuel g)

@[simp] theorem guardSignal_same (fuel : Nat) (w : World) (g : Nat) : Same w (guardSignal fuel w g) :=
  guardSignalF_same false fuel w g

@[simp] theorem signal_same (w : World) (g : Nat) : Same w (signal w g) := guardSignal_same 8 w g

@[simp] theorem addAwait_same (w : World) (p : Pid) (a : Await) : Same w (addAwait w p a) :=
  Same.ofEff (p := 0) (Eff.addAwait .refl p a)

@[simp] theorem removeAwait_same (w : World) (p : Pid) (a : Await) : Same w (removeAwait w p a).1 :=
  Same.ofEff (p := 0) (Eff.removeAwait .refl p a)

@[simp] theorem removeAwaitKind_same (w : World) (p : Pid) (k : Await → Bool) : Same w (removeAwaitKind w p k).1 :=
  Same.ofEff (p := 0) (Eff.removeAwaitKind .refl p k)

@[simp] theorem timerAdd_same (w : World) (p : Pid) (d sig : Int) : Same w (timerAdd w p d sig).1 :=
  Same.ofEff (p := 0) (Eff.timerAdd .refl p d sig)

@[simp] theorem timerCancel_same (w : World) (p : Pid) (h : Nat) : Same w (timerCancel w p h).1 :=
  Same.ofEff (p := 0) (Eff.timerCancel .refl p h)

@[simp] theorem timersClear_same (w : World) (p : Pid) : Same w (timersClear w p) := Same.ofEff (p := 0) (Eff.timersClear .refl p)

@[simp] theorem cancelAwaiteds_same (w : World) (p : Pid) : Same w (cancelAwaiteds w p) :=
  Same.ofEff (p := 0) (Eff.cancelAwaiteds .refl p)

@[simp] theorem wakeWaiters_same (w : World) (p : Pid) (sig : Int) : Same w (wakeWaiters w p sig) :=
  Same.ofEff (p := 0) (Eff.wakeWaiters .refl p sig)

@[simp] theorem guardWaitEnter_same (w : World) (g : Nat) (p : Pid) (d : Demand) : Same w (guardWaitEnter w g p d) :=
  Same.ofEff (p := 0) (Eff.guardWaitEnter .refl g p d)

@[simp] theorem guardWaitLeave_same (w : World) (g : Nat) (p : Pid) (sig : Int) : Same w (guardWaitLeave w g p sig) :=
  Same.ofEff (p := 0) (Eff.guardWaitLeave .refl g p sig)

@[simp] theorem setVar_same (w : World) (p : Pid) (v h : Nat) : Same w (setVar w p v h) :=
  Same.ofEff (p := 0) (.setVar .refl p v h trivial rfl (.inl trivial))

end CimbaModel.Sim
