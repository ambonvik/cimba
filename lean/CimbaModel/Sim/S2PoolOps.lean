/-
  S2 — resource pools (C07): what the pool primitives of the model do to the view of the pool and to the
  `held` lists.
-/
import CimbaModel.Sim.S2Pool
import CimbaModel.Sim.S2Ft

namespace CimbaModel.Sim
open CimbaModel CimbaModel.Event CimbaModel.Generated CimbaModel.KPQ
open CimbaModel.HashHeap (HTag Item Order HH WF abs amounts amountOf)

theorem poolView_some {w : World} {pl : Nat} {v : PView} :
    poolView w pl = some v ↔ ∃ x, w.pools[pl]? = some x ∧ x.view = v := by
  unfold poolView
  cases w.pools[pl]? <;> simp

structure ViewSame (w w' : World) : Prop where
  size : w'.procs.size = w.procs.size
  view : ∀ pl, poolView w' pl = poolView w pl
  held : ∀ q pl, HoldRef.pool pl ∈ (w'.proc q).held ↔ HoldRef.pool pl ∈ (w.proc q).held
  prio : prOf w' = prOf w

theorem ViewSame.of_fp {m : Mask} {w w' : World} (h : Fp m w w') (hp : m.pools = false) (hh : m.held = false)
    (hpr : m.prio = false := by rfl) : ViewSame w w' :=
  ⟨h.size_eq, poolView_of_fp h hp, fun q pl => by rw [h.held_eq hh q], prOf_of_fp h hpr⟩

theorem ViewSame.of_same {w w' : World} (h : Same w w') : ViewSame w w' :=
  ViewSame.of_fp (Same.fp {} h) rfl rfl rfl

/-- what a step shows of the pools when its mask keeps them and the priorities -/
theorem Ft.viewSame {m : Mask} {w w' : World} (h : Ft m w w') (hp : m.pools = false) (hpr : m.prio = false := by rfl) :
    ViewSame w w' :=
  ⟨h.fp.size_eq, poolView_of_fp h.fp hp, (h.quiet hp).1, prOf_of_fp h.fp hpr⟩

theorem ViewSame.upd {w w' : World} (h : ViewSame w w') {pl : Nat} {v : PView} (hv : poolView w pl = some v) :
    PoolUpd w w' pl v :=
  ⟨h.size, by rw [h.view]; exact hv, fun pl' _ => h.view pl', fun q pl' _ => h.held q pl', h.prio⟩

theorem ViewSame.linked {w w' : World} (h : ViewSame w w') {pl : Nat} {hh : HH} (lk : Linked w pl hh) : Linked w' pl hh :=
  fun q => (h.held q pl).trans (lk q)

theorem ViewSame.trans {a b c : World} (h1 : ViewSame a b) (h2 : ViewSame b c) : ViewSame a c :=
  ⟨h2.size.trans h1.size, fun pl => (h2.view pl).trans (h1.view pl), fun q pl => (h2.held q pl).trans (h1.held q pl),
    h2.prio.trans h1.prio⟩

theorem PoolInv.of_viewSame {w w' : World} (h : ViewSame w w') (hi : PoolInv w) : PoolInv w' := by
  refine ⟨by rw [h.size]; exact hi.1, ?_⟩
  intro pl v hpv
  rw [h.view] at hpv
  obtain ⟨ok, lk⟩ := hi.2 pl v hpv
  rw [h.size, h.prio]
  exact ⟨ok, h.linked lk⟩

theorem recordPool_viewSame (w : World) (a : Nat) : ViewSame w (recordPool w a) := by
  have hf := recordPool_fp w a
  refine ⟨hf.size_eq, ?_, fun q pl => by rw [hf.held_eq rfl q], prOf_of_fp hf rfl⟩
  intro pl
  unfold recordPool
  split
  · split
    · rename_i x hx _
      unfold poolView
      show ((w.pools.set! a _)[pl]?).map Pool.view = _
      rw [poolView_set hx]
      split
      · rename_i h; subst h; rw [hx]; rfl
      · rfl
    · rfl
  · rfl

/-- `in_use = u` -/
theorem setPoolInUse_upd {w : World} {pl : Nat} {v : PView} (hv : poolView w pl = some v) (u : Nat) :
    PoolUpd w (setPoolInUse w pl u) pl ⟨v.cap, u, v.holders⟩ ∧
    ∀ q, ((setPoolInUse w pl u).proc q).held = (w.proc q).held := by
  obtain ⟨x, hx, rfl⟩ := poolView_some.1 hv
  have hf := setPoolInUse_fp w pl u
  refine ⟨⟨hf.size_eq, ?_, ?_, ?_, prOf_of_fp hf rfl⟩, hf.held_eq rfl⟩
  · unfold setPoolInUse poolView
    show ((w.pools.modify pl _)[pl]?).map Pool.view = _
    rw [poolView_modify, if_pos rfl, hx]; rfl
  · intro pl' hne
    unfold setPoolInUse poolView
    show ((w.pools.modify pl _)[pl']?).map Pool.view = _
    rw [poolView_modify, if_neg hne]; rfl
  · intro q pl' _; rw [hf.held_eq rfl q]

theorem setHolders_upd {w : World} {pl : Nat} {x : Pool} (hx : w.pools[pl]? = some x) (h' : HH) :
    PoolUpd w { w with pools := w.pools.set! pl { x with holders := h' } } pl ⟨x.cap, x.inUse, h'⟩ := by
  refine ⟨rfl, ?_, ?_, fun _ _ _ => Iff.rfl, rfl⟩
  · unfold poolView
    show ((w.pools.set! pl _)[pl]?).map Pool.view = _
    rw [poolView_set hx, if_pos rfl]; rfl
  · intro pl' hne
    unfold poolView
    show ((w.pools.set! pl _)[pl']?).map Pool.view = _
    rw [poolView_set hx, if_neg hne]; rfl

theorem linked_mk_pools {w : World} (ps : Array Pool) {pl : Nat} {h : HH} :
    Linked { w with pools := ps } pl h ↔ Linked w pl h := Iff.rfl

/-- `update_record`, first branch, as a state equation -/
theorem poolUpdateRecord_present {w : World} {pl : Nat} {x : Pool} (hx : w.pools[pl]? = some x) {p : Pid} {i : Nat}
    (hc : x.holders.count ≠ 0) (hfi : HashHeap.findIndex x.holders (p + 1) = .ok i) (hi0 : i ≠ 0) (amt : Nat) :
    poolUpdateRecord w pl p amt =
      { w with pools := w.pools.set! pl { x with holders := (HashHeap.withItem x.holders i
          ⟨(x.holders.tag i).item.a, (x.holders.tag i).item.b + amt, (x.holders.tag i).item.c, (x.holders.tag i).item.d⟩) } } := by
  unfold poolUpdateRecord
  simp only [hx, hc, if_false, hfi, ne_eq, hi0, not_false_eq_true, decide_true, if_true]
  rfl

/-- `update_record`, second branch, as a state equation -/
theorem poolUpdateRecord_absent {w : World} {pl : Nat} {x : Pool} (hx : w.pools[pl]? = some x) {p : Pid}
    (hno : x.holders.count = 0 ∨ HashHeap.findIndex x.holders (p + 1) = .ok 0) (amt : Nat) :
    poolUpdateRecord w pl p amt =
      match HashHeap.enqueue holder_queue_check x.holders ⟨p + 1, amt, 0, 0⟩ (p + 1) 0
          ((w.modProc p fun y => { y with held := .pool pl :: y.held }).proc p).prio with
      | .ok (h', _) => { (w.modProc p fun y => { y with held := .pool pl :: y.held }) with
          pools := w.pools.set! pl { x with holders := h' } }
      | .error f => (w.modProc p fun y => { y with held := .pool pl :: y.held }).fail s!"pool record enqueue: {f}" := by
  unfold poolUpdateRecord
  simp only [hx]
  by_cases hc : x.holders.count = 0
  · simp only [hc, if_true, Bool.false_eq_true, if_false]; rfl
  · rcases hno with h | h
    · exact absurd h hc
    · simp only [hc, if_false, h, ne_eq, not_true_eq_false, decide_false, Bool.false_eq_true]; rfl

/-- `update_record`: the caller's record grows by `amt`, or is created with `amt` -/
theorem poolUpdateRecord_upd {w : World} {pl : Nat} {v : PView} (hv : poolView w pl = some v)
    (ok : HoldersOK w.procs.size (prOf w) v.holders) (hn : w.procs.size < 2 ^ 31) {p : Pid} (hp : p < w.procs.size)
    (lk : Linked w pl v.holders) (amt : Nat) (hamt : 0 < amt) :
    ∃ h', PoolUpd w (poolUpdateRecord w pl p amt) pl ⟨v.cap, v.inUse, h'⟩ ∧
      HoldersOK w.procs.size (prOf w) h' ∧ Linked (poolUpdateRecord w pl p amt) pl h' ∧
      amounts (abs h') = amounts (abs v.holders) + amt ∧
      amountOf (abs h') (p + 1) = amountOf (abs v.holders) (p + 1) + amt ∧
      (∀ k, k ≠ p + 1 → amountOf (abs h') k = amountOf (abs v.holders) k) := by
  obtain ⟨x, hx, rfl⟩ := poolView_some.1 hv
  simp only [Pool.view] at ok lk ⊢
  by_cases hk : p + 1 ∈ keys (abs x.holders)
  · obtain ⟨i, hi, hki⟩ := (HashHeap.mem_keys_abs x.holders (p + 1)).1 hk
    have hfi := HashHeap.findIndex_of_mem ok.wf hi
    rw [hki] at hfi
    have hc : x.holders.count ≠ 0 := by have := hi.1; have := hi.2; omega
    have hi0 : i ≠ 0 := by have := hi.1; omega
    rw [poolUpdateRecord_present hx hc hfi hi0]
    obtain ⟨ok', hsum, hkeys, hamt', hamt, hoth⟩ := withItem_holders ok hi
      ⟨(x.holders.tag i).item.a, (x.holders.tag i).item.b + amt, (x.holders.tag i).item.c, (x.holders.tag i).item.d⟩
      (by show 0 < (x.holders.tag i).item.b + amt; omega)
    refine ⟨_, setHolders_upd hx _, ok', ?_, ?_, ?_, ?_⟩
    · intro q; rw [hkeys]; exact lk q
    · simp only at hsum; omega
    · rw [hki] at hamt' hamt; rw [hamt', hamt]
    · intro k hkne; exact hoth k (by rw [hki]; exact hkne)
  · rw [poolUpdateRecord_absent hx (by
      by_cases hc : x.holders.count = 0
      · exact Or.inl hc
      · exact Or.inr (HashHeap.findIndex_of_not_mem ok.wf hk))]
    obtain ⟨h', hrun, ok', hsum, hkeys, hamt', hoth⟩ := enqueue_holders ok hn hp hk ⟨p + 1, amt, 0, 0⟩ hamt 0
      ((w.modProc p fun y => { y with held := .pool pl :: y.held }).proc p).prio
      (show _ = (w.proc p).prio from modProc_prio w p p _ (fun _ => rfl))
    rw [hrun]
    dsimp only
    have hx' : (w.modProc p fun y => { y with held := HoldRef.pool pl :: y.held }).pools[pl]? = some x := hx
    have hu := setHolders_upd hx' h'
    have hheld : ∀ q, HoldRef.pool pl ∈ ((w.modProc p fun y => { y with held := HoldRef.pool pl :: y.held }).proc q).held ↔
        HoldRef.pool pl ∈ (w.proc q).held ∨ q = p := by
      intro q
      rw [proc_modProc]
      by_cases hq : q = p
      · subst hq; simp [hp]
      · simp [hq]
    refine ⟨h', ⟨hu.size.trans (modProc_size _ _ _), hu.view, hu.others, ?_, ?_⟩, ok', ?_, ?_, ?_, hoth⟩
    · intro q pl' hne
      refine (hu.heldOthers q pl' hne).trans ?_
      rw [proc_modProc]
      split
      · rename_i hq; rw [hq.1]
        have : HoldRef.pool pl' ≠ HoldRef.pool pl := fun e => hne (by injection e)
        simp [this]
      · rfl
    · exact hu.prio.trans (funext fun q => modProc_prio w p q _ (fun _ => rfl))
    · intro q
      show HoldRef.pool pl ∈ ((w.modProc p _).proc q).held ↔ _
      rw [hheld, hkeys, lk q]
      constructor
      · rintro (h | rfl)
        · exact Or.inl h
        · exact Or.inr rfl
      · rintro (h | h)
        · exact Or.inl h
        · exact Or.inr (Nat.add_right_cancel h)
    · exact hsum
    · rw [hamt', HashHeap.amountOf_of_not_mem hk]; simp

/-- `reset_holder`, as a state equation -/
theorem setHeldAmount_present {w : World} {pl : Nat} {x : Pool} (hx : w.pools[pl]? = some x) {p : Pid} {i : Nat}
    (hfi : HashHeap.findIndex x.holders (p + 1) = .ok i) (hi0 : i ≠ 0) (a : Nat) :
    setHeldAmount w pl p a =
      { w with pools := w.pools.set! pl { x with holders := (HashHeap.withItem x.holders i
          ⟨(x.holders.tag i).item.a, a, (x.holders.tag i).item.c, (x.holders.tag i).item.d⟩) } } := by
  unfold setHeldAmount
  simp only [hx, hfi, hi0, if_false]
  rfl

/-- a composite operation on pool `pl`, step by step: `w0` is where it started, `w` where it is, `v` the view reached -/
structure PSt (w0 w : World) (pl : Nat) (v : PView) : Prop where
  upd : PoolUpd w0 w pl v
  hok : HoldersOK w0.procs.size (prOf w0) v.holders
  lk : Linked w pl v.holders

theorem PSt.init {w : World} {pl : Nat} {v : PView} (hi : PoolInv w) (hv : poolView w pl = some v) : PSt w w pl v :=
  ⟨PoolUpd.refl hv, (hi.2 pl v hv).1.toHoldersOK, (hi.2 pl v hv).2⟩

theorem PSt.size {w0 w : World} {pl : Nat} {v : PView} (h : PSt w0 w pl v) : w.procs.size = w0.procs.size := h.upd.size

theorem PSt.viewSame {w0 w w' : World} {pl : Nat} {v : PView} (h : PSt w0 w pl v) (hs : ViewSame w w') : PSt w0 w' pl v :=
  ⟨h.upd.trans (hs.upd h.upd.view), h.hok, hs.linked h.lk⟩

theorem PSt.same {w0 w w' : World} {pl : Nat} {v : PView} (h : PSt w0 w pl v) (hs : Same w w') : PSt w0 w' pl v :=
  h.viewSame (ViewSame.of_same hs)

theorem PSt.record {w0 w : World} {pl : Nat} {v : PView} (h : PSt w0 w pl v) (a : Nat) : PSt w0 (recordPool w a) pl v :=
  h.viewSame (recordPool_viewSame w a)

theorem PSt.setInUse {w0 w : World} {pl : Nat} {v : PView} (h : PSt w0 w pl v) (u : Nat) :
    PSt w0 (setPoolInUse w pl u) pl ⟨v.cap, u, v.holders⟩ := by
  obtain ⟨hu, hh⟩ := setPoolInUse_upd h.upd.view u
  exact ⟨h.upd.trans hu, h.hok, fun q => by rw [hh q]; exact h.lk q⟩

theorem PSt.update {w0 w : World} {pl : Nat} {v : PView} (h : PSt w0 w pl v) (hn : w0.procs.size < 2 ^ 31)
    {p : Pid} (hp : p < w0.procs.size) (amt : Nat) (hamt : 0 < amt) :
    ∃ h', PSt w0 (poolUpdateRecord w pl p amt) pl ⟨v.cap, v.inUse, h'⟩ ∧
      amounts (abs h') = amounts (abs v.holders) + amt ∧
      amountOf (abs h') (p + 1) = amountOf (abs v.holders) (p + 1) + amt ∧
      (∀ k, k ≠ p + 1 → amountOf (abs h') k = amountOf (abs v.holders) k) := by
  have hs := h.size
  obtain ⟨h', hu, ok', lk', hsum, hamt, hoth⟩ := poolUpdateRecord_upd h.upd.view (by rw [hs, h.upd.prio]; exact h.hok)
    (by rw [hs]; exact hn) (by rw [hs]; exact hp) h.lk amt hamt
  exact ⟨h', ⟨h.upd.trans hu, by rw [← hs, ← h.upd.prio]; exact ok', lk'⟩, hsum, hamt, hoth⟩

theorem PSt.setHeld {w0 w : World} {pl : Nat} {v : PView} (h : PSt w0 w pl v) {p : Pid}
    (hk : p + 1 ∈ keys (abs v.holders)) (a : Nat) (ha : 0 < a) :
    ∃ h', PSt w0 (setHeldAmount w pl p a) pl ⟨v.cap, v.inUse, h'⟩ ∧
      amounts (abs h') + amountOf (abs v.holders) (p + 1) = amounts (abs v.holders) + a ∧
      amountOf (abs h') (p + 1) = a ∧
      (∀ k, k ≠ p + 1 → amountOf (abs h') k = amountOf (abs v.holders) k) := by
  obtain ⟨x, hx, hxv⟩ := poolView_some.1 h.upd.view
  subst hxv
  have ok := h.hok
  simp only [Pool.view] at ok hk ⊢
  obtain ⟨i, hi, hki⟩ := (HashHeap.mem_keys_abs x.holders (p + 1)).1 hk
  have hfi := HashHeap.findIndex_of_mem ok.wf hi
  rw [hki] at hfi
  have hi0 : i ≠ 0 := by have := hi.1; omega
  rw [setHeldAmount_present hx hfi hi0]
  obtain ⟨ok', hsum, hkeys, hamt', hamt, hoth⟩ := withItem_holders ok hi
    ⟨(x.holders.tag i).item.a, a, (x.holders.tag i).item.c, (x.holders.tag i).item.d⟩ ha
  rw [hki] at hamt' hamt hoth
  refine ⟨_, ⟨h.upd.trans (setHolders_upd hx _), ok', ?_⟩, ?_, hamt', hoth⟩
  · intro q; rw [hkeys]; exact h.lk q
  · rw [hamt]; simp only at hsum; omega

/-- the operation is complete: the amount in use matches the records again -/
theorem PSt.close {w0 w : World} {pl : Nat} {v : PView} (h : PSt w0 w pl v) (hi : PoolInv w0)
    (hsum : v.inUse = amounts (abs v.holders)) (hcap : v.inUse ≤ v.cap) : PoolInv w :=
  hi.of_upd h.upd ⟨h.hok, hsum, hcap⟩ h.lk

theorem PSt.heldOf {w0 w : World} {pl : Nat} {v : PView} (h : PSt w0 w pl v) (p : Pid) :
    heldOf w pl p = amountOf (abs v.holders) (p + 1) := by
  unfold Sim.heldOf; rw [h.upd.view]

def inUseOf (w : World) (pl : Nat) : Nat :=
  match poolView w pl with
  | some v => v.inUse
  | none => 0

theorem PSt.inUseOf {w0 w : World} {pl : Nat} {v : PView} (h : PSt w0 w pl v) : inUseOf w pl = v.inUse := by
  unfold Sim.inUseOf; rw [h.upd.view]

theorem heldOf_viewSame {w w' : World} (hs : ViewSame w w') (pl : Nat) (p : Pid) : heldOf w' pl p = heldOf w pl p := by
  unfold heldOf; rw [hs.view]

theorem inUseOf_viewSame {w w' : World} (hs : ViewSame w w') (pl : Nat) : inUseOf w' pl = inUseOf w pl := by
  unfold inUseOf; rw [hs.view]

theorem removeHeld_mem (w : World) (p q : Pid) (pl pl' : Nat) :
    HoldRef.pool pl' ∈ ((removeHeld w p (.pool pl)).1.proc q).held ↔
      HoldRef.pool pl' ∈ (w.proc q).held ∧ ¬ (q = p ∧ pl' = pl) := by
  rw [removeHeld_proc]
  by_cases hq : q = p
  · subst hq
    simp only [if_true, List.mem_filter, true_and]
    constructor
    · rintro ⟨hm, hne⟩
      refine ⟨hm, fun e => ?_⟩
      rw [e] at hne; simp at hne
    · rintro ⟨hm, hne⟩
      refine ⟨hm, ?_⟩
      have : HoldRef.pool pl' ≠ HoldRef.pool pl := fun e => hne (by injection e)
      simpa using this
  · simp [hq]

theorem removeHeld_viewFacts (w : World) (p : Pid) (h : HoldRef) :
    (removeHeld w p h).1.procs.size = w.procs.size ∧ ∀ pl, poolView (removeHeld w p h).1 pl = poolView w pl :=
  ⟨(removeHeld_fp w p h).size_eq, fun pl => poolView_of_fp (removeHeld_fp w p h) rfl pl⟩

theorem linked_drop {w w' : World} {pl : Nat} {h h' : HH} {p : Pid} (lk : Linked w pl h)
    (hkeys : ∀ k, k ∈ keys (abs h') ↔ k ∈ keys (abs h) ∧ k ≠ p + 1)
    (hheld : ∀ q, HoldRef.pool pl ∈ (w'.proc q).held ↔ HoldRef.pool pl ∈ (w.proc q).held ∧ q ≠ p) :
    Linked w' pl h' := by
  intro q
  rw [hheld, hkeys, lk q]
  constructor
  · rintro ⟨a, b⟩; exact ⟨a, fun e => b (Nat.add_right_cancel e)⟩
  · rintro ⟨a, b⟩; exact ⟨a, fun e => b (by rw [e])⟩

/-- replace the holder list, then drop the pool from `p`'s held list -/
theorem PSt.dropKey {w0 w w1 : World} {pl : Nat} {v : PView} (h : PSt w0 w pl v) {h' : HH} {p : Pid}
    (hu : PoolUpd w w1 pl ⟨v.cap, v.inUse, h'⟩) (hsame : ∀ q, (w1.proc q).held = (w.proc q).held)
    (ok' : HoldersOK w0.procs.size (prOf w0) h')
    (hkeys : ∀ k, k ∈ keys (abs h') ↔ k ∈ keys (abs v.holders) ∧ k ≠ p + 1) :
    PSt w0 (removeHeld w1 p (.pool pl)).1 pl ⟨v.cap, v.inUse, h'⟩ := by
  obtain ⟨hsz, hvw⟩ := removeHeld_viewFacts w1 p (.pool pl)
  refine ⟨h.upd.trans (hu.trans ⟨hsz, by rw [hvw]; exact hu.view, fun pl' _ => hvw pl', ?_,
    prOf_of_fp (removeHeld_fp w1 p (.pool pl)) rfl⟩), ok', ?_⟩
  · intro q pl' hne
    rw [removeHeld_mem]
    constructor
    · exact fun a => a.1
    · exact fun a => ⟨a, fun e => hne e.2⟩
  · refine linked_drop h.lk hkeys ?_
    intro q
    rw [removeHeld_mem, hsame q]
    constructor
    · rintro ⟨a, b⟩; exact ⟨a, fun e => b ⟨e, rfl⟩⟩
    · rintro ⟨a, b⟩; exact ⟨a, fun e => b e.1⟩

/-- same, when nothing has to be dropped from the held list because the key was not there -/
theorem PSt.dropAbsent {w0 w w1 : World} {pl : Nat} {v : PView} (h : PSt w0 w pl v) {h' : HH} {p : Pid}
    (hu : PoolUpd w w1 pl ⟨v.cap, v.inUse, h'⟩) (hsame : ∀ q, (w1.proc q).held = (w.proc q).held)
    (ok' : HoldersOK w0.procs.size (prOf w0) h')
    (hkeys : ∀ k, k ∈ keys (abs h') ↔ k ∈ keys (abs v.holders) ∧ k ≠ p + 1)
    (habs : p + 1 ∉ keys (abs v.holders)) :
    PSt w0 w1 pl ⟨v.cap, v.inUse, h'⟩ := by
  refine ⟨h.upd.trans hu, ok', ?_⟩
  intro q
  rw [hsame q, h.lk q, hkeys]
  constructor
  · intro a; exact ⟨a, fun e => habs (e ▸ a)⟩
  · exact fun a => a.1

theorem modifyHolders_upd {w : World} {pl : Nat} {v : PView} (hv : poolView w pl = some v) (h' : HH) :
    PoolUpd w { w with pools := w.pools.modify pl fun y => { y with holders := h' } } pl ⟨v.cap, v.inUse, h'⟩ := by
  obtain ⟨x, hx, rfl⟩ := poolView_some.1 hv
  refine ⟨rfl, ?_, ?_, fun _ _ _ => Iff.rfl, rfl⟩
  · unfold poolView
    show ((w.pools.modify pl _)[pl]?).map Pool.view = _
    rw [poolView_modify, if_pos rfl, hx]; rfl
  · intro pl' hne
    unfold poolView
    show ((w.pools.modify pl _)[pl']?).map Pool.view = _
    rw [poolView_modify, if_neg hne]; rfl

end CimbaModel.Sim
