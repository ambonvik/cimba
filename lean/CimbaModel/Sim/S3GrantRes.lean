/-
  S3 — the grant invariant: resources (the acquisition step and `release`).
-/
import CimbaModel.Sim.S3GrantStep

namespace CimbaModel.Sim.S3
open CimbaModel CimbaModel.Sim CimbaModel.Event CimbaModel.Generated CimbaModel.KPQ
open CimbaModel.HashHeap (HTag Item Order HH WF abs liveTags)

theorem getD_map_set! {α : Type} (xs : Array α) (i j : Nat) (y : α) (f : α → Nat) :
    (((xs.set! i y)[j]?).map f).getD 0 = if j = i ∧ i < xs.size then f y else ((xs[j]?).map f).getD 0 := by
  rw [Array.set!_eq_setIfInBounds, Array.getElem?_setIfInBounds]
  by_cases hij : i = j
  · subst hij
    by_cases hlt : i < xs.size <;> simp [hlt]
  · have : ¬ j = i := fun h => hij h.symm
    simp [hij, this]

theorem getD_map_set!_of_some {α : Type} {xs : Array α} {i : Nat} {x : α} (hx : xs[i]? = some x) (j : Nat) (y : α)
    (f : α → Nat) : (((xs.set! i y)[j]?).map f).getD 0 = if j = i then f y else ((xs[j]?).map f).getD 0 := by
  rw [getD_map_set!]; simp [lt_of_getElem? hx]

theorem getD_map_modify {α : Type} (xs : Array α) (i j : Nat) (g : α → α) (f : α → Nat) :
    (((xs.modify i g)[j]?).map f).getD 0 = if j = i then ((xs[j]?).map (fun x => f (g x))).getD 0 else ((xs[j]?).map f).getD 0 := by
  rw [Array.getElem?_modify]
  by_cases hij : i = j
  · subst hij; simp [Option.map_map, Function.comp_def]
  · have : ¬ j = i := fun h => hij h.symm
    simp [hij, this]

theorem getD_map_modify_of_some {α : Type} {xs : Array α} {i : Nat} {x : α} (hx : xs[i]? = some x) (j : Nat) (g : α → α)
    (f : α → Nat) : (((xs.modify i g)[j]?).map f).getD 0 = if j = i then f (g x) else ((xs[j]?).map f).getD 0 := by
  rw [getD_map_modify]; split <;> simp_all

theorem need_res_set {w : World} {r : Nat} {x : Res} (hx : w.res[r]? = some x) (y : Res) (d : Demand) :
    need { w with res := w.res.set! r y } d = if d = .resAvail r then resNeed y else need w d := by
  rw [need_eq, need_eq]
  cases d <;> simp only [reduceCtorEq, if_false, Demand.resAvail.injEq, getD_map_set!_of_some hx]

theorem need_res_modify {w : World} {r : Nat} {x : Res} (hx : w.res[r]? = some x) (g : Res → Res) (d : Demand) :
    need { w with res := w.res.modify r g } d = if d = .resAvail r then resNeed (g x) else need w d := by
  rw [need_eq, need_eq]
  cases d <;> simp only [reduceCtorEq, if_false, Demand.resAvail.injEq, getD_map_modify_of_some hx]

theorem need_res_of {w : World} {r : Nat} {x : Res} (hx : w.res[r]? = some x) : need w (.resAvail r) = resNeed x := by
  rw [need_eq]; simp [hx]

theorem gOf_res_of {w : World} {r : Nat} {x : Res} (hx : w.res[r]? = some x) : gOf w (.resAvail r) = some x.guard := by
  simp [gOf, hx, resStat]

variable {fr : Pid → Option Frame} {df df' : Demand → Nat} {w : World} {p : Pid}

theorem Inert.setResLe {w0 : World} (h : Inert w0 w) {r : Nat} {x : Res} (hx : w.res[r]? = some x) (y : Res)
    (hs : resStat y = resStat x) (hn : resNeed y ≤ resNeed x) : Inert w0 { w with res := w.res.set! r y } := by
  have hst : Stat w { w with res := w.res.set! r y } := Stat.eff (Eff.setRes .refl hx _ hs)
  refine h.objs rfl rfl rfl (gOf_of_stat hst) (fun d => ?_)
  rw [need_res_set hx]
  split
  · rename_i hd; subst hd; rw [need_res_of hx]; exact hn
  · exact Nat.le_refl _

theorem grab_record_inert {r : Nat} {x : Res} (hx : w.res[r]? = some x) (hh : x.holder = none) :
    Inert w (recordRes (grab w r p) r) ∧ need (recordRes (grab w r p) r) (.resAvail r) = 0 := by
  have hg : grab w r p = ({ w with res := w.res.set! r { x with holder := some p } }).modProc p fun y => { y with held := .res r :: y.held } := by
    unfold grab; rw [hx]; simp [hh]
  have hi1 : Inert w (grab w r p) := by
    rw [hg]
    exact ((Inert.refl w).setResLe hx { x with holder := some p } rfl (by simp [resNeed])).modProc p
      (fun y => { y with held := .res r :: y.held }) (fun _ => rfl)
  have hn1 : need (grab w r p) (.resAvail r) = 0 := by
    rw [hg]
    show need { w with res := w.res.set! r { x with holder := some p } } (.resAvail r) = 0
    rw [need_res_set hx, if_pos rfl]; simp [resNeed]
  refine ⟨hi1.recordRes r, ?_⟩
  have := ((Inert.refl (grab w r p)).recordRes r).need (.resAvail r)
  omega

/-- the acquisition step: the resource is taken (nothing available any more), or the caller joins the waiting list (nothing
    was available); either way a deficit booked at this resource is settled -/
theorem GS.acquireStep (h : GS fr df w) (hes : EndSep w) (hsep : CondSep w) (hfr : fr p = none) (hlt : p < w.procs.size)
    (r : Nat) (hdf : ∀ d, d ≠ .resAvail r → df d ≤ df' d) : GH df' (acquireStep w p r).1 := by
  simp only [Sim.acquireStep]
  split
  · rename_i hn
    exact (h.gh.clear (.resAvail r) (by rw [need_eq]; simp [hn]) hdf).inert h.ginv.ei ((Inert.refl w).fail _)
  · rename_i x hx
    split
    · rename_i hh
      obtain ⟨hi, h0⟩ := grab_record_inert (p := p) hx (by simpa using hh)
      exact (h.gh.inert h.ginv.ei hi).clear (.resAvail r) h0 hdf
    · rename_i hh
      have h0 : need w (.resAvail r) = 0 := by
        rw [need_res_of hx]; unfold resNeed; simp only [hh]; rfl
      exact (h.clear (.resAvail r) h0 hdf).wait (Stat.refl w) hes hsep hfr hlt rfl (gOf_res_of hx) h0

theorem GS.release (h : GS fr df w) (r : Nat) : GH df (execCmd w p (.release r)).1 := by
  simp only [Sim.execCmd]
  split
  · exact h.gh
  · rename_i x hx
    split
    · exact h.gh
    · have hp := h.ginv
      have hst := Stat.refl w
      have hx1 : (removeHeld w p (.res r)).1.res[r]? = some x := hx
      dsimp only
      -- a deficit is booked while the resource is free but nobody has been told yet
      refine GS.gh (fr := fr) (GS.signal_settle (d1 := .resAvail r) ?_ ?_)
      · refine GS.inert (w := { (removeHeld w p (.res r)).1 with res := (removeHeld w p (.res r)).1.res.set! r { x with holder := none } })
          ?_ (hp.ofSame (((Same.removeHeld w p _).trans (Same.resSet hx1 _)).trans (Same.recordRes _ r))) ((Inert.refl _).recordRes r)
        refine GS.bump (w := (removeHeld w p (.res r)).1) (df := df) ?_
          (hp.ofSame ((Same.removeHeld w p _).trans (Same.resSet hx1 _))) rfl rfl (fun _ => rfl) ?_ ?_
        · exact h.inert (hp.ofSame (Same.removeHeld w p _)) ((Inert.refl w).removeHeld_fst p _)
        · exact gOf_of_stat (Stat.eff (Eff.setRes .refl hx1 _))
        · intro d
          rw [need_res_set hx1]
          split
          · simp [resNeed]; omega
          · omega
      · have hs : Stat w (recordRes { (removeHeld w p (.res r)).1 with res := (removeHeld w p (.res r)).1.res.set! r { x with holder := none } } r) :=
          Stat.eff (Eff.recordRes (Eff.setRes (Eff.removeHeld .refl p _) hx1 _) r)
        rw [gOf_of_stat hs]; exact gOf_res_of hx

end CimbaModel.Sim.S3
