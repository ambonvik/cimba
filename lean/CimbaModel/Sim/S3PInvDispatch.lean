/-
  S3 — `PInv`: between activations the logical frames are the recorded ones, the invariant is `PInvB w := PInv noEx
  (blockedOf w) w`; it is a `Kept` of Shape.lean (`PInvB.kept`), hence kept by activations, `dispatch` and the run.
-/
import CimbaModel.Sim.S3PInvRun
import CimbaModel.Sim.S3Keep

namespace CimbaModel.Sim.S3
open CimbaModel CimbaModel.Sim CimbaModel.Event CimbaModel.Generated CimbaModel.KPQ
open CimbaModel.HashHeap (HTag Item Order HH WF abs liveTags)

def PInvB (w : World) : Prop := PInv noEx (blockedOf w) w

theorem PInv.toB {fr : Pid → Option Frame} {w : World} (h : PInv noEx fr w) : PInvB w := h.toBlocked noEx_not

theorem PInvB.of_sameBlocked {w w' : World} (h : PInv noEx (blockedOf w) w') : PInvB w' := h.toB

theorem PInvB.advance {w : World} (h : PInvB w) (p : Pid) (l : String) (pc' : Nat) :
    PInvB ((w.emit l).modProc p fun y => { y with pc := pc' }) :=
  (PInv.modProc_ctl (PInv.emit h l) p (fun y => { y with pc := pc' }) (fun _ => ⟨rfl, rfl, rfl, rfl⟩)).toB

theorem PInvB.resumeFrame {w : World} (h : PInvB w) {p : Pid} {f : Frame} (hbf : (w.proc p).blocked = some f) (sig : Int) :
    ∃ fr', PInv noEx fr' (resumeFrame (w.modProc p fun y => { y with blocked := none }) p f sig).1 := by
  have hfr : blockedOf w p = some f := hbf
  cases hf : isWaitPE f with
  | true =>
    cases f with
    | waitProc q => exact ⟨_, PInv.resume_waitProc h hfr (noEx_not p) sig⟩
    | waitEvent k => exact ⟨_, PInv.resume_waitEvent h hfr (noEx_not p) sig⟩
    | _ => cases hf
  | false =>
    -- no process / event registration: the frame can be forgotten before the epilogue runs
    have hnil : procAw w p = [] ∧ evAw w p = [] := by
      constructor
      · rcases h.ap p with h' | ⟨q, hq, _⟩
        · exact h'
        · rw [hfr] at hq; cases hq; cases hf
      · rcases h.ae p with h' | ⟨q, hq, _⟩
        · exact h'
        · rw [hfr] at hq; cases hq; cases hf
    have h1 : PInv noEx (setFrame (blockedOf w) p none) w := by
      refine PInv.setFr h _ ?_ ?_
      · intro x hx'
        by_cases hxp : x = p
        · subst hxp; exact hnil
        · rw [setFrame_ne _ _ hxp] at hx'; exact absurd rfl hx'
      · intro x _ hx'
        by_cases hxp : x = p
        · subst hxp; exact hnil
        · rw [setFrame_ne _ _ hxp] at hx'; exact absurd rfl hx'
    exact (h1.modBlocked p none hnil).resumeFrame_ex (setFrame_self _ _ _) f hf sig

theorem PInvB.takeNext {w : World} (hp : PInvB w) {t : HTag} {ev' : EvQ} (hn : executeNext w.ev = some (t, ev')) :
    PInv noEx (blockedOf w) (takeNext w t ev') ∧
    (∀ x, (takeNext w t ev').proc x = w.proc x) ∧
    (∀ e ∈ (takeNext w t ev').ev.pending, (e ∈ w.ev.pending ∧ e.key ≠ t.key) ∨
      (e.item.a = aEvent ∧ ∃ q ∈ evWaitersOf w t.key, e.item.b = q + 1)) := by
  obtain ⟨hei', htm, hpend, hctr⟩ := executeNext_facts hp.ei hn
  have hkey : t.key ∈ keys w.ev.pending := Event.mem_keys.2 ⟨t, htm, rfl⟩
  refine ⟨?_, takeNext_proc w t ev', takeNext_pending hp.ei hn⟩
  rw [takeNext_eq]
  refine PInv.popWake hp t.key sigSuccess rfl rfl ?_ hei' hkey ?_ hctr ?_
  · intro e he
    have : e ∈ remove w.ev.pending t.key := by rw [← hpend]; exact he
    exact (mem_remove.1 this).1
  · intro hm
    obtain ⟨e2, he2, hk2⟩ := Event.mem_keys.1 hm
    have : e2 ∈ remove w.ev.pending t.key := by rw [← hpend]; exact he2
    exact (mem_remove.1 this).2 hk2
  · intro k hk hne
    obtain ⟨e2, he2, hk2⟩ := Event.mem_keys.1 hk
    refine Event.mem_keys.2 ⟨e2, ?_, hk2⟩
    show e2 ∈ ev'.pending
    rw [hpend]; exact mem_remove.2 ⟨he2, by rw [hk2]; exact hne⟩

/-- the registration of a process whose wake-up of kind `K` has just been taken off the queue is dropped: `K` is one of
    the two registries of `PInv`, `K'` the other (`hRK`, `hRK'`; `join` puts them back in their order) -/
theorem PInv.dropKind {w : World} (hp : PInv noEx fr w) {p : Pid} (K K' : Kind) (hK : K.Lawful) (hK' : K'.Lawful)
    (hRK : RInv K noEx fr w) (hRK' : RInv K' noEx fr w)
    (join : ∀ {W}, RInv K noEx fr W → RInv K' noEx fr W → RInv procK noEx fr W ∧ RInv eventK noEx fr W)
    (hkk : ∀ a, K.isA a = true → K'.isA a = false)
    (hnoev : ∀ e ∈ w.ev.pending, K.isWake e → e.item.b ≠ p + 1)
    (hq : ∃ a, K.of a ∈ (w.proc p).awaits ∧ ¬ K.place w a p) :
    PInv noEx fr (removeAwaitKind w p K.isA).1 := by
  have hR : RInv K noEx fr w ∧ RInv K' noEx fr w := ⟨hRK, hRK'⟩
  obtain ⟨a, ha, hna⟩ := hq
  obtain ⟨_, f, hf, hon⟩ := hR.1.unique ha ha
  -- recorded at most at `a` (uniqueness), and not there
  have hnp : ∀ b, ¬ K.place w b p := fun b hb => by
    have := hR.1.reg b p hb (noEx_not p)
    have hba := (hR.1.unique this ha).1; subst hba; exact hna hb
  have hfil : ((removeAwaitKind.go K.isA (w.proc p).awaits).1).filter K.isA = [] := by
    rw [rak_go_filter_self]
    have : (w.proc p).awaits.filter K.isA = K.aw w p := rfl
    rw [this]
    rcases hR.1.one p with h | ⟨_, _, _, _, h⟩ <;> rw [h] <;> rfl
  rw [removeAwaitKind_fst_eq]
  have h1 := hR.1.dropAwaits hK p (fun l => (removeAwaitKind.go K.isA l).1) hfil hnp hnoev
  have h2 := hR.2.mapAwaits hK' p (fun l => (removeAwaitKind.go K.isA l).1) (fun l => rak_go_filter _ _ hkk l)
  have hsub : ∀ x b, b ∈ ((w.modProc p fun y => { y with awaits := (removeAwaitKind.go K.isA y.awaits).1 }).proc x).awaits →
      b ∈ (w.proc x).awaits := fun x b hb => by
    rw [modProc_proc] at hb; split at hb
    · rename_i hx; rw [hx.1]; exact (rak_go_sublist _ _).subset hb
    · exact hb
  have hsubf : ∀ (k : Await → Bool) x, (w.proc x).awaits.filter k = [] →
      ((w.modProc p fun y => { y with awaits := (removeAwaitKind.go K.isA y.awaits).1 }).proc x).awaits.filter k = [] := fun k x h0 =>
    List.filter_eq_nil_iff.2 fun b hb => List.filter_eq_nil_iff.1 h0 b (hsub x b hb)
  have hwt : ∀ x, ((w.modProc p fun y => { y with awaits := (removeAwaitKind.go K.isA y.awaits).1 }).proc x).waiters = (w.proc x).waiters :=
    modProc_keep Proc.waiters _ _
  have hstat : ∀ x, ((w.modProc p fun y => { y with awaits := (removeAwaitKind.go K.isA y.awaits).1 }).proc x).status = (w.proc x).status :=
    modProc_keep Proc.status _ _
  have fin : ∀ (_ : RInv procK noEx fr (w.modProc p fun y => { y with awaits := (removeAwaitKind.go K.isA y.awaits).1 }))
      (_ : RInv eventK noEx fr (w.modProc p fun y => { y with awaits := (removeAwaitKind.go K.isA y.awaits).1 })),
      PInv noEx fr (w.modProc p fun y => { y with awaits := (removeAwaitKind.go K.isA y.awaits).1 }) := fun hP hE =>
    PInv.join hP hE hp.ei (fun x hx => ⟨hsubf _ x (hp.ar x (by rwa [hstat] at hx)).1, hsubf _ x (hp.ar x (by rwa [hstat] at hx)).2⟩)
      (fun x => by rw [hwt]; exact hp.wn x) hp.en hp.es
      (fun e he hea x hb hx k hk => hp.oh e he hea x hb hx k (hsub x _ hk))
  exact fin (join h1 h2).1 (join h1 h2).2

theorem PInv.dropProcKind {w : World} (hp : PInv noEx fr w) {p : Pid}
    (hnoev : ∀ e ∈ w.ev.pending, e.item.a = aProc → e.item.b ≠ p + 1)
    (hq : ∃ q, Await.proc q ∈ (w.proc p).awaits ∧ p ∉ (w.proc q).waiters) :
    PInv noEx fr (removeAwaitKind w p isProcA).1 :=
  hp.dropKind procK eventK procK.lawful eventK.lawful hp.procs hp.events (fun a b => ⟨a, b⟩) isProcA_not_event hnoev hq

theorem PInv.dropEventKind {w : World} (hp : PInv noEx fr w) {p : Pid}
    (hnoev : ∀ e ∈ w.ev.pending, e.item.a = aEvent → e.item.b ≠ p + 1)
    (hq : ∃ h, Await.event h ∈ (w.proc p).awaits ∧ p ∉ evWaitersOf w h) :
    PInv noEx fr (removeAwaitKind w p isEventA).1 :=
  hp.dropKind eventK procK eventK.lawful procK.lawful hp.events hp.procs (fun a b => ⟨b, a⟩) isEventA_not_proc hnoev hq

/-- the registration of the subject of a process-end / event-done wake-up that has just been taken is dropped -/
theorem PInvB.unawaitKind {w : World} (hp : PInvB w) {t : HTag} {ev' : EvQ} (hn : executeNext w.ev = some (t, ev')) (k : Await → Bool)
    (hk : (t.item.a = aProc ∧ k = isProcA) ∨ (t.item.a = aEvent ∧ k = isEventA) ∨ (t.item.a = aCond ∧ k = isGuardA)) :
    PInvB (removeAwaitKind (S3.takeNext w t ev') (t.item.b - 1) k).1 := by
  obtain ⟨hT, hproc, hpend⟩ := hp.takeNext hn
  obtain ⟨_, htm, _, _⟩ := executeNext_facts hp.ei hn
  have hTB : PInvB (S3.takeNext w t ev') := hT.toB
  have htev : (S3.takeNext w t ev').evWaiters = w.evWaiters.filter (·.1 ≠ t.key) := takeNext_evWaiters w t ev'
  generalize S3.takeNext w t ev' = wT at hT hproc hpend hTB htev
  rcases hk with ⟨h3, rfl⟩ | ⟨h4, rfl⟩ | ⟨_, rfl⟩
  · have hb0 : t.item.b ≠ 0 := hp.sb t htm (Or.inl h3)
    have hb : t.item.b = (t.item.b - 1) + 1 := by omega
    refine (PInv.dropProcKind hTB ?_ ?_).toB
    · intro e he hea heb
      rcases hpend e he with ⟨hew, hek⟩ | ⟨hee, _⟩
      · have := hp.up e hew t htm hea h3 (by rw [heb, ← hb]) (t.item.b - 1) heb (noEx_not _)
        exact hek (by rw [this])
      · rw [hea] at hee; cases hee
    · obtain ⟨q, q1, q2⟩ := hp.op t htm h3 (t.item.b - 1) hb (noEx_not _)
      exact ⟨q, by rw [hproc]; exact q1, by rw [hproc]; exact q2⟩
  · have hb0 : t.item.b ≠ 0 := hp.sb t htm (Or.inr h4)
    have hb : t.item.b = (t.item.b - 1) + 1 := by omega
    obtain ⟨k, k1, k2⟩ := hp.oe t htm h4 (t.item.b - 1) hb (noEx_not _)
    obtain ⟨k3, _⟩ := hp.oh t htm h4 (t.item.b - 1) hb (noEx_not _) k k1
    have hkt : k ≠ t.key := fun he => k3 (he ▸ Event.mem_keys.2 ⟨t, htm, rfl⟩)
    refine (PInv.dropEventKind hTB ?_ ?_).toB
    · intro e he hea heb
      rcases hpend e he with ⟨hew, hek⟩ | ⟨_, q, hq, hbq⟩
      · have := hp.ue e hew t htm hea h4 (by rw [heb, ← hb]) (t.item.b - 1) heb (noEx_not _)
        exact hek (by rw [this])
      · have hqp : q = t.item.b - 1 := Nat.add_right_cancel (hbq.symm.trans heb)
        subst hqp
        obtain ⟨l, hl, hql⟩ := evWaitersOf_mem hq
        have := hp.e1 t.key l _ hl hql (noEx_not _)
        exact hkt (hp.event_unique' k1 this)
    · refine ⟨k, by rw [hproc]; exact k1, ?_⟩
      unfold evWaitersOf at k2 ⊢
      rw [htev, lookup_filter_ne _ _ _ hkt]; exact k2
  · exact (PInv.removeAwaitKind_guard hTB (t.item.b - 1)).toB

theorem PInvB.kept : Kept PInvB Caller where
  emit h l := (PInv.emit h l).toB
  fail h m := (PInv.fail h m).toB
  pc h p n := (PInv.modProc_ctl h p (fun y => { y with pc := n }) fun _ => ⟨rfl, rfl, rfl, rfl⟩).toB
  finish h p := (PInv.finishProc h p 0 false (noEx_not p)).toB
  exec h p hc c _ hs l := ((PInv.emit h l).execCmd_ex (p := p) hc.1 (hc.2 (lt_np_of_script _ _ _ _ hs)) c).elim fun _ hx => hx.toB
  next _ _ hc _ _ hs _ _ _ l n heq ho := hc.next hs heq ho l n
  resume h p _ hrun hbf sig :=
    ⟨(h.resumeFrame hbf sig).elim fun _ hx => hx.toB, fun _ _ _ l n heq => Caller.resumed hrun heq l n⟩
  pop h _ _ hn := (h.takeNext hn).1.toB
  start h z hnr :=
    ⟨(PInv.modFinish h z (fun y => { y with status := .running, pc := 0, blocked := none }) (fun _ => rfl) (fun _ => rfl)
      (h.ar z hnr)).toB, Caller.started _ z⟩
  untime h z k := (PInv.removeAwait_time h z k).toB
  unawaitKind h _ _ hn k hk := h.unawaitKind hn k hk
  cancel h z := (PInv.cancelAwaiteds h z (noEx_not z)).1.toB

theorem PInvB.resumeProc {w : World} (h : PInvB w) (p : Pid) (sig : Int) : PInvB (resumeProc w p sig) :=
  PInvB.kept.resumeProc h p sig

/-- `PInv` is preserved by `dispatch`: for all programs, schedules and same-instant coincidences -/
theorem PInvB.dispatch {w w' : World} (hp : PInvB w) (hd : dispatch w = some w') : PInvB w' := PInvB.kept.dispatch hp hd

theorem PInvB.reach {w w' : World} (h : Reach w w') (hp : PInvB w) : PInvB w' :=
  h.keeps PInvB.dispatch hp

theorem PInvB.runAll (fuel : Nat) (w : World) (hp : PInvB w) : PInvB (runAll fuel w) := PInvB.kept.runAll fuel hp

end CimbaModel.Sim.S3
