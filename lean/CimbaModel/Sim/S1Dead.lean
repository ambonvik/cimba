/-
  S1 — the record of a finished process stays empty (C09): nothing held, nothing awaited, nobody
  registered as waiting for it, not suspended — until it is explicitly restarted.
-/
import CimbaModel.Sim.S1Effects
import CimbaModel.Sim.S1Step

namespace CimbaModel.Sim
open CimbaModel CimbaModel.Event CimbaModel.Generated
open CimbaModel.HashHeap (HTag Item Order HH)

/-- the waiters clause is for finished processes only: a process that has not started yet may already have waiters -/
def Proc.quiet (x : Proc) : Prop :=
  x.awaits = [] ∧ x.blocked = none ∧ x.held = [] ∧ (x.status = .finished → x.waiters = [])

def DeadRec (w : World) : Prop := ∀ p, (w.proc p).status ≠ .running → (w.proc p).quiet

theorem DeadRec.clean {w : World} (h : DeadRec w) (p : Pid) (hp : (w.proc p).status = .finished) :
    (w.proc p).held = [] ∧ (w.proc p).awaits = [] ∧ (w.proc p).waiters = [] ∧ (w.proc p).blocked = none := by
  obtain ⟨a, b, c, d⟩ := h p (by rw [hp]; decide)
  exact ⟨c, a, d hp, b⟩

theorem DeadRec.of_proc {w w' : World} (h : DeadRec w) (e : ∀ q, w'.proc q = w.proc q) : DeadRec w' := by
  intro p hp; rw [e] at hp ⊢; exact h p hp

theorem DeadRec.of_procs {w w' : World} (h : DeadRec w) (e : w'.procs = w.procs) : DeadRec w' :=
  h.of_proc (proc_congr e)

/-- what the invariant reads of a record is in nobody's reach -/
def Scope.quiet (s : Scope) : Bool :=
  s.status.le .no && s.awaitsT.le .no && s.awaitsG.le .no && s.awaitsP.le .no && s.awaitsE.le .no && s.waiters.le .no &&
  s.heldR.le .no && s.heldP.le .no && s.blocked.le .no

theorem DeadRec.of_out {p : Pid} {s : Scope} {w0 w : World} (o : Outside p s w0 w) (hs : s.quiet = true)
    (h : DeadRec w0) : DeadRec w := by
  simp only [Scope.quiet, Bool.and_eq_true] at hs
  obtain ⟨⟨⟨⟨⟨⟨⟨⟨h1, hT⟩, hG⟩, hP⟩, hE⟩, h4⟩, hR⟩, hH⟩, h6⟩ := hs
  have h1 := Who.eq_no h1; have hT := Who.eq_no hT; have hG := Who.eq_no hG; have hP := Who.eq_no hP
  have hE := Who.eq_no hE; have h4 := Who.eq_no h4; have hR := Who.eq_no hR; have hH := Who.eq_no hH; have h6 := Who.eq_no h6
  intro q hq
  unfold Proc.quiet
  rw [o.status q (.inl h1)] at hq ⊢
  rw [o.awaits q ⟨.inl hT, .inl hG, .inl hP, .inl hE⟩, o.blocked q (.inl h6), o.held q ⟨.inl hR, .inl hH⟩,
    o.waiters q (.inl h4)]
  exact h q hq

def ShrinkAt (g : Proc → Proc) (x : Proc) : Prop :=
  (g x).status = x.status ∧ (x.held = [] → (g x).held = []) ∧ (x.awaits = [] → (g x).awaits = []) ∧
    (x.waiters = [] → (g x).waiters = []) ∧ (x.blocked = none → (g x).blocked = none)

theorem dr_modProc_shrink {w : World} (h : DeadRec w) (z : Pid) (g : Proc → Proc) (hg : ShrinkAt g (w.proc z)) :
    DeadRec (w.modProc z g) := by
  intro p hp
  rw [proc_modProc] at hp ⊢
  split at hp
  · rename_i c; obtain ⟨rfl, hz⟩ := c
    rw [if_pos ⟨rfl, hz⟩]
    obtain ⟨a, b, c, d, e⟩ := hg
    rw [a] at hp
    obtain ⟨h1, h2, h3, h4⟩ := h p hp
    refine ⟨c h1, e h2, b h3, ?_⟩
    intro hf; rw [a] at hf
    exact d (h4 hf)
  · rename_i c; rw [if_neg c]; exact h p hp

theorem dr_modProc_alive {w : World} (h : DeadRec w) (z : Pid) (g : Proc → Proc)
    (hg : (g (w.proc z)).status = .running) : DeadRec (w.modProc z g) := by
  intro p hp
  rw [proc_modProc] at hp ⊢
  split at hp
  · rename_i c; obtain ⟨rfl, _⟩ := c
    exact absurd hg hp
  · rename_i c; rw [if_neg c]; exact h p hp

theorem dr_modProc_waiters {w : World} (h : DeadRec w) (z : Pid) (g : Proc → Proc)
    (hz : (w.proc z).status ≠ .finished)
    (hg : ∀ x, (g x).status = x.status ∧ (g x).awaits = x.awaits ∧ (g x).blocked = x.blocked ∧ (g x).held = x.held) :
    DeadRec (w.modProc z g) := by
  intro p hp
  rw [proc_modProc] at hp ⊢
  split at hp
  · rename_i c; obtain ⟨rfl, hlt⟩ := c
    rw [if_pos ⟨rfl, hlt⟩]
    obtain ⟨a, b, c, d⟩ := hg (w.proc p)
    rw [a] at hp
    obtain ⟨h1, h2, h3, _⟩ := h p hp
    exact ⟨b.trans h1, c.trans h2, d.trans h3, fun hf => absurd (a ▸ hf) hz⟩
  · rename_i c; rw [if_neg c]; exact h p hp

theorem dr_modProc_to_alive {w : World} (h : DeadRec w) (z : Pid) (g : Proc → Proc)
    (hg : ∀ x, (g x).status = .running) : DeadRec (w.modProc z g) :=
  dr_modProc_alive h z g (hg _)

theorem removeFirst_nil {α : Type _} [DecidableEq α] (a : α) : (removeFirst ([] : List α) a).1 = [] := rfl

theorem dr_removeAwait {w : World} (h : DeadRec w) (z : Pid) (a : Await) : DeadRec (removeAwait w z a).1 := by
  apply dr_modProc_shrink h
  refine ⟨rfl, fun e => e, ?_, fun e => e, fun e => e⟩
  intro e; dsimp only; rw [e]; rfl

theorem dr_removeAwaitKind {w : World} (h : DeadRec w) (z : Pid) (k : Await → Bool) : DeadRec (removeAwaitKind w z k).1 := by
  apply dr_modProc_shrink h
  refine ⟨rfl, fun e => e, ?_, fun e => e, fun e => e⟩
  intro e; dsimp only; rw [e]; rfl

theorem dr_removeHeld {w : World} (h : DeadRec w) (z : Pid) (a : HoldRef) : DeadRec (removeHeld w z a).1 := by
  apply dr_modProc_shrink h
  refine ⟨rfl, ?_, fun e => e, fun e => e, fun e => e⟩
  intro e; dsimp only; rw [e]; rfl

theorem dr_timerAdd {w : World} (h : DeadRec w) (z : Pid) (d sig : Int) (hz : (w.proc z).status = .running) :
    DeadRec (timerAdd w z d sig).1 := by
  rw [timerAdd_fst]
  exact dr_modProc_alive (h.of_procs (sched_procs ..)) z _ (by simpa using hz)

theorem dr_timersClear {w : World} (h : DeadRec w) (z : Pid) : DeadRec (timersClear w z) := by
  unfold timersClear
  apply foldl_inv DeadRec _ (fun w a hw => hw.of_procs (evCancel_procs w a))
  apply dr_modProc_shrink h
  refine ⟨rfl, fun e => e, ?_, fun e => e, fun e => e⟩
  intro e; dsimp only; rw [e]; rfl

theorem dr_cancelAwaiteds {w : World} (h : DeadRec w) (z : Pid) : DeadRec (cancelAwaiteds w z) := by
  refine cancelAwaiteds_rel (Path.ofPred DeadRec) z ?_ (fun w x h => h.of_procs (evCancel_procs w x))
    (fun w g h => h.of_procs (guardWithdraw_procs w g z)) ?_ (fun _ _ h => h.of_procs rfl)
    (fun w h => h.of_procs (cancelAllFor_procs w z)) w h
  · intro w h; exact dr_modProc_shrink h z _ ⟨rfl, fun e => e, fun _ => rfl, fun e => e, fun e => e⟩
  · intro w q h
    apply dr_modProc_shrink h
    refine ⟨rfl, fun e => e, fun e => e, ?_, fun e => e⟩
    intro e; dsimp only; rw [e]; rfl

theorem dr_wakeWaiters {w : World} (h : DeadRec w) (z : Pid) (sig : Int) : DeadRec (wakeWaiters w z sig) := by
  unfold wakeWaiters
  apply foldl_inv DeadRec _ (fun w a hw => hw.of_procs (sched_procs ..))
  exact dr_modProc_shrink h z _ ⟨rfl, fun e => e, fun e => e, fun _ => rfl, fun e => e⟩

theorem dr_dropResources {w : World} (h : DeadRec w) (z : Pid) : DeadRec (dropResources w z) :=
  dropResources_rel (Path.ofPred DeadRec) z
    (fun w h => dr_modProc_shrink h z _ ⟨rfl, fun _ => rfl, fun e => e, fun e => e, fun e => e⟩)
    (fun _ _ _ _ h => h.of_procs ((signal_procs ..).trans (recordRes_procs ..)))
    (fun w pl h => h.of_procs (poolDropHolder_procs w pl z)) w h

theorem dr_finishProc {w : World} (h : DeadRec w) (z : Pid) (val : Int) (stopped : Bool) :
    DeadRec (finishProc w z val stopped) := by
  have hmid : DeadRec (finishMid w z stopped) := by
    unfold finishMid; split
    · exact dr_dropResources (dr_cancelAwaiteds h z) z
    · exact dr_cancelAwaiteds (dr_dropResources h z) z
  have hwake := dr_wakeWaiters hmid z (if stopped then sigStopped else sigSuccess)
  intro p hp
  by_cases hpz : p = z
  · subst hpz
    by_cases hsz : p < w.procs.size
    · obtain ⟨a, b, c, _, _, d⟩ := finishProc_record w p hsz val stopped
      exact ⟨b, d, a, fun _ => c⟩
    · have : finishProc w p val stopped = wakeWaiters (finishMid w p stopped) p (if stopped then sigStopped else sigSuccess) := by
        rw [finishProc_eq]
        apply modProc_oob
        unfold finishMid; split <;> simpa using hsz
      rw [this] at hp ⊢
      exact hwake p hp
  · rw [finishProc_eq, proc_modProc_ne _ _ _ _ hpz] at hp ⊢
    exact hwake p hp

/-- the invariant together with "the caller is alive", which every step of a library call keeps -/
def DeadRecA (p : Pid) (w : World) : Prop := DeadRec w ∧ (w.proc p).status = .running

theorem dra_of_procs {p : Pid} {w w' : World} (h : DeadRecA p w) (e : w'.procs = w.procs) : DeadRecA p w' :=
  ⟨h.1.of_procs e, by rw [proc_congr e]; exact h.2⟩

/-- `DeadRec` says nothing about the record of a running process: a step that touches no other record and leaves
    the caller running keeps it.  Most library calls are of this kind (`execCmd_proc_ne`, `resumeFrame_proc_ne`). -/
theorem dra_of_local {p : Pid} {w w' : World} (h : DeadRecA p w) (ho : ∀ q, q ≠ p → w'.proc q = w.proc q)
    (hs : (w'.proc p).status = (w.proc p).status) : DeadRecA p w' := by
  refine ⟨fun q hq => ?_, hs.trans h.2⟩
  have hqp : q ≠ p := fun e => hq (e ▸ hs.trans h.2)
  rw [ho q hqp] at hq ⊢
  exact h.1 q hq

theorem dra_emit {p : Pid} {w : World} (h : DeadRecA p w) (m : String) : DeadRecA p (World.emit w m) :=
  dra_of_procs h (emit_procs ..)
theorem dra_setPoolInUse {p : Pid} {w : World} (h : DeadRecA p w) (pl v : Nat) : DeadRecA p (setPoolInUse w pl v) :=
  dra_of_procs h (setPoolInUse_procs ..)
theorem dra_sched {p : Pid} {w : World} (h : DeadRecA p w) (a s : Nat) (sig t pri : Int) : DeadRecA p ((sched w a s sig t pri).1) :=
  dra_of_procs h (sched_procs ..)
theorem dra_wakeEventWaiters {p : Pid} {w : World} (h : DeadRecA p w) (ps : List Pid) (sig : Int) : DeadRecA p (wakeEventWaiters w ps sig) :=
  dra_of_procs h (wakeEventWaiters_procs ..)
theorem dra_cancelAllFor {p : Pid} {w : World} (h : DeadRecA p w) (z : Pid) : DeadRecA p (cancelAllFor w z) :=
  dra_of_procs h (cancelAllFor_procs ..)
theorem dra_recordPool {p : Pid} {w : World} (h : DeadRecA p w) (r : Nat) : DeadRecA p (recordPool w r) :=
  dra_of_procs h (recordPool_procs ..)
theorem dra_guardSignal {p : Pid} {w : World} (h : DeadRecA p w) (fuel g : Nat) : DeadRecA p (guardSignal fuel w g) :=
  dra_of_procs h (guardSignal_procs ..)
theorem dra_guardWithdraw {p : Pid} {w : World} (h : DeadRecA p w) (g : Nat) (z : Pid) : DeadRecA p (guardWithdraw w g z) :=
  dra_of_procs h (guardWithdraw_procs ..)
theorem dra_poolDropHolder {p : Pid} {w : World} (h : DeadRecA p w) (pl : Nat) (z : Pid) : DeadRecA p (poolDropHolder w pl z) :=
  dra_of_procs h (poolDropHolder_procs ..)

theorem dra_removeAwaitKind {p : Pid} {w : World} (h : DeadRecA p w) (z : Pid) (k : Await → Bool) : DeadRecA p (removeAwaitKind w z k).1 :=
  ⟨dr_removeAwaitKind h.1 z k, (removeAwaitKind_status ..).trans h.2⟩
theorem dra_timerCancel {p : Pid} {w : World} (h : DeadRecA p w) (z : Pid) (x : Nat) : DeadRecA p (timerCancel w z x).1 :=
  ⟨timerCancel_fst w z x ▸ (dr_removeAwait h.1 z _).of_procs (evCancel_procs ..), (timerCancel_status ..).trans h.2⟩
theorem dra_setVar {p : Pid} {w : World} (h : DeadRecA p w) (z : Pid) (v x : Nat) : DeadRecA p (setVar w z v x) := by
  refine ⟨?_, (setVar_status ..).trans h.2⟩
  unfold setVar; split
  · exact h.1.of_procs rfl
  · exact dr_modProc_shrink h.1 z _ ⟨rfl, fun e => e, fun e => e, fun e => e, fun e => e⟩
theorem dra_removeHeld {p : Pid} {w : World} (h : DeadRecA p w) (z : Pid) (a : HoldRef) : DeadRecA p (removeHeld w z a).1 :=
  ⟨dr_removeHeld h.1 z a, (removeHeld_status ..).trans h.2⟩
theorem dra_cancelAwaiteds {p : Pid} {w : World} (h : DeadRecA p w) (z : Pid) : DeadRecA p (cancelAwaiteds w z) :=
  ⟨dr_cancelAwaiteds h.1 z, (cancelAwaiteds_status ..).trans h.2⟩
theorem dra_wakeWaiters {p : Pid} {w : World} (h : DeadRecA p w) (z : Pid) (sig : Int) : DeadRecA p (wakeWaiters w z sig) :=
  ⟨dr_wakeWaiters h.1 z sig, (wakeWaiters_status ..).trans h.2⟩
theorem dra_dropResources {p : Pid} {w : World} (h : DeadRecA p w) (z : Pid) : DeadRecA p (dropResources w z) :=
  ⟨dr_dropResources h.1 z, (dropResources_status ..).trans h.2⟩

theorem dra_guardWaitLeave {p : Pid} {w : World} (h : DeadRecA p w) (g : Nat) (z : Pid) (sig : Int) : DeadRecA p (guardWaitLeave w g z sig) :=
  by
  refine ⟨?_, (guardWaitLeave_status ..).trans h.2⟩
  unfold guardWaitLeave
  apply dr_removeAwait
  split
  · exact h.1.of_procs (guardWithdraw_procs ..)
  · exact h.1

theorem dra_poolUpdateRecord {p : Pid} {w : World} (h : DeadRecA p w) (pl n : Nat) : DeadRecA p (poolUpdateRecord w pl p n) :=
  dra_of_local h (fun q hq => poolUpdateRecord_proc_ne w p q hq pl n) (poolUpdateRecord_status ..)

theorem dra_poolMug {p : Pid} {w : World} (h : DeadRecA p w) (fuel pl rem : Nat) : DeadRecA p (poolMug fuel w p pl rem).1 :=
  by
  refine poolMug_rel (Path.ofPred (DeadRecA p)) p pl ?_ ?_ ?_ ?_ fuel w rem h
  · intro w x f m _ _ _ h; exact dra_of_procs h (fail_procs ..)
  · intro w x top h' t _ _ _ _ _ h
    dsimp only [mugVictim]
    apply dra_sched
    apply dra_removeHeld
    exact dra_of_procs h rfl
  · intro w n h; exact dra_poolUpdateRecord h pl n
  · intro w x rem surplus h
    exact dra_of_procs (dra_poolUpdateRecord h pl rem)
      ((signal_procs ..).trans ((recordPool_procs ..).trans (setPoolInUse_procs ..)))

theorem dra_poolLoop {p : Pid} {w : World} (h : DeadRecA p w) (pl rem initially : Nat) (preempt : Bool) :
    DeadRecA p (poolLoop w p pl rem initially preempt).1 := by
  refine poolLoop_rel (Path.ofPred (DeadRecA p)) p pl initially preempt ?_ ?_ ?_ ?_ ?_ ?_ w rem h
  · intro w m _ h; exact dra_of_procs h (fail_procs ..)
  · intro w v h; exact dra_of_procs h ((recordPool_procs ..).trans (setPoolInUse_procs ..))
  · intro w n h; exact dra_poolUpdateRecord h pl n
  · intro w g h; exact dra_of_procs h (signal_procs ..)
  · intro _ fuel w rem h; exact dra_poolMug h fuel pl rem
  · intro w g rem' h
    exact dra_of_local h (fun q hq => by rw [block_proc_ne _ _ _ hq, guardWaitEnter_proc_ne _ _ _ hq])
      ((block_status ..).trans (guardWaitEnter_status ..))

end CimbaModel.Sim
