/-
  S1 — the timers, process-end wake-ups, preemption wake-ups and resume events of a process die with it (C09):
  every pending event of one of these four kinds is addressed to a running process.
-/
import CimbaModel.Sim.S1WaitStep
import CimbaModel.Sim.S1DeadStep
import CimbaModel.Sim.S1Holder

namespace CimbaModel.Sim
open CimbaModel CimbaModel.Event CimbaModel.Generated
open CimbaModel.HashHeap (HTag Item Order HH)

/-- every pending event of a kind in `K` is addressed to a process that `st` calls running.  `st` is a table of
    statuses held fixed while the queue moves, so that `Tgt K st` looks at the event queue only (`Tgt.closed`); it is tied
    to the statuses of the world again where those are known (`Silent.of_tgt`).  Instances: `TgtRun` below (the silent
    kinds) and `TgtI` (the interrupt, S1SilentI). -/
def Tgt (K : Nat → Prop) (st : Pid → Status) (w : World) : Prop :=
  ∀ e ∈ w.ev.pending, K e.item.a → 1 ≤ e.item.b ∧ st (e.item.b - 1) = .running

theorem Tgt.closed {K : Nat → Prop} {A : Nat → Bool} (hA : ∀ a, A a = true → ¬ K a) (st : Pid → Status) :
    EvClosed A (Tgt K st) where
  ev_only := fun h e => by unfold Tgt at *; rw [e]; exact h
  sub := fun w ev' hs h e he => h e (hs.subset he)
  sched := fun w a s sig t pri ha h e he hk => by
    rcases sched_pending_cases w a s sig t pri with e' | e' <;> rw [e'] at he
    · exact h e he hk
    · rcases List.mem_cons.1 he with rfl | he
      · exact absurd hk (hA a ha)
      · exact h e he hk

theorem Tgt.sched_run {K : Nat → Prop} {st : Pid → Status} {w : World} (h : Tgt K st w) (a s : Nat) (sig t pri : Int)
    (hs : 1 ≤ s) (hr : st (s - 1) = .running) : Tgt K st (sched w a s sig t pri).1 := by
  intro e he hk
  rcases sched_pending_cases w a s sig t pri with e' | e' <;> rw [e'] at he
  · exact h e he hk
  · rcases List.mem_cons.1 he with rfl | he
    · exact ⟨hs, hr⟩
    · exact h e he hk

theorem Tgt.mono {K : Nat → Prop} {st st' : Pid → Status} {w : World} (h : Tgt K st w)
    (hm : ∀ q, st q = .running → st' q = .running) : Tgt K st' w :=
  fun e he hk => ⟨(h e he hk).1, hm _ (h e he hk).2⟩

theorem Tgt.reprioritize {K : Nat → Prop} {st : Pid → Status} {w : World} (hw : Tgt K st w) {ev' : EvQ} {h : Nat} {v : Int}
    (hr : reprioritize w.ev h v = .ok ev') : Tgt K st { w with ev := ev' } := by
  have hi := reprioritize_items hr
  intro e he hk
  have : e.item ∈ ev'.pending.map (·.item) := List.mem_map.2 ⟨e, he, rfl⟩
  rw [hi] at this
  obtain ⟨e0, he0, hie⟩ := List.mem_map.1 this
  have := hw e0 he0 (by rw [hie]; exact hk)
  rw [hie] at this; exact this

theorem Tgt.none_for {K : Nat → Prop} {w : World} (h : Tgt K (fun q => (w.proc q).status) w) (p : Pid)
    (hp : (w.proc p).status ≠ .running) : ∀ e ∈ w.ev.pending, e.item.b = p + 1 → ¬ K e.item.a := by
  intro e he hb hk
  have := (h e he hk).2
  rw [hb] at this
  exact hp this

def isFor (k : Nat → Bool) (z : Pid) (it : Item) : Bool := k it.a && it.b == z + 1

theorem forLe_closed {A k : Nat → Bool} (hA : ∀ a, A a = true → k a = false) (z : Pid) (w0 : World) :
    EvClosed A fun w => cnt (isFor k z) w ≤ cnt (isFor k z) w0 where
  ev_only := fun h e => by rw [cnt_of_ev e]; exact h
  sub := fun w ev' hs h => by
    have : cnt (isFor k z) { w with ev := ev' } ≤ cnt (isFor k z) w := hs.countP_le
    omega
  sched := fun w a s sig t pri ha h =>
    Nat.le_trans (cnt_sched_of_not _ w a s sig t pri (by simp [isFor, hA a ha])) h

theorem cancelAwaiteds_for {k : Nat → Bool} (hk : k aEvent = false) (w : World) (z : Pid) :
    cnt (isFor k z) (cancelAwaiteds w z) = 0 := by
  rw [cancelAwaiteds_eq]
  apply cancelAllFor_none
  · intro s c; simp [isFor, hk]
  · intro it h
    simp only [isFor, Bool.and_eq_true, beq_iff_eq] at h
    exact h.2

theorem finishMid_for {A k : Nat → Bool} (hA : ∀ a, A a = true → k a = false) (hG : A aRes = true ∧ A aCond = true)
    (hk : k aEvent = false) (w : World) (z : Pid) (stopped : Bool) : cnt (isFor k z) (finishMid w z stopped) = 0 := by
  unfold finishMid; split
  · have := ec_dropResources (forLe_closed hA z (cancelAwaiteds w z)) hG (cancelAwaiteds w z) z (Nat.le_refl _)
    rw [cancelAwaiteds_for hk] at this
    omega
  · exact cancelAwaiteds_for hk _ z

def silentAct (a : Nat) : Bool := a == aTime || a == aProc || a == aPreempt || a == aResume

def TgtRun (st : Pid → Status) (w : World) : Prop :=
  ∀ e ∈ w.ev.pending, silentAct e.item.a = true → 1 ≤ e.item.b ∧ st (e.item.b - 1) = .running

def Silent (w : World) : Prop := TgtRun (fun q => (w.proc q).status) w

def loudAct (a : Nat) : Bool := !silentAct a

theorem internal_loud : Internal loudAct := by constructor <;> decide

theorem loud_not_silent (a : Nat) (h : loudAct a = true) : silentAct a = false := by simpa [loudAct] using h

theorem tgt_closed (st : Pid → Status) : EvClosed loudAct (TgtRun st) :=
  Tgt.closed (K := (silentAct · = true)) (fun a ha hk => by rw [loud_not_silent a ha] at hk; cases hk) st

theorem tgt_sched_run {st : Pid → Status} {w : World} (h : TgtRun st w) (a s : Nat) (sig t pri : Int)
    (hs : 1 ≤ s) (hr : st (s - 1) = .running) : TgtRun st (sched w a s sig t pri).1 :=
  Tgt.sched_run (K := (silentAct · = true)) (st := st) h a s sig t pri hs hr

theorem tgt_mono {st st' : Pid → Status} {w : World} (h : TgtRun st w) (hm : ∀ q, st q = .running → st' q = .running) :
    TgtRun st' w :=
  Tgt.mono (K := (silentAct · = true)) (st := st) h hm

theorem tgt_reprioritize {st : Pid → Status} {w : World} (hw : TgtRun st w) {ev' : EvQ} {h : Nat} {v : Int}
    (hr : reprioritize w.ev h v = .ok ev') : TgtRun st { w with ev := ev' } :=
  Tgt.reprioritize (K := (silentAct · = true)) (st := st) hw hr

theorem Silent.of_tgt {w w' : World} (h : TgtRun (fun q => (w.proc q).status) w')
    (hst : ∀ q, (w'.proc q).status = (w.proc q).status) : Silent w' := by
  unfold Silent
  exact tgt_mono h (fun q hq => by rw [hst]; exact hq)

theorem Silent.none_for {w : World} (h : Silent w) (p : Pid) (hp : (w.proc p).status ≠ .running) :
    ∀ e ∈ w.ev.pending, e.item.b = p + 1 → silentAct e.item.a = false :=
  fun e he hb => by simpa using Tgt.none_for (K := (silentAct · = true)) h p hp e he hb

theorem dr_finishMid {w : World} (h : DeadRec w) (z : Pid) (stopped : Bool) : DeadRec (finishMid w z stopped) := by
  unfold finishMid; split
  · exact dr_dropResources (dr_cancelAwaiteds h z) z
  · exact dr_cancelAwaiteds (dr_dropResources h z) z

theorem finishMid_status (w : World) (z : Pid) (stopped : Bool) (q : Pid) :
    ((finishMid w z stopped).proc q).status = (w.proc q).status := by
  unfold finishMid; split <;> simp

/-- its own silent events are cancelled, its waiters are running -/
theorem silent_finishProc {w : World} (hs : Silent w) (hw : WInv w) (hd : DeadRec w) (z : Pid) (val : Int)
    (stopped : Bool) : Silent (finishProc w z val stopped) := by
  obtain ⟨hwm, hpam⟩ := winv_finishMid hw z stopped
  have hdm := dr_finishMid hd z stopped
  have htm : TgtRun (fun q => (w.proc q).status) (finishMid w z stopped) :=
    ec_finishMid (tgt_closed _) internal_loud.event ⟨internal_loud.res, internal_loud.cond⟩ w z stopped hs
  have hcm := finishMid_for loud_not_silent ⟨rfl, rfl⟩ rfl w z stopped
  have hfree := (hwm.free z hpam).1 z
  rw [finishProc_eq]
  intro e he hsil
  have he' : e ∈ (wakeWaiters (finishMid w z stopped) z (if stopped then sigStopped else sigSuccess)).ev.pending := he
  rw [wakeWaiters_pending] at he'
  -- the event is an old one or one of the new process-end wake-ups
  have key : 1 ≤ e.item.b ∧ (w.proc (e.item.b - 1)).status = .running ∧ e.item.b - 1 ≠ z := by
    rcases List.mem_append.1 he' with hnew | hold
    · obtain ⟨_, _, _, _, _, q, hq, hb, _⟩ := mem_wakeTags (List.mem_reverse.1 hnew)
      have hqz : q ≠ z := by
        intro x; rw [x] at hq; exact hfree hq
      have hreg := hwm.reg q z hq
      have hrun : ((finishMid w z stopped).proc q).status = .running := by
        apply Classical.byContradiction
        intro hnr
        have := (hdm q hnr).1
        unfold World.pa at hreg
        rw [this] at hreg; cases hreg
      rw [finishMid_status] at hrun
      refine ⟨by omega, ?_, ?_⟩
      · rw [hb]; exact hrun
      · rw [hb]; exact hqz
    · obtain ⟨h1, h2⟩ := htm e hold hsil
      refine ⟨h1, h2, ?_⟩
      intro hz
      have : 0 < cnt (isFor silentAct z) (finishMid w z stopped) := by
        rw [cnt_pos_iff]
        refine ⟨e, hold, ?_⟩
        unfold isFor
        simp [hsil]; omega
      omega
  refine ⟨key.1, ?_⟩
  dsimp only
  rw [proc_modProc_ne _ _ _ _ key.2.2, wakeWaiters_status, finishMid_status]
  exact key.2.1

theorem tgt_timerAdd {st : Pid → Status} {w : World} (h : TgtRun st w) (p : Pid) (d sig : Int)
    (hr : st p = .running) : TgtRun st (timerAdd w p d sig).1 := by
  rw [timerAdd_fst]
  exact (tgt_closed st).ev_only (w := (sched w aTime (p + 1) sig (w.now + d) (w.proc p).prio).1)
    (tgt_sched_run h aTime (p + 1) sig _ _ (by omega) (by simpa using hr)) (by simp)

theorem holder_running {w : World} (hh : HInv w) (hd : DeadRec w) (r : Nat) (x : Res) (hx : w.res[r]? = some x)
    (v : Pid) (hv : x.holder = some v) : (w.proc v).status = .running := by
  apply Classical.byContradiction
  intro hnr
  have hm := (hh.mem_iff r v).2 (by rw [holder_eq w r x hx, hv])
  rw [(hd v hnr).2.2.1] at hm
  cases hm

/-- (`p` running) the silent events a command schedules are a timer for a running process
    (`hold`, `timer_add`, `timer_set`), a resume event or a preemption wake-up for one; for `stop` and `exit` see above;
    the others schedule loud events only -/
theorem silent_execCmd {w : World} (hs : Silent w) (hh : HInv w) (hw : WInv w) (hd : DeadRec w) (p : Pid)
    (hrun : (w.proc p).status = .running) (c : Cmd) : Silent (execCmd w p c).1 := by
  by_cases h1 : ∃ z v, c = .stop z v
  · obtain ⟨z, v, rfl⟩ := h1
    simp only [execCmd]
    split
    · exact silent_finishProc hs hw hd p v true
    · split
      · exact silent_finishProc hs hw hd z v true
      · exact hs
  by_cases h2 : ∃ v, c = .exit v
  · obtain ⟨v, rfl⟩ := h2
    exact silent_finishProc hs hw hd p v false
  refine Silent.of_tgt ?_ (fun q => execCmd_status w p c q (fun z v e => h1 ⟨z, v, e⟩) (fun v e => h2 ⟨v, e⟩))
  have hs : TgtRun (fun q => (w.proc q).status) w := hs
  cases c
  case stop z v => exact absurd ⟨z, v, rfl⟩ h1
  case exit v => exact absurd ⟨v, rfl⟩ h2
  case hold d =>
    simp only [execCmd]
    exact (tgt_closed _).ev_only (tgt_timerAdd hs p d sigSuccess hrun) (by simp)
  case timerAdd v d s =>
    simp only [execCmd]
    exact (tgt_closed _).ev_only (tgt_timerAdd hs p d s hrun) (by simp)
  case timerSet v d s =>
    simp only [execCmd]
    exact (tgt_closed _).ev_only
      (tgt_timerAdd (ec_timersClear (tgt_closed _) internal_loud.event w p hs) p d s hrun) (by simp)
  case timerAddOf q d s =>
    simp only [execCmd]
    split
    · exact hs
    · rename_i hc
      have hq : (w.proc q).status = .running := by simpa [isRunning] using hc
      exact (tgt_closed _).ev_only (tgt_timerAdd hs q d s hq) (by simp)
  case resume q s =>
    simp only [execCmd]
    split
    · exact hs
    · rename_i hc
      have hq : (w.proc q).status = .running := by
        simp only [not_or, Classical.not_not] at hc
        have := hc.1; unfold isRunning at this; simpa using this
      exact tgt_sched_run hs aResume (q + 1) s _ _ (by omega) (by simpa using hq)
  case preempt r =>
    simp only [execCmd]
    split
    · exact hs
    · rename_i x hx
      split
      · exact hs
      · split
        · dsimp only
          exact ec_recordRes (tgt_closed _) _ _ (ec_grab (tgt_closed _) _ _ _ hs)
        · rename_i victim hv
          have hvr := holder_running hh hd r x hx victim hv
          split
          · dsimp only
            apply ec_grab (tgt_closed _)
            apply tgt_sched_run _ aPreempt (victim + 1) sigPreempted _ _ (by omega) (by simpa using hvr)
            apply ec_mk (tgt_closed _)
            apply ec_cancelAwaiteds (tgt_closed _) internal_loud.event ⟨internal_loud.res, internal_loud.cond⟩
            exact ec_removeHeld (tgt_closed _) _ _ _ hs
          · exact ec_acquireStep (tgt_closed _) _ _ _ hs
  case prioSet q v =>
    exact ec_prioSet (tgt_closed _) (fun _ _ _ _ hw hr => tgt_reprioritize hw hr) w p q v hs
  all_goals exact ec_execCmd (tgt_closed _) w p _ rfl nofun hs

end CimbaModel.Sim
