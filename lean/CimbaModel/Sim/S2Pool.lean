/-
  S2 — resource pools (C07): the view of a pool that matters (capacity, amount in use, holder list), the invariant,
  and what the operations on a holder list (update, enqueue, remove, dequeue, reprioritize) do to its abstraction.
-/
import CimbaModel.HashHeap.Orders
import CimbaModel.Sim.S2Foot
import CimbaModel.Sim.S2HH

namespace CimbaModel.Sim
open CimbaModel CimbaModel.Event CimbaModel.Generated CimbaModel.KPQ
open CimbaModel.HashHeap (HTag Item Order HH WF abs amounts amountOf)

structure PView where
  cap : Nat
  inUse : Nat
  holders : HH

def Pool.view (x : Pool) : PView := ⟨x.cap, x.inUse, x.holders⟩

def poolView (w : World) (pl : Nat) : Option PView := w.pools[pl]?.map Pool.view

def prOf (w : World) : Nat → Int := fun q => (w.proc q).prio

/-- the holder list is a well-formed hashheap whose keys are process ids + 1 (`pr` = the processes' priorities) -/
structure HoldersOK (n : Nat) (pr : Nat → Int) (h : HH) : Prop where
  wf : WF holder_queue_check h
  tags : ∀ k ∈ keys (abs h), ∃ pid, pid < n ∧ k = pid + 1
  /-- nobody is recorded as holding nothing -/
  pos : ∀ t ∈ abs h, 0 < t.item.b
  /-- a record carries the priority of the process it belongs to -/
  prio : ∀ t ∈ abs h, t.i = pr (t.key - 1)

structure ViewOK (n : Nat) (pr : Nat → Int) (v : PView) : Prop extends HoldersOK n pr v.holders where
  /-- the amount in use is the sum of the amounts held by the individual processes -/
  sum : v.inUse = amounts (abs v.holders)
  inCap : v.inUse ≤ v.cap

/-- process `q` lists pool `pl` among its held objects exactly when it has a record in the pool's holder list -/
def Linked (w : World) (pl : Nat) (h : HH) : Prop :=
  ∀ q, HoldRef.pool pl ∈ (w.proc q).held ↔ q + 1 ∈ keys (abs h)

def PoolInv (w : World) : Prop :=
  w.procs.size < 2 ^ 31 ∧
  ∀ pl v, poolView w pl = some v → ViewOK w.procs.size (prOf w) v ∧ Linked w pl v.holders

/-- the amount process `p` holds of pool `pl`, read off the abstraction -/
def heldOf (w : World) (pl : Nat) (p : Pid) : Nat :=
  match poolView w pl with
  | some v => amountOf (abs v.holders) (p + 1)
  | none => 0

theorem poolView_set {w : World} {pl : Nat} {x : Pool} (hx : w.pools[pl]? = some x) (y : Pool) (pl' : Nat) :
    ((w.pools.set! pl y)[pl']?).map Pool.view = if pl' = pl then some y.view else poolView w pl' := by
  have hlt : pl < w.pools.size := (Array.getElem?_eq_some_iff.1 hx).1
  rw [Array.set!_eq_setIfInBounds, Array.getElem?_setIfInBounds]
  by_cases h : pl' = pl
  · subst h; simp [hlt]
  · have : ¬ pl = pl' := fun e => h e.symm
    simp [h, this, poolView]

theorem poolView_modify (w : World) (pl : Nat) (f : Pool → Pool) (pl' : Nat) :
    ((w.pools.modify pl f)[pl']?).map Pool.view =
      if pl' = pl then (w.pools[pl]?).map (fun x => (f x).view) else poolView w pl' := by
  rw [Array.getElem?_modify]
  by_cases h : pl' = pl
  · subst h; simp; rfl
  · have : ¬ pl = pl' := fun e => h e.symm
    simp [h, this, poolView]

structure PoolUpd (w w' : World) (pl : Nat) (v' : PView) : Prop where
  size : w'.procs.size = w.procs.size
  view : poolView w' pl = some v'
  others : ∀ pl', pl' ≠ pl → poolView w' pl' = poolView w pl'
  heldOthers : ∀ q pl', pl' ≠ pl → (HoldRef.pool pl' ∈ (w'.proc q).held ↔ HoldRef.pool pl' ∈ (w.proc q).held)
  prio : prOf w' = prOf w

theorem PoolUpd.refl {w : World} {pl : Nat} {v : PView} (h : poolView w pl = some v) : PoolUpd w w pl v :=
  ⟨rfl, h, fun _ _ => rfl, fun _ _ _ => Iff.rfl, rfl⟩

theorem PoolUpd.trans {a b c : World} {pl : Nat} {v1 v2 : PView} (h1 : PoolUpd a b pl v1) (h2 : PoolUpd b c pl v2) :
    PoolUpd a c pl v2 :=
  ⟨h2.size.trans h1.size, h2.view, fun pl' hne => (h2.others pl' hne).trans (h1.others pl' hne),
    fun q pl' hne => (h2.heldOthers q pl' hne).trans (h1.heldOthers q pl' hne), h2.prio.trans h1.prio⟩

theorem prOf_of_fp {m : Mask} {w w' : World} (h : Fp m w w') (hpr : m.prio = false) : prOf w' = prOf w :=
  funext fun q => h.prio_eq hpr q

theorem PoolUpd.of_fp {m : Mask} {w w' : World} (h : Fp m w w') (hp : m.pools = false) (hh : m.held = false)
    (hpr : m.prio = false) {pl : Nat} {v : PView} (hv : poolView w pl = some v) :
    PoolUpd w w' pl v ∧ ∀ q, (w'.proc q).held = (w.proc q).held := by
  refine ⟨⟨h.size_eq, ?_, ?_, ?_, prOf_of_fp h hpr⟩, fun q => h.held_eq hh q⟩
  · unfold poolView; rw [h.2.1 hp]; exact hv
  · intro pl' _; unfold poolView; rw [h.2.1 hp]
  · intro q pl' _; rw [h.held_eq hh q]

theorem poolView_of_fp {m : Mask} {w w' : World} (h : Fp m w w') (hp : m.pools = false) (pl : Nat) :
    poolView w' pl = poolView w pl := by
  unfold poolView; rw [h.2.1 hp]

/-- closing a composite operation on pool `pl` -/
theorem PoolInv.of_upd {w w' : World} {pl : Nat} {v' : PView} (hi : PoolInv w) (hu : PoolUpd w w' pl v')
    (hv : ViewOK w.procs.size (prOf w) v') (hl : Linked w' pl v'.holders) : PoolInv w' := by
  refine ⟨by rw [hu.size]; exact hi.1, ?_⟩
  intro pl' v hpv
  by_cases hpl : pl' = pl
  · subst hpl
    rw [hu.view] at hpv; cases hpv
    rw [hu.size, hu.prio]
    exact ⟨hv, hl⟩
  · rw [hu.others pl' hpl] at hpv
    obtain ⟨ok, lk⟩ := hi.2 pl' v hpv
    rw [hu.size, hu.prio]
    exact ⟨ok, fun q => (hu.heldOthers q pl' hpl).trans (lk q)⟩

theorem PoolInv.of_fp {m : Mask} {w w' : World} (h : Fp m w w') (hp : m.pools = false) (hh : m.held = false)
    (hi : PoolInv w) (hpr : m.prio = false := by rfl) : PoolInv w' := by
  refine ⟨by rw [h.size_eq]; exact hi.1, ?_⟩
  intro pl v hpv
  rw [poolView_of_fp h hp] at hpv
  obtain ⟨ok, lk⟩ := hi.2 pl v hpv
  rw [h.size_eq, prOf_of_fp h hpr]
  exact ⟨ok, fun q => by rw [h.held_eq hh q]; exact lk q⟩

theorem HoldersOK.room {n : Nat} {pr : Nat → Int} {h : HH} (ok : HoldersOK n pr h) (hn : n < 2 ^ 31) : h.count < 2 ^ h.exp ∨ h.exp < 31 :=
  ok.wf.room_of_keys (fun k hk => by obtain ⟨pid, hp, rfl⟩ := ok.tags k hk; omega) hn

theorem heldAmount_eq {w : World} {pl : Nat} {v : PView} (hv : poolView w pl = some v) (hwf : WF holder_queue_check v.holders)
    (p : Pid) : heldAmount w pl p = amountOf (abs v.holders) (p + 1) := by
  unfold heldAmount
  unfold poolView at hv
  cases hx : w.pools[pl]? with
  | none => rw [hx] at hv; cases hv
  | some x =>
    rw [hx] at hv
    simp only [Option.map_some, Option.some.injEq] at hv
    subst hv
    simp only [Pool.view] at hwf ⊢
    by_cases hk : p + 1 ∈ keys (abs x.holders)
    · obtain ⟨i, hi, hki⟩ := (HashHeap.mem_keys_abs x.holders (p + 1)).1 hk
      have hfi := HashHeap.findIndex_of_mem hwf hi
      rw [hki] at hfi
      have hc : x.holders.count ≠ 0 := by have := hi.1; have := hi.2; omega
      rw [if_neg hc, hfi]
      have hmem : KPQ.norm (x.holders.tag i) ∈ abs x.holders := (HashHeap.mem_abs _ _).2 ⟨i, hi, rfl⟩
      have := HashHeap.amountOf_of_mem hwf.keys_nodup hmem
      simp only [KPQ.norm] at this
      rw [hki] at this
      rw [this]
      have hi0 : i ≠ 0 := by have := hi.1; omega
      cases i with
      | zero => exact absurd rfl hi0
      | succ j => rfl
    · rw [HashHeap.amountOf_of_not_mem hk]
      split
      · rfl
      · rw [HashHeap.findIndex_of_not_mem hwf hk]
        rfl

theorem mem_keys_of_mem {q : KPQ} {t : HTag} (h : t ∈ q) : t.key ∈ keys q := HashHeap.key_mem_keys h

/-- add `amt` to the record of a present holder (`update_record`, first branch) / overwrite it (`reset_holder`) -/
theorem withItem_holders {n : Nat} {pr : Nat → Int} {h : HH} (ok : HoldersOK n pr h) {i : Nat} (hi : HashHeap.InR h.count i) (it : Item)
    (hit : 0 < it.b) :
    HoldersOK n pr (HashHeap.withItem h i it) ∧
    amounts (abs (HashHeap.withItem h i it)) + (h.tag i).item.b = amounts (abs h) + it.b ∧
    (∀ k, k ∈ keys (abs (HashHeap.withItem h i it)) ↔ k ∈ keys (abs h)) ∧
    amountOf (abs (HashHeap.withItem h i it)) (h.tag i).key = it.b ∧
    amountOf (abs h) (h.tag i).key = (h.tag i).item.b ∧
    (∀ k, k ≠ (h.tag i).key → amountOf (abs (HashHeap.withItem h i it)) k = amountOf (abs h) k) := by
  obtain ⟨hwf, hp', hp⟩ := HashHeap.wf_withItem ok.wf hi it
  have hmem : KPQ.norm (h.tag i) ∈ abs h := (HashHeap.mem_abs h _).2 ⟨i, hi, rfl⟩
  have hsz : i < h.heap.size := by have := ok.wf.heapSize; have := ok.wf.countLe; have := hi.2; omega
  have hkeys : ∀ k, k ∈ keys (abs (HashHeap.withItem h i it)) ↔ k ∈ keys (abs h) := fun k => by
    rw [HashHeap.keys_withItem h i it hsz]
  have hmem' : KPQ.norm { h.tag i with item := it } ∈ abs (HashHeap.withItem h i it) :=
    hp'.mem_iff.2 List.mem_cons_self
  have hpos : ∀ t ∈ abs (HashHeap.withItem h i it), 0 < t.item.b := by
    intro t ht
    rcases List.mem_cons.1 (hp'.mem_iff.1 ht) with rfl | hm
    · exact hit
    · exact ok.pos t (List.mem_filter.1 hm).1
  have hprio : ∀ t ∈ abs (HashHeap.withItem h i it), t.i = pr (t.key - 1) := by
    intro t ht
    rcases List.mem_cons.1 (hp'.mem_iff.1 ht) with rfl | hm
    · exact ok.prio (KPQ.norm (h.tag i)) hmem
    · exact ok.prio t (List.mem_filter.1 hm).1
  refine ⟨⟨hwf, fun k hk => ok.tags k ((hkeys k).1 hk), hpos, hprio⟩, ?_, hkeys, ?_, ?_, ?_⟩
  · rw [HashHeap.amounts_perm hp', HashHeap.amounts_perm hp]
    simp [KPQ.norm]; omega
  · have := HashHeap.amountOf_of_mem hwf.keys_nodup hmem'
    simpa [KPQ.norm] using this
  · have := HashHeap.amountOf_of_mem ok.wf.keys_nodup hmem
    simpa [KPQ.norm] using this
  · intro k hk
    have hne : ¬ (h.tag i).key = k := fun e => hk e.symm
    unfold amountOf
    rw [HashHeap.lookup_perm hp' hwf.keys_nodup, HashHeap.lookup_perm hp ok.wf.keys_nodup, HashHeap.lookup_cons,
      HashHeap.lookup_cons]
    rw [if_neg (show ¬ (KPQ.norm { h.tag i with item := it }).key = k from hne),
      if_neg (show ¬ (KPQ.norm (h.tag i)).key = k from hne)]

/-- a new holder record (`update_record`, second branch): with fewer than 2^31 processes the enqueue cannot fail -/
theorem enqueue_holders {n : Nat} {pr : Nat → Int} {h : HH} (ok : HoldersOK n pr h) (hn : n < 2 ^ 31) {p : Nat} (hp : p < n)
    (hfresh : p + 1 ∉ keys (abs h)) (it : Item) (hit : 0 < it.b) (d i : Int) (hpri : i = pr p) :
    ∃ h', HashHeap.enqueue holder_queue_check h it (p + 1) d i = .ok (h', p + 1) ∧ HoldersOK n pr h' ∧
      amounts (abs h') = amounts (abs h) + it.b ∧
      (∀ k, k ∈ keys (abs h') ↔ k ∈ keys (abs h) ∨ k = p + 1) ∧
      amountOf (abs h') (p + 1) = it.b ∧
      (∀ k, k ≠ p + 1 → amountOf (abs h') k = amountOf (abs h) k) := by
  have h64 : p + 1 < 2 ^ 64 := by
    have : (2 : Nat) ^ 31 < 2 ^ 64 := by decide
    omega
  obtain ⟨h', hrun, a⟩ := HashHeap.enqueue_key_ok ok.wf it d i (Nat.succ_ne_zero p) h64 hfresh (ok.room hn)
  have hkeys : ∀ k, k ∈ keys (abs h') ↔ k ∈ keys (abs h) ∨ k = p + 1 := fun k => (a.keys k).trans Or.comm
  refine ⟨h', hrun, ⟨a.wf, ?_, ?_, ?_⟩, ?_, hkeys, ?_, ?_⟩
  · intro k hk
    rcases (hkeys k).1 hk with hk | rfl
    · exact ok.tags k hk
    · exact ⟨p, hp, rfl⟩
  · intro t ht
    rcases (a.mem t).1 ht with rfl | hm
    · exact hit
    · exact ok.pos t hm
  · intro t ht
    rcases (a.mem t).1 ht with rfl | hm
    · exact hpri
    · exact ok.prio t hm
  · rw [HashHeap.amounts_perm a.perm]; simp [KPQ.insert, KPQ.norm]; omega
  · unfold amountOf; rw [a.lookup, if_pos rfl]; rfl
  · intro k hk; unfold amountOf; rw [a.lookup, if_neg (Ne.symm hk)]

/-- drop a holder record (`release` of everything, rollback, process end) -/
theorem remove_holders {n : Nat} {pr : Nat → Int} {h h' : HH} (ok : HoldersOK n pr h) (p : Nat) {r : Bool}
    (hr : HashHeap.remove holder_queue_check h (p + 1) = .ok (h', r)) :
    HoldersOK n pr h' ∧ amounts (abs h') + amountOf (abs h) (p + 1) = amounts (abs h) ∧
      (∀ k, k ∈ keys (abs h') ↔ k ∈ keys (abs h) ∧ k ≠ p + 1) ∧ r = decide (p + 1 ∈ keys (abs h)) ∧
      amountOf (abs h') (p + 1) = 0 ∧ (∀ k, k ≠ p + 1 → amountOf (abs h') k = amountOf (abs h) k) := by
  have a := HashHeap.remove_inv ok.wf (Nat.succ_ne_zero p) hr
  have old : ∀ t ∈ abs h', t ∈ abs h := fun t ht => ((a.mem t).1 ht).1
  refine ⟨⟨a.wf, fun k hk => ok.tags k ((a.keys k).1 hk).1, fun t ht => ok.pos t (old t ht),
    fun t ht => ok.prio t (old t ht)⟩, ?_, a.keys, a.res, ?_, ?_⟩
  · rw [HashHeap.amounts_perm a.perm]; exact HashHeap.amounts_remove ok.wf.keys_nodup (p + 1)
  · unfold amountOf; rw [a.lookup, if_pos rfl]; rfl
  · intro k hk; unfold amountOf; rw [a.lookup, if_neg hk]

/-- take the first victim off the holder list -/
theorem dequeue_holders {n : Nat} {pr : Nat → Int} {h : HH} (ok : HoldersOK n pr h) (hpos : 0 < h.count) :
    ∃ h', HashHeap.dequeue holder_queue_check h = .ok (h', some (h.tag 1)) ∧ HoldersOK n pr h' ∧
      amounts (abs h') + (h.tag 1).item.b = amounts (abs h) ∧
      (∀ k, k ∈ keys (abs h') ↔ k ∈ keys (abs h) ∧ k ≠ (h.tag 1).key) ∧
      (h.tag 1).key ∈ keys (abs h) ∧
      amountOf (abs h) (h.tag 1).key = (h.tag 1).item.b ∧
      (∀ k, k ≠ (h.tag 1).key → amountOf (abs h') k = amountOf (abs h) k) ∧
      (∀ x ∈ abs h', holder_queue_check (KPQ.norm (h.tag 1)) x = true) := by
  have hc : h.count ≠ 0 := Nat.ne_of_gt hpos
  obtain ⟨h', hrun, a⟩ := HashHeap.dequeue_abs ok.wf hpos
  have old : ∀ t ∈ abs h', t ∈ abs h := fun t ht => (a.mem_old t).2 (.inr ht)
  refine ⟨h', hrun, ⟨a.wf, fun k hk => ok.tags k ((a.keys ok.wf k).1 hk).1, fun t ht => ok.pos t (old t ht),
    fun t ht => ok.prio t (old t ht)⟩, ?_, a.keys ok.wf, a.key_mem, ?_, ?_, fun x hx => a.strict ok.wf hc hx⟩
  · rw [HashHeap.amounts_perm a.perm]; simp [KPQ.norm]; omega
  · exact HashHeap.amountOf_of_mem ok.wf.keys_nodup (x := KPQ.norm (h.tag 1)) ((a.mem_old _).2 (.inl rfl))
  · intro k hk; unfold amountOf; rw [a.lookup ok.wf, if_neg hk]

/-- `cmb_process_priority_set` of a holder: the record moves inside the list, amounts and keys stay -/
theorem reprio_holders {n : Nat} {pr pr' : Nat → Int} {h h' : HH} (ok : HoldersOK n pr h) {k : Nat} (hk : k ∈ keys (abs h)) {d i : Int}
    (hr : HashHeap.reprioritize holder_queue_check h k d i = .ok h')
    (hpr : pr' (k - 1) = i ∧ ∀ q, q ≠ k - 1 → pr' q = pr q) :
    HoldersOK n pr' h' ∧ amounts (abs h') = amounts (abs h) ∧ (∀ j, j ∈ keys (abs h') ↔ j ∈ keys (abs h)) ∧
      (∀ j, amountOf (abs h') j = amountOf (abs h) j) := by
  have a := HashHeap.reprio_inv ok.wf hr
  have hmem : ∀ t ∈ abs h', ∃ y ∈ abs h, (if y.key = k then { y with d := d, i := i } else y) = t := fun t ht =>
    List.mem_map.1 (a.perm.mem_iff.1 ht)
  refine ⟨⟨a.wf, fun j hj => ok.tags j ((a.keys j).1 hj), ?_, ?_⟩, ?_, a.keys, ?_⟩
  · intro t ht
    obtain ⟨y, hy, rfl⟩ := hmem t ht
    have := ok.pos y hy
    split <;> exact this
  · intro t ht
    obtain ⟨y, hy, rfl⟩ := hmem t ht
    split
    · rename_i hyk
      show i = pr' (y.key - 1)
      rw [hyk]; exact hpr.1.symm
    · rename_i hyk
      rw [ok.prio y hy]
      refine (hpr.2 _ ?_).symm
      obtain ⟨pid, _, hpk⟩ := ok.tags y.key (mem_keys_of_mem hy)
      obtain ⟨pid', _, hpk'⟩ := ok.tags k hk
      omega
  · rw [HashHeap.amounts_perm a.perm, HashHeap.amounts_reprio]
  · intro j
    unfold amountOf
    rw [a.lookup]
    split
    · rename_i hj; subst hj
      cases KPQ.lookup (abs h) j <;> rfl
    · rfl

end CimbaModel.Sim
