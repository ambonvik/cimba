/-
  S3 — `GInv` is a `Foot` relation: it holds across the functions that do not enter or leave a guard wait.
-/
import CimbaModel.Sim.S3GInvGuard

namespace CimbaModel.Sim.S3
open CimbaModel CimbaModel.Sim CimbaModel.Event CimbaModel.Generated CimbaModel.KPQ
open CimbaModel.HashHeap (HTag Item Order HH WF abs liveTags)

variable {ex : Pid → Prop} {fr : Pid → Option Frame}

theorem GInv.foot : Foot fun w w' => GInv ex fr w → GInv ex fr w' where
  toPath := Path.ofPred _
  same := fun hs h => h.ofSame hs
  evCancel := fun _ k h => h.evCancel_fst k
  sched := fun _ a s sig t pri ha h =>
    h.sched_harmless a s sig t pri ⟨ha.2.2.2.1, ha.2.2.2.2.1, fun hs => ⟨(ha.2.2.2.2.2 hs).1, (ha.2.2.2.2.2 hs).2.1, (ha.2.2.2.2.2 hs).2.2, ha.1⟩⟩
  guardRemove := fun _ g p h => h.guardRemove_fst g p
  signal := fun _ g h => h.signal g

theorem GInv.dropResources {w : World} (h : GInv ex fr w) (p : Pid) : GInv ex fr (dropResources w p) := GInv.foot.dropResources w p h

end CimbaModel.Sim.S3
