/-
  S3 — `GInv`: the static side condition `CondSep` and entering a guard wait from a world reached without changing static
  data; timers, dropping resources (`GrantFoot`), `cancel_awaiteds`, the end of a process.
-/
import CimbaModel.Sim.S3GInvLeave

namespace CimbaModel.Sim.S3
open CimbaModel CimbaModel.Sim CimbaModel.Event CimbaModel.Generated CimbaModel.KPQ
open CimbaModel.HashHeap (HTag Item Order HH WF abs liveTags)

/-- static separation: only `cond_wait` waits on the guard of a condition -/
def CondSep (w : World) : Prop :=
  ∀ (c g : Nat) (f : Frame), w.conds[c]? = some g → FrameOn w f g → ∃ c', f = .condWait c'

theorem CondSep.ofStat {w w' : World} (h : CondSep w) (hs : Stat w w') : CondSep w' := by
  intro c g f hc hon
  exact h c g f (by rw [← hs.conds]; exact hc) ((frameOn_of_stat hs f g).1 hon)

variable {ex : Pid → Prop} {fr : Pid → Option Frame}

theorem GInv.enterBlock_of {ex : Pid → Prop} {w0 W : World} (hW : GInv ex fr W) (hs : Stat w0 W) {p : Pid} {g : Nat} {d : Demand}
    {f : Frame} (hx : ¬ ex p) (hfr : fr p = none) (hlt : p < w0.procs.size) (hon : FrameOn w0 f g) (hsep : CondSep w0) :
    GInv ex (setFrame fr p (some f)) (block (guardWaitEnter W g p d) p f).1 :=
  hW.enterBlock g d f hx hfr (by rw [hs.psize]; exact hlt) ((frameOn_of_stat hs f g).2 hon)
    (fun c hc => (hsep.ofStat hs) c g f hc ((frameOn_of_stat hs f g).2 hon))

theorem GInv.timerAdd_fst {w : World} (hp : GInv ex fr w) (p : Pid) (d sig : Int) (hsig : encSig sig ≠ 0) :
    GInv ex fr (timerAdd w p d sig).1 := by
  simp only [Sim.timerAdd]
  refine GInv.addAwait_other ?_ p _ rfl
  exact hp.sched_harmless aTime (p + 1) sig (w.now + d) (w.proc p).prio
    ⟨by decide, fun h => absurd h (by decide), fun h => absurd h hsig⟩

theorem GInv.timerCancel_fst {w : World} (hp : GInv ex fr w) (p : Pid) (h : Nat) : GInv ex fr (timerCancel w p h).1 := by
  simp only [Sim.timerCancel]
  exact (hp.removeAwait_other p _ rfl).evCancel_fst h

theorem GInv.timersClear {w : World} (hp : GInv ex fr w) (p : Pid) : GInv ex fr (timersClear w p) := by
  unfold Sim.timersClear
  refine (Path.ofPred (GInv ex fr)).foldl (fun _ q h => h.evCancel_fst q) _ _ ?_
  refine hp.mapAwaits p (fun l => l.filter fun a => match a with | .time _ => false | _ => true) ?_
  intro l; rw [List.filter_filter]; apply List.filter_congr; intro a _; cases a <;> rfl

theorem GInv.wakeWaiters {w : World} (hp : GInv ex fr w) (p : Pid) (sig : Int) : GInv ex fr (Sim.wakeWaiters w p sig) := by
  unfold Sim.wakeWaiters
  refine (Path.ofPred (GInv ex fr)).foldl (fun w q h => ?_) _ _ (hp.modProc_ctl p _ (fun _ => ⟨rfl, rfl⟩))
  exact h.sched_harmless aProc (q + 1) sig w.now (w.proc q).prio
    ⟨by decide, fun h => absurd h (by decide), fun _ => by decide⟩

/-- lists only shrink, awaits stay; a new pending event is a grant (or, from the condition signal of an observing
    condition, a condition wake-up) for a key that was queued -/
structure GrantFoot (w w' : World) : Prop where
  q : ∀ g k, queued w' g k → queued w g k
  e : ∀ e ∈ w'.ev.pending, e ∈ w.ev.pending ∨
    ((e.item.a = aRes ∨ e.item.a = aCond) ∧ e.item.c = 0 ∧ ∃ g', queued w g' e.item.b)
  aw : ∀ x, (w'.proc x).awaits = (w.proc x).awaits

theorem GrantFoot.refl (w : World) : GrantFoot w w := ⟨fun _ _ h => h, fun _ h => Or.inl h, fun _ => rfl⟩

theorem GrantFoot.trans {w w1 w2 : World} (h1 : GrantFoot w w1) (h2 : GrantFoot w1 w2) : GrantFoot w w2 :=
  ⟨fun g k h => h1.q g k (h2.q g k h),
   fun e he => by
    rcases h2.e e he with h | ⟨a, b, g', c⟩
    · exact h1.e e h
    · exact Or.inr ⟨a, b, g', h1.q g' _ c⟩,
   fun x => (h2.aw x).trans (h1.aw x)⟩

theorem GrantFoot.same {w w' : World} (hg : w'.guards = w.guards) (he : w'.ev = w.ev) (hp : w'.procs = w.procs) : GrantFoot w w' :=
  ⟨fun g k h => (queued_congr hg g k).1 h, fun e h => Or.inl (by rw [← he]; exact h), fun x => by rw [proc_congr hp]⟩

theorem GrantFoot.signal {w : World} (hall : AllGWF w) (g : Nat) : GrantFoot w (signal w g) := by
  obtain ⟨h1, h2, _, h3⟩ := signal_foot hall g
  exact ⟨h1, h3, fun x => by rw [proc_congr h2]⟩

theorem GrantFoot.signal_after {w W : World} (hg : W.guards = w.guards) (he : W.ev = w.ev) (hp : W.procs = w.procs)
    (hall : AllGWF w) (g : Nat) : GrantFoot w (Sim.signal W g) :=
  (GrantFoot.same hg he hp).trans (GrantFoot.signal (fun g' gd h => hall g' gd (by rw [← hg]; exact h)) g)

theorem Clean.ofGrantFoot {w w' : World} {p : Pid} (hc : Clean w p) (hf : GrantFoot w w') : Clean w' p := by
  refine ⟨by unfold guardAw; rw [hf.aw]; exact hc.aw, fun g h => hc.nq g (hf.q g _ h), ?_, ?_⟩
  · intro e he hgr hb
    rcases hf.e e he with h | ⟨_, _, g', h⟩
    · exact hc.ng e h hgr hb
    · exact hc.nq g' (hb ▸ h)
  · intro e he hea hec hb
    rcases hf.e e he with h | ⟨h, _, _⟩
    · exact hc.nt e h hea hec hb
    · rw [hea] at h; rcases h with h | h <;> exact absurd h (by decide)

theorem recordPool_frame (w : World) (pl : Nat) :
    (recordPool w pl).guards = w.guards ∧ (recordPool w pl).ev = w.ev ∧ (recordPool w pl).procs = w.procs := by
  unfold recordPool
  split
  · split <;> exact ⟨rfl, rfl, rfl⟩
  · exact ⟨rfl, rfl, rfl⟩

theorem recordRes_frame (w : World) (r : Nat) :
    (recordRes w r).guards = w.guards ∧ (recordRes w r).ev = w.ev ∧ (recordRes w r).procs = w.procs := by
  unfold recordRes
  split
  · split <;> exact ⟨rfl, rfl, rfl⟩
  · exact ⟨rfl, rfl, rfl⟩

theorem GrantFoot.poolDropHolder {w : World} (hall : AllGWF w) (pl : Nat) (p : Pid) : GrantFoot w (poolDropHolder w pl p) := by
  unfold Sim.poolDropHolder
  split
  · exact GrantFoot.refl w
  · split
    · exact GrantFoot.refl w
    · split
      · dsimp only
        refine GrantFoot.signal_after ?_ ?_ ?_ hall _
        · exact (recordPool_frame _ pl).1
        · exact (recordPool_frame _ pl).2.1
        · exact (recordPool_frame _ pl).2.2
      · exact GrantFoot.same (by simp) (by simp) (by simp)
    · exact GrantFoot.same (by simp) (by simp) (by simp)

/-- one step of `cmi_process_drop_resources` -/
theorem GrantFoot.dropStep {w : World} (hall : AllGWF w) (p : Pid) (h : HoldRef) : GrantFoot w (dropStep p w h) := by
  cases h with
  | res r =>
    unfold S3.dropStep
    dsimp only
    split
    · refine GrantFoot.signal_after ?_ ?_ ?_ hall _
      · exact (recordRes_frame _ r).1
      · exact (recordRes_frame _ r).2.1
      · exact (recordRes_frame _ r).2.2
    · exact GrantFoot.refl w
  | pool pl => exact GrantFoot.poolDropHolder hall pl p

theorem GrantFoot.dropResources {w : World} (hp : GInv ex fr w) (p : Pid) : GrantFoot w (Sim.dropResources w p) := by
  rw [dropResources_eq]
  have h0 : GrantFoot w (w.modProc p fun x => { x with held := [] }) := by
    refine ⟨fun _ _ h => h, fun _ h => Or.inl h, fun x => ?_⟩
    rw [modProc_proc]; split
    · rename_i h; rw [h.1]
    · rfl
  have hG0 : GInv ex fr (w.modProc p fun x => { x with held := [] }) := hp.modProc_ctl p _ (fun _ => ⟨rfl, rfl⟩)
  generalize (w.modProc p fun x => { x with held := [] }) = w1 at h0 hG0
  generalize (w.proc p).held = l
  induction l generalizing w1 with
  | nil => exact h0
  | cons h hs ih =>
    simp only [List.foldl_cons]
    exact ih _ (h0.trans (GrantFoot.dropStep hG0.gw p h)) (GInv.foot.dropStep p w1 h hG0)


theorem cancelFold_rel : ∀ (hs : List Nat) (w : World), CanRel w (hs.foldl (fun w h => (evCancel w h).1) w) := by
  intro hs
  induction hs with
  | nil => intro w; exact CanRel.refl w
  | cons h hs ih => intro w; exact (evCancel_rel w h).trans (ih _)

/-- the part of `guardWithdraw_foot` that needs no hypothesis on other guards -/
theorem guardWithdraw_shrink {w : World} (hall : AllGWF w) (g : Nat) (p : Pid) :
    (∀ g' k, queued (guardWithdraw w g p) g' k → queued w g' k) ∧ ¬ queued (guardWithdraw w g p) g (p + 1) ∧
    (guardWithdraw w g p).procs = w.procs := by
  have tail : ¬ queued w g (p + 1) →
      let w1 := (cancelKindFor w p aRes (some sigSuccess)).1
      let w2 := if (cancelKindFor w p aRes (some sigSuccess)).2 > 0 then signal w1 g else w1
      (∀ g' k, queued w2 g' k → queued w g' k) ∧ w2.procs = w.procs := by
    intro _
    have hrel : CanRel w (cancelKindFor w p aRes (some sigSuccess)).1 := by
      rw [cancelKindFor_eq]; exact cancelFold_rel _ w
    have hall1 : AllGWF (cancelKindFor w p aRes (some sigSuccess)).1 := by
      intro g' gd' h'; rw [hrel.guards] at h'; exact hall g' gd' h'
    dsimp only
    split
    · obtain ⟨hsq, hsp, _, _⟩ := signal_foot hall1 g
      exact ⟨fun g' k h => (queued_congr hrel.guards g' k).1 (hsq g' k h), hsp.trans hrel.procs⟩
    · exact ⟨fun g' k h => (queued_congr hrel.guards g' k).1 h, hrel.procs⟩
  cases hg : w.guards[g]? with
  | none =>
    have hnqg : ¬ queued w g (p + 1) := fun ⟨gd, h, _⟩ => by rw [hg] at h; cases h
    rw [guardWithdraw_noguard hg]
    obtain ⟨t1, t2⟩ := tail hnqg
    exact ⟨t1, fun h => hnqg (t1 g _ h), t2⟩
  | some gd =>
    have hwf := hall g gd hg
    by_cases hk : p + 1 ∈ keys (abs gd.q)
    · obtain ⟨q', hwf', hperm, heq⟩ := guardWithdraw_queued hg hwf hk
      rw [heq]
      refine ⟨?_, ?_, rfl⟩
      · intro g' k h
        rw [queued_setGuardQ hg] at h
        split at h
        · rename_i hgg; subst hgg
          obtain ⟨e, he, rfl⟩ := Event.mem_keys.1 h
          exact ⟨gd, hg, Event.mem_keys.2 ⟨e, (mem_remove.1 (hperm.mem_iff.1 he)).1, rfl⟩⟩
        · exact h
      · rw [queued_setGuardQ hg, if_pos rfl]
        intro hm
        obtain ⟨e, he, hek⟩ := Event.mem_keys.1 hm
        exact (mem_remove.1 (hperm.mem_iff.1 he)).2 hek
    · have hnqg : ¬ queued w g (p + 1) := fun ⟨gd', h, hk'⟩ => by rw [hg] at h; cases h; exact hk hk'
      rw [guardWithdraw_granted hg hwf hk]
      obtain ⟨t1, t2⟩ := tail hnqg
      exact ⟨t1, fun h => hnqg (t1 g _ h), t2⟩

/-- the loop invariant of `cancel_awaiteds` for the guards -/
def CaG (ex : Pid → Prop) (fr : Pid → Option Frame) (p : Pid) (rest : List Await) (w : World) : Prop :=
  GInv (exAdd ex p) fr w ∧ guardAw w p = [] ∧ ∀ g', queued w g' (p + 1) → Await.guard g' ∈ rest

theorem CaG.step {p : Pid} {a : Await} {rest : List Await} {w : World} (h : CaG ex fr p (a :: rest) w) :
    CaG ex fr p rest (Sim.cancelStep p w a) := by
  obtain ⟨hp, haw, hq⟩ := h
  cases a with
  | time k =>
    have hrel := evCancel_rel w k
    have hcs : Sim.cancelStep p w (.time k) = (evCancel w k).1 := rfl
    rw [hcs]
    refine ⟨hp.evCancel_fst k, by unfold guardAw; rw [hrel.proc]; exact haw, fun g' hq' => ?_⟩
    rcases List.mem_cons.1 (hq g' ((queued_congr hrel.guards g' _).1 hq')) with h' | h'
    · cases h'
    · exact h'
  | guard g =>
    obtain ⟨f1, f2, f3⟩ := guardWithdraw_shrink hp.gw g p
    have hcs : Sim.cancelStep p w (.guard g) = Sim.guardWithdraw w g p := rfl
    rw [hcs]
    refine ⟨GInv.foot.guardWithdraw w g p hp, by unfold guardAw; rw [proc_congr f3]; exact haw, fun g' hq' => ?_⟩
    rcases List.mem_cons.1 (hq g' (f1 g' _ hq')) with h' | h'
    · cases h'; exact absurd hq' f2
    · exact h'
  | proc r =>
    have hcs : Sim.cancelStep p w (.proc r) = w.modProc r fun x => { x with waiters := (removeFirst x.waiters p).1 } := rfl
    rw [hcs]
    refine ⟨hp.modProc_ctl r _ (fun _ => ⟨rfl, rfl⟩), ?_, fun g' hq' => ?_⟩
    · unfold guardAw
      rw [modProc_proc]; split
      · rename_i h'; obtain ⟨rfl, _⟩ := h'; exact haw
      · exact haw
    · rcases List.mem_cons.1 (hq g' hq') with h' | h'
      · cases h'
      · exact h'
  | event k =>
    refine ⟨hp.setEvWaiters _, haw, fun g' hq' => ?_⟩
    rcases List.mem_cons.1 (hq g' hq') with h' | h'
    · cases h'
    · exact h'

/-- `cmi_process_cancel_awaiteds`: afterwards the process is clean (queued nowhere, no grant, no timer pending) -/
theorem GInv.cancelAwaiteds {w : World} (hp : GInv ex fr w) (p : Pid) (hx : ¬ ex p) :
    GInv ex fr (Sim.cancelAwaiteds w p) ∧ Clean (Sim.cancelAwaiteds w p) p := by
  refine cancelAwaiteds_induct p (CaG ex fr p) (fun w' => GInv ex fr w' ∧ Clean w' p) w ?_ (fun _ _ _ h => h.step) ?_
  · refine ⟨(hp.exempt p).clearAwaitsEx, ?_, ?_⟩
    · unfold guardAw; rw [modProc_proc]; split
      · rfl
      · rename_i hn
        by_cases hsz : p < w.procs.size
        · exact absurd ⟨rfl, hsz⟩ hn
        · rw [proc_oob _ (Nat.le_of_not_lt hsz)]; rfl
    · intro g' hq'
      have hq'' : queued w g' (p + 1) := hq'
      have := (hp.gk g' _ hq'').2.2 (by simpa using hx)
      simpa using this
  intro w1 ⟨hE, haw, hnq⟩
  have hF := GInv.foot.cancelAllFor w1 p hE
  obtain ⟨hrel, hgone, _⟩ := cancelAllFor_spec w1 p hE.ei
  have hc : Clean (Sim.cancelAllFor w1 p) p := by
    have hev : ∀ e ∈ (Sim.cancelAllFor w1 p).ev.pending, e.item.b = p + 1 → e.item.a = aEvent := by
      intro e he hb
      rcases hrel.pend e he with hold | ⟨_, _, _, _, _, _, heq⟩
      · exact absurd hb (hgone e he (EvInv.key_le hE.ei hold))
      · rw [heq]; rfl
    refine ⟨by unfold guardAw; rw [hrel.proc]; exact haw, ?_, ?_, ?_⟩
    · intro g' hq'
      have := hnq g' ((queued_congr hrel.guards g' _).1 hq')
      cases this
    · intro e he hgr hb
      have := hev e he hb
      rcases hgr with ⟨h1, _⟩ | h1 <;> rw [this] at h1 <;> exact absurd h1 (by decide)
    · intro e he hea _ hb
      have := hev e he hb
      rw [hea] at this; exact absurd this (by decide)
  exact ⟨hF.unexempt_clean hc, hc⟩

theorem GInv.finishProc {w : World} (hp : GInv ex fr w) (p : Pid) (val : Int) (stopped : Bool) (hx : ¬ ex p) :
    GInv ex fr (Sim.finishProc w p val stopped) := by
  unfold Sim.finishProc
  have hpre : GInv ex fr (if stopped then Sim.dropResources (Sim.cancelAwaiteds w p) p else Sim.cancelAwaiteds (Sim.dropResources w p) p) ∧
      Clean (if stopped then Sim.dropResources (Sim.cancelAwaiteds w p) p else Sim.cancelAwaiteds (Sim.dropResources w p) p) p := by
    split
    · obtain ⟨h1, hc⟩ := hp.cancelAwaiteds p hx
      exact ⟨h1.dropResources p, hc.ofGrantFoot (GrantFoot.dropResources h1 p)⟩
    · exact (hp.dropResources p).cancelAwaiteds p hx
  obtain ⟨h1, hc⟩ := hpre
  generalize (if stopped then Sim.dropResources (Sim.cancelAwaiteds w p) p else Sim.cancelAwaiteds (Sim.dropResources w p) p) = w1 at h1 hc
  have h2 := h1.wakeWaiters p (if stopped then sigStopped else sigSuccess)
  have hc2 : Clean (Sim.wakeWaiters w1 p (if stopped then sigStopped else sigSuccess)) p := by
    rw [wakeWaiters_eq]
    refine ⟨?_, fun g hq => hc.nq g hq, ?_, ?_⟩
    · unfold guardAw; rw [pushAll_proc, modProc_proc]; split
      · rename_i h; rw [h.1]; exact hc.aw
      · exact hc.aw
    · intro e he hgr hb
      simp only [pushAll_pending, modProc_ev, List.mem_append] at he
      rcases he with he | he
      · obtain ⟨_, _, _, _, x, hx', heq⟩ := wakeEvs_props he
        simp only [procWakes, List.mem_map] at hx'
        obtain ⟨q, _, rfl⟩ := hx'
        rcases hgr with ⟨h, _⟩ | h <;> rw [heq] at h <;> simp [mkEv] at h <;> exact absurd h (by decide)
      · exact hc.ng e he hgr hb
    · intro e he hea hec hb
      simp only [pushAll_pending, modProc_ev, List.mem_append] at he
      rcases he with he | he
      · obtain ⟨_, _, _, _, x, hx', heq⟩ := wakeEvs_props he
        simp only [procWakes, List.mem_map] at hx'
        obtain ⟨q, _, rfl⟩ := hx'
        rw [heq] at hea; simp [mkEv] at hea; exact absurd hea (by decide)
      · exact hc.nt e he hea hec hb
  have h3 := h2.modBlocked p none (Or.inr (Or.inr hc2))
  have h4 := h3.modProc_ctl p (fun x => { x with status := .finished, exitVal := val }) (fun _ => ⟨rfl, rfl⟩)
  rw [modProc_modProc] at h4
  exact h4

end CimbaModel.Sim.S3
