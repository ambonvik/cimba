/-
  S4 — the strong timer invariant: arming, cancelling and clearing timers, `cancel_awaiteds`, the end of a process,
  entering / leaving a guard wait.
-/
import CimbaModel.Sim.S4TimerFrame
import CimbaModel.Sim.S3Hold
import CimbaModel.Sim.S3PF
import CimbaModel.Sim.S3TInv

namespace CimbaModel.Sim.S4
open CimbaModel CimbaModel.Sim CimbaModel.Sim.S3 CimbaModel.Event CimbaModel.Generated CimbaModel.KPQ
open CimbaModel.HashHeap (HTag Item Order HH WF abs liveTags)

variable {fr : Bool} {w : World}

theorem rak_go_subset (k : Await → Bool) (l : List Await) (a : Await) (h : a ∈ (removeAwaitKind.go k l).1) : a ∈ l := by
  induction l with
  | nil => simp [removeAwaitKind.go] at h
  | cons x xs ih =>
    unfold removeAwaitKind.go at h
    by_cases hx : k x = true
    · simp only [hx, if_true] at h; exact List.mem_cons_of_mem _ h
    · simp only [hx, Bool.false_eq_true, if_false] at h
      rcases List.mem_cons.1 h with rfl | h
      · exact List.mem_cons_self
      · exact List.mem_cons_of_mem _ (ih h)

/-- TIME handles are registered at most once: after the removal of TIME(k) none is left -/
theorem removeFirst_time_not_mem {l : List Await} {k : Nat} (hk : k ≠ 0)
    (hnd : ((l.filter isTimeA).filter (· ≠ .time 0)).Nodup) : Await.time k ∉ (removeFirst l (.time k)).1 := by
  intro hh
  have hnd' : (l.filter fun a => decide (a ≠ .time 0) && isTimeA a).Nodup := by
    rwa [List.filter_filter] at hnd
  have hf : (fun a => decide (a ≠ Await.time 0) && isTimeA a) (Await.time k) = true := by simp [isTimeA, hk]
  have := removeFirst_filter_self l (.time k) (fun a => decide (a ≠ Await.time 0) && isTimeA a) hf
  have hin' : Await.time k ∈ ((removeFirst l (.time k)).1).filter
      (fun a => decide (a ≠ Await.time 0) && isTimeA a) := List.mem_filter.2 ⟨hh, hf⟩
  rw [this] at hin'
  exact (removeFirst_nodup _ _ hnd').2 hin'

theorem mem_awaits_lt {w : World} {p : Pid} {a : Await} (h : a ∈ (w.proc p).awaits) : p < w.procs.size :=
  lt_np_of_ne w p fun e => by rw [e] at h; cases h

theorem TX.removeAwait_fst (h : TX fr w) (p : Pid) (a : Await) : TX fr (removeAwait w p a).1 := by
  rw [removeAwait_fst_eq]
  exact h.shrinkAwaits p (fun l => (removeFirst l a).1) (fun l x hx => removeFirst_subset l a x hx)

theorem TX.removeAwaitKind_fst (h : TX fr w) (p : Pid) (k : Await → Bool) : TX fr (removeAwaitKind w p k).1 := by
  rw [removeAwaitKind_fst_eq]
  exact h.shrinkAwaits p (fun l => (removeAwaitKind.go k l).1) (fun l x hx => rak_go_subset k l x hx)

theorem TX.addAwait_time (h : TX fr w) (p : Pid) (k : Nat)
    (hk : ∃ e ∈ w.ev.pending, e.key = k ∧ e.item.a = aTime ∧ e.item.b = p + 1) : TX fr (addAwait w p (.time k)) := by
  have hpr : ∀ q, ((addAwait w p (.time k)).proc q).vars = (w.proc q).vars ∧
      ((addAwait w p (.time k)).proc q).blocked = (w.proc q).blocked ∧
      ∀ a, a ∈ ((addAwait w p (.time k)).proc q).awaits → a ∈ (w.proc q).awaits ∨ (a = .time k ∧ q = p) := by
    intro q; unfold addAwait; rw [modProc_proc]; split
    · rename_i hq; rw [hq.1]
      refine ⟨rfl, rfl, fun a ha => ?_⟩
      rcases List.mem_cons.1 ha with h1 | h1
      · exact Or.inr ⟨h1, rfl⟩
      · exact Or.inl h1
    · exact ⟨rfl, rfl, fun a ha => Or.inl ha⟩
  refine { ei := h.ei, tl := ?_, vi := h.vi.mono (Stb.refl w) (fun q => (hpr q).1) rfl,
           fi := fun hfr => (h.fi hfr).mono (Stb.refl w) (fun q => Or.inl (hpr q).2.1) }
  intro q k' hk'
  rcases (hpr q).2.2 _ hk' with h1 | ⟨h1, h2⟩
  · exact h.tl q k' h1
  · cases h1; subst h2; exact hk

theorem TX.timerAdd_fst (h : TX fr w) (p : Pid) (d sig : Int) (hd : 0 ≤ d) : TX fr (timerAdd w p d sig).1 := by
  rw [timerAdd_eq w p d sig hd]
  have h1 := h.pushEv aTime (p + 1) sig (w.now + d) (w.proc p).prio (by omega)
  exact h1.addAwait_time p _ ⟨_, List.mem_cons_self, rfl, rfl, rfl⟩

theorem timerAdd_handle (hi : EvInv w.ev) (p : Pid) (d sig : Int) (hd : 0 ≤ d) :
    (timerAdd w p d sig).2 ≤ (timerAdd w p d sig).1.ev.counter ∧
    ∀ e ∈ (timerAdd w p d sig).1.ev.pending, e.key = (timerAdd w p d sig).2 → e.item.a = aTime ∧ e.item.b = p + 1 := by
  rw [timerAdd_eq w p d sig hd]
  refine ⟨Nat.le_refl _, ?_⟩
  intro e he hk
  have he' : e ∈ mkEv (w.ev.counter + 1) aTime (p + 1) sig (w.now + d) (w.proc p).prio :: w.ev.pending := he
  rcases List.mem_cons.1 he' with h1 | h1
  · rw [h1]; exact ⟨rfl, rfl⟩
  · have := EvInv.key_le hi h1
    have hk' : e.key = w.ev.counter + 1 := hk
    omega

theorem TX.timerCancel_fst (h : TX fr w) (p : Pid) (k : Nat) (hnd : ((timeAw w p).filter (· ≠ .time 0)).Nodup)
    (hk : ∀ e ∈ w.ev.pending, e.key = k → e.item.a = aTime → e.item.b = p + 1) : TX fr (timerCancel w p k).1 := by
  simp only [Sim.timerCancel]
  refine (h.removeAwait_fst p (.time k)).evCancel_fst k ?_
  intro q hq
  rw [removeAwait_fst_eq, modProc_proc] at hq
  have hold : Await.time k ∈ (w.proc q).awaits := by
    split at hq
    · rename_i hx; rw [hx.1]; exact removeFirst_subset _ _ _ hq
    · exact hq
  obtain ⟨e, he, h1, h2, h3⟩ := h.tl q k hold
  have hqp : q = p := Nat.add_right_cancel (h3.symm.trans (hk e he h1 h2))
  subst hqp
  rw [if_pos ⟨rfl, mem_awaits_lt hold⟩] at hq
  have hk0 : k ≠ 0 := by have := key_pos h.ei he; omega
  exact removeFirst_time_not_mem hk0 hnd hq

theorem TX.timersClear (h : TX fr w) (p : Pid) : TX fr (timersClear w p) := by
  unfold Sim.timersClear
  have h1 : TX fr (w.modProc p fun x => { x with awaits := x.awaits.filter fun a => match a with | .time _ => false | _ => true }) :=
    h.shrinkAwaits p (fun l => l.filter fun a => match a with | .time _ => false | _ => true)
      (fun l a ha => (List.mem_filter.1 ha).1)
  refine h1.cancelFold _ ?_
  intro k hk q hq
  obtain ⟨a, ha, hak⟩ := List.mem_filterMap.1 hk
  have hpk : Await.time k ∈ (w.proc p).awaits := by
    cases a <;> simp at hak
    subst hak; exact ha
  rw [modProc_proc] at hq
  split at hq
  · simp at hq
  · rename_i hn
    have hqp := h.tl.unique h.ei hq hpk
    exact hn ⟨hqp, mem_awaits_lt hpk⟩

theorem TX.cancelAwaiteds (h : TX fr w) (p : Pid) : TX fr (Sim.cancelAwaiteds w p) := by
  refine cancelAwaiteds_induct p (fun rest w1 => TX fr w1 ∧ (∀ k, Await.time k ∉ (w1.proc p).awaits) ∧
    ∀ k, Await.time k ∈ rest → ∀ q, Await.time k ∉ (w1.proc q).awaits) _ w ?_ ?_ fun w1 h1 => h1.1.cancelAllFor p h1.2.1
  · have hp0 : ∀ k, Await.time k ∉ ((w.modProc p fun x => { x with awaits := [] }).proc p).awaits := by
      intro k hk
      rw [modProc_proc] at hk
      split at hk
      · cases hk
      · rename_i hn; exact hn ⟨rfl, mem_awaits_lt hk⟩
    refine ⟨h.shrinkAwaits p (fun _ => []) (fun _ _ ha => by cases ha), hp0, fun k hk q hq => ?_⟩
    by_cases hqp : q = p
    · subst hqp; exact hp0 k hq
    · rw [modProc_proc_ne w _ hqp] at hq
      exact hqp (h.tl.unique h.ei hq hk)
  · intro a rest w1 ⟨hx, hp, hr⟩
    have haw : ∀ q, ((cancelStep p w1 a).proc q).awaits = (w1.proc q).awaits := by
      intro q
      cases a with
      | time k => exact congrArg Proc.awaits ((evCancel_rel w1 k).proc q)
      | guard g => exact ((PF.refl w1).guardWithdraw g p |>.ctl q).1
      | proc r =>
        show ((w1.modProc r fun x => { x with waiters := (removeFirst x.waiters p).1 }).proc q).awaits = _
        rw [modProc_proc]; split
        · rename_i hq; rw [hq.1]
        · rfl
      | event k => rfl
    refine ⟨?_, fun k => by rw [haw]; exact hp k, fun k hk q => by rw [haw]; exact hr k (List.mem_cons_of_mem _ hk) q⟩
    cases a with
    | time k => exact hx.evCancel_fst k (hr k List.mem_cons_self)
    | guard g => exact hx.guardWithdraw g p
    | proc r => exact hx.modProc_ctl r _ fun _ => ⟨rfl, rfl, fun _ => Or.inl rfl⟩
    | event k => exact hx.setEvWaiters _

theorem TX.wakeWaiters (h : TX fr w) (p : Pid) (sig : Int) : TX fr (Sim.wakeWaiters w p sig) :=
  h.lib (Eff.wakeWaiters .refl p sig)

theorem TX.finishProc (h : TX fr w) (p : Pid) (val : Int) (stopped : Bool) : TX fr (Sim.finishProc w p val stopped) := by
  unfold Sim.finishProc
  refine TX.modProc_ctl (TX.wakeWaiters ?_ p _) p _ fun _ => ⟨rfl, rfl, fun _ => Or.inr rfl⟩
  split
  · exact (h.cancelAwaiteds p).dropResources p
  · exact (h.dropResources p).cancelAwaiteds p

theorem TX.guardWaitEnter (h : TX fr w) (g : Nat) (p : Pid) (d : Demand) : TX fr (Sim.guardWaitEnter w g p d) :=
  h.lib (Eff.guardWaitEnter .refl g p d)

theorem TX.guardWaitLeave (h : TX fr w) (g : Nat) (p : Pid) (sig : Int) : TX fr (Sim.guardWaitLeave w g p sig) := by
  unfold Sim.guardWaitLeave
  split
  · exact (h.guardWithdraw g p).removeAwait_fst p _
  · exact h.removeAwait_fst p _

end CimbaModel.Sim.S4
