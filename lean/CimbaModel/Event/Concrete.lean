/-
  The event kernel over the CONCRETE hashheap (what src/cmb_event.c really runs on) simulates the
  event kernel over the abstract keyed priority queue (Event/Model.lean), on which the C01
  theorems are stated.  The simulation relation is: the live tags of the hashheap, back-pointers
  forgotten, are a permutation of the abstract pending list; clock, current event and handle
  counter agree.  The steps are discharged by the refinement theorems of the hashheap (HashHeap/Use.lean).
-/
import CimbaModel.Event.Lemmas
import CimbaModel.HashHeap.Use

namespace CimbaModel.Event
open CimbaModel CimbaModel.KPQ CimbaModel.Generated
open CimbaModel.HashHeap (HTag Item Order HH WF abs)

/-- event queue state as in src/cmb_event.c: the clock, the hashheap, the handle of the current event -/
structure EvC where
  now : Int
  hh : HH
  current : Nat

/-- `cmb_event_schedule` on the concrete queue -/
def scheduleC (c : EvC) (act subj obj : Nat) (t pri : Int) : Except Fault (EvC × Nat) :=
  if t < c.now then .error (.assert 170)
  else do
    let (hh', h) ← HashHeap.enqueue heap_order_check c.hh ⟨act, subj, obj, 0⟩ 0 t pri
    .ok ({ c with hh := hh' }, h)

/-- `cmb_event_execute_next` up to the call of the action -/
def executeNextC (c : EvC) : Except Fault (Option (HTag × EvC)) := do
  let (hh', r) ← HashHeap.dequeue heap_order_check c.hh
  match r with
  | none => .ok none
  | some e => .ok (some (e, { now := e.d, hh := hh', current := e.key }))

/-- `cmb_event_cancel` (without the waiters, which belong to the process layer) -/
def cancelC (c : EvC) (h : Nat) : Except Fault (EvC × Bool) := do
  let b ← HashHeap.isEnqueued c.hh h
  if b then
    let (hh', _) ← HashHeap.remove heap_order_check c.hh h
    .ok ({ c with hh := hh' }, true)
  else .ok (c, false)

structure Sim (c : EvC) (q : EvQ) : Prop where
  wf : WF heap_order_check c.hh
  perm : (abs c.hh).Perm q.pending
  now : c.now = q.now
  current : c.current = q.current
  counter : c.hh.counter = q.counter

theorem pending_key_le {q : EvQ} (hi : EvInv q) {k : Nat} (hk : k ∈ keys q.pending) : 1 ≤ k ∧ k ≤ q.counter := by
  have hm : k ∈ keys q.pending ++ q.executed ++ q.cancelled :=
    List.mem_append_left _ (List.mem_append_left _ hk)
  have := (hi.part.mem_iff).mp hm
  simp [List.mem_range'] at this
  omega

/-- scheduling: the concrete queue issues the same handle and stays in simulation -/
theorem schedule_sim {c : EvC} {q : EvQ} (hs : Sim c q) (hi : EvInv q) (act subj obj : Nat) (t pri : Int)
    (ht : q.now ≤ t) (h64 : q.counter + 1 < 2 ^ 64) (hroom : c.hh.count < 2 ^ c.hh.exp ∨ c.hh.exp < 31) :
    ∃ c' q' h, scheduleC c act subj obj t pri = .ok (c', h) ∧ schedule q act subj obj t pri = .ok (q', h) ∧
      Sim c' q' ∧ h = q.counter + 1 := by
  have hkb : HashHeap.KeysBelowCounter c.hh := fun k hk => by
    rw [hs.counter]; exact (pending_key_le hi ((HashHeap.keys_perm hs.perm k).1 hk)).2
  obtain ⟨hh', hrun, a, -⟩ := HashHeap.enqueue_auto_ok (lt := heap_order_check) hs.wf hkb ⟨act, subj, obj, 0⟩ t pri
    (by rw [hs.counter]; exact h64) hroom
  have hnot : ¬ t < c.now := by rw [hs.now]; omega
  have hnotq : ¬ t < q.now := by omega
  refine ⟨{ c with hh := hh' },
    { q with pending := KPQ.insert q.pending { key := q.counter + 1, item := ⟨act, subj, obj, 0⟩, d := t, i := pri },
             counter := q.counter + 1 },
    c.hh.counter + 1, ?_, ?_, ?_, by rw [hs.counter]⟩
  · simp [scheduleC, hnot, hrun, bind, Except.bind]
  · simp only [schedule, hnotq, if_false]
    rw [hs.counter]
  · refine ⟨a.wf, ?_, hs.now, hs.current, ?_⟩
    · refine a.perm.trans ?_
      simp only [KPQ.insert, KPQ.norm]
      rw [hs.counter]
      exact List.Perm.cons _ hs.perm
    · simp only []
      rw [a.counter, hs.counter]

/-- dispatch: the concrete queue dequeues the same event, sets the same clock and current event -/
theorem executeNext_sim {c : EvC} {q : EvQ} (hs : Sim c q) :
    (c.hh.count = 0 → executeNextC c = .ok none ∧ executeNext q = none) ∧
    (0 < c.hh.count → ∃ e c' q', executeNextC c = .ok (some (e, c')) ∧ executeNext q = some (norm e, q') ∧ Sim c' q') := by
  constructor
  · intro h0
    have hempty : abs c.hh = [] := by
      have := HashHeap.abs_length c.hh
      rw [h0] at this
      exact List.length_eq_zero_iff.mp this
    have hq : q.pending = [] := by
      have := hs.perm; rw [hempty] at this; exact List.Perm.nil_eq this |>.symm
    refine ⟨?_, ?_⟩
    · simp [executeNextC, HashHeap.dequeue, h0, bind, Except.bind]
    · simp [executeNext, hq, minTag]
  · intro hpos
    have hc : c.hh.count ≠ 0 := Nat.ne_of_gt hpos
    obtain ⟨hh', hrun, a⟩ := HashHeap.dequeue_abs (lt := heap_order_check) hs.wf hpos
    have hmin := a.min hs.wf hc
    have hne : q.pending ≠ [] := by
      intro hq
      have := hs.perm; rw [hq] at this
      have h0 : (abs c.hh).length = 0 := by rw [List.Perm.eq_nil this]; rfl
      rw [HashHeap.abs_length] at h0; omega
    cases hm : minTag heap_order_check q.pending with
    | none => exact absurd (minTag_none.mp hm) hne
    | some m =>
      have hspec := minTag_spec hm
      have heq : norm (c.hh.tag 1) = m :=
        HashHeap.isMin_unique hs.wf.keys_nodup hmin (HashHeap.isMin_perm hs.perm.symm hspec)
      refine ⟨c.hh.tag 1, { now := (c.hh.tag 1).d, hh := hh', current := (c.hh.tag 1).key },
        { q with pending := KPQ.remove q.pending m.key, now := m.d, current := m.key, executed := m.key :: q.executed },
        ?_, ?_, ?_⟩
      · simp [executeNextC, hrun, bind, Except.bind]
      · simp only [executeNext, hm, heq]
      · subst heq
        refine ⟨a.wf, ?_, by simp [KPQ.norm], by simp [KPQ.norm], ?_⟩
        · have hnd : (keys q.pending).Nodup :=
            (HashHeap.keys_perm_of_perm hs.perm).nodup_iff.1 hs.wf.keys_nodup
          exact List.Perm.cons_inv ((a.perm.symm.trans hs.perm).trans (HashHeap.perm_cons_remove hnd hspec.1))
        · show hh'.counter = q.counter
          rw [a.counter, hs.counter]

/-- cancelling: same answer, still in simulation -/
theorem cancel_sim {c : EvC} {q : EvQ} (hs : Sim c q) (h : Nat) (h0 : h ≠ 0) :
    ∃ c', cancelC c h = .ok (c', (cancel q h).2) ∧ Sim c' (cancel q h).1 := by
  have hmem : (h ∈ keys (abs c.hh)) ↔ (h ∈ keys q.pending) := HashHeap.keys_perm hs.perm h
  have hq := HashHeap.isEnqueued_spec hs.wf h h0
  by_cases hin : h ∈ keys q.pending
  · obtain ⟨hh', hrun, a⟩ := HashHeap.remove_abs (lt := heap_order_check) hs.wf h h0
    have hdec : decide (h ∈ keys (abs c.hh)) = true := by simpa using hmem.mpr hin
    refine ⟨{ c with hh := hh' }, ?_, ?_⟩
    · simp [cancelC, hq, hdec, hrun, bind, Except.bind, cancel, isScheduled, hin]
    · have hcq : (cancel q h).1.pending = KPQ.remove q.pending h := by simp [cancel, isScheduled, hin]
      refine ⟨a.wf, ?_, by simp [cancel, isScheduled, hin, hs.now], by simp [cancel, isScheduled, hin, hs.current], ?_⟩
      · simp only [hcq]
        exact a.perm.trans (List.Perm.filter _ hs.perm)
      · simp [cancel, isScheduled, hin, a.counter, hs.counter]
  · have hdec : decide (h ∈ keys (abs c.hh)) = false := by simpa using (fun hh => hin (hmem.mp hh))
    refine ⟨c, ?_, ?_⟩
    · simp [cancelC, hq, hdec, bind, Except.bind, cancel, isScheduled, hin]
    · simp only [cancel, isScheduled, hin]
      simp
      exact ⟨hs.wf, hs.perm, hs.now, hs.current, hs.counter⟩

end CimbaModel.Event
