/-
  Invariants of the event kernel model and the lemmas behind the C01 theorems.
-/
import CimbaModel.Event.Model
import CimbaModel.HashHeap.Orders
import CimbaModel.Basic.KeyedPQLemmas

namespace CimbaModel.Event
open CimbaModel CimbaModel.KPQ CimbaModel.Generated CimbaModel.HashHeap.SpecOrders
open CimbaModel.HashHeap (HTag Item Order)

theorem minTag_none {lt : Order} {l : KPQ} : minTag lt l = none ↔ l = [] := by
  cases l with
  | nil => simp [minTag]
  | cons x xs =>
    simp only [minTag]
    cases h : minTag lt xs with
    | none => simp
    | some m => simp; split <;> simp

theorem minTag_spec {lt : Order} [sw : StrictWeak lt] :
    ∀ {l : KPQ} {m : HTag}, minTag lt l = some m → IsMin lt l m := by
  intro l
  induction l with
  | nil => intro m h; simp [minTag] at h
  | cons x xs ih =>
    intro m h
    simp only [minTag] at h
    cases hx : minTag lt xs with
    | none =>
      rw [hx] at h
      have : xs = [] := minTag_none.mp hx
      subst this
      simp at h; subst h
      simp [IsMin, sw.irrefl]
    | some m' =>
      rw [hx] at h
      have ⟨hm', hmin⟩ := ih hx
      by_cases hlt : lt m' x = true
      · simp [hlt] at h; subst h
        refine ⟨List.mem_cons_of_mem _ hm', ?_⟩
        intro y hy
        rcases List.mem_cons.mp hy with rfl | hy
        · exact StrictWeak.asymm (lt := lt) _ _ hlt
        · exact hmin y hy
      · have hlt' : lt m' x = false := by cases h' : lt m' x <;> simp_all
        simp [hlt'] at h; subst h
        refine ⟨List.mem_cons_self, ?_⟩
        intro y hy
        rcases List.mem_cons.mp hy with rfl | hy
        · exact sw.irrefl _
        · exact sw.negTrans y m' _ (hmin y hy) hlt'

theorem mem_keys {q : KPQ} {k : Nat} : k ∈ keys q ↔ ∃ e ∈ q, e.key = k := HashHeap.mem_keys

theorem keys_filter_perm (q : KPQ) (p : HTag → Bool) :
    (keys (q.filter p) ++ keys (q.filter fun e => !p e)).Perm (keys q) := by
  induction q with
  | nil => simp [keys]
  | cons x xs ih =>
    by_cases hp : p x = true
    · simp only [keys, List.filter_cons, hp, if_true, Bool.not_true, List.map_cons, List.cons_append] at ih ⊢
      simpa using List.Perm.cons x.key ih
    · have hp' : p x = false := by cases h : p x <;> simp_all
      simp only [keys, List.filter_cons, hp', Bool.not_false, if_true, List.map_cons] at ih ⊢
      simp only [Bool.false_eq_true, if_false]
      exact (List.perm_middle).trans (List.Perm.cons x.key ih)

theorem keys_remove_perm (q : KPQ) (h : Nat) (hn : (keys q).Nodup) (hm : h ∈ keys q) :
    (h :: keys (remove q h)).Perm (keys q) := by
  obtain ⟨x, hx, rfl⟩ := mem_keys.1 hm
  exact (HashHeap.keys_perm_of_perm (HashHeap.perm_cons_remove hn hx)).symm

/-- exactly-once bookkeeping: every handle issued so far (1..counter) is in exactly one of
    pending / executed / cancelled-or-cleared -/
def Partition (q : EvQ) : Prop :=
  (keys q.pending ++ q.executed ++ q.cancelled).Perm (List.range' 1 q.counter)

structure EvInv (q : EvQ) : Prop where
  part : Partition q
  /-- nothing is scheduled in the past -/
  timeOk : ∀ e ∈ q.pending, q.now ≤ e.d

theorem Partition.nodup {q : EvQ} (h : Partition q) : (keys q.pending ++ q.executed ++ q.cancelled).Nodup :=
  (List.Perm.nodup_iff h).mpr (List.nodup_range' (step := 1) (by decide))

theorem Partition.keysNodup {q : EvQ} (h : Partition q) : (keys q.pending).Nodup := by
  have := h.nodup
  rw [List.append_assoc] at this
  exact (List.nodup_append.mp this).1

theorem init_inv (t0 : Int) : EvInv { now := t0 } := by
  constructor
  · simp [Partition, keys]
  · intro e he; simp at he

theorem schedule_inv {q q' : EvQ} {a s o : Nat} {t p : Int} {h : Nat}
    (hi : EvInv q) (hs : schedule q a s o t p = .ok (q', h)) : EvInv q' ∧ h = q.counter + 1 ∧ q'.now = q.now ∧
      q'.current = q.current := by
  unfold schedule at hs
  split at hs
  · simp at hs
  · rename_i hnot
    simp only [Except.ok.injEq, Prod.mk.injEq] at hs
    obtain ⟨rfl, rfl⟩ := hs
    refine ⟨⟨?_, ?_⟩, rfl, rfl, rfl⟩
    · simp only [Partition, HashHeap.keys_insert]
      have hr : List.range' 1 (q.counter + 1) = List.range' 1 q.counter ++ [q.counter + 1] := by
        rw [List.range'_concat]; simp [Nat.add_comm]
      rw [hr]
      have := hi.part
      simp only [Partition] at this
      simp only [List.cons_append]
      exact (List.Perm.cons _ this).trans (List.perm_append_singleton _ _).symm
    · intro e he
      simp only [KPQ.insert, norm, List.mem_cons] at he
      rcases he with rfl | he
      · simp; omega
      · exact hi.timeOk e he

theorem cancel_inv {q : EvQ} (hi : EvInv q) (h : Nat) : EvInv (cancel q h).1 := by
  unfold cancel
  split
  · rename_i hs
    have hm : h ∈ keys q.pending := by simpa [isScheduled] using hs
    refine ⟨?_, ?_⟩
    · simp only [Partition]
      have hp := keys_remove_perm q.pending h hi.part.keysNodup hm
      have := hi.part
      simp only [Partition] at this
      refine List.Perm.trans ?_ this
      have h1 : (keys (remove q.pending h) ++ q.executed ++ (h :: q.cancelled)).Perm
          (h :: (keys (remove q.pending h) ++ q.executed ++ q.cancelled)) := List.perm_middle
      refine h1.trans ?_
      have h2 : (h :: (keys (remove q.pending h) ++ q.executed ++ q.cancelled)) =
          ((h :: keys (remove q.pending h)) ++ q.executed ++ q.cancelled) := by simp
      rw [h2]
      exact (hp.append_right _).append_right _
    · intro e he
      simp only [remove, List.mem_filter] at he
      exact hi.timeOk e he.1
  · exact hi

theorem map_inv {q : EvQ} (hi : EvInv q) (f : HTag → HTag) (hk : ∀ e, (f e).key = e.key)
    (ht : ∀ e ∈ q.pending, q.now ≤ (f e).d) : EvInv { q with pending := q.pending.map f } := by
  refine ⟨?_, ?_⟩
  · simp only [Partition, HashHeap.keys_map_same _ f hk]; exact hi.part
  · intro e he
    simp only [List.mem_map] at he
    obtain ⟨e0, he0, rfl⟩ := he
    exact ht e0 he0

theorem reschedule_inv {q q' : EvQ} {h : Nat} {t : Int} (hi : EvInv q) (hs : reschedule q h t = .ok q') :
    EvInv q' ∧ q'.now = q.now ∧ q'.current = q.current := by
  unfold reschedule at hs
  split at hs
  · simp at hs
  · split at hs
    · simp at hs
    · simp only [Except.ok.injEq] at hs; subst hs
      refine ⟨map_inv hi _ ?_ ?_, rfl, rfl⟩
      · intro e; split <;> rfl
      · intro e he; split
        · simp; omega
        · exact hi.timeOk e he

theorem reprioritize_inv {q q' : EvQ} {h : Nat} {p : Int} (hi : EvInv q) (hs : reprioritize q h p = .ok q') :
    EvInv q' ∧ q'.now = q.now ∧ q'.current = q.current := by
  unfold reprioritize at hs
  split at hs
  · simp at hs
  · simp only [Except.ok.injEq] at hs; subst hs
    refine ⟨map_inv hi _ ?_ ?_, rfl, rfl⟩
    · intro e; split <;> rfl
    · intro e he; split
      · exact hi.timeOk e he
      · exact hi.timeOk e he

theorem patternCancel_inv {q : EvQ} (hi : EvInv q) (a s o : Nat) : EvInv (patternCancel q a s o).1 := by
  unfold patternCancel
  refine ⟨?_, ?_⟩
  · simp only [Partition]
    have hp := keys_filter_perm q.pending (evMatch · a s o)
    have := hi.part
    simp only [Partition] at this
    refine List.Perm.trans ?_ this
    have e1 : (keys (q.pending.filter fun e => !evMatch e a s o) ++ q.executed ++
        ((q.pending.filter (evMatch · a s o)).map (·.key) ++ q.cancelled)).Perm
        ((keys (q.pending.filter (evMatch · a s o)) ++ keys (q.pending.filter fun e => !evMatch e a s o)) ++
          q.executed ++ q.cancelled) := by
      simp only [keys, List.append_assoc]
      refine List.Perm.trans ?_ (List.perm_append_comm_assoc _ _ _)
      refine List.Perm.append_left _ ?_
      refine List.Perm.trans ?_ (List.perm_append_comm_assoc _ _ _)
      exact List.Perm.refl _
    exact e1.trans ((hp.append_right _).append_right _)
  · intro e he
    simp only [List.mem_filter] at he
    exact hi.timeOk e he.1

theorem clear_inv {q : EvQ} (hi : EvInv q) : EvInv (clear q) := by
  unfold clear
  refine ⟨?_, by intro e he; simp at he⟩
  simp only [Partition, keys, List.map_nil, List.nil_append]
  have := hi.part
  simp only [Partition, keys] at this
  refine List.Perm.trans ?_ this
  simp only [List.append_assoc]
  exact List.perm_append_comm_assoc _ _ _

theorem executeNext_inv {q q' : EvQ} {e : HTag} (hi : EvInv q) (hs : executeNext q = some (e, q')) :
    EvInv q' ∧ e ∈ q.pending ∧ (∀ x ∈ q.pending, heap_order_check x e = false) ∧
      q'.now = e.d ∧ q'.current = e.key ∧ q.now ≤ q'.now ∧ q'.executed = e.key :: q.executed ∧
      q'.pending = remove q.pending e.key := by
  unfold executeNext at hs
  split at hs
  · simp at hs
  · rename_i m hm
    simp only [Option.some.injEq, Prod.mk.injEq] at hs
    obtain ⟨rfl, rfl⟩ := hs
    have ⟨hmem, hmin⟩ := minTag_spec hm
    refine ⟨⟨?_, ?_⟩, hmem, hmin, rfl, rfl, hi.timeOk _ hmem, rfl, rfl⟩
    · simp only [Partition]
      have hk : m.key ∈ keys q.pending := mem_keys.mpr ⟨m, hmem, rfl⟩
      have hp := keys_remove_perm q.pending m.key hi.part.keysNodup hk
      have := hi.part
      simp only [Partition] at this
      refine List.Perm.trans ?_ this
      have h1 : (keys (remove q.pending m.key) ++ (m.key :: q.executed) ++ q.cancelled).Perm
          (m.key :: (keys (remove q.pending m.key) ++ q.executed ++ q.cancelled)) := by
        simp only [List.append_assoc]
        exact List.perm_middle
      refine h1.trans ?_
      have h2 : (m.key :: (keys (remove q.pending m.key) ++ q.executed ++ q.cancelled)) =
          ((m.key :: keys (remove q.pending m.key)) ++ q.executed ++ q.cancelled) := by simp
      rw [h2]
      exact (hp.append_right _).append_right _
    · intro x hx
      simp only [remove, List.mem_filter] at hx
      -- the dequeued event is minimal: nothing pending is earlier than it
      have hx1 := hmin x hx.1
      have : ¬ eventLt x m := by
        intro hc; rw [← CimbaModel.HashHeap.Orders.heap_order_check_iff] at hc; rw [hx1] at hc; exact absurd hc (by simp)
      unfold eventLt at this
      show m.d ≤ x.d
      omega

theorem step_inv {q q' : EvQ} {op : Op} (hi : EvInv q) (hs : step q op = .ok q') : EvInv q' ∧ q.now ≤ q'.now := by
  cases op with
  | sched a s o t p =>
    simp only [step] at hs
    cases h : schedule q a s o t p with
    | error f => rw [h] at hs; simp [Except.map] at hs
    | ok r =>
      rw [h] at hs; simp only [Except.map, Except.ok.injEq] at hs; subst hs
      obtain ⟨q1, hh⟩ := r
      have := schedule_inv hi h
      exact ⟨this.1, by rw [this.2.2.1]; exact Int.le_refl _⟩
  | cancel h =>
    simp only [step, Except.ok.injEq] at hs; subst hs
    refine ⟨cancel_inv hi h, ?_⟩
    unfold cancel; split <;> exact Int.le_refl _
  | resched h t =>
    simp only [step] at hs
    have := reschedule_inv hi hs
    exact ⟨this.1, by rw [this.2.1]; exact Int.le_refl _⟩
  | reprio h p =>
    simp only [step] at hs
    have := reprioritize_inv hi hs
    exact ⟨this.1, by rw [this.2.1]; exact Int.le_refl _⟩
  | pcancel a s o =>
    simp only [step, Except.ok.injEq] at hs; subst hs
    exact ⟨patternCancel_inv hi a s o, Int.le_refl _⟩
  | clear =>
    simp only [step, Except.ok.injEq] at hs; subst hs
    exact ⟨clear_inv hi, Int.le_refl _⟩
  | next =>
    simp only [step] at hs
    cases h : executeNext q with
    | none => rw [h] at hs; simp only [Except.ok.injEq] at hs; subst hs; exact ⟨hi, Int.le_refl _⟩
    | some r =>
      obtain ⟨e, q1⟩ := r
      rw [h] at hs; simp only [Except.ok.injEq] at hs; subst hs
      have := executeNext_inv hi h
      exact ⟨this.1, this.2.2.2.2.2.1⟩

theorem run_inv : ∀ (ops : List Op) {q q' : EvQ}, EvInv q → run q ops = .ok q' → EvInv q' ∧ q.now ≤ q'.now := by
  intro ops
  induction ops with
  | nil => intro q q' hi hr; simp only [run, Except.ok.injEq] at hr; subst hr; exact ⟨hi, Int.le_refl _⟩
  | cons op ops ih =>
    intro q q' hi hr
    simp only [run] at hr
    cases hs : step q op with
    | error f => rw [hs] at hr; simp [bind, Except.bind] at hr
    | ok q1 =>
      rw [hs] at hr; simp only [bind, Except.bind] at hr
      have h1 := step_inv hi hs
      have h2 := ih h1.1 hr
      exact ⟨h2.1, Int.le_trans h1.2 h2.2⟩

end CimbaModel.Event
