/-
  Refinement proof of the hashheap: the sift loops `heapUp` / `heapDown`.
  During a sift the entry being moved lives in the working copy `heap[count+1]` and the heap has
  a hole at `k`.  The *virtual* state (`vT`, `vS`) is the state with the working copy written
  back into the hole; every loop iteration is a swap on the virtual state.
-/
import CimbaModel.HashHeap.RefineOrd
import CimbaModel.HashHeap.RefineStruct

set_option linter.unusedSimpArgs false

namespace CimbaModel.HashHeap
open CimbaModel CimbaModel.KPQ

def vT (Th : Nat → HTag) (c k : Nat) : Nat → HTag := upd Th k (Th (c + 1))
def vS (Th : Nat → HTag) (Sh : Nat → HSlot) (c k : Nat) : Nat → HSlot :=
  upd Sh (Th (c + 1)).hidx { Sh (Th (c + 1)).hidx with idx := k }

theorem virt_step {Th : Nat → HTag} {Sh : Nat → HSlot} {c k l e : Nat}
    (w : WFS (vT Th c k) (vS Th Sh c k) (InR c) e) (hk : InR c k) (hl : InR c l) (hlk : l ≠ k) :
    (Th l).hidx < 2 ^ (e + 1) ∧
    WFS (vT (upd Th k (Th l)) c l)
        (vS (upd Th k (Th l)) (upd Sh (Th l).hidx { Sh (Th l).hidx with idx := k }) c l) (InR c) e ∧
    (∀ i, vT (upd Th k (Th l)) c l i = swapT (vT Th c k) k l i) := by
  have hck : c + 1 ≠ k := by have := hk.2; omega
  have hcl : c + 1 ≠ l := by have := hl.2; omega
  have ek : vT Th c k k = Th (c + 1) := by simp [vT]
  have el : vT Th c k l = Th l := by simp [vT, hlk]
  have bk := w.back k hk
  have bl := w.back l hl
  rw [ek] at bk; rw [el] at bl
  have hne : (Th l).hidx ≠ (Th (c + 1)).hidx := by
    intro h
    have := w.hidx_inj hl hk (by rw [ek, el]; exact h)
    exact hlk this
  have sk : (Sh (Th (c + 1)).hidx).key = (Th (c + 1)).key := by
    have := congrArg HSlot.key bk.2; simpa [vS] using this
  have sl' : Sh (Th l).hidx = ⟨(Th l).key, l⟩ := by
    have := bl.2; simpa [vS, hne] using this
  have hT : ∀ i, vT (upd Th k (Th l)) c l i = swapT (vT Th c k) k l i := by
    intro i
    simp only [vT, swapT_apply, upd_apply, hck, if_false]
    by_cases h1 : i = l
    · simp [h1]
    · by_cases h2 : i = k
      · simp [h2, hlk]
      · simp [h1, h2]
  refine ⟨bl.1, ?_, hT⟩
  have sw := w.swap hk hl (Ne.symm hlk)
  rw [ek, el] at sw
  apply sw.congr (fun _ => Iff.rfl)
  · intro i _; rw [hT i]; unfold swapT; rw [ek, el]; exact ⟨rfl, rfl⟩
  · intro j _
    simp only [vS, upd_apply, hck, if_false]
    by_cases h1 : j = (Th (c + 1)).hidx
    · subst h1
      simp [Ne.symm hne, sk]
    · by_cases h2 : j = (Th l).hidx
      · subst h2; simp [h1, sl']
      · simp [h1, h2]

variable {lt : Order} [sw : StrictWeak lt]

theorem heapUpLoop_spec (c e : Nat) (hce : c ≤ 2 ^ e) :
    ∀ k (heap : Array HTag) (hash : Array HSlot),
      heap.size = 2 ^ e + 2 → hash.size = 2 ^ (e + 1) → InR c k →
      WFS (vT (tg heap) c k) (vS (tg heap) (sl hash) c k) (InR c) e →
      UpOrd lt (vT (tg heap) c k) c k →
      ∃ heap' hash' k', heapUpLoop lt (c + 1) heap hash k = .ok (heap', hash', k') ∧
        heap'.size = 2 ^ e + 2 ∧ hash'.size = 2 ^ (e + 1) ∧ InR c k' ∧
        WFS (vT (tg heap') c k') (vS (tg heap') (sl hash') c k') (InR c) e ∧
        Ord lt (vT (tg heap') c k') c ∧
        (∀ x, Live (vT (tg heap') c k') c x ↔ Live (vT (tg heap) c k) c x) := by
  intro k
  induction k using Nat.strongRecOn with
  | _ k ih =>
    intro heap hash hsz hhs hk w ho
    have hk1 := hk.1; have hk2 := hk.2
    have ek : vT (tg heap) c k k = tg heap (c + 1) := by simp [vT]
    rw [heapUpLoop]
    by_cases h : 0 < k / 2
    · have hl : InR c (k / 2) := ⟨h, by omega⟩
      have hlk : k / 2 ≠ k := by omega
      have el : vT (tg heap) c k (k / 2) = tg heap (k / 2) := by simp [vT, hlk]
      rw [dif_pos h]
      dsimp only
      rw [rdHeap_ok (by omega), rdHeap_ok (by omega)]
      simp only [ok_bind]
      by_cases hlt : lt (tg heap (c + 1)) (tg heap (k / 2)) = true
      · rw [if_pos hlt]
        obtain ⟨hp, w', hT⟩ := virt_step w hk hl hlk
        rw [wrHeap_ok (by omega), ok_bind, setIdx_ok (by omega), ok_bind]
        have ho' : UpOrd lt (swapT (vT (tg heap) c k) k (k / 2)) c (k / 2) :=
          ho.step (by omega) hk2 (by rw [ek, el]; exact hlt)
        obtain ⟨heap', hash', k', hrun, h1, h2, h3, h4, h5, h6⟩ :=
          ih (k / 2) (by omega) (heap.set k (tg heap (k / 2)) (by omega))
            (hash.set (tg heap (k / 2)).hidx { sl hash (tg heap (k / 2)).hidx with idx := k } (by omega))
            (by simp [hsz]) (by simp [hhs]) hl
            (by rw [tg_set, sl_set]; exact w')
            (by rw [tg_set]; exact ho'.congr (fun i _ _ => hT i))
        refine ⟨heap', hash', k', hrun, h1, h2, h3, h4, h5, ?_⟩
        intro x
        rw [h6 x, tg_set, Live.congr (fun i _ _ => hT i) x]
        exact Live.swap hk hl x
      · rw [if_neg hlt]
        refine ⟨heap, hash, k, rfl, hsz, hhs, hk, w, ?_, fun _ => Iff.rfl⟩
        apply ho.done
        intro _
        rw [ek, el]
        simpa using hlt
    · rw [dif_neg h]
      refine ⟨heap, hash, k, rfl, hsz, hhs, hk, w, ?_, fun _ => Iff.rfl⟩
      apply ho.done
      intro h2; omega

theorem heapDownLoop_spec (c e : Nat) (hce : c ≤ 2 ^ e) :
    ∀ n k (heap : Array HTag) (hash : Array HSlot), c - k = n →
      heap.size = 2 ^ e + 2 → hash.size = 2 ^ (e + 1) → InR c k →
      WFS (vT (tg heap) c k) (vS (tg heap) (sl hash) c k) (InR c) e →
      DownOrd lt (vT (tg heap) c k) c k →
      ∃ heap' hash' k', heapDownLoop lt c (c + 1) heap hash k = .ok (heap', hash', k') ∧
        heap'.size = 2 ^ e + 2 ∧ hash'.size = 2 ^ (e + 1) ∧ InR c k' ∧
        WFS (vT (tg heap') c k') (vS (tg heap') (sl hash') c k') (InR c) e ∧
        Ord lt (vT (tg heap') c k') c ∧
        (∀ x, Live (vT (tg heap') c k') c x ↔ Live (vT (tg heap) c k) c x) := by
  intro n
  induction n using Nat.strongRecOn with
  | _ n ih =>
    intro k heap hash hn hsz hhs hk w ho
    have hk1 := hk.1; have hk2 := hk.2
    have ek : vT (tg heap) c k k = tg heap (c + 1) := by simp [vT]
    have eo : ∀ o, o ≠ k → vT (tg heap) c k o = tg heap o := fun o ho => by simp [vT, ho]
    rw [heapDownLoop]
    by_cases h : 0 < k ∧ k ≤ c / 2
    · rw [dif_pos h]
      dsimp only
      -- one iteration with the chosen child `l`
      have key : ∀ l, l / 2 = k → 2 ≤ l → l ≤ c →
          (∀ o, 2 ≤ o → o ≤ c → o / 2 = k → lt (tg heap o) (tg heap l) = false) →
          ∃ heap' hash' k',
            (do let w ← rdHeap heap (c + 1)
                let cc ← rdHeap heap l
                if lt w cc = true then Except.ok (heap, hash, k)
                else do
                  let heap ← wrHeap heap k cc
                  let hash ← setIdx hash cc.hidx k
                  heapDownLoop lt c (c + 1) heap hash l) = .ok (heap', hash', k') ∧
            heap'.size = 2 ^ e + 2 ∧ hash'.size = 2 ^ (e + 1) ∧ InR c k' ∧
            WFS (vT (tg heap') c k') (vS (tg heap') (sl hash') c k') (InR c) e ∧
            Ord lt (vT (tg heap') c k') c ∧
            (∀ x, Live (vT (tg heap') c k') c x ↔ Live (vT (tg heap) c k) c x) := by
        intro l hlk2 hl2 hlc hmin
        have hl : InR c l := ⟨by omega, hlc⟩
        have hlk : l ≠ k := by omega
        have hmin' : ∀ o, 2 ≤ o → o ≤ c → o / 2 = k →
            lt (vT (tg heap) c k o) (vT (tg heap) c k l) = false := by
          intro o h2 hc hok
          rw [eo o (by omega), eo l hlk]; exact hmin o h2 hc hok
        rw [rdHeap_ok (by omega), rdHeap_ok (by omega)]
        simp only [ok_bind]
        by_cases hlt : lt (tg heap (c + 1)) (tg heap l) = true
        · rw [if_pos hlt]
          refine ⟨heap, hash, k, rfl, hsz, hhs, hk, w, ?_, fun _ => Iff.rfl⟩
          exact ho.done_le hmin' (by rw [ek, eo l hlk]; exact hlt)
        · rw [if_neg hlt]
          obtain ⟨hp, w', hT⟩ := virt_step w hk hl hlk
          rw [wrHeap_ok (by omega), ok_bind, setIdx_ok (by omega), ok_bind]
          have ho' : DownOrd lt (swapT (vT (tg heap) c k) k l) c l :=
            ho.step hk1 hlk2 hl2 hlc hmin' (by rw [ek, eo l hlk]; simpa using hlt)
          obtain ⟨heap', hash', k', hrun, h1, h2, h3, h4, h5, h6⟩ :=
            ih (c - l) (by omega) l (heap.set k (tg heap l) (by omega))
              (hash.set (tg heap l).hidx { sl hash (tg heap l).hidx with idx := k } (by omega)) rfl
              (by simp [hsz]) (by simp [hhs]) hl
              (by rw [tg_set, sl_set]; exact w')
              (by rw [tg_set]; exact ho'.congr (fun i _ _ => hT i))
          refine ⟨heap', hash', k', hrun, h1, h2, h3, h4, h5, ?_⟩
          intro x
          rw [h6 x, tg_set, Live.congr (fun i _ _ => hT i) x]
          exact Live.swap hk hl x
      rw [rdHeap_ok (by omega)]
      simp only [ok_bind]
      by_cases hr : 2 * k + 1 ≤ c
      · rw [if_pos hr, rdHeap_ok (by omega)]
        simp only [ok_bind, pure_bind']
        by_cases hrl : lt (tg heap (2 * k + 1)) (tg heap (2 * k)) = true
        · simp only [hrl, if_true]
          apply key (2 * k + 1) (by omega) (by omega) hr
          intro o h2 hc hok
          have : o = 2 * k ∨ o = 2 * k + 1 := by omega
          rcases this with rfl | rfl
          · exact StrictWeak.asymm _ _ hrl
          · exact sw.irrefl _
        · simp only [hrl]
          apply key (2 * k) (by omega) (by omega) (by omega)
          intro o h2 hc hok
          have : o = 2 * k ∨ o = 2 * k + 1 := by omega
          rcases this with rfl | rfl
          · exact sw.irrefl _
          · simpa using hrl
      · rw [if_neg hr]
        simp only [pure_bind']
        apply key (2 * k) (by omega) (by omega) (by omega)
        intro o h2 hc hok
        have : o = 2 * k := by omega
        subst this
        exact sw.irrefl _
    · rw [dif_neg h]
      refine ⟨heap, hash, k, rfl, hsz, hhs, hk, w, ?_, fun _ => Iff.rfl⟩
      apply ho.done_leaf
      omega

/-- what a sift establishes: same bookkeeping fields, structure kept, heap order restored, same tags -/
structure SiftPost (lt : Order) (s s' : HH) : Prop where
  count : s'.count = s.count
  exp : s'.exp = s.exp
  expInit : s'.expInit = s.expInit
  counter : s'.counter = s.counter
  heapSize : s'.heap.size = 2 ^ s.exp + 2
  hashSize : s'.hash.size = 2 ^ (s.exp + 1)
  wfs : WFS s'.tag s'.slot (InR s.count) s.exp
  ord : Ord lt s'.tag s.count
  live : ∀ x, Live s'.tag s.count x ↔ Live s.tag s.count x

/-- the virtual state right after the working copy has been made is the state itself -/
theorem virt_init (s : HH) (k : Nat) (hsz : s.heap.size = 2 ^ s.exp + 2) (hc : s.count ≤ 2 ^ s.exp)
    (hk : InR s.count k) (w : WFS s.tag s.slot (InR s.count) s.exp) :
    (∀ i, 1 ≤ i → i ≤ s.count →
      vT (tg (s.heap.set (s.count + 1) (tg s.heap k) (by omega))) s.count k i = s.tag i) ∧
    WFS (vT (tg (s.heap.set (s.count + 1) (tg s.heap k) (by omega))) s.count k)
        (vS (tg (s.heap.set (s.count + 1) (tg s.heap k) (by omega))) (sl s.hash) s.count k) (InR s.count) s.exp := by
  have hT : ∀ i, 1 ≤ i → i ≤ s.count →
      vT (tg (s.heap.set (s.count + 1) (tg s.heap k) (by omega))) s.count k i = s.tag i := by
    intro i h1 h2
    rw [tg_set]
    simp only [vT, upd_apply, if_true]
    by_cases hik : i = k
    · subst hik; simp [HH.tag_eq]
    · have : i ≠ s.count + 1 := by omega
      simp [hik, this, HH.tag_eq]
  refine ⟨hT, ?_⟩
  apply w.congr (fun _ => Iff.rfl)
  · intro i hi; rw [hT i hi.1 hi.2]; exact ⟨rfl, rfl⟩
  · intro j _
    rw [tg_set]
    simp only [vS, upd_apply, if_true]
    have b := (w.back k hk).2
    rw [HH.tag_eq, HH.slot_eq] at b
    split
    · subst_vars; rw [b]; exact (HH.slot_eq s ▸ b).symm
    · rfl

theorem heapUp_spec (s : HH) (k : Nat) (hsz : s.heap.size = 2 ^ s.exp + 2)
    (hhs : s.hash.size = 2 ^ (s.exp + 1)) (hc : s.count ≤ 2 ^ s.exp) (hk : InR s.count k)
    (w : WFS s.tag s.slot (InR s.count) s.exp) (ho : UpOrd lt s.tag s.count k) :
    ∃ s', heapUp lt s k = .ok s' ∧ SiftPost lt s s' := by
  have hk1 := hk.1; have hk2 := hk.2
  obtain ⟨hT, w0⟩ := virt_init s k hsz hc hk w
  obtain ⟨heap', hash', k', hrun, h1, h2, h3, h4, h5, h6⟩ :=
    heapUpLoop_spec (lt := lt) s.count s.exp hc k _ s.hash (by simp [hsz]) hhs hk w0 (ho.congr hT)
  have bk := (h4.back k' h3).1
  have ek : vT (tg heap') s.count k' k' = tg heap' (s.count + 1) := by simp [vT]
  rw [ek] at bk
  unfold heapUp
  dsimp only
  rw [rdHeap_ok (by omega), ok_bind, wrHeap_ok (by omega), ok_bind, hrun, ok_bind]
  dsimp only
  rw [rdHeap_ok (by omega), ok_bind, wrHeap_ok (by have := h3.2; omega), ok_bind,
    setIdx_ok (by omega), ok_bind]
  refine ⟨_, rfl, rfl, rfl, rfl, rfl, by simp [h1], by simp [h2], ?_, ?_, ?_⟩
  · show WFS (tg _) (sl _) _ _
    rw [tg_set, sl_set]; exact h4
  · show Ord lt (tg _) _
    rw [tg_set]; exact h5
  · intro x
    show Live (tg _) _ x ↔ _
    rw [tg_set]
    exact (h6 x).trans (Live.congr hT x)

theorem heapDown_spec (s : HH) (k : Nat) (hsz : s.heap.size = 2 ^ s.exp + 2)
    (hhs : s.hash.size = 2 ^ (s.exp + 1)) (hc : s.count ≤ 2 ^ s.exp) (hk : InR s.count k)
    (w : WFS s.tag s.slot (InR s.count) s.exp) (ho : DownOrd lt s.tag s.count k) :
    ∃ s', heapDown lt s k = .ok s' ∧ SiftPost lt s s' := by
  have hk1 := hk.1; have hk2 := hk.2
  obtain ⟨hT, w0⟩ := virt_init s k hsz hc hk w
  obtain ⟨heap', hash', k', hrun, h1, h2, h3, h4, h5, h6⟩ :=
    heapDownLoop_spec (lt := lt) s.count s.exp hc _ k _ s.hash rfl (by simp [hsz]) hhs hk w0 (ho.congr hT)
  have bk := (h4.back k' h3).1
  have ek : vT (tg heap') s.count k' k' = tg heap' (s.count + 1) := by simp [vT]
  rw [ek] at bk
  unfold heapDown
  dsimp only
  rw [rdHeap_ok (by omega), ok_bind, wrHeap_ok (by omega), ok_bind, hrun, ok_bind]
  dsimp only
  rw [rdHeap_ok (by omega), ok_bind, wrHeap_ok (by have := h3.2; omega), ok_bind,
    setIdx_ok (by omega), ok_bind]
  refine ⟨_, rfl, rfl, rfl, rfl, rfl, by simp [h1], by simp [h2], ?_, ?_, ?_⟩
  · show WFS (tg _) (sl _) _ _
    rw [tg_set, sl_set]; exact h4
  · show Ord lt (tg _) _
    rw [tg_set]; exact h5
  · intro x
    show Live (tg _) _ x ↔ _
    rw [tg_set]
    exact (h6 x).trans (Live.congr hT x)

end CimbaModel.HashHeap
