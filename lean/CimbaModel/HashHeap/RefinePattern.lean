/-
  Refinement proof of the hashheap: initialisation, clear, reset, and the wildcard pattern
  operations (find / count / cancel).
-/
import CimbaModel.HashHeap.RefineAbs

set_option linter.unusedSimpArgs false

namespace CimbaModel.HashHeap
open CimbaModel CimbaModel.KPQ

variable {lt : Order}

theorem WF_empty (s : HH) (he1 : 1 ≤ s.exp) (he31 : s.exp ≤ 31) (hei1 : 1 ≤ s.expInit) (hei2 : s.expInit ≤ s.exp)
    (hsz : s.heap.size = 2 ^ s.exp + 2) (hhs : s.hash.size = 2 ^ (s.exp + 1)) (hc : s.count = 0)
    (hz : ∀ j, s.slot j = {}) : WF lt s := by
  rw [WF_iff]
  refine ⟨he1, he31, hei1, hei2, hsz, hhs, by omega, ?_, ?_⟩
  · rw [hc]
    refine ⟨fun i hi => by have := hi.1; have := hi.2; omega, fun i hi => by have := hi.1; have := hi.2; omega,
      fun i hi => by have := hi.1; have := hi.2; omega, ?_, ?_, ?_⟩
    · intro j _ hne; rw [hz] at hne; exact absurd rfl hne
    · intro j _ _; rw [hz]
    · intro j _ hne; rw [hz] at hne; exact absurd rfl hne
  · intro i h2 hc'; omega

theorem abs_empty (s : HH) (hc : s.count = 0) : abs s = [] := by
  unfold abs liveTags; rw [hc]; rfl

theorem init_spec (e : Nat) (he1 : 1 ≤ e) (he31 : e ≤ 31) :
    ∃ s, init e = .ok s ∧ WF lt s ∧ abs s = [] ∧ s.counter = 0 ∧ s.exp = e ∧ s.expInit = e := by
  unfold init
  rw [if_neg (by omega)]
  refine ⟨_, rfl, ?_, abs_empty _ rfl, rfl, rfl, rfl⟩
  exact WF_empty _ he1 he31 he1 (Nat.le_refl _) (by simp) (by simp) rfl (fun j => sl_replicate _ j)

theorem clear_spec {s : HH} (h : WF lt s) :
    WF lt (clear s) ∧ abs (clear s) = [] ∧ (clear s).counter = s.counter ∧ (clear s).exp = s.exp ∧
      (clear s).expInit = s.expInit := by
  refine ⟨?_, abs_empty _ rfl, rfl, rfl, rfl⟩
  exact WF_empty _ h.expPos h.expLe h.expInitPos h.expInitLe (by simp [clear, h.heapSize])
    (by simp [clear, h.hashSize]) rfl (fun j => sl_replicate _ j)

theorem reset_spec {s : HH} (h : WF lt s) :
    ∃ s', reset s = .ok s' ∧ WF lt s' ∧ abs s' = [] ∧ s'.counter = s.counter ∧ s'.exp = s.expInit ∧
      s'.expInit = s.expInit := by
  have hle : s.expInit ≤ 31 := by have := h.expInitLe; have := h.expLe; omega
  unfold reset init
  rw [if_neg (by have := h.expInitPos; omega)]
  refine ⟨_, rfl, ?_, abs_empty _ rfl, rfl, rfl, rfl⟩
  exact WF_empty _ h.expInitPos hle h.expInitPos (Nat.le_refl _) (by simp) (by simp) rfl
    (fun j => sl_replicate _ j)

theorem itemMatch_norm (t : HTag) (p : Item) : itemMatch (norm t) p = itemMatch t p := rfl

theorem matching_abs (s : HH) (p : Item) :
    matching (abs s) p = ((liveTags s).filter (itemMatch · p)).map norm := by
  unfold matching abs
  rw [List.filter_map]
  rfl

theorem patternCount_spec (s : HH) (p : Item) : patternCount s p = (matching (abs s) p).length := by
  rw [matching_abs, List.length_map]; rfl

theorem patternFind_spec {s : HH} (h : WF lt s) (p : Item) :
    (patternFind s p = 0 ↔ matching (abs s) p = []) ∧
    (patternFind s p ≠ 0 → ∃ t, t ∈ matching (abs s) p ∧ t.key = patternFind s p) := by
  unfold patternFind
  cases hf : (liveTags s).find? (itemMatch · p) with
  | none =>
    have hnone := List.find?_eq_none.1 hf
    refine ⟨⟨fun _ => ?_, fun _ => rfl⟩, fun hne => absurd rfl hne⟩
    rw [matching_abs, List.map_eq_nil_iff, List.filter_eq_nil_iff]
    exact hnone
  | some t =>
    have hm := List.mem_of_find?_eq_some hf
    have hp := List.find?_some hf
    obtain ⟨i, h1, h2, rfl⟩ := (mem_liveTags s t).1 hm
    have hk := (h.keyOk i h1 h2).1
    have hmem : norm (s.tag i) ∈ matching (abs s) p := by
      rw [matching_abs]
      exact List.mem_map.2 ⟨s.tag i, List.mem_filter.2 ⟨hm, hp⟩, rfl⟩
    refine ⟨⟨fun h0 => absurd h0 hk, fun hnil => ?_⟩, fun _ => ⟨norm (s.tag i), hmem, rfl⟩⟩
    rw [hnil] at hmem
    exact absurd hmem (List.not_mem_nil)

theorem removeAll_abs [StrictWeak lt] : ∀ (ks : List Nat) {s : HH}, WF lt s → (∀ k, k ∈ ks → k ≠ 0) →
    ∃ s', removeAll lt s ks = .ok s' ∧ WF lt s' ∧
      (abs s').Perm ((abs s).filter (fun t => decide (t.key ∉ ks))) ∧
      s'.exp = s.exp ∧ s'.expInit = s.expInit ∧ s'.counter = s.counter := by
  intro ks
  induction ks with
  | nil =>
    intro s h _
    refine ⟨s, rfl, h, ?_, rfl, rfl, rfl⟩
    rw [List.filter_eq_self.2 (by intro a _; simp)]
  | cons k ks ih =>
    intro s h hk0
    obtain ⟨s1, hrun1, a⟩ := remove_abs h k (hk0 k (List.mem_cons_self))
    obtain ⟨s', hrun, hwf', hperm, he, hei, hct⟩ := ih a.wf (fun k' hk' => hk0 k' (List.mem_cons_of_mem _ hk'))
    refine ⟨s', ?_, hwf', ?_, by rw [he, a.exp], by rw [hei, a.expInit], by rw [hct, a.counter]⟩
    · rw [removeAll, hrun1, ok_bind]; exact hrun
    · refine hperm.trans ?_
      refine (a.perm.filter _).trans ?_
      unfold KPQ.remove
      rw [List.filter_filter]
      apply List.Perm.of_eq
      apply List.filter_congr
      intro x _
      simp only [List.mem_cons, not_or]
      by_cases h1 : x.key = k <;> by_cases h2 : x.key ∈ ks <;> simp [h1, h2]

theorem patternCancel_abs [StrictWeak lt] {s : HH} (h : WF lt s) (p : Item) :
    ∃ s', patternCancel lt s p = .ok (s', (matching (abs s) p).length) ∧ WF lt s' ∧
      (abs s').Perm (removeMatching (abs s) p) ∧
      s'.exp = s.exp ∧ s'.expInit = s.expInit ∧ s'.counter = s.counter := by
  have hk0 : ∀ k, k ∈ ((liveTags s).filter (itemMatch · p)).map (·.key) → k ≠ 0 := by
    intro k hk
    obtain ⟨t, ht, rfl⟩ := List.mem_map.1 hk
    obtain ⟨i, h1, h2, rfl⟩ := (mem_liveTags s t).1 (List.mem_filter.1 ht).1
    exact (h.keyOk i h1 h2).1
  obtain ⟨s', hrun, hwf', hperm, he, hei, hct⟩ := removeAll_abs (lt := lt) _ h hk0
  refine ⟨s', ?_, hwf', ?_, he, hei, hct⟩
  · unfold patternCancel
    dsimp only
    rw [hrun, ok_bind, matching_abs, List.length_map, List.length_map]
  · refine hperm.trans (List.Perm.of_eq ?_)
    unfold removeMatching
    apply List.filter_congr
    intro x hx
    obtain ⟨j, hj, rfl⟩ := (mem_abs s x).1 hx
    rw [itemMatch_norm]
    by_cases hm : itemMatch (s.tag j) p = true
    · have : (norm (s.tag j)).key ∈ ((liveTags s).filter (itemMatch · p)).map (·.key) :=
        List.mem_map.2 ⟨s.tag j, List.mem_filter.2 ⟨(mem_liveTags s _).2 ⟨j, hj.1, hj.2, rfl⟩, hm⟩, rfl⟩
      simp [this, hm]
    · have : (norm (s.tag j)).key ∉ ((liveTags s).filter (itemMatch · p)).map (·.key) := by
        intro hin
        obtain ⟨t, ht, hke⟩ := List.mem_map.1 hin
        obtain ⟨ht1, ht2⟩ := List.mem_filter.1 ht
        obtain ⟨i, h1, h2, rfl⟩ := (mem_liveTags s t).1 ht1
        have := h.key_inj ⟨h1, h2⟩ hj hke
        subst this
        exact hm ht2
      simp [this, hm]

end CimbaModel.HashHeap
