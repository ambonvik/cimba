/-
  The waiting-list ordering function `guard_queue_check` (src/cmb_resourceguard.c), regenerated from
  the C source, is the documented order: priority descending, then entry time ascending, then key.
  In a file of its own so that a mismatch here stops only what rests on the waiting lists.
-/
import CimbaModel.HashHeap.Orders

namespace CimbaModel.HashHeap.Orders
open CimbaModel CimbaModel.HashHeap CimbaModel.Generated CimbaModel.HashHeap.SpecOrders

theorem guard_queue_check_iff (a b : HTag) : guard_queue_check a b = true ↔ guardLt a b := by
  unfold guard_queue_check guardLt
  repeat' split
  all_goals simp_all
  all_goals omega

instance : TotalOnKeys guard_queue_check where
  irrefl a := by rw [bfalse_of_iff guard_queue_check_iff]; unfold guardLt; omega
  trans a b c := by simp only [guard_queue_check_iff]; unfold guardLt; omega
  negTrans a b c := by simp only [bfalse_of_iff guard_queue_check_iff]; unfold guardLt; omega
  total a b := by simp only [guard_queue_check_iff]; unfold guardLt; omega

instance : IgnoresHidx guard_queue_check := ignoresHidx_of_iff guard_queue_check_iff (fun _ _ _ _ => Iff.rfl)

end CimbaModel.HashHeap.Orders
