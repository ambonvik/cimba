/-
  Refinement proof of the hashheap: arbitrary operation sequences.  `run` executes a list
  of operations on the concrete model; `PreAll` states the documented precondition of each operation
  at the state it is applied to.  (That every state reached is well-formed and no operation faults, across any
  number of capacity doublings, is `run_WF` in RefineTrace.lean.)
-/
import CimbaModel.HashHeap.Inv

namespace CimbaModel.HashHeap
open CimbaModel CimbaModel.KPQ

/-- the public operations of the hashheap -/
inductive Op where
  | enqueue (it : Item) (k : Nat) (d i : Int)
  | dequeue
  | remove (k : Nat)
  | reprio (k : Nat) (d i : Int)
  | cancel (p : Item)
  | clear
  | reset
  | lookup (k : Nat)
  | isEnqueued (k : Nat)
  | peek
  | find (p : Item)
  | count (p : Item)

/-- one operation on the concrete model (results dropped; a fault of the operation is a fault of the step) -/
def step (lt : Order) (s : HH) : Op → Except Fault HH
  | .enqueue it k d i => do let (s', _) ← enqueue lt s it k d i; pure s'
  | .dequeue => do let (s', _) ← dequeue lt s; pure s'
  | .remove k => do let (s', _) ← remove lt s k; pure s'
  | .reprio k d i => reprioritize lt s k d i
  | .cancel p => do let (s', _) ← patternCancel lt s p; pure s'
  | .clear => pure (clear s)
  | .reset => reset s
  | .lookup k => do let _ ← lookup s k; pure s
  | .isEnqueued k => do let _ ← isEnqueued s k; pure s
  | .peek => do let _ ← peek s; pure s
  | .find _ => pure s
  | .count _ => pure s

/-- the documented precondition of an operation, in terms of the abstract queue -/
def OpPre (s : HH) : Op → Prop
  | .enqueue _ k _ _ =>
      (if k = 0 then s.counter + 1 else k) ≠ 0 ∧ (if k = 0 then s.counter + 1 else k) < 2 ^ 64 ∧
      (if k = 0 then s.counter + 1 else k) ∉ keys (abs s) ∧ (s.count < 2 ^ s.exp ∨ s.exp < 31)
  | .remove k => k ≠ 0
  | .reprio k _ _ => k ∈ keys (abs s)
  | .lookup k => k ∈ keys (abs s)
  | .isEnqueued k => k ≠ 0
  | _ => True

def run (lt : Order) : HH → List Op → Except Fault HH
  | s, [] => pure s
  | s, op :: ops => do let s' ← step lt s op; run lt s' ops

/-- every operation of the sequence is applied in a state satisfying its precondition -/
def PreAll (lt : Order) : HH → List Op → Prop
  | _, [] => True
  | s, op :: ops => OpPre s op ∧ ∀ s', step lt s op = .ok s' → PreAll lt s' ops

end CimbaModel.HashHeap
