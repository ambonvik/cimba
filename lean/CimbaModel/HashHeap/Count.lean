/-
  What the sift functions and `reprioritize` do to `count`, and what a `remove` that answers `false` does, read off a
  successful run without any well-formedness hypothesis.
-/
import CimbaModel.HashHeap.Model

namespace CimbaModel.HashHeap
open CimbaModel

theorem bind_ok {ε α β : Type} {x : Except ε α} {f : α → Except ε β} {b : β} (h : (x >>= f) = .ok b) :
    ∃ a, x = .ok a ∧ f a = .ok b := by
  cases x with
  | error e => cases h
  | ok a => exact ⟨a, rfl, h⟩

theorem heapUp_count {lt : Order} {s s' : HH} {k : Nat} (h : heapUp lt s k = .ok s') : s'.count = s.count := by
  unfold heapUp at h
  obtain ⟨_, _, h⟩ := bind_ok h
  obtain ⟨_, _, h⟩ := bind_ok h
  obtain ⟨⟨_, _, _⟩, _, h⟩ := bind_ok h
  obtain ⟨_, _, h⟩ := bind_ok h
  obtain ⟨_, _, h⟩ := bind_ok h
  obtain ⟨_, _, h⟩ := bind_ok h
  cases h; rfl

theorem heapDown_count {lt : Order} {s s' : HH} {k : Nat} (h : heapDown lt s k = .ok s') : s'.count = s.count := by
  unfold heapDown at h
  obtain ⟨_, _, h⟩ := bind_ok h
  obtain ⟨_, _, h⟩ := bind_ok h
  obtain ⟨⟨_, _, _⟩, _, h⟩ := bind_ok h
  obtain ⟨_, _, h⟩ := bind_ok h
  obtain ⟨_, _, h⟩ := bind_ok h
  obtain ⟨_, _, h⟩ := bind_ok h
  cases h; rfl

theorem reprioritize_count {lt : Order} {s s' : HH} {k : Nat} {d i : Int} (h : reprioritize lt s k d i = .ok s') :
    s'.count = s.count := by
  unfold reprioritize at h
  split at h
  · cases h
  · obtain ⟨hi, _, h⟩ := bind_ok h
    split at h
    · cases h
    · obtain ⟨_, _, h⟩ := bind_ok h
      obtain ⟨_, _, h⟩ := bind_ok h
      obtain ⟨_, _, h⟩ := bind_ok h
      split at h
      · exact (heapDown_count h).trans rfl
      · exact (heapUp_count h).trans rfl

theorem remove_false_eq {lt : Order} {s s' : HH} {k : Nat} (h : remove lt s k = .ok (s', false)) : s' = s := by
  unfold remove at h
  split at h
  · cases h
  · split at h
    · cases h; rfl
    · obtain ⟨hi, _, h⟩ := bind_ok h
      split at h
      · cases h; rfl
      · obtain ⟨_, _, h⟩ := bind_ok h
        obtain ⟨_, _, h⟩ := bind_ok h
        split at h
        · cases h
        · obtain ⟨_, _, h⟩ := bind_ok h
          obtain ⟨_, _, h⟩ := bind_ok h
          obtain ⟨_, _, h⟩ := bind_ok h
          obtain ⟨_, _, h⟩ := bind_ok h
          cases h

end CimbaModel.HashHeap
