/-
  Refinement proof of the hashheap: the specification `SpecStep` does not depend on the order in which
  the abstract queue lists its entries: a step possible from `q` is possible, with the same result and the same
  successor, from every permutation of `q` (keys distinct).  So the run of the specification that
  `run_refines` exhibits along the states `abs s` is a run of the specification on queues-as-multisets.
-/
import CimbaModel.HashHeap.RefineTrace

namespace CimbaModel.HashHeap
open CimbaModel CimbaModel.KPQ

variable {lt : Order}

theorem SpecStep.perm_left {q1 q2 : KPQ} {c : Nat} {op : Op} {r : Res} {y : KPQ × Nat}
    (hp : q1.Perm q2) (hnd : (keys q1).Nodup) (h : SpecStep lt (q1, c) op r y) :
    ∃ q', SpecStep lt (q2, c) op r (q', y.2) ∧ q'.Perm y.1 := by
  have hnd2 : (keys q2).Nodup := (show (keys q1).Perm (keys q2) from hp.map _).nodup_iff.1 hnd
  cases h with
  | enqueue _ q' _ it k d i hperm =>
    exact ⟨q', SpecStep.enqueue _ _ _ it k d i (hperm.trans (List.Perm.cons _ hp)), List.Perm.refl _⟩
  | dequeue _ q' _ e hmin hperm =>
    exact ⟨q', SpecStep.dequeue _ _ _ e (isMin_perm hp hmin) (hp.symm.trans hperm), List.Perm.refl _⟩
  | dequeueEmpty =>
    rw [← hp.nil_eq]; exact ⟨[], SpecStep.dequeueEmpty _, List.Perm.refl _⟩
  | remove _ q' _ k hperm =>
    rw [decide_eq_decide.2 (keys_perm hp k)]
    exact ⟨q', SpecStep.remove _ _ _ k (hperm.trans (hp.filter _)), List.Perm.refl _⟩
  | reprio _ q' _ k d i hk hperm =>
    exact ⟨q', SpecStep.reprio _ _ _ k d i ((keys_perm hp k).1 hk) (hperm.trans (hp.map _)), List.Perm.refl _⟩
  | cancel _ q' _ p hperm =>
    rw [(matching_perm hp p).length_eq]
    exact ⟨q', SpecStep.cancel _ _ _ p (hperm.trans (hp.filter _)), List.Perm.refl _⟩
  | clear => exact ⟨[], SpecStep.clear _ _, List.Perm.refl _⟩
  | reset => exact ⟨[], SpecStep.reset _ _, List.Perm.refl _⟩
  | lookup _ _ k t hl =>
    refine ⟨q2, SpecStep.lookup _ _ k t ?_, hp.symm⟩
    rw [← hl]
    exact lookup_ext hnd hnd2 k (fun x _ => hp.mem_iff.symm)
  | isEnqueued _ _ k =>
    rw [decide_eq_decide.2 (keys_perm hp k)]
    exact ⟨q2, SpecStep.isEnqueued _ _ k, hp.symm⟩
  | peek _ _ e hmin => exact ⟨q2, SpecStep.peek _ _ e (isMin_perm hp hmin), hp.symm⟩
  | peekEmpty => rw [← hp.nil_eq]; exact ⟨[], SpecStep.peekEmpty _, List.Perm.refl _⟩
  | findNone _ _ p hm =>
    refine ⟨q2, SpecStep.findNone _ _ p ?_, hp.symm⟩
    have := matching_perm hp p
    rw [hm] at this
    exact this.nil_eq.symm
  | findSome _ _ p t hm =>
    exact ⟨q2, SpecStep.findSome _ _ p t ((matching_perm hp p).mem_iff.1 hm), hp.symm⟩
  | count _ _ p =>
    rw [(matching_perm hp p).length_eq]
    exact ⟨q2, SpecStep.count _ _ p, hp.symm⟩

end CimbaModel.HashHeap
