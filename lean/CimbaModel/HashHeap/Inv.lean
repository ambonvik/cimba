/-
  The well-formedness invariant of the concrete hashheap and its abstraction to the keyed
  priority queue specification (DESIGN.md §3.2).
-/
import CimbaModel.Basic.KeyedPQ

namespace CimbaModel.HashHeap
open CimbaModel CimbaModel.KPQ

/-- heap tag at index `i` (default outside the array; `WF` makes every use in-bounds) -/
def HH.tag (s : HH) (i : Nat) : HTag := s.heap.getD i {}
/-- hash slot at index `j` -/
def HH.slot (s : HH) (j : Nat) : HSlot := s.hash.getD j {}

/-- cyclic distance from the home slot `h` to slot `j` in a map of `n` slots -/
def probeDist (n h j : Nat) : Nat := (j + n - h) % n

structure WF (lt : Order) (s : HH) : Prop where
  expPos : 1 ≤ s.exp
  expLe : s.exp ≤ 31
  /-- the initial exponent (what `reset` goes back to) is valid and never above the current one -/
  expInitPos : 1 ≤ s.expInit
  expInitLe : s.expInit ≤ s.exp
  heapSize : s.heap.size = 2 ^ s.exp + 2
  hashSize : s.hash.size = 2 ^ (s.exp + 1)
  countLe : s.count ≤ 2 ^ s.exp
  /-- live heap entries have non-zero keys below 2^64 -/
  keyOk : ∀ i, 1 ≤ i → i ≤ s.count → (s.tag i).key ≠ 0 ∧ (s.tag i).key < 2 ^ 64
  /-- heap → hash back-pointer -/
  back : ∀ i, 1 ≤ i → i ≤ s.count →
    (s.tag i).hidx < s.hash.size ∧ s.slot (s.tag i).hidx = { key := (s.tag i).key, idx := i }
  /-- hash → heap pointer: every occupied slot names a live heap entry that points back -/
  fwd : ∀ j, j < s.hash.size → (s.slot j).idx ≠ 0 →
    (s.slot j).idx ≤ s.count ∧ (s.tag (s.slot j).idx).hidx = j
  /-- never-used slots are empty -/
  unused : ∀ j, j < s.hash.size → (s.slot j).key = 0 → (s.slot j).idx = 0
  /-- binary-heap order -/
  ord : ∀ i, 2 ≤ i → i ≤ s.count → lt (s.tag i) (s.tag (i / 2)) = false
  /-- probe-chain invariant: between the home slot of a live key and the slot holding it there is
      no never-used slot and no other slot (live or tombstone) carrying the same key -/
  probe : ∀ j, j < s.hash.size → (s.slot j).idx ≠ 0 →
    ∀ m, m < probeDist s.hash.size (hashKey s.exp (s.slot j).key) j →
      (s.slot ((hashKey s.exp (s.slot j).key + m) % s.hash.size)).key ≠ 0 ∧
      (s.slot ((hashKey s.exp (s.slot j).key + m) % s.hash.size)).key ≠ (s.slot j).key

/-- abstraction: the live entries in heap-array order, back-pointers forgotten -/
def abs (s : HH) : KPQ := (liveTags s).map norm

end CimbaModel.HashHeap
