/-
  Refinement proof of the hashheap: function views of the two arrays, the accessor
  lemmas, the structural invariant `WFS` over function views (with an arbitrary set `L` of live
  heap indices, so that the same lemmas serve the sift loops, removal, insertion and the
  rehash loop of `grow`), and its equivalence with `WF`.
-/
import CimbaModel.HashHeap.Inv

namespace CimbaModel.HashHeap
open CimbaModel CimbaModel.KPQ

theorem hashKey_lt (e k : Nat) (h : e < 63) : hashKey e k < 2 ^ (e + 1) := by
  unfold hashKey
  rw [Nat.shiftRight_eq_div_pow]
  have hlt : k * fibMult % 2 ^ 64 < 2 ^ 64 := Nat.mod_lt _ (by decide)
  have hpow : 2 ^ 64 = 2 ^ (e + 1) * 2 ^ (64 - (e + 1)) := by
    rw [← Nat.pow_add]; congr 1; omega
  generalize k * fibMult % 2 ^ 64 = x at hlt
  rw [hpow] at hlt
  exact (Nat.div_lt_iff_lt_mul (Nat.pow_pos (by decide))).mpr hlt

def upd {α : Type} (f : Nat → α) (i : Nat) (v : α) : Nat → α := fun j => if j = i then v else f j

@[simp] theorem upd_same {α : Type} (f : Nat → α) (i : Nat) (v : α) : upd f i v i = v := by simp [upd]
@[simp] theorem upd_other {α : Type} (f : Nat → α) (i j : Nat) (v : α) (h : j ≠ i) : upd f i v j = f j := by
  simp [upd, h]
theorem upd_apply {α : Type} (f : Nat → α) (i j : Nat) (v : α) : upd f i v j = if j = i then v else f j := rfl

def tg (h : Array HTag) (i : Nat) : HTag := h.getD i {}
def sl (h : Array HSlot) (i : Nat) : HSlot := h.getD i {}

theorem HH.tag_eq (s : HH) : s.tag = tg s.heap := rfl
theorem HH.slot_eq (s : HH) : s.slot = sl s.hash := rfl

theorem getD_set {α : Type} (h : Array α) (i : Nat) (t d : α) (hi : i < h.size) (j : Nat) :
    (h.set i t hi).getD j d = if j = i then t else h.getD j d := by
  rw [Array.getD_eq_getD_getElem?, Array.getD_eq_getD_getElem?, Array.getElem?_set]
  by_cases hji : j = i
  · subst hji; simp
  · have : ¬ i = j := fun h => hji h.symm
    simp [hji, this]

theorem tg_set (h : Array HTag) (i : Nat) (t : HTag) (hi : i < h.size) :
    tg (h.set i t hi) = upd (tg h) i t := funext (getD_set h i t {} hi)

theorem sl_set (h : Array HSlot) (i : Nat) (t : HSlot) (hi : i < h.size) :
    sl (h.set i t hi) = upd (sl h) i t := funext (getD_set h i t {} hi)

theorem tg_replicate (n i : Nat) : tg (Array.replicate n ({} : HTag)) i = {} := by
  unfold tg
  rw [Array.getD_eq_getD_getElem?, Array.getElem?_replicate]
  split <;> rfl

theorem sl_replicate (n i : Nat) : sl (Array.replicate n ({} : HSlot)) i = {} := by
  unfold sl
  rw [Array.getD_eq_getD_getElem?, Array.getElem?_replicate]
  split <;> rfl

theorem tg_append (h : Array HTag) (n i : Nat) : tg (h ++ Array.replicate n ({} : HTag)) i = tg h i := by
  unfold tg
  rw [Array.getD_eq_getD_getElem?, Array.getD_eq_getD_getElem?, Array.getElem?_append]
  split
  · rfl
  · rw [Array.getElem?_eq_none (xs := h) (by omega), Array.getElem?_replicate]
    split <;> rfl

theorem sl_oob (h : Array HSlot) (i : Nat) (hi : h.size ≤ i) : sl h i = {} := by
  unfold sl
  rw [Array.getD_eq_getD_getElem?, Array.getElem?_eq_none hi]; rfl

theorem rdHeap_ok {h : Array HTag} {i : Nat} (hi : i < h.size) : rdHeap h i = .ok (tg h i) := by
  simp [rdHeap, hi, tg]

theorem wrHeap_ok {h : Array HTag} {i : Nat} {t : HTag} (hi : i < h.size) :
    wrHeap h i t = .ok (h.set i t hi) := by
  simp [wrHeap, hi]

theorem rdHash_ok {h : Array HSlot} {i : Nat} (hi : i < h.size) : rdHash h i = .ok (sl h i) := by
  simp [rdHash, hi, sl]

theorem wrHash_ok {h : Array HSlot} {i : Nat} {t : HSlot} (hi : i < h.size) :
    wrHash h i t = .ok (h.set i t hi) := by
  simp [wrHash, hi]

theorem setIdx_ok {h : Array HSlot} {j v : Nat} (hj : j < h.size) :
    setIdx h j v = .ok (h.set j { sl h j with idx := v } hj) := by
  unfold setIdx
  rw [rdHash_ok hj]
  exact wrHash_ok hj

theorem setHidx_ok {h : Array HTag} {j v : Nat} (hj : j < h.size) :
    setHidx h j v = .ok (h.set j { tg h j with hidx := v } hj) := by
  unfold setHidx
  rw [rdHeap_ok hj]
  exact wrHeap_ok hj

@[simp] theorem ok_bind {α β : Type} (a : α) (f : α → Except Fault β) : (Except.ok a >>= f) = f a := rfl

@[simp] theorem pure_bind' {α β : Type} (a : α) (f : α → Except Fault β) :
    ((pure a : Except Fault α) >>= f) = f a := rfl

@[simp] theorem ok_map {α β : Type} (a : α) (f : α → β) : (f <$> (Except.ok a : Except Fault α)) = .ok (f a) := rfl

@[simp] theorem ok_pure {α : Type} (a : α) : (pure a : Except Fault α) = .ok a := rfl

/-- `i` is a live heap index -/
def InR (c : Nat) (i : Nat) : Prop := 1 ≤ i ∧ i ≤ c

/-- `x` is one of the tags at the live heap indices -/
def Live (T : Nat → HTag) (c : Nat) (x : HTag) : Prop := ∃ i, 1 ≤ i ∧ i ≤ c ∧ T i = x

theorem mem_liveTags (s : HH) (x : HTag) : x ∈ liveTags s ↔ Live s.tag s.count x := by
  unfold liveTags Live HH.tag
  simp only [List.mem_map, List.mem_range]
  constructor
  · rintro ⟨j, hj, rfl⟩; exact ⟨j + 1, by omega, by omega, rfl⟩
  · rintro ⟨i, h1, h2, rfl⟩; exact ⟨i - 1, by omega, by rw [show i - 1 + 1 = i by omega]⟩

theorem liveTags_congr (s s' : HH) (hc : s'.count = s.count)
    (h : ∀ i, 1 ≤ i → i ≤ s.count → s'.tag i = s.tag i) : liveTags s' = liveTags s := by
  unfold liveTags
  rw [hc]
  apply List.map_congr_left
  intro j hj
  have := List.mem_range.mp hj
  exact h (j + 1) (by omega) (by omega)

/-- slots strictly before `j` on the probe path of the key stored in `j` carry other, non-zero keys -/
def ChainOK (S : Nat → HSlot) (e j : Nat) : Prop :=
  ∀ m, m < probeDist (2 ^ (e + 1)) (hashKey e (S j).key) j →
    (S ((hashKey e (S j).key + m) % 2 ^ (e + 1))).key ≠ 0 ∧
    (S ((hashKey e (S j).key + m) % 2 ^ (e + 1))).key ≠ (S j).key

/-- everything of `WF` except sizes and heap order; `L` = the set of live heap indices -/
structure WFS (T : Nat → HTag) (S : Nat → HSlot) (L : Nat → Prop) (e : Nat) : Prop where
  lpos : ∀ i, L i → i ≠ 0
  keyOk : ∀ i, L i → (T i).key ≠ 0 ∧ (T i).key < 2 ^ 64
  back : ∀ i, L i → (T i).hidx < 2 ^ (e + 1) ∧ S (T i).hidx = { key := (T i).key, idx := i }
  fwd : ∀ j, j < 2 ^ (e + 1) → (S j).idx ≠ 0 → L (S j).idx ∧ (T (S j).idx).hidx = j
  unused : ∀ j, j < 2 ^ (e + 1) → (S j).key = 0 → (S j).idx = 0
  probe : ∀ j, j < 2 ^ (e + 1) → (S j).idx ≠ 0 → ChainOK S e j

/-- heap order on a function view -/
def Ord (lt : Order) (T : Nat → HTag) (c : Nat) : Prop :=
  ∀ i, 2 ≤ i → i ≤ c → lt (T i) (T (i / 2)) = false

theorem WF_iff (lt : Order) (s : HH) :
    WF lt s ↔ (1 ≤ s.exp ∧ s.exp ≤ 31 ∧ 1 ≤ s.expInit ∧ s.expInit ≤ s.exp ∧
      s.heap.size = 2 ^ s.exp + 2 ∧ s.hash.size = 2 ^ (s.exp + 1) ∧
      s.count ≤ 2 ^ s.exp ∧ WFS s.tag s.slot (InR s.count) s.exp ∧ Ord lt s.tag s.count) := by
  constructor
  · intro h
    have hs := h.hashSize
    refine ⟨h.expPos, h.expLe, h.expInitPos, h.expInitLe, h.heapSize, h.hashSize, h.countLe, ?_, h.ord⟩
    refine ⟨fun i hi => by have := hi.1; omega, fun i hi => h.keyOk i hi.1 hi.2, ?_, ?_, ?_, ?_⟩
    · intro i hi; have := h.back i hi.1 hi.2; rw [hs] at this; exact this
    · intro j hj hne
      have := h.fwd j (by omega) hne
      have h0 : (s.slot j).idx ≠ 0 := hne
      exact ⟨⟨by omega, this.1⟩, this.2⟩
    · intro j hj; exact h.unused j (by omega)
    · intro j hj hne; have := h.probe j (by omega) hne; rw [hs] at this; exact this
  · rintro ⟨h1, h2, h3, h4, h5, h6, h7, w, ho⟩
    refine ⟨h1, h2, h3, h4, h5, h6, h7, fun i a b => w.keyOk i ⟨a, b⟩, ?_, ?_, ?_, ho, ?_⟩
    · intro i a b; rw [h6]; exact w.back i ⟨a, b⟩
    · intro j hj hne; have := w.fwd j (by omega) hne; exact ⟨this.1.2, this.2⟩
    · intro j hj; exact w.unused j (by omega)
    · intro j hj hne; rw [h6]; exact w.probe j (by omega) hne

/-- `WFS` looks at the tags only through key and back-pointer of live entries, and at the slots
    only inside the map -/
theorem WFS.congr {T T' : Nat → HTag} {S S' : Nat → HSlot} {L L' : Nat → Prop} {e : Nat}
    (w : WFS T S L e) (hL : ∀ i, L' i ↔ L i)
    (hT : ∀ i, L i → (T' i).key = (T i).key ∧ (T' i).hidx = (T i).hidx)
    (hS : ∀ j, j < 2 ^ (e + 1) → S' j = S j) : WFS T' S' L' e := by
  have hpos : 0 < 2 ^ (e + 1) := Nat.pow_pos (by decide)
  refine ⟨fun i hi => w.lpos i ((hL i).1 hi), ?_, ?_, ?_, ?_, ?_⟩
  · intro i hi; have hi := (hL i).1 hi; rw [(hT i hi).1]; exact w.keyOk i hi
  · intro i hi; have hi := (hL i).1 hi
    have b := w.back i hi
    rw [(hT i hi).1, (hT i hi).2, hS _ b.1]; exact b
  · intro j hj hne; rw [hS j hj] at hne ⊢
    have f := w.fwd j hj hne
    exact ⟨(hL _).2 f.1, by rw [(hT _ f.1).2]; exact f.2⟩
  · intro j hj; rw [hS j hj]; exact w.unused j hj
  · intro j hj hne; rw [hS j hj] at hne
    have p := w.probe j hj hne
    intro m hm
    rw [hS j hj] at hm ⊢
    rw [hS _ (Nat.mod_lt _ hpos)]
    exact p m hm

end CimbaModel.HashHeap
