/-
  The five ordering functions of the library, as regenerated from the C sources
  (Generated/Orders.lean), characterised as the documented lexicographic orders.
  The proofs are written to survive harmless rewrites of the C code: they only unfold the
  generated definition and split on its conditions.
-/
import CimbaModel.Basic.Order
import CimbaModel.Generated.Orders
import CimbaModel.HashHeap.SpecOrders

namespace CimbaModel.HashHeap.Orders
open CimbaModel CimbaModel.HashHeap CimbaModel.Generated CimbaModel.HashHeap.SpecOrders

theorem heap_order_check_iff (a b : HTag) : heap_order_check a b = true ↔ eventLt a b := by
  unfold heap_order_check eventLt
  repeat' split
  all_goals simp_all
  all_goals omega

theorem holder_queue_check_iff (a b : HTag) : holder_queue_check a b = true ↔ holderLt a b := by
  unfold holder_queue_check holderLt
  repeat' split
  all_goals simp_all
  all_goals omega

theorem compare_func_iff (a b : HTag) : compare_func a b = true ↔ pqLt a b := by
  unfold compare_func pqLt
  repeat' split
  all_goals simp_all
  all_goals omega

theorem default_order_check_iff (a b : HTag) : default_order_check a b = true ↔ defaultLt a b := by
  unfold default_order_check defaultLt
  simp

theorem bfalse_of_iff {lt : Order} {P : HTag → HTag → Prop} (h : ∀ a b, lt a b = true ↔ P a b) (a b : HTag) :
    lt a b = false ↔ ¬ P a b := by
  rw [← h a b]; cases lt a b <;> simp

instance : TotalOnKeys heap_order_check where
  irrefl a := by rw [bfalse_of_iff heap_order_check_iff]; unfold eventLt; omega
  trans a b c := by simp only [heap_order_check_iff]; unfold eventLt; omega
  negTrans a b c := by simp only [bfalse_of_iff heap_order_check_iff]; unfold eventLt; omega
  total a b := by simp only [heap_order_check_iff]; unfold eventLt; omega

instance : TotalOnKeys holder_queue_check where
  irrefl a := by rw [bfalse_of_iff holder_queue_check_iff]; unfold holderLt; omega
  trans a b c := by simp only [holder_queue_check_iff]; unfold holderLt; omega
  negTrans a b c := by simp only [bfalse_of_iff holder_queue_check_iff]; unfold holderLt; omega
  total a b := by simp only [holder_queue_check_iff]; unfold holderLt; omega

instance : TotalOnKeys compare_func where
  irrefl a := by rw [bfalse_of_iff compare_func_iff]; unfold pqLt; omega
  trans a b c := by simp only [compare_func_iff]; unfold pqLt; omega
  negTrans a b c := by simp only [bfalse_of_iff compare_func_iff]; unfold pqLt; omega
  total a b := by simp only [compare_func_iff]; unfold pqLt; omega

instance : StrictWeak default_order_check where
  irrefl a := by rw [bfalse_of_iff default_order_check_iff]; unfold defaultLt; omega
  trans a b c := by simp only [default_order_check_iff]; unfold defaultLt; omega
  negTrans a b c := by simp only [bfalse_of_iff default_order_check_iff]; unfold defaultLt; omega

theorem ignoresHidx_of_iff {lt : Order} {P : HTag → HTag → Prop} (h : ∀ a b, lt a b = true ↔ P a b)
    (hP : ∀ (a b : HTag) (x y : Nat), P { a with hidx := x } { b with hidx := y } ↔ P a b) : IgnoresHidx lt := by
  constructor
  intro a b x y
  rw [Bool.eq_iff_iff, h, h]
  exact hP a b x y

instance : IgnoresHidx heap_order_check := ignoresHidx_of_iff heap_order_check_iff (fun _ _ _ _ => Iff.rfl)
instance : IgnoresHidx holder_queue_check := ignoresHidx_of_iff holder_queue_check_iff (fun _ _ _ _ => Iff.rfl)
instance : IgnoresHidx compare_func := ignoresHidx_of_iff compare_func_iff (fun _ _ _ _ => Iff.rfl)
instance : IgnoresHidx default_order_check := ignoresHidx_of_iff default_order_check_iff (fun _ _ _ _ => Iff.rfl)

instance : IgnoresItem holder_queue_check :=
  ⟨fun a b x y => by rw [Bool.eq_iff_iff, holder_queue_check_iff, holder_queue_check_iff]; exact Iff.rfl⟩

end CimbaModel.HashHeap.Orders
