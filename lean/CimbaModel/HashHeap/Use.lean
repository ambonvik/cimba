/-
  The hashheap as its callers see it.  A caller matches the result of an operation against `.ok`, so it holds an
  equation `op … = .ok (s', r)`; for each updating operation there is one statement in that form (`…_inv`) beside the
  one that provides the run (`…_abs` of RefineAbs.lean; for `enqueue` the two kinds of key, `enqueue_key_ok` and
  `enqueue_auto_ok`), all concluding a structure that says what the abstraction `abs s'` is (`Removed`, `Dequeued`,
  `Inserted`, `Reprioritized`).  What follows for entries, keys and lookups is read off the structure.
-/
import CimbaModel.HashHeap.RefineAuto

namespace CimbaModel.HashHeap
open CimbaModel CimbaModel.KPQ

variable {lt : Order}

theorem remove_inv [StrictWeak lt] {s s' : HH} {k : Nat} {r : Bool} (h : WF lt s) (hk0 : k ≠ 0)
    (hr : remove lt s k = .ok (s', r)) : Removed lt s k s' r := by
  obtain ⟨s1, hrun, a⟩ := remove_abs h k hk0
  cases hrun.symm.trans hr
  exact a

theorem remove_not_mem {s : HH} (h : WF lt s) {k : Nat} (hk0 : k ≠ 0) (hk : k ∉ keys (abs s)) :
    remove lt s k = .ok (s, false) :=
  remove_absent h hk0 fun i hi he => hk ((mem_keys_abs s k).2 ⟨i, hi, he⟩)

namespace Removed
variable {s s' : HH} {k : Nat} {r : Bool} (a : Removed lt s k s' r)
include a

theorem mem (x : HTag) : x ∈ abs s' ↔ x ∈ abs s ∧ x.key ≠ k := a.perm.mem_iff.trans mem_remove

theorem keys (j : Nat) : j ∈ keys (abs s') ↔ j ∈ keys (abs s) ∧ j ≠ k :=
  (keys_perm a.perm j).trans (keys_remove _ k j)

theorem lookup (k2 : Nat) : KPQ.lookup (abs s') k2 = if k2 = k then none else KPQ.lookup (abs s) k2 := by
  rw [lookup_perm a.perm a.wf.keys_nodup, lookup_remove]

end Removed

theorem dequeue_inv [StrictWeak lt] {s s' : HH} {x : Option HTag} (h : WF lt s) (hc : s.count ≠ 0)
    (hr : dequeue lt s = .ok (s', x)) : ∃ e, x = some e ∧ Dequeued lt s s' e := by
  obtain ⟨s1, hrun, a⟩ := dequeue_abs h (Nat.pos_of_ne_zero hc)
  cases hrun.symm.trans hr
  exact ⟨_, rfl, a⟩

namespace Dequeued
variable {s s' : HH} {e : HTag} (a : Dequeued lt s s' e)
include a

theorem mem_old (x : HTag) : x ∈ abs s ↔ x = norm e ∨ x ∈ abs s' := a.perm.mem_iff.trans List.mem_cons

theorem key_mem : e.key ∈ keys (abs s) := key_mem_keys (t := norm e) ((a.mem_old _).2 (.inl rfl))

theorem keys (h : WF lt s) (j : Nat) : j ∈ keys (abs s') ↔ j ∈ keys (abs s) ∧ j ≠ e.key := by
  have hp : (KPQ.keys (abs s)).Perm (e.key :: KPQ.keys (abs s')) := keys_perm_of_perm a.perm
  have hnd := hp.nodup_iff.1 h.keys_nodup
  rw [hp.mem_iff, List.mem_cons]
  exact ⟨fun hm => ⟨.inr hm, fun he => (List.nodup_cons.1 hnd).1 (he ▸ hm)⟩, fun hm => hm.1.resolve_left hm.2⟩

theorem lookup (h : WF lt s) (k : Nat) : KPQ.lookup (abs s') k = if k = e.key then none else KPQ.lookup (abs s) k := by
  split
  · rename_i hk; rw [lookup_eq_none_iff, a.keys h]; exact fun hm => hm.2 hk
  · rename_i hk
    rw [lookup_perm a.perm h.keys_nodup, lookup_cons, if_neg (fun he => hk he.symm)]

theorem min [StrictWeak lt] [IgnoresHidx lt] (h : WF lt s) (hc : s.count ≠ 0) : IsMin lt (abs s) (norm e) :=
  a.top ▸ root_isMin_abs h (Nat.pos_of_ne_zero hc)

theorem strict [TotalOnKeys lt] [IgnoresHidx lt] (h : WF lt s) (hc : s.count ≠ 0) {x : HTag} (hx : x ∈ abs s') :
    lt (norm e) x = true :=
  isMin_strict (a.min h hc) ((a.mem_old x).2 (.inr hx)) fun hk => ((a.keys h x.key).1 (key_mem_keys hx)).2 hk.symm

end Dequeued

theorem enqueue_no_room {s : HH} (h : WF lt s) (hno : ¬ (s.count < 2 ^ s.exp ∨ s.exp < 31)) (it : Item) (k : Nat)
    (d i : Int) : ∃ f, enqueue lt s it k d i = .error f := by
  have hc := h.countLe
  have he := h.expLe
  have hexp : s.exp = 31 := by omega
  rw [enqueue_eq, if_neg (by omega), if_pos (by omega)]
  unfold grow
  rw [if_pos (by rw [hexp]; decide)]
  exact ⟨_, rfl⟩

theorem enqueue_key_ok [StrictWeak lt] [IgnoresHidx lt] {s : HH} (h : WF lt s) (it : Item) {k : Nat} (d i : Int)
    (hk0 : k ≠ 0) (hk64 : k < 2 ^ 64) (hfresh : k ∉ keys (abs s)) (hroom : s.count < 2 ^ s.exp ∨ s.exp < 31) :
    ∃ s', enqueue lt s it k d i = .ok (s', k) ∧ Inserted lt s ⟨k, 0, it, d, i⟩ s' := by
  have e : (if k = 0 then s.counter + 1 else k) = k := if_neg hk0
  obtain ⟨s', hrun, a, -⟩ :=
    enqueue_abs h it k d i (by rw [e]; exact hk0) (by rw [e]; exact hk64) (by rw [e]; exact hfresh) hroom
  rw [e] at hrun a
  exact ⟨s', hrun, a⟩

theorem enqueue_key_inv [StrictWeak lt] [IgnoresHidx lt] {s s' : HH} {it : Item} {k k' : Nat} {d i : Int} (h : WF lt s)
    (hk0 : k ≠ 0) (hk64 : k < 2 ^ 64) (hfresh : k ∉ keys (abs s)) (hr : enqueue lt s it k d i = .ok (s', k')) :
    k' = k ∧ Inserted lt s ⟨k, 0, it, d, i⟩ s' := by
  by_cases hroom : s.count < 2 ^ s.exp ∨ s.exp < 31
  · obtain ⟨s1, hrun, a⟩ := enqueue_key_ok h it d i hk0 hk64 hfresh hroom
    cases hrun.symm.trans hr
    exact ⟨rfl, a⟩
  · obtain ⟨f, hf⟩ := enqueue_no_room h hroom it k d i
    rw [hf] at hr; cases hr

theorem enqueue_auto_ok [StrictWeak lt] [IgnoresHidx lt] {s : HH} (h : WF lt s) (hkb : KeysBelowCounter s) (it : Item)
    (d i : Int) (hctr : s.counter + 1 < 2 ^ 64) (hroom : s.count < 2 ^ s.exp ∨ s.exp < 31) :
    ∃ s', enqueue lt s it 0 d i = .ok (s', s.counter + 1) ∧ Inserted lt s ⟨s.counter + 1, 0, it, d, i⟩ s' ∧
      KeysBelowCounter s' := by
  obtain ⟨s', hrun, a, kb⟩ := auto_enqueue h hkb it 0 d i (Nat.zero_le _) hctr (fun h0 => absurd rfl h0) hroom
  rw [if_pos rfl] at hrun a
  exact ⟨s', hrun, a, kb⟩

theorem enqueue_auto_inv [StrictWeak lt] [IgnoresHidx lt] {s s' : HH} {it : Item} {k' : Nat} {d i : Int} (h : WF lt s)
    (hkb : KeysBelowCounter s) (hctr : s.counter + 1 < 2 ^ 64) (hr : enqueue lt s it 0 d i = .ok (s', k')) :
    k' = s.counter + 1 ∧ Inserted lt s ⟨s.counter + 1, 0, it, d, i⟩ s' ∧ KeysBelowCounter s' := by
  by_cases hroom : s.count < 2 ^ s.exp ∨ s.exp < 31
  · obtain ⟨s1, hrun, a⟩ := enqueue_auto_ok h hkb it d i hctr hroom
    cases hrun.symm.trans hr
    exact ⟨rfl, a⟩
  · obtain ⟨f, hf⟩ := enqueue_no_room h hroom it 0 d i
    rw [hf] at hr; cases hr

namespace Inserted
variable {s s' : HH} {t : HTag} (a : Inserted lt s t s')
include a

theorem mem (x : HTag) : x ∈ abs s' ↔ x = norm t ∨ x ∈ abs s := a.perm.mem_iff.trans mem_insert

theorem keys (j : Nat) : j ∈ keys (abs s') ↔ j = t.key ∨ j ∈ keys (abs s) :=
  (keys_perm a.perm j).trans (by rw [keys_insert]; exact List.mem_cons)

theorem lookup (k : Nat) : KPQ.lookup (abs s') k = if t.key = k then some (norm t) else KPQ.lookup (abs s) k := by
  rw [lookup_perm a.perm a.wf.keys_nodup, lookup_insert]

end Inserted

theorem reprioritize_not_mem {s : HH} (h : WF lt s) {k : Nat} (hk : k ∉ keys (abs s)) (d i : Int) :
    ∃ f, reprioritize lt s k d i = .error f := by
  unfold reprioritize
  by_cases hk0 : k = 0
  · rw [if_pos hk0]; exact ⟨_, rfl⟩
  · rw [if_neg hk0, findIndex_of_not_mem h hk]; exact ⟨_, rfl⟩

theorem reprio_inv [StrictWeak lt] {s s' : HH} {k : Nat} {d i : Int} (h : WF lt s)
    (hr : reprioritize lt s k d i = .ok s') : Reprioritized lt s k d i s' := by
  by_cases hk : k ∈ keys (abs s)
  · obtain ⟨s1, hrun, a⟩ := reprio_abs h hk d i
    cases hrun.symm.trans hr
    exact a
  · obtain ⟨f, hf⟩ := reprioritize_not_mem h hk d i
    rw [hf] at hr; cases hr

namespace Reprioritized
variable {s s' : HH} {k : Nat} {d i : Int} (a : Reprioritized lt s k d i s')
include a

theorem keys (j : Nat) : j ∈ keys (abs s') ↔ j ∈ keys (abs s) := by rw [keys_perm a.perm j, keys_reprio]

theorem lookup (k2 : Nat) : KPQ.lookup (abs s') k2 =
    if k2 = k then (KPQ.lookup (abs s) k).map (fun t => { t with d := d, i := i }) else KPQ.lookup (abs s) k2 := by
  rw [lookup_perm a.perm a.wf.keys_nodup, lookup_reprio]

end Reprioritized

/-- the state after overwriting the payload of heap slot `i` in place: `pi->amount = …` in `cmb_resourcepool.c`, where
    `pi` points at `heap[i].item` -/
def withItem (s : HH) (i : Nat) (it : Item) : HH :=
  { s with heap := s.heap.set! i { s.heap.getD i {} with item := it } }

theorem tag_withItem (s : HH) (i : Nat) (it : Item) (hi : i < s.heap.size) (j : Nat) :
    (withItem s i it).tag j = if j = i then { s.tag i with item := it } else s.tag j := by
  unfold withItem HH.tag
  simp only [Array.getD_eq_getD_getElem?, Array.set!_eq_setIfInBounds, Array.getElem?_setIfInBounds]
  by_cases hj : j = i
  · subst hj; simp [hi]
  · have : ¬ i = j := fun h => hj h.symm
    simp [hj, this]

theorem wf_withItem [ii : IgnoresItem lt] {s : HH} (h : WF lt s) {i : Nat} (hi : InR s.count i) (it : Item) :
    WF lt (withItem s i it) ∧
    (abs (withItem s i it)).Perm (norm { s.tag i with item := it } :: KPQ.remove (abs s) (s.tag i).key) ∧
    (abs s).Perm (norm (s.tag i) :: KPQ.remove (abs s) (s.tag i).key) := by
  have hsz : i < s.heap.size := by
    have := h.heapSize; have := h.countLe; have := hi.2; omega
  have hT := tag_withItem s i it hsz
  have hwf : WF lt (withItem s i it) := by
    rw [WF_iff] at h ⊢
    obtain ⟨h1, h2, h3, h4, h5, h6, h7, w, ho⟩ := h
    refine ⟨h1, h2, h3, h4, ?_, h6, h7, ?_, ?_⟩
    · show (s.heap.set! i _).size = _
      rw [Array.set!_eq_setIfInBounds, Array.size_setIfInBounds]; exact h5
    · refine w.congr (fun _ => Iff.rfl) ?_ (fun _ _ => rfl)
      intro j _
      rw [hT]; split
      · rename_i hj; subst hj; exact ⟨rfl, rfl⟩
      · exact ⟨rfl, rfl⟩
    · intro j hj2 hjc
      rw [hT, hT]
      have := ho j hj2 hjc
      split <;> split
      · rename_i a b; exfalso; omega
      · rename_i a b; subst a
        have e := ii.eq (s.tag j) (s.tag (j / 2)) it (s.tag (j / 2)).item
        rw [← this, ← e]
      · rename_i a b
        have e := ii.eq (s.tag j) (s.tag (j / 2)) (s.tag j).item it
        rw [← this, ← e, b]
      · exact this
  have hmem : norm (s.tag i) ∈ abs s := (mem_abs s _).2 ⟨i, hi, rfl⟩
  have hp1 := perm_cons_remove h.keys_nodup hmem
  refine ⟨hwf, ?_, hp1⟩
  -- both sides are duplicate-free: compare membership
  have hnd2 : (norm { s.tag i with item := it } :: KPQ.remove (abs s) (s.tag i).key).Nodup := by
    rw [List.nodup_cons]
    refine ⟨?_, nodup_filter _ h.abs_nodup⟩
    intro hm
    have hk : (norm { s.tag i with item := it }).key ∈ keys (KPQ.remove (abs s) (s.tag i).key) :=
      List.mem_map.2 ⟨_, hm, rfl⟩
    rw [keys_remove] at hk
    exact hk.2 rfl
  rw [List.perm_ext_iff_of_nodup hwf.abs_nodup hnd2]
  intro x
  rw [List.mem_cons, mem_abs]
  have hcount : (withItem s i it).count = s.count := rfl
  rw [hcount]
  constructor
  · rintro ⟨j, hj, rfl⟩
    rw [hT]
    by_cases hji : j = i
    · left; rw [if_pos hji]
    · right; rw [if_neg hji]
      unfold KPQ.remove
      rw [List.mem_filter]
      refine ⟨(mem_abs s _).2 ⟨j, hj, rfl⟩, ?_⟩
      have : (s.tag j).key ≠ (s.tag i).key := fun he => hji (h.key_inj hj hi he)
      exact decide_eq_true this
  · rintro (rfl | hx)
    · exact ⟨i, hi, by rw [hT, if_pos rfl]⟩
    · unfold KPQ.remove at hx
      rw [List.mem_filter] at hx
      obtain ⟨j, hj, rfl⟩ := (mem_abs s _).1 hx.1
      have hne : (s.tag j).key ≠ (s.tag i).key := of_decide_eq_true hx.2
      have hji : j ≠ i := fun he => hne (by rw [he])
      exact ⟨j, hj, by rw [hT, if_neg hji]⟩

theorem keys_withItem (s : HH) (i : Nat) (it : Item) (hi : i < s.heap.size) : keys (abs (withItem s i it)) = keys (abs s) := by
  rw [keys_abs, keys_abs]
  unfold liveTags
  rw [List.map_map, List.map_map]
  refine List.map_congr_left fun j _ => ?_
  show ((withItem s i it).tag (j + 1)).key = (s.tag (j + 1)).key
  rw [tag_withItem s i it hi]
  split
  · rename_i e; rw [e]
  · rfl

theorem findIndex_mem {s : HH} (h : WF lt s) {k : Nat} (hk : k ∈ keys (abs s)) :
    ∃ i, 1 ≤ i ∧ i ≤ s.count ∧ (s.tag i).key = k ∧ findIndex s k = .ok i := by
  obtain ⟨i, hi, rfl⟩ := (mem_keys_abs s k).1 hk
  exact ⟨i, hi.1, hi.2, rfl, findIndex_of_mem h hi⟩

/-- pigeonhole: the keys are distinct, non-zero and at most `n` -/
theorem WF.count_le_of_keys {s : HH} (h : WF lt s) {n : Nat} (hk : ∀ k ∈ keys (abs s), k ≤ n) : s.count ≤ n := by
  have hl : (abs s).length = (keys (abs s)).length := (List.length_map _).symm
  rw [← abs_length, hl]
  have hsub : keys (abs s) ⊆ List.range' 1 n := fun k hk' => by
    have h0 := (h.keys_ne_zero hk').1
    have h1 := hk k hk'
    rw [List.mem_range']; exact ⟨k - 1, by omega, by omega⟩
  simpa using List.Nodup.length_le_of_subset h.keys_nodup hsub

theorem WF.room_of_keys {s : HH} (h : WF lt s) {n : Nat} (hk : ∀ k ∈ keys (abs s), k ≤ n) (hn : n < 2 ^ 31) :
    s.count < 2 ^ s.exp ∨ s.exp < 31 := by
  by_cases he : s.exp < 31
  · exact Or.inr he
  · have := h.expLe
    have h31 : s.exp = 31 := by omega
    rw [h31]
    have := h.count_le_of_keys hk
    omega

end CimbaModel.HashHeap
