/-
  Refinement proof of the hashheap: from the concrete specifications to the abstract keyed
  priority queue.  Live keys are pairwise distinct, so `abs s` has no duplicates and every
  permutation statement reduces to a statement about membership.
-/
import CimbaModel.HashHeap.RefineGrow
import CimbaModel.Basic.KeyedPQLemmas
import CimbaModel.HashHeap.RefineOps

set_option linter.unusedSimpArgs false

namespace CimbaModel.HashHeap
open CimbaModel CimbaModel.KPQ

theorem nodup_of_map {α β : Type} (f : α → β) {l : List α} (h : (l.map f).Nodup) : l.Nodup := by
  unfold List.Nodup at *
  rw [List.pairwise_map] at h
  exact h.imp (fun hne heq => hne (congrArg f heq))

theorem nodup_map_on {α β : Type} {f : α → β} {l : List α}
    (hinj : ∀ x, x ∈ l → ∀ y, y ∈ l → f x = f y → x = y) (h : l.Nodup) : (l.map f).Nodup := by
  unfold List.Nodup at *
  rw [List.pairwise_map]
  exact h.imp_of_mem (fun hx hy hne heq => hne (hinj _ hx _ hy heq))

theorem nodup_filter {α : Type} (p : α → Bool) {l : List α} (h : l.Nodup) : (l.filter p).Nodup :=
  List.Pairwise.filter p h

theorem mem_abs (s : HH) (x : HTag) : x ∈ abs s ↔ ∃ i, InR s.count i ∧ norm (s.tag i) = x := by
  unfold abs
  rw [List.mem_map]
  constructor
  · rintro ⟨t, ht, rfl⟩
    obtain ⟨i, h1, h2, rfl⟩ := (mem_liveTags s t).1 ht
    exact ⟨i, ⟨h1, h2⟩, rfl⟩
  · rintro ⟨i, hi, rfl⟩
    exact ⟨s.tag i, (mem_liveTags s _).2 ⟨i, hi.1, hi.2, rfl⟩, rfl⟩

theorem mem_abs_of_live (s : HH) (x : HTag) : x ∈ abs s ↔ ∃ t, Live s.tag s.count t ∧ norm t = x := by
  rw [mem_abs]
  constructor
  · rintro ⟨i, hi, rfl⟩; exact ⟨_, ⟨i, hi.1, hi.2, rfl⟩, rfl⟩
  · rintro ⟨t, ⟨i, h1, h2, rfl⟩, rfl⟩; exact ⟨i, ⟨h1, h2⟩, rfl⟩

theorem keys_abs (s : HH) : keys (abs s) = (liveTags s).map (·.key) := by
  unfold keys abs
  rw [List.map_map]
  rfl

theorem mem_keys_abs (s : HH) (k : Nat) : k ∈ keys (abs s) ↔ ∃ i, InR s.count i ∧ (s.tag i).key = k := by
  unfold keys
  rw [List.mem_map]
  constructor
  · rintro ⟨x, hx, rfl⟩
    obtain ⟨i, hi, rfl⟩ := (mem_abs s x).1 hx
    exact ⟨i, hi, rfl⟩
  · rintro ⟨i, hi, rfl⟩
    exact ⟨norm (s.tag i), (mem_abs s _).2 ⟨i, hi, rfl⟩, rfl⟩

theorem abs_length (s : HH) : (abs s).length = s.count := by simp [abs, liveTags]

theorem abs_congr (s s' : HH) (hc : s'.count = s.count)
    (h : ∀ i, norm (s'.tag i) = norm (s.tag i)) : abs s' = abs s := by
  unfold abs liveTags
  rw [hc, List.map_map, List.map_map]
  apply List.map_congr_left
  intro j _
  exact h (j + 1)

variable {lt : Order}

theorem WF.wfs {s : HH} (h : WF lt s) : WFS s.tag s.slot (InR s.count) s.exp := ((WF_iff lt s).1 h).2.2.2.2.2.2.2.1

theorem WF.key_inj {s : HH} (h : WF lt s) {i j : Nat} (hi : InR s.count i) (hj : InR s.count j)
    (hk : (s.tag i).key = (s.tag j).key) : i = j :=
  h.wfs.key_inj (by have := h.expLe; omega) hi hj hk

theorem WF.keys_nodup {s : HH} (h : WF lt s) : (keys (abs s)).Nodup := by
  rw [keys_abs]
  unfold liveTags
  rw [List.map_map]
  apply nodup_map_on _ List.nodup_range
  intro x hx y hy hxy
  have hx := List.mem_range.mp hx
  have hy := List.mem_range.mp hy
  have := h.key_inj (i := x + 1) (j := y + 1) ⟨by omega, by omega⟩ ⟨by omega, by omega⟩ hxy
  omega

theorem WF.abs_nodup {s : HH} (h : WF lt s) : (abs s).Nodup := by
  have := h.keys_nodup
  unfold keys at this
  exact nodup_of_map _ this

theorem WF.keys_ne_zero {s : HH} (h : WF lt s) {k : Nat} (hk : k ∈ keys (abs s)) : k ≠ 0 ∧ k < 2 ^ 64 := by
  obtain ⟨i, hi, rfl⟩ := (mem_keys_abs s k).1 hk
  exact h.keyOk i hi.1 hi.2

theorem findIndex_of_mem {s : HH} (h : WF lt s) {i : Nat} (hi : InR s.count i) :
    findIndex s (s.tag i).key = .ok i :=
  findIndex_live s h.hashSize (by have := h.expLe; omega) h.wfs hi

theorem findIndex_of_not_mem {s : HH} (h : WF lt s) {k : Nat} (hk : k ∉ keys (abs s)) :
    findIndex s k = .ok 0 :=
  findIndex_absent s h.hashSize (by have := h.expLe; omega) h.wfs k
    (fun i hi he => hk ((mem_keys_abs s k).2 ⟨i, hi, he⟩))

theorem isEnqueued_spec {s : HH} (h : WF lt s) (k : Nat) (hk0 : k ≠ 0) :
    isEnqueued s k = .ok (decide (k ∈ keys (abs s))) := by
  unfold isEnqueued
  by_cases hk : k ∈ keys (abs s)
  · obtain ⟨i, hi, rfl⟩ := (mem_keys_abs s k).1 hk
    have : s.count ≠ 0 := by have := hi.1; have := hi.2; omega
    rw [if_neg this, findIndex_of_mem h hi, ok_bind]
    have : i ≠ 0 := by have := hi.1; omega
    simp [hk, this]
  · split
    · simp [hk]
    · rw [findIndex_of_not_mem h hk, ok_bind]
      simp [hk]

theorem lookup_spec {s : HH} (h : WF lt s) {k : Nat} (hk : k ∈ keys (abs s)) :
    ∃ t, lookup s k = .ok t ∧ KPQ.lookup (abs s) k = some (norm t) := by
  obtain ⟨i, hi, rfl⟩ := (mem_keys_abs s k).1 hk
  have hi1 := hi.1; have hi2 := hi.2
  have hcnt := h.countLe
  refine ⟨s.tag i, ?_, (lookup_eq_some_iff h.keys_nodup _ _).2 ⟨(mem_abs s _).2 ⟨i, hi, rfl⟩, rfl⟩⟩
  unfold lookup
  rw [if_neg (h.keyOk i hi.1 hi.2).1, findIndex_of_mem h hi, ok_bind, if_neg (by omega)]
  exact rdHeap_ok (by have := h.heapSize; omega)

theorem peek_spec {s : HH} (h : WF lt s) (hpos : 0 < s.count) : peek s = .ok (some (s.tag 1)) := by
  unfold peek
  rw [if_neg (by omega)]
  rw [rdHeap_ok (by have := h.heapSize; have := Nat.two_pow_pos s.exp; omega)]
  rfl

theorem root_isMin [StrictWeak lt] {s : HH} (h : WF lt s) (hpos : 0 < s.count) : IsMin lt (liveTags s) (s.tag 1) := by
  refine ⟨(mem_liveTags s _).2 ⟨1, Nat.le_refl _, hpos, rfl⟩, ?_⟩
  intro x hx
  obtain ⟨i, h1, h2, rfl⟩ := (mem_liveTags s x).1 hx
  exact Ord.root_min h.ord i h1 h2

theorem root_isMin_abs [StrictWeak lt] [IgnoresHidx lt] {s : HH} (h : WF lt s) (hpos : 0 < s.count) :
    IsMin lt (abs s) (norm (s.tag 1)) := by
  refine ⟨(mem_abs s _).2 ⟨1, ⟨Nat.le_refl _, hpos⟩, rfl⟩, ?_⟩
  intro x hx
  obtain ⟨i, hi, rfl⟩ := (mem_abs s x).1 hx
  rw [lt_norm lt]
  exact Ord.root_min h.ord i hi.1 hi.2

/-! What each updating operation leaves: the statements below conclude these structures, HashHeap/Use.lean reads
    entries, keys and lookups off them. -/

structure Dequeued (lt : Order) (s s' : HH) (e : HTag) : Prop where
  wf : WF lt s'
  perm : (abs s).Perm (norm e :: abs s')
  count : s'.count = s.count - 1
  counter : s'.counter = s.counter
  /-- what is dequeued is what `peek` shows -/
  top : e = s.tag 1

structure Removed (lt : Order) (s : HH) (k : Nat) (s' : HH) (r : Bool) : Prop where
  wf : WF lt s'
  perm : (abs s').Perm (KPQ.remove (abs s) k)
  exp : s'.exp = s.exp
  expInit : s'.expInit = s.expInit
  counter : s'.counter = s.counter
  count : s'.count = s.count - (if k ∈ keys (abs s) then 1 else 0)
  res : r = decide (k ∈ keys (abs s))

structure Reprioritized (lt : Order) (s : HH) (k : Nat) (d i : Int) (s' : HH) : Prop where
  wf : WF lt s'
  perm : (abs s').Perm (KPQ.reprio (abs s) k d i)
  counter : s'.counter = s.counter
  count : s'.count = s.count

structure Inserted (lt : Order) (s : HH) (t : HTag) (s' : HH) : Prop where
  wf : WF lt s'
  perm : (abs s').Perm (KPQ.insert (abs s) t)
  counter : s'.counter = s.counter + 1
  expInit : s'.expInit = s.expInit
  count : s'.count = s.count + 1

theorem dequeue_abs [StrictWeak lt] {s : HH} (h : WF lt s) (hpos : 0 < s.count) :
    ∃ s', dequeue lt s = .ok (s', some (s.tag 1)) ∧ Dequeued lt s s' (s.tag 1) := by
  obtain ⟨s', hrun, hwf', hc, he, hei, hct, hl⟩ := dequeue_spec h hpos
  have h1 : InR s.count 1 := ⟨Nat.le_refl _, hpos⟩
  have hmem' : ∀ x, x ∈ abs s' ↔ ∃ j, InR s.count j ∧ j ≠ 1 ∧ norm (s.tag j) = x := by
    intro x
    rw [mem_abs_of_live]
    constructor
    · rintro ⟨t, ht, rfl⟩
      obtain ⟨j, a, b, c, rfl⟩ := (hl t).1 ht
      exact ⟨j, ⟨a, b⟩, c, rfl⟩
    · rintro ⟨j, hj, hne, rfl⟩
      exact ⟨s.tag j, (hl _).2 ⟨j, hj.1, hj.2, hne, rfl⟩, rfl⟩
  refine ⟨s', hrun, hwf', ?_, hc, hct, rfl⟩
  have hnd : (norm (s.tag 1) :: abs s').Nodup := by
    rw [List.nodup_cons]
    refine ⟨?_, hwf'.abs_nodup⟩
    intro hm
    obtain ⟨j, hj, hne, he⟩ := (hmem' _).1 hm
    have hk : (norm (s.tag j)).key = (norm (s.tag 1)).key := by rw [he]
    exact hne (h.key_inj hj h1 hk)
  rw [List.perm_ext_iff_of_nodup h.abs_nodup hnd]
  intro x
  rw [List.mem_cons, hmem', mem_abs]
  constructor
  · rintro ⟨i, hi, rfl⟩
    by_cases h : i = 1
    · left; rw [h]
    · right; exact ⟨i, hi, h, rfl⟩
  · rintro (rfl | ⟨j, hj, _, rfl⟩)
    · exact ⟨1, h1, rfl⟩
    · exact ⟨j, hj, rfl⟩

theorem remove_abs [StrictWeak lt] {s : HH} (h : WF lt s) (k : Nat) (hk0 : k ≠ 0) :
    ∃ s', remove lt s k = .ok (s', decide (k ∈ keys (abs s))) ∧ Removed lt s k s' (decide (k ∈ keys (abs s))) := by
  by_cases hk : k ∈ keys (abs s)
  · obtain ⟨i, hi, rfl⟩ := (mem_keys_abs s k).1 hk
    obtain ⟨s', hrun, hwf', hc, he, hei, hct, hl⟩ := remove_present h hi
    refine ⟨s', by rw [hrun]; simp [hk], hwf', ?_, he, hei, hct, by rw [hc, if_pos hk], rfl⟩
    unfold KPQ.remove
    rw [List.perm_ext_iff_of_nodup hwf'.abs_nodup (nodup_filter _ h.abs_nodup)]
    intro x
    rw [List.mem_filter, mem_abs_of_live, mem_abs]
    constructor
    · rintro ⟨t, ht, rfl⟩
      obtain ⟨j, a, b, c, rfl⟩ := (hl t).1 ht
      refine ⟨⟨j, ⟨a, b⟩, rfl⟩, ?_⟩
      have : (s.tag j).key ≠ (s.tag i).key := fun he => c (h.key_inj ⟨a, b⟩ hi he)
      exact decide_eq_true this
    · rintro ⟨⟨j, hj, rfl⟩, hne⟩
      have hne' : (s.tag j).key ≠ (s.tag i).key := of_decide_eq_true hne
      have : j ≠ i := fun he => hne' (by rw [he])
      exact ⟨s.tag j, (hl _).2 ⟨j, hj.1, hj.2, this, rfl⟩, rfl⟩
  · have hrun := remove_absent h hk0 (fun i hi he => hk ((mem_keys_abs s k).2 ⟨i, hi, he⟩))
    exact ⟨s, by rw [hrun]; simp [hk], h, by rw [remove_of_not_mem hk], rfl, rfl, rfl, by rw [if_neg hk]; rfl, rfl⟩

theorem reprio_abs [StrictWeak lt] {s : HH} (h : WF lt s) {k : Nat} (hk : k ∈ keys (abs s)) (d i : Int) :
    ∃ s', reprioritize lt s k d i = .ok s' ∧ Reprioritized lt s k d i s' := by
  obtain ⟨a, ha, rfl⟩ := (mem_keys_abs s k).1 hk
  obtain ⟨s', hrun, hwf', hc, he, hei, hct, hl⟩ := reprioritize_present h ha d i
  refine ⟨s', hrun, hwf', ?_, hct, hc⟩
  have hnd : (KPQ.reprio (abs s) (s.tag a).key d i).Nodup :=
    nodup_of_map (·.key) (by rw [← keys, keys_reprio]; exact h.keys_nodup)
  rw [List.perm_ext_iff_of_nodup hwf'.abs_nodup hnd]
  intro x
  unfold KPQ.reprio
  rw [List.mem_map, mem_abs_of_live]
  constructor
  · rintro ⟨t, ht, rfl⟩
    obtain ⟨j, h1, h2, rfl⟩ := (hl t).1 ht
    refine ⟨norm (s.tag j), (mem_abs s _).2 ⟨j, ⟨h1, h2⟩, rfl⟩, ?_⟩
    by_cases hja : j = a
    · subst hja; simp [norm]
    · have : (s.tag j).key ≠ (s.tag a).key := fun he => hja (h.key_inj ⟨h1, h2⟩ ha he)
      simp [norm, hja, this]
  · rintro ⟨y, hy, rfl⟩
    obtain ⟨j, hj, rfl⟩ := (mem_abs s y).1 hy
    refine ⟨upd s.tag a { s.tag a with d := d, i := i } j, (hl _).2 ⟨j, hj.1, hj.2, rfl⟩, ?_⟩
    by_cases hja : j = a
    · subst hja; simp [norm]
    · have : (s.tag j).key ≠ (s.tag a).key := fun he => hja (h.key_inj hj ha he)
      simp [norm, hja, this]

/-- what the optional growth step of `enqueue` has to deliver; `e` is the exponent afterwards -/
def GrowOK (lt : Order) (s : HH) (e : Nat) : Prop :=
  ∃ s1, (if s.count = 2 ^ s.exp then grow s else pure s) = .ok s1 ∧ WF lt s1 ∧
      s1.count < 2 ^ s1.exp ∧ abs s1 = abs s ∧ s1.counter = s.counter ∧ s1.expInit = s.expInit ∧
      s1.exp = e ∧ s1.count = s.count

theorem growOK_of_room {s : HH} (h : WF lt s) (hroom : s.count < 2 ^ s.exp) : GrowOK lt s s.exp := by
  have : s.count ≠ 2 ^ s.exp := by omega
  unfold GrowOK
  rw [if_neg this]
  exact ⟨s, rfl, h, hroom, rfl, rfl, rfl, rfl, rfl⟩

theorem growOK [IgnoresHidx lt] {s : HH} (h : WF lt s) (hroom : s.count < 2 ^ s.exp ∨ s.exp < 31) :
    ∃ e, s.exp ≤ e ∧ GrowOK lt s e := by
  by_cases hfull : s.count = 2 ^ s.exp
  · unfold GrowOK
    rw [if_pos hfull]
    obtain ⟨s1, hrun, hwf1, he, hc, hei, hct, hn⟩ := grow_spec h (by omega)
    refine ⟨s.exp + 1, Nat.le_succ _, s1, hrun, hwf1, ?_, abs_congr s s1 hc hn, hct, hei, he, hc⟩
    rw [hc, he, hfull]
    exact Nat.pow_lt_pow_right (by decide) (by omega)
  · have := h.countLe
    exact ⟨s.exp, Nat.le_refl _, growOK_of_room h (by omega)⟩

theorem enqueue_abs_of_grow [StrictWeak lt] {s : HH} (h : WF lt s) (it : Item) (k : Nat) (d i : Int)
    (hk0 : (if k = 0 then s.counter + 1 else k) ≠ 0) (hk64 : (if k = 0 then s.counter + 1 else k) < 2 ^ 64)
    (hfresh : (if k = 0 then s.counter + 1 else k) ∉ keys (abs s))
    {e : Nat} (hg : GrowOK lt s e) :
    ∃ s', enqueue lt s it k d i = .ok (s', if k = 0 then s.counter + 1 else k) ∧
      Inserted lt s ⟨if k = 0 then s.counter + 1 else k, 0, it, d, i⟩ s' ∧ s'.exp = e := by
  generalize hk' : (if k = 0 then s.counter + 1 else k) = k' at *
  obtain ⟨s1, hrun1, hwf1, hroom1, habs1, hct1, hei1, hexp1, hc1⟩ := hg
  have hfresh1 : ∀ j, InR s1.count j → (s1.tag j).key ≠ k' := by
    intro j hj he
    apply hfresh
    rw [← habs1]
    exact (mem_keys_abs s1 k').2 ⟨j, hj, he⟩
  obtain ⟨p, s', hrun, hwf', hc, he, hei, hct, hl⟩ :=
    enqueueCore_spec hwf1 hroom1 it k d i k' (by rw [hct1]; exact hk'.symm) hk0 hk64 hfresh1
  refine ⟨s', ?_, ⟨hwf', ?_, by rw [hct, hct1], by rw [hei, hei1], by rw [hc, hc1]⟩, by rw [he]; exact hexp1⟩
  · rw [enqueue_eq, if_neg (by have := h.countLe; omega), hrun1, ok_bind, hrun]
  · unfold KPQ.insert
    have hnew : norm ({ key := k', hidx := 0, item := it, d := d, i := i } : HTag) =
        { key := k', hidx := 0, item := it, d := d, i := i } := rfl
    rw [hnew]
    have hnd : (({ key := k', hidx := 0, item := it, d := d, i := i } : HTag) :: abs s).Nodup := by
      rw [List.nodup_cons]
      refine ⟨?_, h.abs_nodup⟩
      intro hm
      exact hfresh (List.mem_map.2 ⟨_, hm, rfl⟩)
    rw [List.perm_ext_iff_of_nodup hwf'.abs_nodup hnd]
    intro x
    rw [List.mem_cons, ← habs1, mem_abs_of_live, mem_abs_of_live]
    constructor
    · rintro ⟨t, ht, rfl⟩
      rcases (hl t).1 ht with ht | rfl
      · right; exact ⟨t, ht, rfl⟩
      · left; rfl
    · rintro (rfl | ⟨t, ht, rfl⟩)
      · exact ⟨_, (hl _).2 (Or.inr rfl), rfl⟩
      · exact ⟨t, (hl _).2 (Or.inl ht), rfl⟩

theorem enqueue_abs [StrictWeak lt] [IgnoresHidx lt] {s : HH} (h : WF lt s) (it : Item) (k : Nat) (d i : Int)
    (hk0 : (if k = 0 then s.counter + 1 else k) ≠ 0) (hk64 : (if k = 0 then s.counter + 1 else k) < 2 ^ 64)
    (hfresh : (if k = 0 then s.counter + 1 else k) ∉ keys (abs s))
    (hroom : s.count < 2 ^ s.exp ∨ s.exp < 31) :
    ∃ s', enqueue lt s it k d i = .ok (s', if k = 0 then s.counter + 1 else k) ∧
      Inserted lt s ⟨if k = 0 then s.counter + 1 else k, 0, it, d, i⟩ s' ∧ s.exp ≤ s'.exp := by
  obtain ⟨e, hle, hg⟩ := growOK h hroom
  obtain ⟨s', hrun, a, he⟩ := enqueue_abs_of_grow h it k d i hk0 hk64 hfresh hg
  exact ⟨s', hrun, a, he ▸ hle⟩

end CimbaModel.HashHeap
