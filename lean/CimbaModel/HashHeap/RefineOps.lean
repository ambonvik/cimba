/-
  Refinement proof of the hashheap: the public operations on a well-formed state, stated on
  the concrete level (`WF` of the result, and which tags are live afterwards).
-/
import CimbaModel.HashHeap.RefineSift

set_option linter.unusedSimpArgs false

namespace CimbaModel.HashHeap
open CimbaModel CimbaModel.KPQ

/-- `x` is a live tag at an index other than `i` -/
def LiveExcept (T : Nat → HTag) (c i : Nat) (x : HTag) : Prop := ∃ j, 1 ≤ j ∧ j ≤ c ∧ j ≠ i ∧ T j = x

section struct
variable {T : Nat → HTag} {S : Nat → HSlot} {c e : Nat}

theorem InR_pred (c i : Nat) : (InR c i ∧ i ≠ c) ↔ InR (c - 1) i := by
  unfold InR; omega

/-- drop the last heap entry -/
theorem WFS.removeLast (w : WFS T S (InR c) e) (hc : 1 ≤ c) :
    WFS T (upd S (T c).hidx { S (T c).hidx with idx := 0 }) (InR (c - 1)) e := by
  have hcc : InR c c := ⟨hc, Nat.le_refl _⟩
  have b := (w.back c hcc).2
  have d := w.delete hcc
  apply d.congr (fun i => (InR_pred c i).symm) (fun _ _ => ⟨rfl, rfl⟩)
  intro j _
  rw [b]

/-- overwrite entry `i` by the last one and drop the last -/
theorem WFS.removeAt {i : Nat} (w : WFS T S (InR c) e) (hi : InR c i) (hic : i ≠ c) :
    WFS (upd T i (T c))
      (upd (upd S (T i).hidx { S (T i).hidx with idx := 0 }) (T c).hidx
        { (upd S (T i).hidx { S (T i).hidx with idx := 0 }) (T c).hidx with idx := i })
      (InR (c - 1)) e := by
  have hcc : InR c c := ⟨by have := hi.1; have := hi.2; omega, Nat.le_refl _⟩
  have bi := (w.back i hi).2
  have bc := (w.back c hcc).2
  have hne : (T c).hidx ≠ (T i).hidx := fun h => hic (w.hidx_inj hi hcc h.symm)
  have s1 := w.swap hi hcc hic
  have d := s1.delete hcc
  have e1 : upd (upd T i (T c)) c (T i) c = T i := by simp
  rw [e1] at d
  apply d.congr (fun i => (InR_pred c i).symm)
  · intro j hj
    have : j ≠ c := hj.2
    simp [this]
  · intro j _
    simp only [upd_apply]
    by_cases h1 : j = (T c).hidx
    · subst h1; simp [hne, bc]
    · by_cases h2 : j = (T i).hidx
      · subst h2; simp [h1, bi]
      · simp [h1, h2]

theorem Live.removeAt {i : Nat} (hi : InR c i) (hic : i ≠ c) (x : HTag) :
    Live (upd T i (T c)) (c - 1) x ↔ LiveExcept T c i x := by
  have := hi.1; have := hi.2
  constructor
  · rintro ⟨j, h1, h2, rfl⟩
    by_cases hji : j = i
    · subst hji; exact ⟨c, by omega, by omega, by omega, by simp⟩
    · exact ⟨j, h1, by omega, hji, by simp [hji]⟩
  · rintro ⟨j, h1, h2, h3, rfl⟩
    by_cases hjc : j = c
    · subst hjc; exact ⟨i, by omega, by omega, by simp⟩
    · exact ⟨j, h1, by omega, by simp [h3]⟩

theorem Live.removeLast (hc : 1 ≤ c) (x : HTag) : Live T (c - 1) x ↔ LiveExcept T c c x := by
  constructor
  · rintro ⟨j, h1, h2, rfl⟩; exact ⟨j, h1, by omega, by omega, rfl⟩
  · rintro ⟨j, h1, h2, h3, rfl⟩; exact ⟨j, h1, by omega, rfl⟩

end struct

section ord
variable {lt : Order} [sw : StrictWeak lt] {T : Nat → HTag} {c c' i : Nat}

/-- replacing entry `i` by a tag that is not before the parent of `i`: only the children may be out of order -/
theorem Ord.replace_down (ho : Ord lt T c) (hcc : c' ≤ c) (hi : InR c' i) (b : HTag)
    (h : 2 ≤ i → lt b (T (i / 2)) = false) : DownOrd lt (upd T i b) c' i := by
  have := hi.1; have := hi.2
  constructor
  · intro x h2 hc hx
    by_cases hxi : x = i
    · subst hxi
      have : x / 2 ≠ x := by omega
      simp [this]; exact h h2
    · simp [hxi, hx]; exact ho x h2 (by omega)
  · intro x h2 hc hx hi2
    have hxi : x ≠ i := by omega
    have : i / 2 ≠ i := by omega
    simp [hxi, this]
    have h1 := ho x h2 (by omega)
    rw [hx] at h1
    exact sw.negTrans _ _ _ h1 (ho i hi2 (by omega))

/-- replacing entry `i` by a tag that no child of `i` is before: only the parent may be out of order -/
theorem Ord.replace_up (ho : Ord lt T c) (hcc : c' ≤ c) (hi : InR c' i) (b : HTag)
    (h : ∀ x, 2 ≤ x → x ≤ c' → x / 2 = i → lt (T x) b = false) : UpOrd lt (upd T i b) c' i := by
  have := hi.1; have := hi.2
  constructor
  · intro x h2 hc hxi
    by_cases hx : x / 2 = i
    · rw [hx]; simp [hxi]; exact h x h2 hc hx
    · simp [hxi, hx]; exact ho x h2 (by omega)
  · intro x h2 hc hx hi2
    have hxi : x ≠ i := by omega
    have : i / 2 ≠ i := by omega
    simp [hxi, this]
    have h1 := ho x h2 (by omega)
    rw [hx] at h1
    exact sw.negTrans _ _ _ h1 (ho i hi2 (by omega))

omit sw in
theorem Ord.shrink (ho : Ord lt T c) (hcc : c' ≤ c) : Ord lt T c' := fun i h2 hc => ho i h2 (by omega)

end ord

variable {lt : Order} [sw : StrictWeak lt]

omit sw in
theorem SiftPost.toWF {s1 s' : HH} (p : SiftPost lt s1 s') (h1 : 1 ≤ s1.exp) (h2 : s1.exp ≤ 31)
    (h3 : 1 ≤ s1.expInit) (h4 : s1.expInit ≤ s1.exp) (hc : s1.count ≤ 2 ^ s1.exp) : WF lt s' := by
  rw [WF_iff, p.exp, p.expInit, p.count]
  exact ⟨h1, h2, h3, h4, p.heapSize, p.hashSize, hc, p.wfs, p.ord⟩

/-- what the final sift of an operation establishes for its result `s2`, relative to the state `s1`
    handed to it -/
structure Post (lt : Order) (s1 s2 : HH) : Prop where
  wf : WF lt s2
  count : s2.count = s1.count
  exp : s2.exp = s1.exp
  expInit : s2.expInit = s1.expInit
  counter : s2.counter = s1.counter
  live : ∀ x, Live s2.tag s2.count x ↔ Live s1.tag s1.count x

/-- the bookkeeping facts about the state handed to the final sift -/
structure Pre (s1 : HH) : Prop where
  he1 : 1 ≤ s1.exp
  he31 : s1.exp ≤ 31
  hei1 : 1 ≤ s1.expInit
  hei2 : s1.expInit ≤ s1.exp
  hsz : s1.heap.size = 2 ^ s1.exp + 2
  hhs : s1.hash.size = 2 ^ (s1.exp + 1)
  hc : s1.count ≤ 2 ^ s1.exp
  w : WFS s1.tag s1.slot (InR s1.count) s1.exp

omit sw in
theorem Pre.post (p : Pre s1) (ho : Ord lt s1.tag s1.count) : Post lt s1 s1 := by
  refine ⟨?_, rfl, rfl, rfl, rfl, fun x => Iff.rfl⟩
  rw [WF_iff]
  exact ⟨p.he1, p.he31, p.hei1, p.hei2, p.hsz, p.hhs, p.hc, p.w, ho⟩

theorem heapDown_tail {s1 : HH} (p : Pre s1) {k : Nat} (hk : InR s1.count k)
    (ho : DownOrd lt s1.tag s1.count k) : ∃ s2, heapDown lt s1 k = .ok s2 ∧ Post lt s1 s2 := by
  obtain ⟨s2, hrun, q⟩ := heapDown_spec (lt := lt) s1 k p.hsz p.hhs p.hc hk p.w ho
  refine ⟨s2, hrun, q.toWF p.he1 p.he31 p.hei1 p.hei2 p.hc, q.count, q.exp, q.expInit, q.counter, ?_⟩
  intro x
  rw [q.count, q.live x]

theorem heapUp_tail {s1 : HH} (p : Pre s1) {k : Nat} (hk : InR s1.count k)
    (ho : UpOrd lt s1.tag s1.count k) : ∃ s2, heapUp lt s1 k = .ok s2 ∧ Post lt s1 s2 := by
  obtain ⟨s2, hrun, q⟩ := heapUp_spec (lt := lt) s1 k p.hsz p.hhs p.hc hk p.w ho
  refine ⟨s2, hrun, q.toWF p.he1 p.he31 p.hei1 p.hei2 p.hc, q.count, q.exp, q.expInit, q.counter, ?_⟩
  intro x
  rw [q.count, q.live x]

/-- the tail of `dequeue`, for an arbitrary intermediate state `s1`.  The tail lemmas take a postcondition `Q` (and
    `c1` with `hc1`) so that `apply` finds `s1` by unification and the large intermediate state is never written out. -/
theorem dequeue_tail (s1 : HH) (t : HTag) (Q : HH → Prop) (c1 : Nat) (hc1 : s1.count = c1)
    (p : Pre s1) (hpos : 1 ≤ s1.count)
    (ho : DownOrd lt s1.tag s1.count 1) (hQ : ∀ s2, Post lt s1 s2 → Q s2) :
    ∃ s2, (do let s2 ← (if 1 < c1 then heapDown lt s1 1 else pure s1)
              Except.ok (s2, some t)) = .ok (s2, some t) ∧ Q s2 := by
  subst hc1
  by_cases h2 : 1 < s1.count
  · rw [if_pos h2]
    obtain ⟨s2, hrun, q⟩ := heapDown_tail (lt := lt) p ⟨Nat.le_refl _, hpos⟩ ho
    rw [hrun]
    exact ⟨s2, rfl, hQ s2 q⟩
  · rw [if_neg h2]
    refine ⟨s1, rfl, hQ s1 (p.post ?_)⟩
    intro i _ _; omega

/-- `dequeue` on a non-empty well-formed heap: returns the root, removes exactly it -/
theorem dequeue_spec {s : HH} (hwf : WF lt s) (hpos : 0 < s.count) :
    ∃ s', dequeue lt s = .ok (s', some (s.tag 1)) ∧ WF lt s' ∧ s'.count = s.count - 1 ∧
      s'.exp = s.exp ∧ s'.expInit = s.expInit ∧ s'.counter = s.counter ∧
      ∀ x, Live s'.tag s'.count x ↔ LiveExcept s.tag s.count 1 x := by
  obtain ⟨he1, he31, hei1, hei2, hsz, hhs, hc, w, ho⟩ := (WF_iff lt s).1 hwf
  have h1r : InR s.count 1 := ⟨Nat.le_refl _, hpos⟩
  have hcr : InR s.count s.count := ⟨hpos, Nat.le_refl _⟩
  have b1 := w.back 1 h1r
  have bc := w.back _ hcr
  rw [HH.tag_eq] at b1 bc
  have hlast : tg (s.heap.set 0 (tg s.heap 1) (by omega)) s.count = tg s.heap s.count := by
    rw [tg_set]; exact upd_other _ _ _ _ (by omega)
  unfold dequeue
  rw [if_neg (by omega)]
  dsimp only
  rw [rdHeap_ok (by omega), ok_bind, wrHeap_ok (by omega), ok_bind, setIdx_ok (by omega), ok_bind]
  by_cases h1 : 1 < s.count
  · rw [if_pos h1, rdHeap_ok (by simp; omega), ok_bind, hlast, wrHeap_ok (by simp; omega), ok_bind,
      setIdx_ok (by simp; omega), ok_bind]
    have w1 := w.removeAt h1r (by omega : (1 : Nat) ≠ s.count)
    rw [HH.tag_eq, HH.slot_eq] at w1
    have hT1 : ∀ i, 1 ≤ i →
        upd (upd (tg s.heap) 0 (tg s.heap 1)) 1 (tg s.heap s.count) i = upd (tg s.heap) 1 (tg s.heap s.count) i := by
      intro i hi
      by_cases h : i = 1
      · simp [h]
      · have : i ≠ 0 := by omega
        simp [h, this]
    apply dequeue_tail
    · rfl
    · refine ⟨he1, he31, hei1, hei2, by simp [hsz], by simp [hhs], (by show s.count - 1 ≤ 2 ^ s.exp; omega), ?_⟩
      show WFS (tg _) (sl _) (InR (s.count - 1)) s.exp
      rw [tg_set, tg_set, sl_set, sl_set]
      exact w1.congr (fun _ => Iff.rfl) (fun i hi => by rw [hT1 i hi.1]; exact ⟨rfl, rfl⟩) (fun _ _ => rfl)
    · show 1 ≤ s.count - 1; omega
    · show DownOrd lt (tg _) (s.count - 1) 1
      rw [tg_set, tg_set]
      apply DownOrd.congr (T := upd (tg s.heap) 1 (tg s.heap s.count)) _ (fun i hi _ => hT1 i hi)
      exact Ord.replace_down ho (by omega) ⟨Nat.le_refl _, by omega⟩ _ (by omega)
    · intro s2 q
      refine ⟨q.wf, q.count, q.exp, q.expInit, q.counter, ?_⟩
      intro x
      rw [q.live x]
      show Live (tg _) (s.count - 1) x ↔ _
      rw [tg_set, tg_set, Live.congr (fun i hi _ => hT1 i hi) x]
      exact Live.removeAt h1r (by omega) x
  · rw [if_neg h1]
    have hc1 : s.count = 1 := by omega
    have w1 := w.removeLast hpos
    rw [HH.tag_eq, HH.slot_eq, hc1] at w1
    refine ⟨_, rfl, ?_, by simp [hc1], rfl, rfl, rfl, ?_⟩
    · rw [WF_iff]
      refine ⟨he1, he31, hei1, hei2, by simp [hsz], by simp [hhs], Nat.zero_le _, ?_, ?_⟩
      · show WFS (tg _) (sl _) (InR 0) s.exp
        rw [tg_set, sl_set]
        exact w1.congr (fun _ => Iff.rfl) (fun i hi => by have := hi.1; have := hi.2; omega) (fun _ _ => rfl)
      · intro i h2' hc'; simp at hc'; omega
    · intro x
      constructor
      · rintro ⟨j, h1, h2, _⟩; simp at h2; omega
      · rintro ⟨j, h1, h2, h3, _⟩; omega

/-- the final sift of `remove` / `reprioritize`: down or up, whichever the comparison says -/
theorem sift_either (s1 : HH) (k : Nat) (down : Bool) (Q : HH → Prop) (p : Pre s1) (hk : InR s1.count k)
    (hod : down = true → DownOrd lt s1.tag s1.count k) (hou : down = false → UpOrd lt s1.tag s1.count k)
    (hQ : ∀ s2, Post lt s1 s2 → Q s2) :
    ∃ s2, (if down = true then heapDown lt s1 k else heapUp lt s1 k) = .ok s2 ∧ Q s2 := by
  cases down with
  | true =>
    obtain ⟨s2, hrun, q⟩ := heapDown_tail (lt := lt) p hk (hod rfl)
    exact ⟨s2, by simpa using hrun, hQ s2 q⟩
  | false =>
    obtain ⟨s2, hrun, q⟩ := heapUp_tail (lt := lt) p hk (hou rfl)
    exact ⟨s2, by simpa using hrun, hQ s2 q⟩

theorem remove_tail (s1 : HH) (k : Nat) (down : Bool) (Q : HH → Prop) (p : Pre s1) (hk : InR s1.count k)
    (hod : down = true → DownOrd lt s1.tag s1.count k) (hou : down = false → UpOrd lt s1.tag s1.count k)
    (hQ : ∀ s2, Post lt s1 s2 → Q s2) :
    ∃ s2, (do let s2 ← (if down = true then heapDown lt s1 k else heapUp lt s1 k)
              Except.ok (s2, true)) = .ok (s2, true) ∧ Q s2 := by
  obtain ⟨s2, hrun, q⟩ := sift_either (lt := lt) s1 k down Q p hk hod hou hQ
  rw [hrun]
  exact ⟨s2, rfl, q⟩

omit sw in
theorem remove_absent {s : HH} (hwf : WF lt s) {key : Nat} (hk0 : key ≠ 0)
    (habs : ∀ i, InR s.count i → (s.tag i).key ≠ key) : remove lt s key = .ok (s, false) := by
  obtain ⟨he1, he31, hei1, hei2, hsz, hhs, hc, w, ho⟩ := (WF_iff lt s).1 hwf
  unfold remove
  rw [if_neg hk0]
  split
  · rfl
  · rw [findIndex_absent s hhs (by omega) w key habs]
    rfl

/-- `remove` of the key of live entry `i` removes exactly that entry -/
theorem remove_present {s : HH} (hwf : WF lt s) {i : Nat} (hi : InR s.count i) :
    ∃ s', remove lt s (s.tag i).key = .ok (s', true) ∧ WF lt s' ∧ s'.count = s.count - 1 ∧
      s'.exp = s.exp ∧ s'.expInit = s.expInit ∧ s'.counter = s.counter ∧
      ∀ x, Live s'.tag s'.count x ↔ LiveExcept s.tag s.count i x := by
  obtain ⟨he1, he31, hei1, hei2, hsz, hhs, hc, w, ho⟩ := (WF_iff lt s).1 hwf
  have hi1 := hi.1; have hi2 := hi.2
  have hcr : InR s.count s.count := ⟨by omega, Nat.le_refl _⟩
  have bi := w.back i hi
  have bc := w.back _ hcr
  rw [HH.tag_eq] at bi bc
  have hi0 : i ≠ 0 := by omega
  unfold remove
  rw [if_neg (w.keyOk i hi).1, if_neg (by omega), findIndex_live s hhs (by omega) w hi, ok_bind, if_neg hi0]
  rw [HH.tag_eq]
  dsimp only
  rw [rdHeap_ok (by omega), ok_bind, setIdx_ok (by omega), ok_bind]
  by_cases hic : i = s.count
  · rw [if_pos hic]
    subst hic
    have w1 := w.removeLast (by omega : 1 ≤ s.count)
    rw [HH.tag_eq, HH.slot_eq] at w1
    refine ⟨_, rfl, ?_, rfl, rfl, rfl, rfl, ?_⟩
    · rw [WF_iff]
      refine ⟨he1, he31, hei1, hei2, hsz, by simp [hhs], (by show s.count - 1 ≤ 2 ^ s.exp; omega), ?_,
        ho.shrink (Nat.sub_le _ _)⟩
      show WFS (tg _) (sl _) (InR (s.count - 1)) s.exp
      rw [sl_set]
      exact w1
    · intro x
      exact Live.removeLast (by omega) x
  · rw [if_neg hic, rdHeap_ok (by omega), ok_bind, wrHeap_ok (by omega), ok_bind,
      setIdx_ok (by simp; omega), ok_bind]
    have w1 := w.removeAt hi hic
    rw [HH.tag_eq, HH.slot_eq] at w1
    have hk' : InR (s.count - 1) i := ⟨hi1, by omega⟩
    apply remove_tail
    · refine ⟨he1, he31, hei1, hei2, by simp [hsz], by simp [hhs], (by show s.count - 1 ≤ 2 ^ s.exp; omega), ?_⟩
      show WFS (tg _) (sl _) (InR (s.count - 1)) s.exp
      rw [tg_set, sl_set, sl_set]
      exact w1
    · exact hk'
    · intro hdown
      show DownOrd lt (tg _) (s.count - 1) i
      rw [tg_set]
      apply Ord.replace_down ho (by omega) hk'
      intro h2
      exact notBefore_of_after hdown (ho i h2 hi2)
    · intro hup
      show UpOrd lt (tg _) (s.count - 1) i
      rw [tg_set]
      apply Ord.replace_up ho (by omega) hk'
      intro x h2 hc' hx
      have := ho x h2 (by omega)
      rw [hx] at this
      exact sw.negTrans _ _ _ this hup
    · intro s2 q
      refine ⟨q.wf, q.count, q.exp, q.expInit, q.counter, ?_⟩
      intro x
      rw [q.live x]
      show Live (tg _) (s.count - 1) x ↔ _
      rw [tg_set]
      exact Live.removeAt hi hic x

/-- `reprioritize` of the key of live entry `i` changes exactly the sort keys of that entry -/
theorem reprioritize_present {s : HH} (hwf : WF lt s) {i : Nat} (hi : InR s.count i) (d' i' : Int) :
    ∃ s', reprioritize lt s (s.tag i).key d' i' = .ok s' ∧ WF lt s' ∧ s'.count = s.count ∧
      s'.exp = s.exp ∧ s'.expInit = s.expInit ∧ s'.counter = s.counter ∧
      ∀ x, Live s'.tag s'.count x ↔ Live (upd s.tag i { s.tag i with d := d', i := i' }) s.count x := by
  obtain ⟨he1, he31, hei1, hei2, hsz, hhs, hc, w, ho⟩ := (WF_iff lt s).1 hwf
  have hi1 := hi.1; have hi2 := hi.2
  have hi0 : i ≠ 0 := by omega
  unfold reprioritize
  rw [if_neg (w.keyOk i hi).1, findIndex_live s hhs (by omega) w hi, ok_bind, if_neg hi0]
  rw [HH.tag_eq] at ho ⊢
  dsimp only
  rw [rdHeap_ok (by omega), ok_bind, wrHeap_ok (by omega), ok_bind, wrHeap_ok (by simp; omega), ok_bind]
  have hT1 : ∀ j, 1 ≤ j →
      upd (upd (tg s.heap) 0 (tg s.heap i)) i { tg s.heap i with d := d', i := i' } j =
      upd (tg s.heap) i { tg s.heap i with d := d', i := i' } j := by
    intro j hj
    by_cases h : j = i
    · simp [h]
    · have : j ≠ 0 := by omega
      simp [h, this]
  apply sift_either
  · refine ⟨he1, he31, hei1, hei2, by simp [hsz], hhs, hc, ?_⟩
    show WFS (tg _) (sl _) (InR s.count) s.exp
    rw [tg_set, tg_set]
    apply w.congr (fun _ => Iff.rfl) _ (fun _ _ => rfl)
    intro j hj
    rw [hT1 j hj.1, HH.tag_eq]
    by_cases h : j = i
    · subst h; simp
    · simp [h]
  · exact hi
  · intro hdown
    show DownOrd lt (tg _) s.count i
    rw [tg_set, tg_set]
    apply DownOrd.congr _ (fun j hj _ => hT1 j hj)
    apply Ord.replace_down ho (Nat.le_refl _) hi
    intro h2
    exact notBefore_of_after hdown (ho i h2 hi2)
  · intro hup
    show UpOrd lt (tg _) s.count i
    rw [tg_set, tg_set]
    apply UpOrd.congr _ (fun j hj _ => hT1 j hj)
    apply Ord.replace_up ho (Nat.le_refl _) hi
    intro x h2 hc' hx
    have := ho x h2 hc'
    rw [hx] at this
    exact sw.negTrans _ _ _ this hup
  · intro s2 q
    refine ⟨q.wf, q.count, q.exp, q.expInit, q.counter, ?_⟩
    intro x
    rw [q.live x]
    show Live (tg _) s.count x ↔ _
    rw [tg_set, tg_set]
    exact Live.congr (fun j hj _ => hT1 j hj) x

/-- `enqueue` after the capacity check and the optional growth -/
def enqueueCore (lt : Order) (s : HH) (it : Item) (key : Nat) (d i : Int) : Except Fault (HH × Nat) := do
  let hc := s.count + 1
  let counter := s.counter + 1
  let key := if key = 0 then counter else key
  let heap ← wrHeap s.heap hc { key := key, hidx := 0, item := it, d := d, i := i }
  let idx ← findSlot s.hash s.exp key
  let hash ← wrHash s.hash idx { key := key, idx := hc }
  let heap ← setHidx heap hc idx
  let s' ← heapUp lt { s with heap := heap, hash := hash, count := hc, counter := counter } hc
  .ok (s', key)

omit sw in
theorem enqueue_eq (s : HH) (it : Item) (key : Nat) (d i : Int) :
    enqueue lt s it key d i =
      if 2 ^ s.exp < s.count then .error (.assert 408)
      else (if s.count = 2 ^ s.exp then grow s else pure s) >>= fun s => enqueueCore lt s it key d i := rfl

theorem enqueue_tail (s1 : HH) (k key : Nat) (Q : HH → Prop) (p : Pre s1) (hk : InR s1.count k)
    (ho : UpOrd lt s1.tag s1.count k) (hQ : ∀ s2, Post lt s1 s2 → Q s2) :
    ∃ s2, (do let s' ← heapUp lt s1 k
              Except.ok (s', key)) = .ok (s2, key) ∧ Q s2 := by
  obtain ⟨s2, hrun, q⟩ := heapUp_tail (lt := lt) p hk ho
  rw [hrun]
  exact ⟨s2, rfl, hQ s2 q⟩

/-- `enqueue` into a well-formed heap with room for one more entry -/
theorem enqueueCore_spec {s : HH} (hwf : WF lt s) (hroom : s.count < 2 ^ s.exp) (it : Item) (key : Nat)
    (d i : Int) (k' : Nat) (hk' : k' = if key = 0 then s.counter + 1 else key)
    (hk0 : k' ≠ 0) (hk64 : k' < 2 ^ 64) (hfresh : ∀ j, InR s.count j → (s.tag j).key ≠ k') :
    ∃ p s', enqueueCore lt s it key d i = .ok (s', k') ∧ WF lt s' ∧ s'.count = s.count + 1 ∧
      s'.exp = s.exp ∧ s'.expInit = s.expInit ∧ s'.counter = s.counter + 1 ∧
      ∀ x, Live s'.tag s'.count x ↔
        (Live s.tag s.count x ∨ x = { key := k', hidx := p, item := it, d := d, i := i }) := by
  obtain ⟨he1, he31, hei1, hei2, hsz, hhs, hc, w, ho⟩ := (WF_iff lt s).1 hwf
  have hpow : 2 ^ (s.exp + 1) = 2 * 2 ^ s.exp := by rw [Nat.pow_succ]; omega
  obtain ⟨p, hp, hfind, hfree, hchain⟩ := findSlot_spec s.hash s.exp k' hhs (by omega)
    (w.exists_free s.count (fun i hi => hi.2) (by omega))
  unfold enqueueCore
  dsimp only
  rw [← hk', wrHeap_ok (by omega), ok_bind, hfind, ok_bind, wrHash_ok (by omega), ok_bind,
    setHidx_ok (by simp; omega), ok_bind]
  have hnew : InR (s.count + 1) (s.count + 1) := ⟨by omega, Nat.le_refl _⟩
  have w1 := w.insert (by omega) (a := s.count + 1) (p := p)
    { key := k', hidx := p, item := it, d := d, i := i } (fun h => by have := h.2; omega) (by omega)
    ⟨hk0, hk64⟩ hfresh hp rfl hfree hchain
  have hT1 : ∀ j, upd (upd (tg s.heap) (s.count + 1) { key := k', hidx := 0, item := it, d := d, i := i })
        (s.count + 1)
        { upd (tg s.heap) (s.count + 1) { key := k', hidx := 0, item := it, d := d, i := i } (s.count + 1)
            with hidx := p } j =
      upd (tg s.heap) (s.count + 1) { key := k', hidx := p, item := it, d := d, i := i } j := by
    intro j
    by_cases h : j = s.count + 1
    · simp [h]
    · simp [h]
  refine ⟨p, ?_⟩
  apply enqueue_tail
  · refine ⟨he1, he31, hei1, hei2, by simp [hsz], by simp [hhs], (by show s.count + 1 ≤ 2 ^ s.exp; omega), ?_⟩
    show WFS (tg _) (sl _) (InR (s.count + 1)) s.exp
    rw [tg_set, tg_set, sl_set]
    apply w1.congr
    · intro j; unfold InR; omega
    · intro j _; rw [hT1 j]; exact ⟨rfl, rfl⟩
    · intro _ _; rfl
  · exact hnew
  · show UpOrd lt (tg _) (s.count + 1) (s.count + 1)
    rw [tg_set, tg_set]
    constructor
    · intro x h2 hc' hx
      rw [hT1 x, hT1 (x / 2)]
      have h1 : x ≠ s.count + 1 := hx
      have h3 : x / 2 ≠ s.count + 1 := by omega
      simp [h1, h3]
      exact ho x h2 (by omega)
    · intro x h2 hc' hx; omega
  · intro s2 q
    refine ⟨q.wf, q.count, q.exp, q.expInit, q.counter, ?_⟩
    intro x
    rw [q.live x]
    show Live (tg _) (s.count + 1) x ↔ _
    rw [tg_set, tg_set, Live.congr (fun j _ _ => hT1 j) x]
    constructor
    · rintro ⟨j, h1, h2, rfl⟩
      by_cases h : j = s.count + 1
      · right; simp [h]
      · left; exact ⟨j, h1, by omega, by simp [h]; rfl⟩
    · rintro (⟨j, h1, h2, rfl⟩ | rfl)
      · have h : j ≠ s.count + 1 := by omega
        exact ⟨j, h1, by omega, by simp [h]; rfl⟩
      · exact ⟨s.count + 1, by omega, Nat.le_refl _, by simp⟩

end CimbaModel.HashHeap
