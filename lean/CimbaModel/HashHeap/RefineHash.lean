/-
  Refinement proof of the hashheap: the open-addressing hash map.
  Probe arithmetic, `findIndex` / `findSlot` correctness from the probe-chain invariant,
  distinctness of live keys, existence of a free slot (pigeonhole).
-/
import CimbaModel.HashHeap.RefineBasic

namespace CimbaModel.HashHeap
open CimbaModel CimbaModel.KPQ

theorem mod_cases (x n : Nat) (hx : x < 2 * n) : x % n = if x < n then x else x - n := by
  split
  · exact Nat.mod_eq_of_lt ‹_›
  · rw [Nat.mod_eq_sub_mod (by omega)]; exact Nat.mod_eq_of_lt (by omega)

theorem probeDist_lt (n h j : Nat) (hn : 0 < n) : probeDist n h j < n := Nat.mod_lt _ hn

theorem probe_reach (n h j : Nat) (hh : h < n) (hj : j < n) : (h + probeDist n h j) % n = j := by
  unfold probeDist
  rw [mod_cases (j + n - h) n (by omega)]
  split
  · rw [mod_cases _ n (by omega)]; split <;> omega
  · rw [mod_cases _ n (by omega)]; split <;> omega

theorem probeDist_step (n h m : Nat) (hh : h < n) (hm : m < n) : probeDist n h ((h + m) % n) = m := by
  unfold probeDist
  rw [mod_cases (h + m) n (by omega)]
  split
  · rw [mod_cases _ n (by omega)]; split <;> omega
  · rw [mod_cases _ n (by omega)]; split <;> omega

theorem probe_next (n h m : Nat) : ((h + m) % n + 1) % n = (h + (m + 1)) % n := by
  rw [Nat.mod_add_mod]; rfl

/-- `d` = distance of the hit from the home slot `h`, `m` = probes done so far, `r` = probes left (the induction variable) -/
theorem findIndexLoop_hit (hs : Array HSlot) (key n h d : Nat) (hn : hs.size = n) (hd : d < n)
    (hpre : ∀ m, m < d → (sl hs ((h + m) % n)).key ≠ key ∧ (sl hs ((h + m) % n)).key ≠ 0)
    (hit : (sl hs ((h + d) % n)).key = key) :
    ∀ r m fuel, m + r = d → d < m + fuel →
      findIndexLoop hs key fuel ((h + m) % n) = .ok (sl hs ((h + d) % n)).idx := by
  have hpos : 0 < n := by omega
  intro r
  induction r with
  | zero =>
    intro m fuel hm hf
    obtain ⟨f, rfl⟩ : ∃ f, fuel = f + 1 := ⟨fuel - 1, by omega⟩
    have hmd : m = d := by omega
    subst hmd
    rw [findIndexLoop, rdHash_ok (by rw [hn]; exact Nat.mod_lt _ hpos)]
    simp [hit]
  | succ r ih =>
    intro m fuel hm hf
    obtain ⟨f, rfl⟩ : ∃ f, fuel = f + 1 := ⟨fuel - 1, by omega⟩
    have hp := hpre m (by omega)
    rw [findIndexLoop, rdHash_ok (by rw [hn]; exact Nat.mod_lt _ hpos)]
    simp only [ok_bind, hp.1, hp.2, if_false]
    rw [hn, probe_next]
    exact ih (m + 1) f (by omega) (by omega)

theorem findIndexLoop_miss (hs : Array HSlot) (key n : Nat) (hn : hs.size = n) (hpos : 0 < n)
    (hz : ∀ j, j < n → (sl hs j).key = key → (sl hs j).idx = 0) :
    ∀ fuel pos, pos < n → findIndexLoop hs key fuel pos = .ok 0 := by
  intro fuel
  induction fuel with
  | zero => intro pos _; rfl
  | succ f ih =>
    intro pos hp
    rw [findIndexLoop, rdHash_ok (by omega)]
    simp only [ok_bind]
    split
    · rw [hz pos hp ‹_›]
    · split
      · rfl
      · exact ih _ (by rw [hn]; exact Nat.mod_lt _ hpos)

section
variable {T : Nat → HTag} {S : Nat → HSlot} {L : Nat → Prop} {e : Nat}

theorem WFS.hidx_inj (w : WFS T S L e) {i i' : Nat} (hi : L i) (hi' : L i')
    (h : (T i).hidx = (T i').hidx) : i = i' := by
  have b := (w.back i hi).2
  have b' := (w.back i' hi').2
  rw [h, b'] at b
  exact (congrArg HSlot.idx b).symm

theorem WFS.slot_live (w : WFS T S L e) {j : Nat} (hj : j < 2 ^ (e + 1)) (hne : (S j).idx ≠ 0) :
    L (S j).idx ∧ (T (S j).idx).hidx = j ∧ (T (S j).idx).key = (S j).key := by
  have f := w.fwd j hj hne
  have b := (w.back _ f.1).2
  rw [f.2] at b
  exact ⟨f.1, f.2, (congrArg HSlot.key b).symm⟩

private theorem key_inj_aux (w : WFS T S L e) (he : e < 63) {i i' : Nat} (hi : L i) (hi' : L i')
    (hk : (T i).key = (T i').key)
    (hlt : probeDist (2 ^ (e + 1)) (hashKey e (T i).key) (T i).hidx <
           probeDist (2 ^ (e + 1)) (hashKey e (T i).key) (T i').hidx) : False := by
  have b := w.back i hi
  have b' := w.back i' hi'
  have hne : (S (T i').hidx).idx ≠ 0 := by rw [b'.2]; exact w.lpos i' hi'
  have p := w.probe _ b'.1 hne
  have hkey' : (S (T i').hidx).key = (T i).key := by rw [b'.2]; exact hk.symm
  unfold ChainOK at p
  rw [hkey'] at p
  have := (p _ hlt).2
  rw [probe_reach _ _ _ (hashKey_lt e _ he) b.1, b.2] at this
  exact this rfl

/-- live keys are pairwise distinct (a consequence of the probe-chain invariant) -/
theorem WFS.key_inj (w : WFS T S L e) (he : e < 63) {i i' : Nat} (hi : L i) (hi' : L i')
    (hk : (T i).key = (T i').key) : i = i' := by
  have b := w.back i hi
  have b' := w.back i' hi'
  rcases Nat.lt_trichotomy (probeDist (2 ^ (e + 1)) (hashKey e (T i).key) (T i).hidx)
      (probeDist (2 ^ (e + 1)) (hashKey e (T i).key) (T i').hidx) with h | h | h
  · exact (key_inj_aux w he hi hi' hk h).elim
  · have r1 := probe_reach _ _ _ (hashKey_lt e (T i).key he) b.1
    have r2 := probe_reach _ _ _ (hashKey_lt e (T i).key he) b'.1
    rw [h] at r1
    exact w.hidx_inj hi hi' (r1.symm.trans r2)
  · rw [hk] at h
    exact (key_inj_aux w he hi' hi hk.symm h).elim

end

/-- `findIndex` finds the heap index of every live key (first key match on the probe path is the
    live slot, never a stale tombstone) -/
theorem findIndex_live (s : HH) {L : Nat → Prop} (hsz : s.hash.size = 2 ^ (s.exp + 1)) (he : s.exp < 63)
    (w : WFS s.tag s.slot L s.exp) {i : Nat} (hi : L i) : findIndex s (s.tag i).key = .ok i := by
  have b := w.back i hi
  have hne : (s.slot (s.tag i).hidx).idx ≠ 0 := by rw [b.2]; exact w.lpos i hi
  have p := w.probe _ b.1 hne
  unfold ChainOK at p
  have hkey : (s.slot (s.tag i).hidx).key = (s.tag i).key := by rw [b.2]
  rw [hkey] at p
  have hh := hashKey_lt s.exp (s.tag i).key he
  have hr := probe_reach _ _ _ hh b.1
  have := findIndexLoop_hit s.hash (s.tag i).key (2 ^ (s.exp + 1)) (hashKey s.exp (s.tag i).key)
    (probeDist (2 ^ (s.exp + 1)) (hashKey s.exp (s.tag i).key) (s.tag i).hidx) hsz
    (probeDist_lt _ _ _ (Nat.two_pow_pos _))
    (fun m hm => ⟨(p m hm).2, (p m hm).1⟩) (by rw [hr]; exact hkey)
    _ 0 (2 ^ (s.exp + 1)) (Nat.zero_add _) (by have := probeDist_lt (2 ^ (s.exp + 1)) (hashKey s.exp (s.tag i).key) (s.tag i).hidx (Nat.two_pow_pos _); omega)
  unfold findIndex
  rw [hsz]
  simp only [Nat.add_zero, Nat.mod_eq_of_lt hh] at this
  rw [this, hr]
  show Except.ok (s.slot (s.tag i).hidx).idx = _
  rw [b.2]

theorem findIndex_absent (s : HH) {L : Nat → Prop} (hsz : s.hash.size = 2 ^ (s.exp + 1)) (he : s.exp < 63)
    (w : WFS s.tag s.slot L s.exp) (key : Nat) (habs : ∀ i, L i → (s.tag i).key ≠ key) :
    findIndex s key = .ok 0 := by
  unfold findIndex
  apply findIndexLoop_miss s.hash key _ hsz (Nat.two_pow_pos _)
  · intro j hj hk
    apply Classical.byContradiction
    intro hne
    have l := w.slot_live hj hne
    exact habs _ l.1 (l.2.2.trans hk)
  · exact hashKey_lt _ _ he

theorem findSlotLoop_spec (hs : Array HSlot) (n h d : Nat) (hn : hs.size = n) (hd : d < n)
    (hpre : ∀ m, m < d → (sl hs ((h + m) % n)).idx ≠ 0)
    (hfree : (sl hs ((h + d) % n)).idx = 0) :
    ∀ r m fuel, m + r = d → d < m + fuel → findSlotLoop hs fuel ((h + m) % n) = .ok ((h + d) % n) := by
  have hpos : 0 < n := by omega
  intro r
  induction r with
  | zero =>
    intro m fuel hm hf
    obtain ⟨f, rfl⟩ : ∃ f, fuel = f + 1 := ⟨fuel - 1, by omega⟩
    have hmd : m = d := by omega
    subst hmd
    rw [findSlotLoop, rdHash_ok (by rw [hn]; exact Nat.mod_lt _ hpos)]
    simp [hfree]
  | succ r ih =>
    intro m fuel hm hf
    obtain ⟨f, rfl⟩ : ∃ f, fuel = f + 1 := ⟨fuel - 1, by omega⟩
    have hp := hpre m (by omega)
    rw [findSlotLoop, rdHash_ok (by rw [hn]; exact Nat.mod_lt _ hpos)]
    simp only [ok_bind, hp, if_false]
    rw [hn, probe_next]
    exact ih (m + 1) f (by omega) (by omega)

theorem exists_first (P : Nat → Prop) : ∀ d0, P d0 → ∃ d, d ≤ d0 ∧ P d ∧ ∀ m, m < d → ¬ P m := by
  intro d0
  induction d0 using Nat.strongRecOn with
  | _ d0 ih =>
    intro h0
    by_cases hex : ∃ m, m < d0 ∧ P m
    · obtain ⟨m, hm, hpm⟩ := hex
      obtain ⟨d, hd, hpd, hmin⟩ := ih m hm hpm
      exact ⟨d, by omega, hpd, hmin⟩
    · exact ⟨d0, Nat.le_refl _, h0, fun m hm hp => hex ⟨m, hm, hp⟩⟩

/-- with a free slot somewhere, `findSlot` returns the first free slot on the probe path -/
theorem findSlot_spec (hs : Array HSlot) (e key : Nat) (hn : hs.size = 2 ^ (e + 1)) (he : e < 63)
    (hfree : ∃ j, j < 2 ^ (e + 1) ∧ (sl hs j).idx = 0) :
    ∃ p, p < 2 ^ (e + 1) ∧ findSlot hs e key = .ok p ∧ (sl hs p).idx = 0 ∧
      ∀ m, m < probeDist (2 ^ (e + 1)) (hashKey e key) p →
        (sl hs ((hashKey e key + m) % 2 ^ (e + 1))).idx ≠ 0 := by
  obtain ⟨j, hj, hj0⟩ := hfree
  have hh := hashKey_lt e key he
  have hpos := Nat.two_pow_pos (e + 1)
  have hr := probe_reach _ _ _ hh hj
  obtain ⟨d, hd, hpd, hmin⟩ := exists_first
    (fun d => (sl hs ((hashKey e key + d) % 2 ^ (e + 1))).idx = 0)
    (probeDist (2 ^ (e + 1)) (hashKey e key) j) (by show (sl hs _).idx = 0; rw [hr]; exact hj0)
  have hdn : d < 2 ^ (e + 1) := by have := probeDist_lt (2 ^ (e + 1)) (hashKey e key) j hpos; omega
  refine ⟨(hashKey e key + d) % 2 ^ (e + 1), Nat.mod_lt _ hpos, ?_, hpd, ?_⟩
  · have := findSlotLoop_spec hs _ (hashKey e key) d hn hdn hmin hpd d 0 (2 ^ (e + 1)) (by omega) (by omega)
    unfold findSlot
    simp only [Nat.add_zero, Nat.mod_eq_of_lt hh] at this
    rw [hn, this]
  · intro m hm
    rw [probeDist_step _ _ _ hh hdn] at hm
    exact hmin m hm

/-! ### pigeonhole: the map always has a free slot -/

/-- an injection of `[0, n)` into `[1, c]` forces `n ≤ c` -/
theorem pigeonhole : ∀ (c n : Nat) (f : Nat → Nat), (∀ j, j < n → 1 ≤ f j ∧ f j ≤ c) →
    (∀ i j, i < n → j < n → f i = f j → i = j) → n ≤ c := by
  intro c
  induction c with
  | zero =>
    intro n f hr _
    cases n with
    | zero => exact Nat.le_refl _
    | succ m => have := hr 0 (Nat.succ_pos _); omega
  | succ c ih =>
    intro n f hr hinj
    cases n with
    | zero => exact Nat.zero_le _
    | succ m =>
      have hm : m ≤ c := by
        apply ih m (fun j => if f j = c + 1 then f m else f j)
        · intro j hj
          have h1 := hr j (by omega)
          have h2 := hr m (by omega)
          by_cases h : f j = c + 1
          · have : f m ≠ c + 1 := by
              intro h'
              have := hinj j m (by omega) (by omega) (by rw [h, h'])
              omega
            simp only [h, if_true]; omega
          · simp only [h, if_false]; omega
        · intro i j hi hj
          by_cases h1 : f i = c + 1 <;> by_cases h2 : f j = c + 1 <;> simp only [h1, h2, if_true, if_false]
          · intro _; exact hinj i j (by omega) (by omega) (by rw [h1, h2])
          · intro h; have := hinj m j (by omega) (by omega) h; omega
          · intro h; have := hinj i m (by omega) (by omega) h; omega
          · intro h; exact hinj i j (by omega) (by omega) h
      omega

theorem exists_free_slot (S : Nat → HSlot) (g : Nat → Nat) (n c : Nat) (hc : c < n)
    (hinj : ∀ j, j < n → (S j).idx ≠ 0 → 1 ≤ (S j).idx ∧ (S j).idx ≤ c ∧ g (S j).idx = j) :
    ∃ j, j < n ∧ (S j).idx = 0 := by
  apply Classical.byContradiction
  intro hno
  have hocc : ∀ j, j < n → (S j).idx ≠ 0 := fun j hj h0 => hno ⟨j, hj, h0⟩
  have := pigeonhole c n (fun j => (S j).idx)
    (fun j hj => ⟨(hinj j hj (hocc j hj)).1, (hinj j hj (hocc j hj)).2.1⟩)
    (fun i j hi hj h => by
      rw [← (hinj i hi (hocc i hi)).2.2, ← (hinj j hj (hocc j hj)).2.2]
      exact congrArg g h)
  omega

theorem WFS.exists_free {T : Nat → HTag} {S : Nat → HSlot} {L : Nat → Prop} {e : Nat} (w : WFS T S L e)
    (c : Nat) (hL : ∀ i, L i → i ≤ c) (hc : c < 2 ^ (e + 1)) : ∃ j, j < 2 ^ (e + 1) ∧ (S j).idx = 0 := by
  apply exists_free_slot S (fun i => (T i).hidx) _ c hc
  intro j hj hne
  have f := w.fwd j hj hne
  have := w.lpos _ f.1
  exact ⟨by omega, hL _ f.1, f.2⟩

end CimbaModel.HashHeap
