/-
  The regenerated `hash_key` and `item_match` agree with the model's definitions.
-/
import CimbaModel.Generated.Orders

namespace CimbaModel.HashHeap
open CimbaModel.Generated

theorem hash_key_eq (s : HH) (k : Nat) (h : s.exp < 63) : hash_key s k = hashKey s.exp k := by
  unfold hash_key hashKey fibMult
  have h1 : (s.exp + 1) % 4294967296 = s.exp + 1 := by omega
  have h2 : (64 + 4294967296 - (s.exp + 1)) % 4294967296 = 64 - (s.exp + 1) := by omega
  rw [h1, h2]

theorem item_match_eq (t : HTag) (p : Item) : item_match t p.a p.b p.c p.d = itemMatch t p := by
  unfold item_match itemMatch anyItem
  simp only [show (2 : Nat) ^ 64 - 1 = 18446744073709551615 from by decide]
  split <;> simp_all <;> omega

end CimbaModel.HashHeap
