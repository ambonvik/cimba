/-
  Refinement proof of the hashheap: observable behaviour of whole operation sequences.
  `SpecStep` is the keyed-priority-queue specification as a labelled transition relation on
  (abstract queue, key counter) with the observable result of each operation; it is a relation because the
  specification leaves open which of several minimal entries `dequeue`/`peek` return, which matching entry
  `pattern_find` reports, and in which order entries are listed.  `stepR` is the concrete model with the same
  observable results (tags reported without their internal back-pointer).  Every concrete run from a well-formed
  state whose operations meet their preconditions is a run of the specification.
-/
import CimbaModel.HashHeap.RefineRun
import CimbaModel.HashHeap.RefinePattern

namespace CimbaModel.HashHeap
open CimbaModel CimbaModel.KPQ

/-- observable result of an operation -/
inductive Res where
  | key (k : Nat)
  | tag (t : Option HTag)
  | bool (b : Bool)
  | num (n : Nat)
  | unit

/-- one operation on the concrete model, with its observable result -/
def stepR (lt : Order) (s : HH) : Op → Except Fault (HH × Res)
  | .enqueue it k d i => do let (s', k') ← enqueue lt s it k d i; pure (s', .key k')
  | .dequeue => do let (s', t) ← dequeue lt s; pure (s', .tag (t.map norm))
  | .remove k => do let (s', b) ← remove lt s k; pure (s', .bool b)
  | .reprio k d i => do let s' ← reprioritize lt s k d i; pure (s', .unit)
  | .cancel p => do let (s', n) ← patternCancel lt s p; pure (s', .num n)
  | .clear => pure (clear s, .unit)
  | .reset => do let s' ← reset s; pure (s', .unit)
  | .lookup k => do let t ← lookup s k; pure (s, .tag (some (norm t)))
  | .isEnqueued k => do let b ← isEnqueued s k; pure (s, .bool b)
  | .peek => do let t ← peek s; pure (s, .tag (t.map norm))
  | .find p => pure (s, .key (patternFind s p))
  | .count p => pure (s, .num (patternCount s p))

/-- the specification: what each operation may do to the abstract queue `q` (and the key counter `c`) and
    which result it may report -/
inductive SpecStep (lt : Order) : KPQ × Nat → Op → Res → KPQ × Nat → Prop where
  | enqueue (q q' : KPQ) (c : Nat) (it : Item) (k : Nat) (d i : Int) :
      q'.Perm (KPQ.insert q ⟨if k = 0 then c + 1 else k, 0, it, d, i⟩) →
      SpecStep lt (q, c) (.enqueue it k d i) (.key (if k = 0 then c + 1 else k)) (q', c + 1)
  | dequeue (q q' : KPQ) (c : Nat) (e : HTag) : IsMin lt q e → q.Perm (e :: q') →
      SpecStep lt (q, c) .dequeue (.tag (some e)) (q', c)
  | dequeueEmpty (c : Nat) : SpecStep lt ([], c) .dequeue (.tag none) ([], c)
  | remove (q q' : KPQ) (c k : Nat) : q'.Perm (KPQ.remove q k) →
      SpecStep lt (q, c) (.remove k) (.bool (decide (k ∈ keys q))) (q', c)
  | reprio (q q' : KPQ) (c k : Nat) (d i : Int) : k ∈ keys q → q'.Perm (KPQ.reprio q k d i) →
      SpecStep lt (q, c) (.reprio k d i) .unit (q', c)
  | cancel (q q' : KPQ) (c : Nat) (p : Item) : q'.Perm (removeMatching q p) →
      SpecStep lt (q, c) (.cancel p) (.num (matching q p).length) (q', c)
  | clear (q : KPQ) (c : Nat) : SpecStep lt (q, c) .clear .unit ([], c)
  | reset (q : KPQ) (c : Nat) : SpecStep lt (q, c) .reset .unit ([], c)
  | lookup (q : KPQ) (c k : Nat) (t : HTag) : KPQ.lookup q k = some t →
      SpecStep lt (q, c) (.lookup k) (.tag (some t)) (q, c)
  | isEnqueued (q : KPQ) (c k : Nat) : SpecStep lt (q, c) (.isEnqueued k) (.bool (decide (k ∈ keys q))) (q, c)
  | peek (q : KPQ) (c : Nat) (e : HTag) : IsMin lt q e → SpecStep lt (q, c) .peek (.tag (some e)) (q, c)
  | peekEmpty (c : Nat) : SpecStep lt ([], c) .peek (.tag none) ([], c)
  | findNone (q : KPQ) (c : Nat) (p : Item) : matching q p = [] → SpecStep lt (q, c) (.find p) (.key 0) (q, c)
  | findSome (q : KPQ) (c : Nat) (p : Item) (t : HTag) : t ∈ matching q p →
      SpecStep lt (q, c) (.find p) (.key t.key) (q, c)
  | count (q : KPQ) (c : Nat) (p : Item) : SpecStep lt (q, c) (.count p) (.num (matching q p).length) (q, c)

inductive SpecRun (lt : Order) : KPQ × Nat → List Op → List Res → KPQ × Nat → Prop where
  | nil (x : KPQ × Nat) : SpecRun lt x [] [] x
  | cons (x y z : KPQ × Nat) (op : Op) (r : Res) (ops : List Op) (rs : List Res) :
      SpecStep lt x op r y → SpecRun lt y ops rs z → SpecRun lt x (op :: ops) (r :: rs) z

def runR (lt : Order) : HH → List Op → Except Fault (HH × List Res)
  | s, [] => pure (s, [])
  | s, op :: ops => do
    let (s', r) ← stepR lt s op
    let (s'', rs) ← runR lt s' ops
    pure (s'', r :: rs)

variable {lt : Order} [StrictWeak lt] [IgnoresHidx lt]

omit [StrictWeak lt] [IgnoresHidx lt] in
theorem step_eq (s : HH) (op : Op) : step lt s op = (stepR lt s op).map (·.1) := by
  cases op <;> simp only [step, stepR]
  case enqueue it k d i => cases enqueue lt s it k d i <;> rfl
  case dequeue => cases dequeue lt s <;> rfl
  case remove k => cases remove lt s k <;> rfl
  case reprio k d i => cases reprioritize lt s k d i <;> rfl
  case cancel p => cases patternCancel lt s p <;> rfl
  case reset => cases reset s <;> rfl
  case lookup k => cases lookup s k <;> rfl
  case isEnqueued k => cases isEnqueued s k <;> rfl
  case peek => cases peek s <;> rfl
  all_goals rfl

omit [StrictWeak lt] [IgnoresHidx lt] in
theorem step_of_stepR {s s' : HH} {op : Op} {r : Res} (h : stepR lt s op = .ok (s', r)) : step lt s op = .ok s' := by
  rw [step_eq, h]; rfl

/-- every operation, applied to a well-formed state under its precondition, never faults, keeps the state
    well-formed and is a step of the specification on the abstraction -/
theorem step_refines {s : HH} (h : WF lt s) (op : Op) (hpre : OpPre s op) :
    ∃ s' r, stepR lt s op = .ok (s', r) ∧ WF lt s' ∧
      SpecStep lt (abs s, s.counter) op r (abs s', s'.counter) := by
  cases op with
  | enqueue it k d i =>
    obtain ⟨s', hrun, a, -⟩ := enqueue_abs h it k d i hpre.1 hpre.2.1 hpre.2.2.1 hpre.2.2.2
    refine ⟨s', _, by simp only [stepR, hrun]; rfl, a.wf, ?_⟩
    rw [a.counter]
    exact SpecStep.enqueue _ _ _ it k d i a.perm
  | dequeue =>
    by_cases hc : s.count = 0
    · refine ⟨s, .tag none, by simp [stepR, dequeue, hc], h, ?_⟩
      rw [abs_empty s hc]
      exact SpecStep.dequeueEmpty _
    · obtain ⟨s', hrun, a⟩ := dequeue_abs h (by omega : 0 < s.count)
      refine ⟨s', _, by simp only [stepR, hrun]; rfl, a.wf, ?_⟩
      rw [a.counter]
      exact SpecStep.dequeue _ _ _ _ (root_isMin_abs h (by omega)) a.perm
  | remove k =>
    obtain ⟨s', hrun, a⟩ := remove_abs h k hpre
    refine ⟨s', _, by simp only [stepR, hrun]; rfl, a.wf, ?_⟩
    rw [a.counter]
    exact SpecStep.remove _ _ _ k a.perm
  | reprio k d i =>
    obtain ⟨s', hrun, a⟩ := reprio_abs h hpre d i
    refine ⟨s', _, by simp only [stepR, hrun]; rfl, a.wf, ?_⟩
    rw [a.counter]
    exact SpecStep.reprio _ _ _ k d i hpre a.perm
  | cancel p =>
    obtain ⟨s', hrun, hwf, hperm, _, _, hct⟩ := patternCancel_abs h p
    refine ⟨s', _, by simp only [stepR, hrun]; rfl, hwf, ?_⟩
    rw [hct]
    exact SpecStep.cancel _ _ _ p hperm
  | clear =>
    obtain ⟨hwf, habs, hct, _⟩ := clear_spec h
    refine ⟨clear s, .unit, rfl, hwf, ?_⟩
    rw [habs, hct]
    exact SpecStep.clear _ _
  | reset =>
    obtain ⟨s', hrun, hwf, habs, hct, _⟩ := reset_spec h
    refine ⟨s', .unit, by simp only [stepR, hrun]; rfl, hwf, ?_⟩
    rw [habs, hct]
    exact SpecStep.reset _ _
  | lookup k =>
    obtain ⟨t, hrun, hl⟩ := lookup_spec h hpre
    exact ⟨s, _, by simp only [stepR, hrun]; rfl, h, SpecStep.lookup _ _ k _ hl⟩
  | isEnqueued k =>
    exact ⟨s, _, by simp only [stepR, isEnqueued_spec h k hpre]; rfl, h, SpecStep.isEnqueued _ _ k⟩
  | peek =>
    by_cases hc : s.count = 0
    · refine ⟨s, .tag none, by simp [stepR, peek, hc], h, ?_⟩
      rw [abs_empty s hc]
      exact SpecStep.peekEmpty _
    · exact ⟨s, _, by simp only [stepR, peek_spec h (by omega : 0 < s.count)]; rfl, h,
        SpecStep.peek _ _ _ (root_isMin_abs h (by omega))⟩
  | find p =>
    refine ⟨s, _, rfl, h, ?_⟩
    have hf := patternFind_spec h p
    by_cases h0 : patternFind s p = 0
    · rw [h0]; exact SpecStep.findNone _ _ p (hf.1.1 h0)
    · obtain ⟨t, ht, hk⟩ := hf.2 h0
      rw [← hk]; exact SpecStep.findSome _ _ p t ht
  | count p =>
    refine ⟨s, _, rfl, h, ?_⟩
    rw [patternCount_spec]
    exact SpecStep.count _ _ p

theorem step_WF {s : HH} (h : WF lt s) (op : Op) (hpre : OpPre s op) : ∃ s', step lt s op = .ok s' ∧ WF lt s' := by
  obtain ⟨s', r, hrun, hwf, _⟩ := step_refines h op hpre
  exact ⟨s', step_of_stepR hrun, hwf⟩

theorem run_WF : ∀ (ops : List Op) {s : HH}, WF lt s → PreAll lt s ops → ∃ s', run lt s ops = .ok s' ∧ WF lt s' := by
  intro ops
  induction ops with
  | nil => intro s h _; exact ⟨s, rfl, h⟩
  | cons op ops ih =>
    intro s h hpre
    obtain ⟨s1, hrun1, hwf1⟩ := step_WF h op hpre.1
    obtain ⟨s', hrun, hwf'⟩ := ih hwf1 (hpre.2 s1 hrun1)
    exact ⟨s', by rw [run, hrun1, ok_bind]; exact hrun, hwf'⟩

/-- every run of the concrete model from a well-formed state, with each operation meeting its precondition in the
    state it is applied to, never faults, ends well-formed, and its sequence of observable results is a run of the
    keyed-priority-queue specification -/
theorem run_refines : ∀ (ops : List Op) {s : HH}, WF lt s → PreAll lt s ops →
    ∃ s' rs, runR lt s ops = .ok (s', rs) ∧ WF lt s' ∧
      SpecRun lt (abs s, s.counter) ops rs (abs s', s'.counter) := by
  intro ops
  induction ops with
  | nil => intro s h _; exact ⟨s, [], rfl, h, SpecRun.nil _⟩
  | cons op ops ih =>
    intro s h hpre
    obtain ⟨s1, r, hrun1, hwf1, hspec1⟩ := step_refines h op hpre.1
    obtain ⟨s', rs, hrun, hwf', hspec⟩ := ih hwf1 (hpre.2 s1 (step_of_stepR hrun1))
    refine ⟨s', r :: rs, ?_, hwf', SpecRun.cons _ _ _ op r ops rs hspec1 hspec⟩
    rw [runR, hrun1, ok_bind]
    simp only [hrun, ok_bind]
    rfl

end CimbaModel.HashHeap
