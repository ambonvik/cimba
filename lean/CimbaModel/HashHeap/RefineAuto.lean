/-
  Refinement proof of the hashheap: automatically issued keys.
  If every live key is at most the item counter (true as long as callers only pass key 0, or keys not above the
  next automatic one), the key the next `enqueue` issues is fresh, so the freshness precondition of `enqueue`
  holds by itself.
-/
import CimbaModel.HashHeap.RefineAbs

namespace CimbaModel.HashHeap
open CimbaModel CimbaModel.KPQ

/-- every live key has been issued by the counter (or is not above it) -/
def KeysBelowCounter (s : HH) : Prop := ∀ k, k ∈ keys (abs s) → k ≤ s.counter

theorem KeysBelowCounter.fresh {s : HH} (h : KeysBelowCounter s) : s.counter + 1 ∉ keys (abs s) := by
  intro hm; have := h _ hm; omega

theorem KeysBelowCounter.of_subset {s s' : HH} (h : KeysBelowCounter s) (hc : s.counter ≤ s'.counter)
    (hsub : ∀ k, k ∈ keys (abs s') → k ∈ keys (abs s)) : KeysBelowCounter s' := by
  intro k hk; have := h k (hsub k hk); omega

variable {lt : Order}

theorem auto_enqueue [StrictWeak lt] [IgnoresHidx lt] {s : HH} (h : WF lt s) (hkb : KeysBelowCounter s)
    (it : Item) (k : Nat) (d i : Int) (hk : k ≤ s.counter + 1)
    (hctr : s.counter + 1 < 2 ^ 64) (hfresh : k ≠ 0 → k ∉ keys (abs s))
    (hroom : s.count < 2 ^ s.exp ∨ s.exp < 31) :
    ∃ s', enqueue lt s it k d i = .ok (s', if k = 0 then s.counter + 1 else k) ∧
      Inserted lt s ⟨if k = 0 then s.counter + 1 else k, 0, it, d, i⟩ s' ∧ KeysBelowCounter s' := by
  have h0 : (if k = 0 then s.counter + 1 else k) ≠ 0 := by split <;> omega
  have h64 : (if k = 0 then s.counter + 1 else k) < 2 ^ 64 := by split <;> omega
  have hf : (if k = 0 then s.counter + 1 else k) ∉ keys (abs s) := by
    split
    · exact hkb.fresh
    · exact hfresh ‹_›
  obtain ⟨s', hrun, a, -⟩ := enqueue_abs h it k d i h0 h64 hf hroom
  refine ⟨s', hrun, a, fun k2 hk2 => ?_⟩
  rw [keys_perm a.perm] at hk2
  rcases List.mem_cons.1 hk2 with rfl | hm
  · rw [a.counter]; show (if k = 0 then s.counter + 1 else k) ≤ _; split <;> omega
  · have := hkb k2 hm; have := a.counter; omega

end CimbaModel.HashHeap
