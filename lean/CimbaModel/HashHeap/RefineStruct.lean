/-
  Refinement proof of the hashheap: the structural invariant `WFS` is preserved by the three
  elementary changes every operation is made of: swapping two live heap entries (sift loops,
  move-last-into-hole), deleting one (tombstone), inserting one at the first free slot of its
  probe path (enqueue, rehash).
-/
import CimbaModel.HashHeap.RefineHash

set_option linter.unusedSimpArgs false

namespace CimbaModel.HashHeap
open CimbaModel CimbaModel.KPQ

variable {T : Nat → HTag} {S : Nat → HSlot} {L : Nat → Prop} {e : Nat}

/-- the probe-chain invariant only depends on the keys in the map and on which slots are occupied -/
theorem probe_mono {S S' : Nat → HSlot} {e : Nat}
    (hk : ∀ j, j < 2 ^ (e + 1) → (S' j).key = (S j).key)
    (ho : ∀ j, j < 2 ^ (e + 1) → (S' j).idx ≠ 0 → (S j).idx ≠ 0)
    (p : ∀ j, j < 2 ^ (e + 1) → (S j).idx ≠ 0 → ChainOK S e j) :
    ∀ j, j < 2 ^ (e + 1) → (S' j).idx ≠ 0 → ChainOK S' e j := by
  intro j hj hne m hm
  have hpos := Nat.two_pow_pos (e + 1)
  rw [hk j hj] at hm ⊢
  rw [hk _ (Nat.mod_lt _ hpos)]
  exact p j hj (ho j hj hne) m hm

theorem WFS.swap (w : WFS T S L e) {a b : Nat} (ha : L a) (hb : L b) (hab : a ≠ b) :
    WFS (upd (upd T a (T b)) b (T a))
        (upd (upd S (T a).hidx ⟨(T a).key, b⟩) (T b).hidx ⟨(T b).key, a⟩) L e := by
  have ba := w.back a ha
  have bb := w.back b hb
  have hj : (T a).hidx ≠ (T b).hidx := fun h => hab (w.hidx_inj ha hb h)
  refine ⟨w.lpos, ?_, ?_, ?_, ?_, ?_⟩
  · intro i hi
    have := w.keyOk i hi; have := w.keyOk a ha; have := w.keyOk b hb
    simp only [upd_apply]; split <;> (try split) <;> assumption
  · intro i hi
    have bi := w.back i hi
    by_cases h1 : i = b
    · subst h1; simp [upd_apply, hj, ba.1]
    · by_cases h2 : i = a
      · subst h2; simp [upd_apply, h1, bb.1]
      · have : (T i).hidx ≠ (T a).hidx := fun h => h2 (w.hidx_inj hi ha h)
        have : (T i).hidx ≠ (T b).hidx := fun h => h1 (w.hidx_inj hi hb h)
        simp [upd_apply, *]
  · intro j hjn hne
    by_cases h1 : j = (T b).hidx
    · subst h1; simp [upd_apply, hab, ha]
    · by_cases h2 : j = (T a).hidx
      · subst h2; simp [upd_apply, h1, hb]
      · simp only [upd_apply, h1, h2, if_false] at hne ⊢
        have f := w.fwd j hjn hne
        refine ⟨f.1, ?_⟩
        have : (S j).idx ≠ a := fun h => h2 (by rw [← f.2, h])
        have : (S j).idx ≠ b := fun h => h1 (by rw [← f.2, h])
        simp [*]
  · intro j hjn
    have := w.unused j hjn
    have := (w.keyOk a ha).1; have := (w.keyOk b hb).1
    simp only [upd_apply]; split <;> (try split) <;> simp_all
  · apply probe_mono (S := S) _ _ w.probe
    · intro j hjn; simp only [upd_apply]
      split <;> (try split) <;> simp_all
    · intro j hjn; simp only [upd_apply]
      have := w.lpos a ha; have := w.lpos b hb
      split <;> (try split) <;> simp_all

/-- deleting a live entry: its slot becomes a tombstone -/
theorem WFS.delete (w : WFS T S L e) {a : Nat} (ha : L a) :
    WFS T (upd S (T a).hidx ⟨(T a).key, 0⟩) (fun i => L i ∧ i ≠ a) e := by
  have ba := w.back a ha
  refine ⟨fun i hi => w.lpos i hi.1, fun i hi => w.keyOk i hi.1, ?_, ?_, ?_, ?_⟩
  · intro i hi
    have bi := w.back i hi.1
    have : (T i).hidx ≠ (T a).hidx := fun h => hi.2 (w.hidx_inj hi.1 ha h)
    simp [*]
  · intro j hjn hne
    by_cases h1 : j = (T a).hidx
    · subst h1; simp at hne
    · simp only [upd_apply, h1, if_false] at hne ⊢
      have f := w.fwd j hjn hne
      exact ⟨⟨f.1, fun h => h1 (by rw [← f.2, h])⟩, f.2⟩
  · intro j hjn
    have := w.unused j hjn
    simp only [upd_apply]; split <;> simp_all
  · apply probe_mono (S := S) _ _ w.probe
    · intro j hjn; simp only [upd_apply]
      split <;> simp_all
    · intro j hjn; simp only [upd_apply]
      split <;> simp_all

/-- inserting a fresh key as heap entry `a` at the first free slot `p` of its probe path.  A key that was queued before
    lands at or before its old tombstone, so no slot earlier on a live key's path comes to carry that key: this is what
    keeps the probe-chain clause, and why `hfresh` and `hchain` are needed. -/
theorem WFS.insert (w : WFS T S L e) (he : e < 63) {a p : Nat} (t : HTag) (hna : ¬ L a) (ha0 : a ≠ 0)
    (hk : t.key ≠ 0 ∧ t.key < 2 ^ 64) (hfresh : ∀ i, L i → (T i).key ≠ t.key)
    (hp : p < 2 ^ (e + 1)) (htp : t.hidx = p) (hfree : (S p).idx = 0)
    (hchain : ∀ m, m < probeDist (2 ^ (e + 1)) (hashKey e t.key) p →
      (S ((hashKey e t.key + m) % 2 ^ (e + 1))).idx ≠ 0) :
    WFS (upd T a t) (upd S p ⟨t.key, a⟩) (fun i => L i ∨ i = a) e := by
  have hpos := Nat.two_pow_pos (e + 1)
  have hh := hashKey_lt e t.key he
  have hTp : ∀ i, L i → (T i).hidx ≠ p := by
    intro i hi h
    have := (w.back i hi).2
    rw [h] at this
    rw [this] at hfree
    exact w.lpos i hi hfree
  refine ⟨?_, ?_, ?_, ?_, ?_, ?_⟩
  · rintro i (hi | rfl)
    · exact w.lpos i hi
    · exact ha0
  · rintro i (hi | rfl)
    · have : i ≠ a := fun h => hna (h ▸ hi)
      simp [this, w.keyOk i hi]
    · simp [hk]
  · rintro i (hi | rfl)
    · have : i ≠ a := fun h => hna (h ▸ hi)
      have := hTp i hi
      have := w.back i hi
      simp [*]
    · simp [htp, hp]
  · intro j hjn hne
    by_cases h1 : j = p
    · subst h1; simp [htp]
    · simp only [upd_apply, h1, if_false] at hne ⊢
      have f := w.fwd j hjn hne
      have : (S j).idx ≠ a := fun h => hna (h ▸ f.1)
      simp [this, f]
  · intro j hjn
    have := w.unused j hjn
    simp only [upd_apply]; split <;> simp_all
  · intro j hjn hne
    by_cases h1 : j = p
    · subst h1
      intro m hm
      simp only [upd_same] at hm ⊢
      have hmn : m < 2 ^ (e + 1) := by have := probeDist_lt (2 ^ (e + 1)) (hashKey e t.key) j hpos; omega
      have hq : (hashKey e t.key + m) % 2 ^ (e + 1) ≠ j := by
        intro h; rw [← h, probeDist_step _ _ _ hh hmn] at hm; omega
      have hocc := hchain m hm
      have l := w.slot_live (Nat.mod_lt _ hpos) hocc
      rw [upd_other _ _ _ _ hq]
      constructor
      · intro h0; exact hocc (w.unused _ (Nat.mod_lt _ hpos) h0)
      · rw [← l.2.2]; exact hfresh _ l.1
    · simp only [upd_apply, h1, if_false] at hne
      have l := w.slot_live hjn hne
      have pj := w.probe j hjn hne
      intro m hm
      rw [upd_other _ _ _ _ h1] at hm ⊢
      have := pj m hm
      simp only [upd_apply]
      split
      · simp only []
        exact ⟨hk.1, by rw [← l.2.2]; exact (hfresh _ l.1).symm⟩
      · exact this

end CimbaModel.HashHeap
