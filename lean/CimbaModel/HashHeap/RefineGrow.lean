/-
  Refinement proof of the hashheap: capacity doubling.  `grow` appends zeroed heap slots, allocates a
  zeroed map of twice the size and rehashes the live entries of the old map into it; the loop invariant is
  `WFS` for the set of already re-homed entries.  Tombstones disappear, every tag keeps key, payload and
  sort keys and only changes its back-pointer.
-/
import CimbaModel.Basic.Order
import CimbaModel.HashHeap.RefineStruct

set_option linter.unusedSimpArgs false

namespace CimbaModel.HashHeap
open CimbaModel CimbaModel.KPQ

theorem lt_norm (lt : Order) [ih : IgnoresHidx lt] (a b : HTag) : lt (norm a) (norm b) = lt a b :=
  ih.eq a b 0 0

theorem lt_of_norm_eq (lt : Order) [IgnoresHidx lt] {a b a' b' : HTag} (ha : norm a = norm a') (hb : norm b = norm b') :
    lt a b = lt a' b' := by
  rw [← lt_norm lt a b, ← lt_norm lt a' b', ha, hb]

structure RehInv (T0 : Nat → HTag) (c e' ui : Nat) (heap : Array HTag) (hash : Array HSlot) : Prop where
  hsz : heap.size = 2 ^ e' + 2
  hhs : hash.size = 2 ^ (e' + 1)
  same : ∀ i, norm (tg heap i) = norm (T0 i)
  unproc : ∀ i, ¬ (InR c i ∧ (T0 i).hidx < ui) → tg heap i = T0 i
  w : WFS (tg heap) (sl hash) (fun i => InR c i ∧ (T0 i).hidx < ui) e'

theorem norm_key (t : HTag) : (norm t).key = t.key := rfl

theorem rehashLoop_spec {T0 : Nat → HTag} {S0 : Nat → HSlot} {c e : Nat} (w0 : WFS T0 S0 (InR c) e)
    (he : e < 62) (hc : c ≤ 2 ^ e) (old : Array HSlot) (hold : old.size = 2 ^ (e + 1)) (hS0 : sl old = S0) :
    ∀ n ui heap hash, ui + n = 2 ^ (e + 1) → RehInv T0 c (e + 1) ui heap hash →
      ∃ heap' hash', rehashLoop (e + 1) old n ui heap hash = .ok (heap', hash') ∧
        RehInv T0 c (e + 1) (2 ^ (e + 1)) heap' hash' := by
  have hpow : 2 ^ (e + 1) = 2 * 2 ^ e := by rw [Nat.pow_succ]; omega
  have hpow2 : 2 ^ (e + 1 + 1) = 2 * 2 ^ (e + 1) := by rw [Nat.pow_succ]; omega
  intro n
  induction n with
  | zero =>
    intro ui heap hash hn inv
    have : ui = 2 ^ (e + 1) := by omega
    subst this
    exact ⟨heap, hash, rfl, inv⟩
  | succ n ih =>
    intro ui heap hash hn inv
    have hui : ui < 2 ^ (e + 1) := by omega
    rw [rehashLoop, rdHash_ok (by omega), ok_bind, hS0]
    by_cases hlive : (S0 ui).key ≠ 0 ∧ (S0 ui).idx ≠ 0
    · rw [if_pos hlive]
      obtain ⟨hiL, hihidx, hikey⟩ := w0.slot_live hui hlive.2
      have hi1 := hiL.1; have hi2 := hiL.2
      have hnp : ¬ (InR c (S0 ui).idx ∧ (T0 (S0 ui).idx).hidx < ui) := by rw [hihidx]; omega
      have hTi := inv.unproc _ hnp
      obtain ⟨p, hp, hfind, hfree, hchain⟩ := findSlot_spec hash (e + 1) (S0 ui).key inv.hhs (by omega)
        (inv.w.exists_free c (fun i hi => hi.1.2) (by omega))
      rw [hfind, ok_bind, wrHash_ok (by have := inv.hhs; omega), ok_bind,
        setHidx_ok (by have := inv.hsz; omega), ok_bind]
      apply ih (ui + 1) _ _ (by omega)
      have hPiff : ∀ j, (InR c j ∧ (T0 j).hidx < ui + 1) ↔
          ((InR c j ∧ (T0 j).hidx < ui) ∨ j = (S0 ui).idx) := by
        intro j
        constructor
        · rintro ⟨hj, hlt⟩
          by_cases h : (T0 j).hidx < ui
          · exact Or.inl ⟨hj, h⟩
          · right
            exact w0.hidx_inj hj hiL (by rw [hihidx]; omega)
        · rintro (⟨hj, hlt⟩ | rfl)
          · exact ⟨hj, by omega⟩
          · exact ⟨hiL, by rw [hihidx]; omega⟩
      have w1 := inv.w.insert (by omega) (a := (S0 ui).idx) (p := p)
        { tg heap (S0 ui).idx with hidx := p } hnp (by omega)
        (by show (tg heap (S0 ui).idx).key ≠ 0 ∧ (tg heap (S0 ui).idx).key < 2 ^ 64
            rw [hTi]; exact w0.keyOk _ hiL)
        (by
          intro j hj
          show (tg heap j).key ≠ (tg heap (S0 ui).idx).key
          rw [hTi, ← norm_key (tg heap j), inv.same j, norm_key]
          intro hk
          have := w0.key_inj (by omega) hj.1 hiL hk
          rw [this, hihidx] at hj
          omega)
        hp rfl hfree
        (by show ∀ m, m < probeDist _ (hashKey (e + 1) (tg heap (S0 ui).idx).key) p → _
            rw [hTi, hikey]; exact hchain)
      have hkeq : (tg heap (S0 ui).idx).key = (S0 ui).key := by rw [hTi, hikey]
      refine ⟨by simp [inv.hsz], by simp [inv.hhs], ?_, ?_, ?_⟩
      · intro j
        rw [tg_set]
        by_cases h : j = (S0 ui).idx
        · subst h; simp only [upd_same]; exact inv.same _
        · rw [upd_other _ _ _ _ h]; exact inv.same j
      · intro j hj
        rw [tg_set]
        have h : j ≠ (S0 ui).idx := fun h => hj ((hPiff j).2 (Or.inr h))
        rw [upd_other _ _ _ _ h]
        exact inv.unproc j (fun h' => hj ((hPiff j).2 (Or.inl h')))
      · rw [tg_set, sl_set]
        apply w1.congr hPiff (fun _ _ => ⟨rfl, rfl⟩)
        intro j _
        show upd (sl hash) p _ j = upd (sl hash) p _ j
        rw [hkeq]
    · rw [if_neg hlive]
      apply ih (ui + 1) _ _ (by omega)
      have hPiff : ∀ j, (InR c j ∧ (T0 j).hidx < ui + 1) ↔ (InR c j ∧ (T0 j).hidx < ui) := by
        intro j
        constructor
        · rintro ⟨hj, hlt⟩
          refine ⟨hj, ?_⟩
          apply Classical.byContradiction
          intro h
          have hju : (T0 j).hidx = ui := by omega
          have b := (w0.back j hj).2
          rw [hju] at b
          apply hlive
          rw [b]
          exact ⟨(w0.keyOk j hj).1, w0.lpos j hj⟩
        · rintro ⟨hj, hlt⟩; exact ⟨hj, by omega⟩
      exact ⟨inv.hsz, inv.hhs, inv.same, fun j hj => inv.unproc j (fun h => hj ((hPiff j).2 h)),
        inv.w.congr hPiff (fun _ _ => ⟨rfl, rfl⟩) (fun _ _ => rfl)⟩

variable {lt : Order}

theorem grow_spec [IgnoresHidx lt] {s : HH} (hwf : WF lt s) (he : s.exp < 31) :
    ∃ s', grow s = .ok s' ∧ WF lt s' ∧ s'.exp = s.exp + 1 ∧ s'.count = s.count ∧
      s'.expInit = s.expInit ∧ s'.counter = s.counter ∧
      ∀ i, norm (s'.tag i) = norm (s.tag i) := by
  obtain ⟨he1, he31, hei1, hei2, hsz, hhs, hc, w, ho⟩ := (WF_iff lt s).1 hwf
  have hpow : 2 ^ (s.exp + 1) = 2 * 2 ^ s.exp := by rw [Nat.pow_succ]; omega
  have hlim : ¬ growBound ≤ 2 ^ s.exp := by
    have : 2 ^ s.exp ≤ 2 ^ 30 := Nat.pow_le_pow_right (by decide) (by omega)
    unfold growBound; omega
  have hT0 : tg (s.heap ++ Array.replicate (2 ^ (s.exp + 1) + 2 - s.heap.size) ({} : HTag)) = s.tag := by
    funext i; rw [tg_append]; rfl
  have inv0 : RehInv s.tag s.count (s.exp + 1) 0
      (s.heap ++ Array.replicate (2 ^ (s.exp + 1) + 2 - s.heap.size) ({} : HTag))
      (Array.replicate (2 ^ (s.exp + 1 + 1)) ({} : HSlot)) := by
    refine ⟨by simp; omega, by simp, fun i => by rw [hT0], fun i _ => by rw [hT0], ?_⟩
    refine ⟨fun i hi => by omega, fun i hi => by omega, fun i hi => by omega, ?_, ?_, ?_⟩
    · intro j _ hne; rw [sl_replicate] at hne; exact absurd rfl hne
    · intro j _ _; rw [sl_replicate]
    · intro j _ hne; rw [sl_replicate] at hne; exact absurd rfl hne
  obtain ⟨heap', hash', hrun, inv⟩ := rehashLoop_spec w (by omega) hc s.hash hhs rfl
    (2 ^ (s.exp + 1)) 0 _ _ (by omega) inv0
  unfold grow
  rw [if_neg hlim]
  dsimp only
  rw [hhs, hrun, ok_bind]
  have hLiff : ∀ i, InR s.count i ↔ (InR s.count i ∧ (s.tag i).hidx < 2 ^ (s.exp + 1)) :=
    fun i => ⟨fun h => ⟨h, (w.back i h).1⟩, fun h => h.1⟩
  refine ⟨_, rfl, ?_, rfl, rfl, rfl, rfl, inv.same⟩
  rw [WF_iff]
  refine ⟨by show 1 ≤ s.exp + 1; omega, by show s.exp + 1 ≤ 31; omega, hei1, by show s.expInit ≤ s.exp + 1; omega,
    inv.hsz, inv.hhs, by show s.count ≤ 2 ^ (s.exp + 1); omega,
    inv.w.congr hLiff (fun _ _ => ⟨rfl, rfl⟩) (fun _ _ => rfl), ?_⟩
  intro i h2 hc'
  show lt (tg heap' i) (tg heap' (i / 2)) = false
  rw [lt_of_norm_eq lt (inv.same i) (inv.same (i / 2))]
  exact ho i h2 hc'

end CimbaModel.HashHeap
