/-
  Refinement proof of the hashheap: pure heap-order reasoning for the sift loops.
  `UpOrd T c k`  : the heap order holds everywhere except possibly between `k` and its parent.
  `DownOrd T c k`: the heap order holds everywhere except possibly between `k` and its children.
  One iteration of `heap_up` / `heap_down` is a swap of the hole with its parent / smaller child.
-/
import CimbaModel.Basic.Order
import CimbaModel.HashHeap.RefineBasic

set_option linter.unusedSimpArgs false

namespace CimbaModel.HashHeap
open CimbaModel CimbaModel.KPQ

/-- exchange the tags at heap indices `a` and `b` -/
def swapT (T : Nat → HTag) (a b : Nat) : Nat → HTag := upd (upd T a (T b)) b (T a)

theorem swapT_apply (T : Nat → HTag) (a b i : Nat) :
    swapT T a b i = if i = b then T a else if i = a then T b else T i := rfl

section
variable {lt : Order} [sw : StrictWeak lt]

/-- `x` not before `p` and `w` before `p` ⇒ `x` not before `w` -/
theorem notBefore_of_before {x w p : HTag} (h1 : lt x p = false) (h2 : lt w p = true) : lt x w = false := by
  cases h : lt x w with
  | false => rfl
  | true => rw [sw.trans x w p h h2] at h1; exact absurd h1 (by simp)

/-- `a` before `b` and `a` not before `c` ⇒ `b` not before `c` -/
theorem notBefore_of_after {a b c : HTag} (h1 : lt a b = true) (h2 : lt a c = false) : lt b c = false := by
  cases h : lt b c with
  | false => rfl
  | true => rw [sw.trans a b c h1 h] at h2; exact absurd h2 (by simp)

end

/-- second clause of both: the children of the hole `k` are not before `k`'s parent, so the order is whole again once the
    hole is filled with something between them -/
def UpOrd (lt : Order) (T : Nat → HTag) (c k : Nat) : Prop :=
  (∀ i, 2 ≤ i → i ≤ c → i ≠ k → lt (T i) (T (i / 2)) = false) ∧
  (∀ i, 2 ≤ i → i ≤ c → i / 2 = k → 2 ≤ k → lt (T i) (T (k / 2)) = false)

def DownOrd (lt : Order) (T : Nat → HTag) (c k : Nat) : Prop :=
  (∀ i, 2 ≤ i → i ≤ c → i / 2 ≠ k → lt (T i) (T (i / 2)) = false) ∧
  (∀ i, 2 ≤ i → i ≤ c → i / 2 = k → 2 ≤ k → lt (T i) (T (k / 2)) = false)

theorem Ord.congr {lt : Order} {T T' : Nat → HTag} {c : Nat} (h : Ord lt T c)
    (hT : ∀ i, 1 ≤ i → i ≤ c → T' i = T i) : Ord lt T' c := by
  intro i h2 hc
  rw [hT i (by omega) hc, hT (i / 2) (by omega) (by omega)]
  exact h i h2 hc

theorem UpOrd.congr {lt : Order} {T T' : Nat → HTag} {c k : Nat} (h : UpOrd lt T c k)
    (hT : ∀ i, 1 ≤ i → i ≤ c → T' i = T i) : UpOrd lt T' c k := by
  constructor
  · intro i h2 hc hk
    rw [hT i (by omega) hc, hT (i / 2) (by omega) (by omega)]
    exact h.1 i h2 hc hk
  · intro i h2 hc hk hk2
    rw [hT i (by omega) hc, hT (k / 2) (by omega) (by omega)]
    exact h.2 i h2 hc hk hk2

theorem DownOrd.congr {lt : Order} {T T' : Nat → HTag} {c k : Nat} (h : DownOrd lt T c k)
    (hT : ∀ i, 1 ≤ i → i ≤ c → T' i = T i) : DownOrd lt T' c k := by
  constructor
  · intro i h2 hc hk
    rw [hT i (by omega) hc, hT (i / 2) (by omega) (by omega)]
    exact h.1 i h2 hc hk
  · intro i h2 hc hk hk2
    rw [hT i (by omega) hc, hT (k / 2) (by omega) (by omega)]
    exact h.2 i h2 hc hk hk2

variable {lt : Order} [sw : StrictWeak lt] {T : Nat → HTag} {c k : Nat}

theorem UpOrd.step (h : UpOrd lt T c k) (hk2 : 2 ≤ k) (hkc : k ≤ c) (hlt : lt (T k) (T (k / 2)) = true) :
    UpOrd lt (swapT T k (k / 2)) c (k / 2) := by
  constructor
  · intro i h2 hc hil
    by_cases hik : i = k
    · subst hik
      have e1 : swapT T i (i / 2) i = T (i / 2) := by simp [swapT_apply]; omega
      have e2 : swapT T i (i / 2) (i / 2) = T i := by simp [swapT_apply]
      rw [e1, e2]; exact StrictWeak.asymm _ _ hlt
    · have e1 : swapT T k (k / 2) i = T i := by simp [swapT_apply, hik, hil]
      rw [e1]
      by_cases hp1 : i / 2 = k
      · have e2 : swapT T k (k / 2) (i / 2) = T (k / 2) := by
          rw [hp1]; simp [swapT_apply]; omega
        rw [e2]; exact h.2 i h2 hc hp1 hk2
      · by_cases hp2 : i / 2 = k / 2
        · have e2 : swapT T k (k / 2) (i / 2) = T k := by rw [hp2]; simp [swapT_apply]
          rw [e2]
          have := h.1 i h2 hc hik
          rw [hp2] at this
          exact notBefore_of_before this hlt
        · have e2 : swapT T k (k / 2) (i / 2) = T (i / 2) := by simp [swapT_apply, hp1, hp2]
          rw [e2]; exact h.1 i h2 hc hik
  · intro i h2 hc hil hl2
    have e0 : swapT T k (k / 2) (k / 2 / 2) = T (k / 2 / 2) := by
      simp [swapT_apply]
      rw [if_neg (by omega), if_neg (by omega)]
    rw [e0]
    have hl := h.1 (k / 2) hl2 (by omega) (by omega)
    by_cases hik : i = k
    · subst hik
      have e1 : swapT T i (i / 2) i = T (i / 2) := by simp [swapT_apply]; omega
      rw [e1]; exact hl
    · have e1 : swapT T k (k / 2) i = T i := by
        simp [swapT_apply, hik]; omega
      rw [e1]
      have := h.1 i h2 hc hik
      rw [hil] at this
      exact sw.negTrans _ _ _ this hl

omit sw in
theorem UpOrd.done (h : UpOrd lt T c k) (hlt : 2 ≤ k → lt (T k) (T (k / 2)) = false) : Ord lt T c := by
  intro i h2 hc
  by_cases hik : i = k
  · subst hik; exact hlt h2
  · exact h.1 i h2 hc hik

omit sw in
theorem DownOrd.step {l : Nat} (h : DownOrd lt T c k) (hk1 : 1 ≤ k) (hlk : l / 2 = k) (hl2 : 2 ≤ l) (hlc : l ≤ c)
    (hmin : ∀ o, 2 ≤ o → o ≤ c → o / 2 = k → lt (T o) (T l) = false)
    (hlt : lt (T k) (T l) = false) :
    DownOrd lt (swapT T k l) c l := by
  have hkl : k ≠ l := by omega
  constructor
  · intro i h2 hc hil
    by_cases hi1 : i = l
    · subst hi1
      have e1 : swapT T k i i = T k := by simp [swapT_apply]
      have e2 : swapT T k i (i / 2) = T i := by rw [hlk]; simp [swapT_apply, hkl]
      rw [e1, e2]; exact hlt
    · by_cases hi2 : i = k
      · subst hi2
        have e1 : swapT T i l i = T l := by simp [swapT_apply, hkl]
        have e2 : swapT T i l (i / 2) = T (i / 2) := by
          simp [swapT_apply]; rw [if_neg (by omega), if_neg (by omega)]
        rw [e1, e2]; exact h.2 l hl2 hlc hlk h2
      · have e1 : swapT T k l i = T i := by simp [swapT_apply, hi1, hi2]
        rw [e1]
        by_cases hp : i / 2 = k
        · have e2 : swapT T k l (i / 2) = T l := by rw [hp]; simp [swapT_apply, hkl]
          rw [e2]; exact hmin i h2 hc hp
        · have e2 : swapT T k l (i / 2) = T (i / 2) := by simp [swapT_apply, hp, hil]
          rw [e2]; exact h.1 i h2 hc hp
  · intro i h2 hc hil _
    have e1 : swapT T k l i = T i := by
      simp [swapT_apply]; rw [if_neg (by omega), if_neg (by omega)]
    have e2 : swapT T k l (l / 2) = T l := by rw [hlk]; simp [swapT_apply, hkl]
    rw [e1, e2]
    have := h.1 i h2 hc (by omega)
    rw [hil] at this; exact this

omit sw in
theorem DownOrd.done_leaf (h : DownOrd lt T c k) (hleaf : c < 2 * k) : Ord lt T c := by
  intro i h2 hc
  exact h.1 i h2 hc (by omega)

theorem DownOrd.done_le {l : Nat} (h : DownOrd lt T c k)
    (hmin : ∀ o, 2 ≤ o → o ≤ c → o / 2 = k → lt (T o) (T l) = false)
    (hlt : lt (T k) (T l) = true) : Ord lt T c := by
  intro i h2 hc
  by_cases hp : i / 2 = k
  · rw [hp]; exact notBefore_of_before (hmin i h2 hc hp) hlt
  · exact h.1 i h2 hc hp

theorem Ord.root_min (h : Ord lt T c) : ∀ i, 1 ≤ i → i ≤ c → lt (T i) (T 1) = false := by
  intro i
  induction i using Nat.strongRecOn with
  | _ i ih =>
    intro h1 hc
    by_cases hi : i = 1
    · subst hi; exact sw.irrefl _
    · have := ih (i / 2) (by omega) (by omega) (by omega)
      exact sw.negTrans _ _ _ (h i (by omega) hc) this

theorem Live.swap {a b : Nat} (ha : InR c a) (hb : InR c b) (x : HTag) :
    Live (swapT T a b) c x ↔ Live T c x := by
  constructor
  · rintro ⟨i, h1, h2, rfl⟩
    rw [swapT_apply]
    split
    · exact ⟨a, ha.1, ha.2, rfl⟩
    · split
      · exact ⟨b, hb.1, hb.2, rfl⟩
      · exact ⟨i, h1, h2, rfl⟩
  · rintro ⟨i, h1, h2, rfl⟩
    by_cases hia : i = a
    · subst hia; exact ⟨b, hb.1, hb.2, by simp [swapT_apply]⟩
    · by_cases hib : i = b
      · subst hib
        refine ⟨a, ha.1, ha.2, ?_⟩
        rw [swapT_apply]; split
        · subst_vars; rfl
        · simp
      · exact ⟨i, h1, h2, by simp [swapT_apply, hia, hib]⟩

theorem Live.congr {T' : Nat → HTag} (hT : ∀ i, 1 ≤ i → i ≤ c → T' i = T i) (x : HTag) :
    Live T' c x ↔ Live T c x := by
  constructor
  · rintro ⟨i, h1, h2, rfl⟩; exact ⟨i, h1, h2, (hT i h1 h2).symm⟩
  · rintro ⟨i, h1, h2, rfl⟩; exact ⟨i, h1, h2, hT i h1 h2⟩

end CimbaModel.HashHeap
