/-
  Faults: the ways a modelled library routine can go wrong. Every array access of the
  concrete models goes through a bounds-checked accessor and every `cmb_assert_release`
  of the C code is a `Fault.assert`, so "no out-of-bounds access and no library abort"
  is the statement `∃ s', op s = .ok s'`.
-/
namespace CimbaModel

inductive Fault where
  | heapOob (i : Nat)      -- heap[i] outside the allocated heap array
  | hashOob (i : Nat)      -- hash_map[i] outside the allocated hash array
  | noFreeSlot             -- hash_find_slot would loop forever
  | assert (line : Nat)    -- a cmb_assert_release fired (line = its source line when it was modelled, kept as a stable tag)
  | growLimit              -- heap_size >= UINT32_MAX/2
  deriving Repr, DecidableEq, Inhabited

def Fault.toString : Fault → String
  | .heapOob i => s!"heap-oob {i}"
  | .hashOob i => s!"hash-oob {i}"
  | .noFreeSlot => "no-free-slot"
  | .assert n => s!"assert {n}"
  | .growLimit => "grow-limit"

instance : ToString Fault := ⟨Fault.toString⟩

end CimbaModel
