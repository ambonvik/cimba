/-
  Order axioms for heap comparison functions (DESIGN.md §3.1).
  `lt a b = true` reads "a goes before b".
-/
import CimbaModel.HashHeap.Model

namespace CimbaModel
open CimbaModel.HashHeap

/-- strict weak order: irreflexive, transitive, and incomparability is transitive
    (stated as negative transitivity) -/
class StrictWeak (lt : Order) : Prop where
  irrefl : ∀ a, lt a a = false
  trans : ∀ a b c, lt a b = true → lt b c = true → lt a c = true
  negTrans : ∀ a b c, lt a b = false → lt b c = false → lt a c = false

/-- additionally total on tags with distinct keys: the minimum of a keyed queue is unique -/
class TotalOnKeys (lt : Order) : Prop extends StrictWeak lt where
  total : ∀ a b, a.key ≠ b.key → lt a b = true ∨ lt b a = true

theorem StrictWeak.asymm {lt : Order} [h : StrictWeak lt] (a b : HTag) (hab : lt a b = true) : lt b a = false := by
  cases hba : lt b a with
  | false => rfl
  | true =>
    have := h.trans a b a hab hba
    rw [h.irrefl a] at this
    exact absurd this (by simp)

/-- the result depends only on (key, d, i): payload and back-pointer are irrelevant -/
def SortKeysOnly (lt : Order) : Prop :=
  ∀ a b a' b', a.key = a'.key → a.d = a'.d → a.i = a'.i → b.key = b'.key → b.d = b'.d → b.i = b'.i →
    lt a b = lt a' b'

/-- the comparison does not look at the hash back-pointer (`hash_index`) of a heap tag.
    Every ordering function of the library has this property (it is implied by `SortKeysOnly`); without it
    a capacity doubling, which re-homes every entry in the hash map, could invalidate the heap order. -/
class IgnoresHidx (lt : Order) : Prop where
  eq : ∀ (a b : HTag) (h h' : Nat), lt { a with hidx := h } { b with hidx := h' } = lt a b

/-- the comparison does not look at the payload, so a payload may be overwritten in place (the pools' amount field) -/
class HashHeap.IgnoresItem (lt : Order) : Prop where
  eq : ∀ (a b : HTag) (x y : Item), lt { a with item := x } { b with item := y } = lt a b

theorem SortKeysOnly.ignoresHidx {lt : Order} (h : SortKeysOnly lt) : IgnoresHidx lt :=
  ⟨fun a b _ _ => h _ _ a b rfl rfl rfl rfl rfl rfl⟩

end CimbaModel
