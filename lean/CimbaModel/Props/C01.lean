/-
  C01 — events run exactly once, in (time, priority, FIFO) order; the clock is monotone.
  Property theorems only.  The event queue is the abstract keyed priority queue with the ordering
  function regenerated from src/cmb_event.c; the concrete hashheap refines it (C02); the model is
  tied to the code by the observable-log correspondence evdrv <-> evmain.
-/
import CimbaModel.Event.Concrete

namespace CimbaModel.Props.C01
open CimbaModel CimbaModel.KPQ CimbaModel.Generated CimbaModel.HashHeap.SpecOrders CimbaModel.Event
open CimbaModel.HashHeap (HTag Item Order)

/-- the comparison function found in the C source is exactly the documented dispatch order:
    time ascending, then priority descending, then handle ascending -/
theorem heap_order_is_lex (a b : HTag) : heap_order_check a b = true ↔ eventLt a b :=
  CimbaModel.HashHeap.Orders.heap_order_check_iff a b

theorem heap_order_total : TotalOnKeys heap_order_check := inferInstance

/-- dispatch picks THE minimum: every other pending event comes strictly later in
    (time, −priority, handle) order; the clock becomes its time and the current-event query names it -/
theorem exec_min {q q' : EvQ} {e : HTag} (hi : EvInv q) (h : executeNext q = some (e, q')) :
    e ∈ q.pending ∧ (∀ x ∈ q.pending, x.key ≠ e.key → eventLt e x) ∧
    q'.now = e.d ∧ q'.current = e.key ∧ q.now ≤ q'.now ∧ q'.pending = KPQ.remove q.pending e.key := by
  have hh := executeNext_inv hi h
  refine ⟨hh.2.1, ?_, hh.2.2.2.1, hh.2.2.2.2.1, hh.2.2.2.2.2.1, hh.2.2.2.2.2.2.2⟩
  intro x hx hne
  have h1 := hh.2.2.1 x hx
  rcases heap_order_total.total e x (Ne.symm hne) with h2 | h2
  · exact (heap_order_is_lex e x).mp h2
  · rw [h1] at h2; exact absurd h2 (by simp)

/-- nothing is executed when and only when nothing is pending -/
theorem exec_none_iff_empty (q : EvQ) : executeNext q = none ↔ q.pending = [] := by
  unfold executeNext
  constructor
  · intro h
    cases hm : minTag heap_order_check q.pending with
    | none => exact minTag_none.mp hm
    | some m => rw [hm] at h; simp at h
  · intro h; rw [h]; simp [minTag]

/-- the clock never decreases, over any history of operations (issued from outside the dispatcher
    or from inside actions: operations between two `next` are the running action's) -/
theorem clock_monotone (t0 : Int) (ops₁ ops₂ : List Op) (q₁ q₂ : EvQ)
    (h₁ : run { now := t0 } ops₁ = .ok q₁) (h₂ : run q₁ ops₂ = .ok q₂) : t0 ≤ q₁.now ∧ q₁.now ≤ q₂.now := by
  have a := run_inv ops₁ (init_inv t0) h₁
  have b := run_inv ops₂ a.1 h₂
  exact ⟨a.2, b.2⟩

/-- exactly once: after any history every handle issued so far is in exactly one of
    pending / executed / cancelled-or-cleared (a permutation of 1..counter, hence no duplicates) -/
theorem exactly_once (t0 : Int) (ops : List Op) (q : EvQ) (h : run { now := t0 } ops = .ok q) :
    (keys q.pending ++ q.executed ++ q.cancelled).Perm (List.range' 1 q.counter) :=
  (run_inv ops (init_inv t0) h).1.part

theorem executed_nodup (t0 : Int) (ops : List Op) (q : EvQ) (h : run { now := t0 } ops = .ok q) :
    q.executed.Nodup := by
  have := (run_inv ops (init_inv t0) h).1.part.nodup
  rw [List.nodup_append] at this
  have := this.1
  rw [List.nodup_append] at this
  exact this.2.1

/-- a cancelled (or cleared) event never runs, now or later -/
theorem cancelled_never_runs (t0 : Int) (ops : List Op) (q : EvQ) (h : run { now := t0 } ops = .ok q)
    (hd : Nat) (hc : hd ∈ q.cancelled) : hd ∉ q.executed ∧ hd ∉ keys q.pending := by
  have hn := (run_inv ops (init_inv t0) h).1.part.nodup
  rw [List.nodup_append] at hn
  have hdis := hn.2.2
  constructor
  · intro he
    exact hdis hd (List.mem_append_right _ he) hd hc rfl
  · intro hp
    exact hdis hd (List.mem_append_left _ hp) hd hc rfl

/-- a successful cancel takes exactly that handle out of the pending set -/
theorem cancel_exact (q : EvQ) (h : Nat) :
    (cancel q h).2 = decide (h ∈ keys q.pending) ∧
    (cancel q h).1.pending = KPQ.remove q.pending h ∨ ((cancel q h).2 = false ∧ (cancel q h).1 = q) := by
  unfold cancel isScheduled
  split
  · left; simp_all
  · right; simp

/-- rescheduling changes only the time of exactly that event -/
theorem resched_changes_time_only {q q' : EvQ} {h : Nat} {t : Int} (hs : reschedule q h t = .ok q') :
    q'.pending = q.pending.map (fun e => if e.key = h then { e with d := t } else e) ∧
    q'.now = q.now ∧ q'.current = q.current ∧ q'.counter = q.counter := by
  unfold reschedule at hs
  split at hs
  · simp at hs
  · split at hs
    · simp at hs
    · simp only [Except.ok.injEq] at hs; subst hs; simp

/-- reprioritising changes only the priority of exactly that event -/
theorem reprio_changes_prio_only {q q' : EvQ} {h : Nat} {p : Int} (hs : reprioritize q h p = .ok q') :
    q'.pending = q.pending.map (fun e => if e.key = h then { e with i := p } else e) ∧
    q'.now = q.now ∧ q'.current = q.current ∧ q'.counter = q.counter := by
  unfold reprioritize at hs
  split at hs
  · simp at hs
  · simp only [Except.ok.injEq] at hs; subst hs; simp

/-- while an action runs (any operation other than dispatching the next event) the clock and the
    current-event query stay what the dispatch made them -/
theorem current_stable {q q' : EvQ} {op : Op} (hne : op ≠ Op.next) (hs : step q op = .ok q') :
    q'.current = q.current ∧ q'.now = q.now := by
  cases op with
  | next => exact absurd rfl hne
  | sched a s o t p =>
    simp only [step] at hs
    unfold schedule at hs
    split at hs
    · simp [Except.map] at hs
    · simp only [Except.map, Except.ok.injEq] at hs; subst hs; simp
  | cancel h => simp only [step, Except.ok.injEq] at hs; subst hs; unfold cancel; split <;> simp
  | resched h t => simp only [step] at hs; have := resched_changes_time_only hs; exact ⟨this.2.2.1, this.2.1⟩
  | reprio h p => simp only [step] at hs; have := reprio_changes_prio_only hs; exact ⟨this.2.2.1, this.2.1⟩
  | pcancel a s o => simp only [step, Except.ok.injEq] at hs; subst hs; simp [patternCancel]
  | clear => simp only [step, Except.ok.injEq] at hs; subst hs; simp [clear]

/-- pattern count / cancel / find agree with the pending set: cancel removes exactly the matching
    events and reports how many there were; find returns 0 iff nothing matches and otherwise the
    handle of a pending matching event -/
theorem pattern_agree (q : EvQ) (hi : EvInv q) (a s o : Nat) :
    (patternCancel q a s o).2 = patternCount q a s o ∧
    (∀ e, e ∈ (patternCancel q a s o).1.pending ↔ e ∈ q.pending ∧ evMatch e a s o = false) ∧
    (patternFind q a s o = 0 ↔ patternCount q a s o = 0) ∧
    (patternFind q a s o ≠ 0 → ∃ e ∈ q.pending, e.key = patternFind q a s o ∧ evMatch e a s o = true) := by
  have hpos : ∀ e ∈ q.pending, e.key ≠ 0 := fun e he h0 => by
    have := (pending_key_le hi (HashHeap.key_mem_keys he)).1; omega
  refine ⟨rfl, ?_, ?_, ?_⟩
  · intro e; simp [patternCancel, List.mem_filter]
  · unfold patternFind patternCount
    cases hf : q.pending.find? (evMatch · a s o) with
    | none =>
      rw [List.find?_eq_none] at hf
      simp only [true_iff]
      simp only [List.length_eq_zero_iff, List.filter_eq_nil_iff]
      exact hf
    | some e =>
      have hmem := List.mem_of_find?_eq_some hf
      have hmatch := List.find?_some hf
      constructor
      · intro h0; exact absurd h0 (hpos e hmem)
      · intro hc
        simp only [List.length_eq_zero_iff, List.filter_eq_nil_iff] at hc
        exact absurd hmatch (hc e hmem)
  · intro hne
    unfold patternFind at hne ⊢
    cases hf : q.pending.find? (evMatch · a s o) with
    | none => rw [hf] at hne; exact absurd rfl hne
    | some e => exact ⟨e, List.mem_of_find?_eq_some hf, rfl, List.find?_some (p := (evMatch · a s o)) hf⟩

/-! ### the same on the concrete hashheap

The event queue of src/cmb_event.c is a hashheap. `EvC` is the kernel on the concrete hashheap model (which is tied
to src/cmi_hashheap.c by exact-state correspondence, C02); it simulates the abstract kernel above step by step, so
every theorem of this file transfers to it. -/

/-- scheduling on the concrete queue issues the same handle as the abstract kernel and preserves the simulation,
    across any capacity doubling of the queue -/
theorem concrete_schedule_simulates {c : EvC} {q : EvQ} (hs : Sim c q) (hi : EvInv q) (act subj obj : Nat) (t pri : Int)
    (ht : q.now ≤ t) (h64 : q.counter + 1 < 2 ^ 64) (hroom : c.hh.count < 2 ^ c.hh.exp ∨ c.hh.exp < 31) :
    ∃ c' q' h, scheduleC c act subj obj t pri = .ok (c', h) ∧ schedule q act subj obj t pri = .ok (q', h) ∧
      Sim c' q' ∧ h = q.counter + 1 :=
  schedule_sim hs hi act subj obj t pri ht h64 hroom

/-- dispatch on the concrete queue dequeues exactly the event the abstract kernel picks — the unique
    (time, −priority, handle) minimum — and sets the same clock and current event; it never faults -/
theorem concrete_dispatch_simulates {c : EvC} {q : EvQ} (hs : Sim c q) :
    (c.hh.count = 0 → executeNextC c = .ok none ∧ executeNext q = none) ∧
    (0 < c.hh.count → ∃ e c' q', executeNextC c = .ok (some (e, c')) ∧ executeNext q = some (KPQ.norm e, q') ∧ Sim c' q') :=
  executeNext_sim hs

/-- cancelling on the concrete queue gives the same answer and preserves the simulation -/
theorem concrete_cancel_simulates {c : EvC} {q : EvQ} (hs : Sim c q) (h : Nat) (h0 : h ≠ 0) :
    ∃ c', cancelC c h = .ok (c', (cancel q h).2) ∧ Sim c' { (cancel q h).1 with cancelled := q.cancelled } := by
  obtain ⟨c', hrun, a⟩ := cancel_sim hs h h0
  exact ⟨c', hrun, a.wf, a.perm, a.now, a.current, a.counter⟩

/-! non-vacuity: a concrete history satisfying the hypotheses, with a tie on time broken by priority -/
example : ∃ q, run { now := 0 } [.sched 1 0 0 5 0, .sched 2 0 0 5 3, .sched 3 0 0 2 0, .cancel 3, .next] = .ok q ∧
    q.current = 2 ∧ q.now = 5 ∧ q.executed = [2] ∧ q.cancelled = [3] := by
  refine ⟨_, rfl, ?_⟩; decide

end CimbaModel.Props.C01
