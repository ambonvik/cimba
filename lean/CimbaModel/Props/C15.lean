/-
  C15 — after seeding, the values returned by any fixed sequence of generator / distribution calls are a function of
  the seed alone (not of what was drawn before seeding, not of the calling thread, not of what other threads do); the
  raw stream is the documented sfc64, bootstrapped with splitmix64 and 20 discarded outputs.

  Property theorems and the three lemmas they go through (`step_respects`, `runCalls_respects`, `memo_is_first_call`).
  All definitions named `cmb_random_*`, `splitmix*`, `RngState`, `rngInventory`, … are
  REGENERATED from /repo/src/cmb_random.c on every run (Generated/Rng.lean); `Spec.*` is written from the published
  algorithms (Rng/Spec.lean).
-/
import CimbaModel.Rng.Lemmas
import CimbaModel.Generated.FpEnv

set_option linter.unusedSimpArgs false

namespace CimbaModel.Props.C15
open CimbaModel.Generated CimbaModel.Rng

/-! ## 1. The raw stream is the documented generator -/

/-- `cmb_random_sfc64` returns what the published sfc64 returns on the state held in `prng_state`, replaces that state by
    sfc64's next state, and touches nothing else -/
theorem sfc64_is_spec (s : RngState) :
    (cmb_random_sfc64 s).1 = (core s).next.1 ∧ (cmb_random_sfc64 s).2 = setCore s (core s).next.2 :=
  sfc64_spec s

/-- the static `splitmix64` is Vigna's splitmix64 on `splitmix_state`, and touches nothing else -/
theorem splitmix_is_spec (s : RngState) :
    (splitmix64 s).1 = (Spec.splitmix64 s.splitmix_state).1 ∧
    (splitmix64 s).2 = { s with splitmix_state := (Spec.splitmix64 s.splitmix_state).2 } :=
  splitmix_spec s

/-- seeding, from ANY prior state: the 256-bit state is four splitmix64 outputs (a, b, c, counter in that order) followed
    by 20 discarded sfc64 outputs; the seed is remembered -/
theorem init_is_documented (seed : UInt64) (s : RngState) :
    core (cmb_random_initialize seed s) = Spec.seed256 seed ∧
    (cmb_random_curseed (cmb_random_initialize seed s)).1 = seed := by
  unfold cmb_random_initialize
  refine ⟨?_, ?_⟩
  · rw [repeat_commute core _ (fun g => g.next.2) (fun a => by simp [(sfc64_spec a).2])]
    simp [Spec.seed256, Spec.discards, Spec.bootstrap, core, splitmix_initialize, (splitmix_spec _).1, (splitmix_spec _).2]
  · rw [repeat_commute (fun s => (cmb_random_curseed s).1) _ id
      (fun a => by simp [cmb_random_curseed, (sfc64_spec a).2, setCore])]
    simp [repeat_id, cmb_random_curseed, splitmix_initialize, (splitmix_spec _).2]

/-- hence the raw 64-bit stream after seeding is the documented one, whatever the thread did before -/
theorem raw_stream_is_documented (seed : UInt64) (s : RngState) (n : Nat) :
    runCalls (cmb_random_initialize seed s) (List.replicate n .raw) = (Spec.stream seed n).map .word := by
  have h : ∀ (n : Nat) (t : RngState), runCalls t (List.replicate n .raw) = (Spec.outputs (core t) n).map .word := by
    intro n; induction n with
    | zero => intro t; rfl
    | succ n ih =>
      intro t
      simp [List.replicate, runCalls, step, Spec.outputs, ih, (sfc64_spec t).1, (sfc64_spec t).2]
  rw [h, (init_is_documented seed s).1, Spec.stream]

/-! ## 2. Re-seeding forgets the history of the thread -/

/-- the generated read set is sound: a call's result and the read set of the next state depend on the read set only -/
theorem step_respects (c : Call) (s t : RngState) (h : s.AgreeOnReads t) :
    (step c s).1 = (step c t).1 ∧ (step c s).2.AgreeOnReads (step c t).2 := by
  cases s; cases t
  cases c <;>
    simp_all [step, RngState.AgreeOnReads, cmb_random_sfc64, cmb_random_flip, cmb_random_curseed, cmb_random_terminate] <;>
    split <;> simp_all

theorem runCalls_respects (calls : List Call) : ∀ (s t : RngState), s.AgreeOnReads t → runCalls s calls = runCalls t calls := by
  induction calls with
  | nil => intros; rfl
  | cons c cs ih =>
    intro s t h
    have hs := step_respects c s t h
    simp [runCalls, hs.1, ih _ _ hs.2]

/-- `cmb_random_initialize` overwrites every state variable that a later call can read, with a value that depends on the
    seed only -/
theorem init_overwrites_reads (seed : UInt64) (s₁ s₂ : RngState) :
    (cmb_random_initialize seed s₁).AgreeOnReads (cmb_random_initialize seed s₂) := by
  unfold cmb_random_initialize
  apply repeat_rel RngState.AgreeOnReads
  · intro a b hab
    exact (step_respects .raw a b hab).2
  · cases s₁; cases s₂
    simp [RngState.AgreeOnReads, splitmix_initialize, splitmix64]

/-- C15, first sentence, for the integer-only calls: whatever two histories left behind (s₁, s₂: ANY contents of every
    static, thread-local and function-static variable the calls touch, including a partially consumed bit cache), after
    seeding with the same seed the same calls return the same values -/
theorem reseed_forgets (s₁ s₂ : RngState) (seed : UInt64) (calls : List Call) :
    runCalls (cmb_random_initialize seed s₁) calls = runCalls (cmb_random_initialize seed s₂) calls :=
  runCalls_respects calls _ _ (init_overwrites_reads seed s₁ s₂)

/-! ## 3. Threads: every piece of mutable state is thread-local -/

/-- every variable with static storage duration that cmb_random.c (with the repository headers and the generated tables it
    includes) declares is thread-local, or const, or a never-written never-address-taken file-local literal on the
    allow-list (keyed by name and scope): nothing a sampler reads can be changed by another thread -/
theorem all_state_thread_local : rngInventory.all VarInfo.threadSafe = true := by decide +kernel

/-- every thread-local variable is accounted for (allow-list keyed by name AND function): it is part of the modelled state,
    which `cmb_random_initialize` overwrites in full, which `reseed_forgets` speaks about and which NO function other than the
    translated ones reads or writes (so every sampler reaches the generator only through `cmb_random_sfc64`); or a function-static memo only
    touched by its own function (argued in Rng/Inventory.lean, proved pure in §5); or foreign and unused -/
theorem thread_locals_classified :
    rngInventory.all (VarInfo.reseedOk rngStateVars rngSeedWrittenVars rngMemoVars rngTranslated) = true := by decide +kernel

/-- the state record of the model covers exactly inventory entries (no field invented by the translator) -/
theorem state_vars_in_inventory : rngStateVars.all (fun k => rngInventory.any (fun v => v.key == k)) = true := by decide +kernel

/-- the read set used in `reseed_forgets` is what `cmb_random_initialize` writes: every field a call reads is assigned by
    seeding (the syntactic counterpart of `init_overwrites_reads`) -/
theorem reads_subset_seed_writes : rngReadSet.all (fun f => rngSeedWrites.contains f) = true := by decide +kernel

/-! ## 4. The model's shifts are the C program's shifts

  `(bits >> --bitpos)`: C leaves a shift by 64 or more undefined, Lean's `>>>` on `UInt64` reduces the amount modulo 64.
  The two agree because the cache position never exceeds 64 (the two statements name the cache variable, file-scope
  `flip_bitpos` since fixes/C15-flip-cache-reset.patch; the shift amount is the decremented position). -/

/-- the cache position stays within 0..64: initially, after seeding, after every call -/
theorem flip_pos_invariant :
    RngState.init.flip_bitpos ≤ 64 ∧
    (∀ seed s, (cmb_random_initialize seed s).flip_bitpos ≤ 64) ∧
    (∀ c s, s.flip_bitpos ≤ 64 → (step c s).2.flip_bitpos ≤ 64) := by
  refine ⟨by decide, ?_, ?_⟩
  · intro seed s
    unfold cmb_random_initialize
    rw [repeat_commute (fun (s : RngState) => s.flip_bitpos) _ id (fun a => by simp [(sfc64_spec a).2, setCore])]
    simp [repeat_id, splitmix_initialize, (splitmix_spec _).2]
  · intro c s h
    cases c <;> simp [step, cmb_random_curseed, cmb_random_terminate, (sfc64_spec s).2, setCore, h]
    unfold cmb_random_flip
    split
    · simp
    · rename_i h0
      simp at h0 ⊢
      exact Nat.le_of_lt (UInt8.lt_iff_toNat_lt.mp (u8_dec_lt _ h0 h))

/-- the shift amount used by `cmb_random_flip` (the decremented position) is below 64 -/
theorem flip_shift_defined (s : RngState) (h : s.flip_bitpos ≤ 64) : (cmb_random_flip s).2.flip_bitpos < 64 := by
  unfold cmb_random_flip
  split
  · simp
  · rename_i h0
    simp at h0 ⊢
    exact u8_dec_lt _ h0 h

/-! ## 5. The function-static memo caches of the floating-point samplers hold pure functions of the argument

  `cmb_random_std_gamma` (a_prev, c, d) and `cmb_random_geometric` (prev, denom) keep thread-local doubles between calls and
  `cmb_random_initialize` does not reset them.  Their maintaining statements are regenerated from the source over an ABSTRACT
  double arithmetic `o : FloatOps F` (Generated/Rng.lean `…_prologue`), and the theorems say: in every reachable cache state,
  after the prologue the WHOLE cache is the same as if the sampler were called for the first time in a fresh thread — so
  what the rest of the body reads from it depends on the argument only, not on earlier calls, seeds or trials.

  Hypotheses about `double` (stated, not assumed as axioms), both true of IEEE-754 binary64 for a valid argument `x`
  (gamma: `shape > 0.0`, release-asserted; geometric: `0 < p ≤ 1`, the documented domain, asserted in debug builds):
    h0  `x != 0.0`                                  (x > 0)
    h1  `!(x != y)` implies x and y are the same value (x == y with x > 0 finite or +inf: one encoding, not a NaN, not ±0)
    h2  `!(x + 1.0 < 1.0)`                          (x > 0: the rounded sum is at least 1.0) — used by the small-shape guard of
        `cmb_random_std_gamma`, which calls the function itself with `shape + 1.0`; hv1: `x + 1.0` is again a valid argument -/

theorem memo_is_first_call {M F : Type} (init : M) (pro : F → M → M) (valid : F → Prop)
    (hstep : ∀ x y, valid x → valid y → pro x (pro y init) = pro x init) :
    ∀ m, MemoReach init pro valid m → ∀ x, valid x → pro x m = pro x init := by
  intro m hm
  induction hm with
  | init => intros; rfl
  | call y m' hy _ ih => intro x hx; rw [ih y hy]; exact hstep x y hx hy

/-- the small-shape guard of `cmb_random_std_gamma` calls the function itself with `shape + 1`, which no longer takes the guard:
    the depth 2 at which `…_prologue` cuts the regenerated recursion is enough, any further fuel changes nothing.
    (Against a source without the guard this holds trivially.) -/
theorem gamma_memo_depth {F : Type} (o : FloatOps F) (valid : F → Prop)
    (h2 : ∀ x, valid x → o.lt (o.add x (o.lit "1")) (o.lit "1") = false)
    (m : cmb_random_std_gamma_Memo F) (shape : F) (hv : valid shape) (k : Nat) :
    cmb_random_std_gamma_prologue_fuel o (k + 2) shape m = cmb_random_std_gamma_prologue o shape m := by
  have h := h2 shape hv
  simp [cmb_random_std_gamma_prologue, cmb_random_std_gamma_prologue_fuel, h]

/-- `cmb_random_std_gamma`: whatever was drawn before, the cache after the prologue (including the recursive call behind the
    small-shape guard) is that of a first call with `shape` -/
theorem gamma_memo_pure {F : Type} (o : FloatOps F) (valid : F → Prop)
    (h0 : ∀ x, valid x → o.ne x (o.lit "0") = true) (h1 : ∀ x y, valid x → o.ne x y = false → x = y)
    (h2 : ∀ x, valid x → o.lt (o.add x (o.lit "1")) (o.lit "1") = false)
    (hv1 : ∀ x, valid x → valid (o.add x (o.lit "1")))
    (m₁ m₂ : cmb_random_std_gamma_Memo F) (shape : F)
    (r₁ : MemoReach (cmb_random_std_gamma_Memo.init o) (cmb_random_std_gamma_prologue o) valid m₁)
    (r₂ : MemoReach (cmb_random_std_gamma_Memo.init o) (cmb_random_std_gamma_prologue o) valid m₂) (hv : valid shape) :
    cmb_random_std_gamma_prologue o shape m₁ = cmb_random_std_gamma_prologue o shape m₂ := by
  have hstep : ∀ x y, valid x → valid y →
      cmb_random_std_gamma_prologue o x (cmb_random_std_gamma_prologue o y (cmb_random_std_gamma_Memo.init o)) =
      cmb_random_std_gamma_prologue o x (cmb_random_std_gamma_Memo.init o) := by
    intro x y hx hy
    have hx0 := h0 x hx
    have hy0 := h0 y hy
    have hx1 := h0 _ (hv1 x hx)
    have hy1 := h0 _ (hv1 y hy)
    have hx2 := h2 x hx
    have hy2 := h2 y hy
    -- the value the cache is computed for: the argument itself, or argument + 1 behind the small-shape guard (first
    -- alternative); a source without the guard computes it for the argument in every case (second alternative)
    by_cases lx : o.lt x (o.lit "1") = true <;> by_cases ly : o.lt y (o.lit "1") = true
    · first
      | (by_cases hne : o.ne (o.add x (o.lit "1")) (o.add y (o.lit "1")) = true
         · simp [cmb_random_std_gamma_prologue, cmb_random_std_gamma_prologue_fuel, cmb_random_std_gamma_Memo.init, *]
         · have hxy := h1 _ _ (hv1 x hx) (by simpa using hne)
           simp [cmb_random_std_gamma_prologue, cmb_random_std_gamma_prologue_fuel, cmb_random_std_gamma_Memo.init, *])
      | (by_cases hne : o.ne x y = true
         · simp [cmb_random_std_gamma_prologue, cmb_random_std_gamma_prologue_fuel, cmb_random_std_gamma_Memo.init, *]
         · have hxy := h1 x y hx (by simpa using hne)
           subst hxy
           simp [cmb_random_std_gamma_prologue, cmb_random_std_gamma_prologue_fuel, cmb_random_std_gamma_Memo.init, *])
    · first
      | (by_cases hne : o.ne (o.add x (o.lit "1")) y = true
         · simp [cmb_random_std_gamma_prologue, cmb_random_std_gamma_prologue_fuel, cmb_random_std_gamma_Memo.init, *]
         · have hxy := h1 _ _ (hv1 x hx) (by simpa using hne)
           simp [cmb_random_std_gamma_prologue, cmb_random_std_gamma_prologue_fuel, cmb_random_std_gamma_Memo.init, *])
      | (by_cases hne : o.ne x y = true
         · simp [cmb_random_std_gamma_prologue, cmb_random_std_gamma_prologue_fuel, cmb_random_std_gamma_Memo.init, *]
         · have hxy := h1 x y hx (by simpa using hne)
           subst hxy
           simp [cmb_random_std_gamma_prologue, cmb_random_std_gamma_prologue_fuel, cmb_random_std_gamma_Memo.init, *])
    · first
      | (by_cases hne : o.ne x (o.add y (o.lit "1")) = true
         · simp [cmb_random_std_gamma_prologue, cmb_random_std_gamma_prologue_fuel, cmb_random_std_gamma_Memo.init, *]
         · have hxy := h1 _ _ hx (by simpa using hne)
           simp [cmb_random_std_gamma_prologue, cmb_random_std_gamma_prologue_fuel, cmb_random_std_gamma_Memo.init, *])
      | (by_cases hne : o.ne x y = true
         · simp [cmb_random_std_gamma_prologue, cmb_random_std_gamma_prologue_fuel, cmb_random_std_gamma_Memo.init, *]
         · have hxy := h1 x y hx (by simpa using hne)
           subst hxy
           simp [cmb_random_std_gamma_prologue, cmb_random_std_gamma_prologue_fuel, cmb_random_std_gamma_Memo.init, *])
    · first
      | (by_cases hne : o.ne x y = true
         · simp [cmb_random_std_gamma_prologue, cmb_random_std_gamma_prologue_fuel, cmb_random_std_gamma_Memo.init, *]
         · have hxy := h1 _ _ hx (by simpa using hne)
           simp [cmb_random_std_gamma_prologue, cmb_random_std_gamma_prologue_fuel, cmb_random_std_gamma_Memo.init, *])
      | (by_cases hne : o.ne x y = true
         · simp [cmb_random_std_gamma_prologue, cmb_random_std_gamma_prologue_fuel, cmb_random_std_gamma_Memo.init, *]
         · have hxy := h1 x y hx (by simpa using hne)
           subst hxy
           simp [cmb_random_std_gamma_prologue, cmb_random_std_gamma_prologue_fuel, cmb_random_std_gamma_Memo.init, *])
  rw [memo_is_first_call _ _ valid hstep m₁ r₁ shape hv, memo_is_first_call _ _ valid hstep m₂ r₂ shape hv]

/-- `cmb_random_geometric`: likewise (`prev` is never assigned, so `denom` is recomputed from `p` on every call) -/
theorem geometric_memo_pure {F : Type} (o : FloatOps F) (valid : F → Prop)
    (h0 : ∀ x, valid x → o.ne x (o.lit "0") = true) (h1 : ∀ x y, valid x → o.ne x y = false → x = y)
    (m₁ m₂ : cmb_random_geometric_Memo F) (p : F)
    (r₁ : MemoReach (cmb_random_geometric_Memo.init o) (cmb_random_geometric_prologue o) valid m₁)
    (r₂ : MemoReach (cmb_random_geometric_Memo.init o) (cmb_random_geometric_prologue o) valid m₂) (hv : valid p) :
    cmb_random_geometric_prologue o p m₁ = cmb_random_geometric_prologue o p m₂ := by
  have hstep : ∀ x y, valid x → valid y →
      cmb_random_geometric_prologue o x (cmb_random_geometric_prologue o y (cmb_random_geometric_Memo.init o)) =
      cmb_random_geometric_prologue o x (cmb_random_geometric_Memo.init o) := by
    intro x y hx hy
    have hx0 := h0 x hx
    have hy0 := h0 y hy
    by_cases hne : o.ne x y = true
    · simp [cmb_random_geometric_prologue, cmb_random_geometric_prologue_fuel, cmb_random_geometric_Memo.init, hx0, hy0, hne]
    · have hxy := h1 x y hx (by simpa using hne)
      subst hxy
      simp [cmb_random_geometric_prologue, cmb_random_geometric_prologue_fuel, cmb_random_geometric_Memo.init, hx0, hne]
  rw [memo_is_first_call _ _ valid hstep m₁ r₁ p hv, memo_is_first_call _ _ valid hstep m₂ r₂ p hv]

/- the hypotheses h0, h1, h2, hv1 are satisfiable with valid arguments existing: integers, the literal "1" read as 1 and every other
   literal as 0, valid = positive -/
example : ∃ (o : FloatOps Int) (valid : Int → Prop),
    (∀ x, valid x → o.ne x (o.lit "0") = true) ∧ (∀ x y, valid x → o.ne x y = false → x = y) ∧
    (∀ x, valid x → o.lt (o.add x (o.lit "1")) (o.lit "1") = false) ∧ (∀ x, valid x → valid (o.add x (o.lit "1"))) ∧ valid 3 :=
  ⟨{ lit := fun s => if s = "1" then 1 else 0, add := (· + ·), sub := (· - ·), mul := (· * ·), div := (· / ·), neg := (- ·), fn := fun _ x => x,
     ne := fun a b => decide (a ≠ b), eq := fun a b => decide (a = b), lt := fun a b => decide (a < b),
     le := fun a b => decide (a ≤ b), gt := fun a b => decide (a > b), ge := fun a b => decide (a ≥ b) },
   fun x => 0 < x,
   by intro x hx; simp; omega, by intro x y _ h; simpa using h, by intro x hx; simp; omega, by intro x hx; simp; omega, by decide⟩

/-! ## 6. No thread computes with a different floating-point arithmetic

  The samplers are double computations; their values depend on the rounding mode and on the flush-to-zero / denormals-are-zero
  bits of MXCSR, which are per thread (and per coroutine: the context switch saves and restores MXCSR).  Every place where the
  library writes the control word is regenerated from the sources (Generated/FpEnv.lean: `_mm_setcsr` in
  `cimba_run_experiment`, inherited by the worker threads and left behind on the calling thread; the MXCSR a new coroutine starts
  with).  The theorem: each of them changes exception masks only — rounding stays to-nearest, subnormals are kept — so a
  worker thread, the main thread before and after an experiment, a plain pthread and a coroutine all compute the same values. -/

theorem fp_control_preserves_values : fpControlWrites.all FpWrite.valuePreserving = true := by decide +kernel

/- the inventory is not empty, and the predicate does reject a flush-to-zero / denormals-are-zero setting -/
example : fpControlWrites.any (fun w => w.function == "cimba_run_experiment") = true := by decide
example : FpWrite.valuePreserving { file := "", function := "", kind := "mxcsr", value := 0x1d00 ||| 0x8000 ||| 0x0040 } = false := by decide

/-! ## Non-vacuity and concrete values -/

/- the calls really do depend on the state, so `reseed_forgets` says something: two histories, different flips -/
example : ∃ s₁ s₂ : RngState, runCalls s₁ [.flip] ≠ runCalls s₂ [.flip] :=
  ⟨(step .flip (cmb_random_initialize 42 RngState.init)).2,
   (step .flip (step .flip (step .flip (cmb_random_initialize 42 RngState.init)).2).2).2, by decide +kernel⟩

/- the model computes the values the library returns (seed 42: first raw output, then ten coin flips — the same values as
   in corpus/rng/flip-cache-survives-reseed.txt, run 0) -/
example : runCalls (cmb_random_initialize 42 RngState.init) [.raw] = [.word 0x13554e33b8870be2] := by decide +kernel
example : runCalls (cmb_random_initialize 42 RngState.init) (List.replicate 10 .flip) =
    [0, 0, 0, 1, 0, 0, 1, 1, 0, 1].map .int := by decide +kernel
example : Spec.stream 42 2 = [0x13554e33b8870be2, 0xf42f8984b34064e0] := by decide +kernel

/- an instance of `reseed_forgets` with a partially consumed cache on one side -/
example : runCalls (cmb_random_initialize 42 (afterCalls RngState.init [.flip, .flip, .flip])) [.flip, .raw] =
          runCalls (cmb_random_initialize 42 RngState.init) [.flip, .raw] :=
  reseed_forgets _ _ 42 _

/- the inventory is not empty and contains the generator state -/
example : rngInventory.length ≥ 10 ∧ rngInventory.any (fun v => v.name == "prng_state" && v.storage == .threadLocal) = true := by
  decide

end CimbaModel.Props.C15
