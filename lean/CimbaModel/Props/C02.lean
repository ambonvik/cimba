/-
  C02 — the hashheap behaves as a keyed priority queue under any operation history.
  Property theorems only (helper lemmas live under CimbaModel/HashHeap/).
-/
import CimbaModel.HashHeap.GuardOrder
import CimbaModel.HashHeap.Hash
import CimbaModel.HashHeap.RefineSpec
import CimbaModel.HashHeap.Use

namespace CimbaModel.Props.C02
open CimbaModel CimbaModel.HashHeap CimbaModel.Generated CimbaModel.KPQ

/-! ### the ordering functions found in the C sources (regenerated on every run) are strict weak orders,
    total on distinct keys where the library relies on a unique minimum -/

theorem event_order_total : TotalOnKeys heap_order_check := inferInstance
theorem guard_order_total : TotalOnKeys guard_queue_check := inferInstance
theorem holder_order_total : TotalOnKeys holder_queue_check := inferInstance
theorem pq_order_total : TotalOnKeys compare_func := inferInstance
theorem default_order_strict_weak : StrictWeak default_order_check := inferInstance

/-! ### the regenerated hash function is the model's, and lands inside the map -/

theorem hash_key_is_model (s : HH) (k : Nat) (h : s.exp < 63) : hash_key s k = hashKey s.exp k :=
  hash_key_eq s k h

theorem hash_key_in_range (s : HH) (k : Nat) (h : s.exp < 63) : hash_key s k < 2 ^ (s.exp + 1) := by
  rw [hash_key_eq s k h]; exact hashKey_lt s.exp k h

theorem item_match_is_model (t : HTag) (p : Item) : item_match t p.a p.b p.c p.d = itemMatch t p :=
  item_match_eq t p

/-! ### none of the library's ordering functions looks at the hash back-pointer of a tag
    (needed for capacity doublings, which re-home every entry in the hash map) -/

theorem event_order_ignores_hidx : IgnoresHidx heap_order_check := inferInstance
theorem guard_order_ignores_hidx : IgnoresHidx guard_queue_check := inferInstance
theorem holder_order_ignores_hidx : IgnoresHidx holder_queue_check := inferInstance
theorem pq_order_ignores_hidx : IgnoresHidx compare_func := inferInstance
theorem default_order_ignores_hidx : IgnoresHidx default_order_check := inferInstance

/-! ### refinement: every operation of the concrete hashheap, on a well-formed state, never faults, keeps the
    state well-formed and acts on the abstraction `abs s : KPQ` as the keyed-priority-queue specification says.

    `lt` is an arbitrary strict weak order.  Where a capacity doubling can happen (`enqueue`) and where the
    statement compares back-pointer-free copies of the tags (`IsMin … (abs s)`), `lt` must not look at the hash
    back-pointer (`IgnoresHidx lt`; all five ordering functions of the library satisfy it, see above).  This
    hypothesis is necessary: `grow` re-homes every entry, so an order that inspected `hash_index` would see a
    different heap afterwards. -/

section refinement
variable {lt : Order}

theorem init_WF (e : Nat) (h1 : 1 ≤ e) (h31 : e ≤ 31) : ∃ s, init e = .ok s ∧ WF lt s ∧ abs s = [] := by
  obtain ⟨s, h, hwf, habs, _⟩ := init_spec (lt := lt) e h1 h31
  exact ⟨s, h, hwf, habs⟩

/-- live keys are pairwise distinct -/
theorem keys_nodup {s : HH} (h : WF lt s) : (keys (abs s)).Nodup := h.keys_nodup

/-- live keys are non-zero 64-bit values -/
theorem keys_valid {s : HH} (h : WF lt s) {k : Nat} (hk : k ∈ keys (abs s)) : k ≠ 0 ∧ k < 2 ^ 64 := h.keys_ne_zero hk

/-- the count is the number of live keys -/
theorem count_eq (s : HH) : (abs s).length = s.count := abs_length s

/-- the hash map always has a free slot, so `hash_find_slot` (a loop without exit in the C code) terminates -/
theorem free_slot_exists {s : HH} (h : WF lt s) : ∃ j, j < s.hash.size ∧ (s.slot j).idx = 0 := by
  rw [h.hashSize]
  have hpow : 2 ^ (s.exp + 1) = 2 * 2 ^ s.exp := by rw [Nat.pow_succ]; omega
  have := h.countLe
  exact h.wfs.exists_free s.count (fun i hi => hi.2) (by have := Nat.two_pow_pos s.exp; omega)

/-- `cmi_hash_find_index` returns the heap index of a live key and 0 for any other key: the first key match on
    the probe path is the live slot, never a stale tombstone of an earlier incarnation of the key -/
theorem findIndex_correct {s : HH} (h : WF lt s) (k : Nat) :
    (k ∈ keys (abs s) → ∃ i, findIndex s k = .ok i ∧ 1 ≤ i ∧ i ≤ s.count ∧ (s.tag i).key = k) ∧
    (k ∉ keys (abs s) → findIndex s k = .ok 0) := by
  constructor
  · intro hk
    obtain ⟨i, hi, rfl⟩ := (mem_keys_abs s k).1 hk
    exact ⟨i, findIndex_of_mem h hi, hi.1, hi.2, rfl⟩
  · exact fun hk => findIndex_of_not_mem h hk

theorem enqueue_refines [StrictWeak lt] [IgnoresHidx lt] {s : HH} (h : WF lt s) (it : Item) (k : Nat) (d i : Int) :
    let k' := if k = 0 then s.counter + 1 else k
    k' ≠ 0 → k' < 2 ^ 64 → k' ∉ keys (abs s) → (s.count < 2 ^ s.exp ∨ s.exp < 31) →
    ∃ s', enqueue lt s it k d i = .ok (s', k') ∧ WF lt s' ∧
      (abs s').Perm (KPQ.insert (abs s) ⟨k', 0, it, d, i⟩) ∧ s'.counter = s.counter + 1 := by
  intro k' h0 h64 hf hroom
  obtain ⟨s', hrun, a, -⟩ := enqueue_abs h it k d i h0 h64 hf hroom
  exact ⟨s', hrun, a.wf, a.perm, a.counter⟩

/-- without a capacity doubling no assumption on the order beyond strict weak is needed -/
theorem enqueue_refines_no_growth [StrictWeak lt] {s : HH} (h : WF lt s) (it : Item) (k : Nat) (d i : Int) :
    let k' := if k = 0 then s.counter + 1 else k
    k' ≠ 0 → k' < 2 ^ 64 → k' ∉ keys (abs s) → s.count < 2 ^ s.exp →
    ∃ s', enqueue lt s it k d i = .ok (s', k') ∧ WF lt s' ∧
      (abs s').Perm (KPQ.insert (abs s) ⟨k', 0, it, d, i⟩) ∧ s'.counter = s.counter + 1 ∧ s'.exp = s.exp := by
  intro k' h0 h64 hf hroom
  obtain ⟨s', hrun, a, hexp⟩ := enqueue_abs_of_grow h it k d i h0 h64 hf (growOK_of_room h hroom)
  exact ⟨s', hrun, a.wf, a.perm, a.counter, hexp⟩

theorem dequeue_refines [StrictWeak lt] [IgnoresHidx lt] {s : HH} (h : WF lt s) (hpos : 0 < s.count) :
    ∃ s' e, dequeue lt s = .ok (s', some e) ∧ WF lt s' ∧ IsMin lt (abs s) (norm e) ∧
      (abs s).Perm (norm e :: abs s') := by
  obtain ⟨s', hrun, a⟩ := dequeue_abs h hpos
  exact ⟨s', s.tag 1, hrun, a.wf, root_isMin_abs h hpos, a.perm⟩

/-- the same for an arbitrary strict weak order, minimality stated on the tags as stored -/
theorem dequeue_refines_raw [StrictWeak lt] {s : HH} (h : WF lt s) (hpos : 0 < s.count) :
    ∃ s' e, dequeue lt s = .ok (s', some e) ∧ WF lt s' ∧ IsMin lt (liveTags s) e ∧
      (abs s).Perm (norm e :: abs s') := by
  obtain ⟨s', hrun, a⟩ := dequeue_abs h hpos
  exact ⟨s', s.tag 1, hrun, a.wf, root_isMin h hpos, a.perm⟩

theorem dequeue_empty (s : HH) (h0 : s.count = 0) : dequeue lt s = .ok (s, none) := by
  simp [dequeue, h0]

theorem peek_correct [StrictWeak lt] [IgnoresHidx lt] {s : HH} (h : WF lt s) (hpos : 0 < s.count) :
    ∃ t, peek s = .ok (some t) ∧ IsMin lt (abs s) (norm t) :=
  ⟨s.tag 1, peek_spec h hpos, root_isMin_abs h hpos⟩

theorem peek_correct_raw [StrictWeak lt] {s : HH} (h : WF lt s) (hpos : 0 < s.count) :
    ∃ t, peek s = .ok (some t) ∧ IsMin lt (liveTags s) t :=
  ⟨s.tag 1, peek_spec h hpos, root_isMin h hpos⟩

theorem peek_empty (s : HH) (h0 : s.count = 0) : peek s = .ok none := by
  simp [peek, h0]

theorem remove_refines [StrictWeak lt] {s : HH} (h : WF lt s) (k : Nat) (hk0 : k ≠ 0) :
    ∃ s', remove lt s k = .ok (s', decide (k ∈ keys (abs s))) ∧ WF lt s' ∧
      (abs s').Perm (KPQ.remove (abs s) k) := by
  obtain ⟨s', hrun, a⟩ := remove_abs h k hk0
  exact ⟨s', hrun, a.wf, a.perm⟩

theorem reprio_refines [StrictWeak lt] {s : HH} (h : WF lt s) {k : Nat} (hk : k ∈ keys (abs s)) (d i : Int) :
    ∃ s', reprioritize lt s k d i = .ok s' ∧ WF lt s' ∧ (abs s').Perm (KPQ.reprio (abs s) k d i) := by
  obtain ⟨s', hrun, a⟩ := reprio_abs h hk d i
  exact ⟨s', hrun, a.wf, a.perm⟩

/-- a payload (and the sort keys) stay attached to their key however entries move inside the structure -/
theorem lookup_correct {s : HH} (h : WF lt s) {k : Nat} (hk : k ∈ keys (abs s)) :
    ∃ t, lookup s k = .ok t ∧ KPQ.lookup (abs s) k = some (norm t) := lookup_spec h hk

theorem isEnqueued_correct {s : HH} (h : WF lt s) (k : Nat) (hk0 : k ≠ 0) :
    isEnqueued s k = .ok (decide (k ∈ keys (abs s))) := isEnqueued_spec h k hk0

theorem patternCount_correct (s : HH) (p : Item) : patternCount s p = (matching (abs s) p).length :=
  patternCount_spec s p

/-- `pattern_find` returns 0 exactly when nothing matches, otherwise the key of a matching entry -/
theorem patternFind_correct {s : HH} (h : WF lt s) (p : Item) :
    (patternFind s p = 0 ↔ matching (abs s) p = []) ∧
    (patternFind s p ≠ 0 → ∃ t, t ∈ matching (abs s) p ∧ t.key = patternFind s p) := patternFind_spec h p

theorem patternCancel_refines [StrictWeak lt] {s : HH} (h : WF lt s) (p : Item) :
    ∃ s', patternCancel lt s p = .ok (s', (matching (abs s) p).length) ∧ WF lt s' ∧
      (abs s').Perm (removeMatching (abs s) p) := by
  obtain ⟨s', hrun, hwf, hperm, _⟩ := patternCancel_abs h p
  exact ⟨s', hrun, hwf, hperm⟩

theorem clear_refines {s : HH} (h : WF lt s) : WF lt (clear s) ∧ abs (clear s) = [] ∧ (clear s).counter = s.counter :=
  ⟨(clear_spec h).1, (clear_spec h).2.1, (clear_spec h).2.2.1⟩

theorem reset_refines {s : HH} (h : WF lt s) :
    ∃ s', reset s = .ok s' ∧ WF lt s' ∧ abs s' = [] ∧ s'.counter = s.counter := by
  obtain ⟨s', hrun, hwf, habs, hct, _⟩ := reset_spec h
  exact ⟨s', hrun, hwf, habs, hct⟩

/-- any operation sequence whose operations meet their documented preconditions keeps the state well-formed
    and never faults (no out-of-bounds access, no library abort, `hash_find_slot` terminates), across any
    number of capacity doublings -/
theorem run_preserves_WF [StrictWeak lt] [IgnoresHidx lt] {s : HH} (h : WF lt s) (ops : List Op)
    (hpre : PreAll lt s ops) : ∃ s', run lt s ops = .ok s' ∧ WF lt s' := run_WF ops h hpre

theorem reachable_WF [StrictWeak lt] [IgnoresHidx lt] (e : Nat) (h1 : 1 ≤ e) (h31 : e ≤ 31) (ops : List Op) :
    ∃ s0, init e = .ok s0 ∧ (PreAll lt s0 ops → ∃ s', run lt s0 ops = .ok s' ∧ WF lt s') := by
  obtain ⟨s0, hinit, hwf, _⟩ := init_spec (lt := lt) e h1 h31
  exact ⟨s0, hinit, fun hpre => run_WF ops hwf hpre⟩

/-- one operation with its observable result is a step of the keyed-priority-queue specification `SpecStep`
    (HashHeap/RefineTrace.lean) on the abstraction -/
theorem op_refines_spec [StrictWeak lt] [IgnoresHidx lt] {s : HH} (h : WF lt s) (op : Op) (hpre : OpPre s op) :
    ∃ s' r, stepR lt s op = .ok (s', r) ∧ WF lt s' ∧ SpecStep lt (abs s, s.counter) op r (abs s', s'.counter) :=
  step_refines h op hpre

/-- C02 for whole histories: from any initial exponent, every operation sequence whose operations meet their
    preconditions runs without fault, and the observable results (keys issued, tags dequeued / peeked / looked up
    without their internal back-pointer, removal and membership answers, pattern counts and finds) form a run of
    the specification started from the empty queue -/
theorem history_refines_spec [StrictWeak lt] [IgnoresHidx lt] (e : Nat) (h1 : 1 ≤ e) (h31 : e ≤ 31) (ops : List Op) :
    ∃ s0, init e = .ok s0 ∧ (PreAll lt s0 ops →
      ∃ s' rs, runR lt s0 ops = .ok (s', rs) ∧ WF lt s' ∧ SpecRun lt ([], 0) ops rs (abs s', s'.counter)) := by
  obtain ⟨s0, hinit, hwf, habs, hct, _⟩ := init_spec (lt := lt) e h1 h31
  refine ⟨s0, hinit, fun hpre => ?_⟩
  obtain ⟨s', rs, hrun, hwf', hspec⟩ := run_refines ops hwf hpre
  rw [habs, hct] at hspec
  exact ⟨s', rs, hrun, hwf', hspec⟩

/-- the specification does not depend on the order in which the abstract queue lists its entries: whatever is
    possible from `q` is possible, with the same result and a permutation of the same successor, from every
    permutation of `q` -/
theorem spec_perm_invariant {q1 q2 : KPQ} {c : Nat} {op : Op} {r : Res} {y : KPQ × Nat}
    (hp : q1.Perm q2) (hnd : (keys q1).Nodup) (h : SpecStep lt (q1, c) op r y) :
    ∃ q', SpecStep lt (q2, c) op r (q', y.2) ∧ q'.Perm y.1 := SpecStep.perm_left hp hnd h

/-! #### a payload stays attached to its key: what a lookup by key reports after each updating operation -/

theorem payload_sticks_enqueue [StrictWeak lt] [IgnoresHidx lt] {s : HH} (h : WF lt s) (it : Item) (k : Nat) (d i : Int) :
    let k' := if k = 0 then s.counter + 1 else k
    k' ≠ 0 → k' < 2 ^ 64 → k' ∉ keys (abs s) → (s.count < 2 ^ s.exp ∨ s.exp < 31) →
    ∃ s', enqueue lt s it k d i = .ok (s', k') ∧
      KPQ.lookup (abs s') k' = some ⟨k', 0, it, d, i⟩ ∧
      ∀ k2, k2 ≠ k' → KPQ.lookup (abs s') k2 = KPQ.lookup (abs s) k2 := by
  intro k' h0 h64 hf hroom
  obtain ⟨s', hrun, a, -⟩ := enqueue_abs h it k d i h0 h64 hf hroom
  exact ⟨s', hrun, by rw [a.lookup, if_pos rfl]; rfl, fun k2 hk2 => by rw [a.lookup, if_neg (Ne.symm hk2)]⟩

theorem payload_sticks_remove [StrictWeak lt] {s : HH} (h : WF lt s) (k : Nat) (hk0 : k ≠ 0) :
    ∃ s' b, remove lt s k = .ok (s', b) ∧ KPQ.lookup (abs s') k = none ∧
      ∀ k2, k2 ≠ k → KPQ.lookup (abs s') k2 = KPQ.lookup (abs s) k2 := by
  obtain ⟨s', hrun, a⟩ := remove_abs h k hk0
  exact ⟨s', _, hrun, by rw [a.lookup, if_pos rfl], fun k2 hk2 => by rw [a.lookup, if_neg hk2]⟩

theorem payload_sticks_reprio [StrictWeak lt] {s : HH} (h : WF lt s) {k : Nat} (hk : k ∈ keys (abs s)) (d i : Int) :
    ∃ s', reprioritize lt s k d i = .ok s' ∧
      KPQ.lookup (abs s') k = (KPQ.lookup (abs s) k).map (fun t => { t with d := d, i := i }) ∧
      ∀ k2, k2 ≠ k → KPQ.lookup (abs s') k2 = KPQ.lookup (abs s) k2 := by
  obtain ⟨s', hrun, a⟩ := reprio_abs h hk d i
  exact ⟨s', hrun, by rw [a.lookup, if_pos rfl], fun k2 hk2 => by rw [a.lookup, if_neg hk2]⟩

theorem payload_sticks_dequeue [StrictWeak lt] {s : HH} (h : WF lt s) (hpos : 0 < s.count) :
    ∃ s' e, dequeue lt s = .ok (s', some e) ∧ KPQ.lookup (abs s) e.key = some (norm e) ∧
      KPQ.lookup (abs s') e.key = none ∧
      ∀ k, k ≠ e.key → KPQ.lookup (abs s') k = KPQ.lookup (abs s) k := by
  obtain ⟨s', hrun, a⟩ := dequeue_abs h hpos
  refine ⟨s', s.tag 1, hrun, ?_, by rw [a.lookup h, if_pos rfl], fun k hk => by rw [a.lookup h, if_neg hk]⟩
  rw [lookup_eq_some_iff h.keys_nodup]
  exact ⟨(a.mem_old _).2 (.inl rfl), rfl⟩

/-- the concrete accessor agrees: if the abstract lookup of a live key is unchanged between two well-formed
    states, `lookup` (the common part of `cmi_hashheap_item/dkey/ikey`) returns the same payload and sort keys -/
theorem payload_sticks_concrete {s s' : HH} (h : WF lt s) (h' : WF lt s') {k : Nat} (hk : k ∈ keys (abs s))
    (heq : KPQ.lookup (abs s') k = KPQ.lookup (abs s) k) :
    ∃ t t', lookup s k = .ok t ∧ lookup s' k = .ok t' ∧ norm t' = norm t := by
  obtain ⟨t, hrun, hl⟩ := lookup_spec h hk
  have hk' : k ∈ keys (abs s') := by
    apply Classical.byContradiction
    intro hn
    rw [(lookup_eq_none_iff _ _).2 hn, hl] at heq
    cases heq
  obtain ⟨t', hrun', hl'⟩ := lookup_spec h' hk'
  refine ⟨t, t', hrun, hrun', ?_⟩
  rw [hl, hl'] at heq
  exact Option.some.inj heq

/-! #### automatically issued keys, re-insertion after removal, uniqueness of the minimum -/

/-- as long as no live key is above the item counter (callers pass key 0, or keys not above the next automatic
    one), the freshness precondition of `enqueue` holds by itself for key 0, and the invariant is kept -/
theorem auto_key_enqueue_refines [StrictWeak lt] [IgnoresHidx lt] {s : HH} (h : WF lt s) (hkb : KeysBelowCounter s)
    (it : Item) (d i : Int) (hctr : s.counter + 1 < 2 ^ 64) (hroom : s.count < 2 ^ s.exp ∨ s.exp < 31) :
    ∃ s', enqueue lt s it 0 d i = .ok (s', s.counter + 1) ∧ WF lt s' ∧
      (abs s').Perm (KPQ.insert (abs s) ⟨s.counter + 1, 0, it, d, i⟩) ∧ KeysBelowCounter s' := by
  obtain ⟨s', hrun, a, hkb'⟩ := enqueue_auto_ok h hkb it d i hctr hroom
  exact ⟨s', hrun, a.wf, a.perm, hkb'⟩

/-- a key removed from the queue can be enqueued again (its tombstone is still in the hash map): the new entry
    is found, the old payload is gone -/
theorem reinsert_after_remove [StrictWeak lt] {s : HH} (h : WF lt s) {k : Nat} (hk : k ∈ keys (abs s))
    (it : Item) (d i : Int) :
    ∃ s1 s2, remove lt s k = .ok (s1, true) ∧ enqueue lt s1 it k d i = .ok (s2, k) ∧ WF lt s2 ∧
      (abs s2).Perm (KPQ.insert (KPQ.remove (abs s) k) ⟨k, 0, it, d, i⟩) ∧
      KPQ.lookup (abs s2) k = some ⟨k, 0, it, d, i⟩ := by
  obtain ⟨hk0, hk64⟩ := h.keys_ne_zero hk
  obtain ⟨s1, hrun1, rm⟩ := remove_abs h k hk0
  have hnot : k ∉ keys (abs s1) := fun hm => ((rm.keys k).1 hm).2 rfl
  have hpos : 0 < s.count := by
    obtain ⟨j, hj, _⟩ := (mem_keys_abs s k).1 hk
    have := hj.1; have := hj.2; omega
  have hroom : s1.count < 2 ^ s1.exp := by
    rw [rm.count, if_pos hk, rm.exp]; have := h.countLe; omega
  have hk' : (if k = 0 then s1.counter + 1 else k) = k := if_neg hk0
  obtain ⟨s2, hrun2, ins, -⟩ := enqueue_abs_of_grow rm.wf it k d i (by rw [hk']; exact hk0)
    (by rw [hk']; exact hk64) (by rw [hk']; exact hnot) (growOK_of_room rm.wf hroom)
  rw [hk'] at hrun2 ins
  refine ⟨s1, s2, by rw [hrun1]; simp [hk], hrun2, ins.wf, ins.perm.trans (List.Perm.cons _ rm.perm), ?_⟩
  rw [ins.lookup, if_pos rfl]; rfl

/-- with an ordering that is total on distinct keys (the event queue, the waiting lists, the holder list and the
    object priority queue all have one) the entry returned by `dequeue` goes strictly before every other entry -/
theorem dequeue_strict_min [TotalOnKeys lt] [IgnoresHidx lt] {s : HH} (h : WF lt s) (hpos : 0 < s.count) :
    ∃ s' e, dequeue lt s = .ok (s', some e) ∧ WF lt s' ∧ (abs s).Perm (norm e :: abs s') ∧
      ∀ x, x ∈ abs s' → lt (norm e) x = true := by
  have hc : s.count ≠ 0 := Nat.ne_of_gt hpos
  obtain ⟨s', hrun, a⟩ := dequeue_abs h hpos
  exact ⟨s', s.tag 1, hrun, a.wf, a.perm, fun x hx => a.strict h hc hx⟩

/-- … and is therefore the only entry `dequeue` / `peek` may return -/
theorem min_unique [TotalOnKeys lt] {s : HH} (h : WF lt s) {e e' : HTag}
    (he : IsMin lt (abs s) e) (he' : IsMin lt (abs s) e') : e = e' := isMin_unique h.keys_nodup he he'

end refinement

/-! ### the hypotheses are satisfiable -/

/-- a well-formed non-empty state exists (built by the theorems themselves), so the hypotheses `WF lt s`,
    `0 < s.count`, `k ∈ keys (abs s)` of the theorems above are satisfiable -/
example : ∃ s : HH, WF default_order_check s ∧ 0 < s.count ∧ 5 ∈ keys (abs s) := by
  obtain ⟨s0, _, hwf0, habs0, _, hexp, _⟩ := init_spec (lt := default_order_check) 1 (by decide) (by decide)
  have hc0 : s0.count = 0 := by rw [← abs_length, habs0]; rfl
  obtain ⟨s1, _, hwf1, hperm, _⟩ := enqueue_refines hwf0 {} 5 0 0 (by simp) (by simp)
    (by rw [habs0]; simp [keys]) (Or.inl (by rw [hc0]; exact Nat.two_pow_pos _))
  refine ⟨s1, hwf1, ?_, ?_⟩
  · rw [← abs_length, hperm.length_eq]; simp [KPQ.insert]
  · have : (⟨5, 0, {}, 0, 0⟩ : HTag) ∈ abs s1 := hperm.mem_iff.2 (by simp [KPQ.insert, norm])
    exact List.mem_map.2 ⟨_, this, rfl⟩

/-- the precondition of a whole run is satisfiable: enqueue (auto key 1), reprioritize it, remove it, dequeue
    on a fresh heap -/
example : ∃ s0, init 1 = .ok s0 ∧
    PreAll default_order_check s0 [.enqueue {} 0 3 0, .reprio 1 5 0, .remove 1, .dequeue] := by
  obtain ⟨s0, hinit, hwf0, habs0, hct0, hexp, _⟩ := init_spec (lt := default_order_check) 1 (by decide) (by decide)
  have hc0 : s0.count = 0 := by rw [← abs_length, habs0]; rfl
  have hpre : OpPre s0 (.enqueue {} 0 3 0) := by
    simp only [OpPre, hct0, habs0]
    exact ⟨by decide, by decide, by simp [keys], Or.inl (by rw [hc0]; exact Nat.two_pow_pos _)⟩
  refine ⟨s0, hinit, hpre, ?_⟩
  intro s1 h1
  obtain ⟨s', hrun, _, hperm, _⟩ := enqueue_refines hwf0 {} 0 3 0 hpre.1 hpre.2.1 hpre.2.2.1 hpre.2.2.2
  have hs1 : s' = s1 := by simpa [step, hrun] using h1
  subst hs1
  refine ⟨?_, fun _ _ => ⟨(by decide : (1 : Nat) ≠ 0), fun _ _ => ⟨trivial, fun _ _ => trivial⟩⟩⟩
  have : (⟨1, 0, {}, 3, 0⟩ : HTag) ∈ abs s' := hperm.mem_iff.2 (by simp [KPQ.insert, norm, hct0])
  exact List.mem_map.2 ⟨_, this, rfl⟩

/-- a well-formed state that has gone through a capacity doubling exists: three automatic-key enqueues into a
    heap created with capacity 2 -/
example : ∃ s : HH, WF default_order_check s ∧ s.expInit = 1 ∧ 2 ≤ s.exp ∧ s.count = 3 := by
  obtain ⟨s0, _, hwf0, habs0, hct0, hexp0, hei0⟩ := init_spec (lt := default_order_check) 1 (by decide) (by decide)
  have hc0 : s0.count = 0 := by rw [← abs_length, habs0]; rfl
  have hkb0 : KeysBelowCounter s0 := by intro k hk; rw [habs0] at hk; cases hk
  have room : ∀ s : HH, WF default_order_check s → s.count ≤ 3 → s.count < 2 ^ s.exp ∨ s.exp < 31 := by
    intro s hs hc
    by_cases he : s.exp < 31
    · exact Or.inr he
    · left
      have : 2 ^ 31 ≤ 2 ^ s.exp := Nat.pow_le_pow_right (by decide) (by omega)
      omega
  obtain ⟨s1, _, a1, hkb1⟩ := enqueue_auto_ok hwf0 hkb0 {} 3 0 (by rw [hct0]; decide) (room s0 hwf0 (by omega))
  have hc1 := a1.count
  obtain ⟨s2, _, a2, hkb2⟩ := enqueue_auto_ok a1.wf hkb1 {} 1 0 (by rw [a1.counter, hct0]; decide)
    (room s1 a1.wf (by omega))
  have hc2 := a2.count
  obtain ⟨s3, _, a3, -⟩ := enqueue_auto_ok a2.wf hkb2 {} 2 0 (by rw [a2.counter, a1.counter, hct0]; decide)
    (room s2 a2.wf (by omega))
  have hc3 := a3.count
  refine ⟨s3, a3.wf, by rw [a3.expInit, a2.expInit, a1.expInit, hei0], ?_, by omega⟩
  have hle := a3.wf.countLe
  have : s3.count = 3 := by omega
  rw [this] at hle
  apply Classical.byContradiction
  intro hlt
  have : s3.exp ≤ 1 := by omega
  have : 2 ^ s3.exp ≤ 2 ^ 1 := Nat.pow_le_pow_right (by decide) this
  omega

end CimbaModel.Props.C02
