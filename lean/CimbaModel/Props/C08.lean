/-
  C08 — no lost wake-ups: nobody stays blocked while its demand can be met
  Property theorems only (the process-layer model is CimbaModel/Sim; helper lemmas in CimbaModel/Sim/*).
-/
import CimbaModel.Sim.S3Signals
import CimbaModel.Sim.S3GrantBuilt
import CimbaModel.Sim.S3GrantT

namespace CimbaModel.Props.C08
open CimbaModel CimbaModel.Sim CimbaModel.Event CimbaModel.Generated CimbaModel.HashHeap.SpecOrders
open CimbaModel.HashHeap (HTag Item Order HH WF abs)
open CimbaModel.Sim.S3 CimbaModel.KPQ

/-- the demand predicates the guards evaluate are exactly the documented availability conditions -/
theorem demands_are_availability (w : World) :
    (∀ b x, w.bufs[b]? = some x → (evalDemand w (.bufContent b) = true ↔ 0 < x.level) ∧
                                   (evalDemand w (.bufSpace b) = true ↔ x.level < x.cap)) ∧
    (∀ q x, w.oqs[q]? = some x → (evalDemand w (.oqContent q) = true ↔ 0 < x.items.length) ∧
                                  (evalDemand w (.oqSpace q) = true ↔ x.items.length < x.cap)) ∧
    (∀ k x, w.pqs[k]? = some x → (evalDemand w (.pqContent k) = true ↔ 0 < x.queue.count) ∧
                                  (evalDemand w (.pqSpace k) = true ↔ x.queue.count < x.cap)) := by
  refine ⟨?_, ?_, ?_⟩ <;> intro i x hx <;> simp [evalDemand, hx]


/-! ### a signal serves the front waiter whenever it can

`AllGWF w`: every waiting list is a well-formed hashheap (C02); `demandOf gd k`: the demand predicate registered for
key `k`; `gd.q.tag 1`: the front entry (the minimum of the waiting set under the documented order, see C06). -/

/-- `signal_grants_if_satisfiable`: after a complete signal of `g` (the guard's own part, then every observer,
    recursively), if the waiting list was non-empty and the front waiter's demand held, that waiter is no longer queued
    and its wake-up (aRes, SUCCESS) is pending *at the current time* with its current priority; queues only shrank, the
    clock did not move -/
theorem signal_grants_if_satisfiable {fuel : Nat} {w : World} {g : Nat} {gd : Guard} (hg : w.guards[g]? = some gd)
    (hall : AllGWF w) (hpos : 0 < gd.q.count) (hd : evalDemand w (demandOf gd (gd.q.tag 1).key) = true) :
    (∃ gd', (guardSignal (fuel + 1) w g).guards[g]? = some gd' ∧ (gd.q.tag 1).key ∉ keys (abs gd'.q) ∧
        ∀ x ∈ abs gd'.q, x ∈ abs gd.q) ∧
    mkEv (w.ev.counter + 1) aRes (gd.q.tag 1).key sigSuccess w.now (w.proc ((gd.q.tag 1).key - 1)).prio ∈
      (guardSignal (fuel + 1) w g).ev.pending ∧
    (guardSignal (fuel + 1) w g).now = w.now := by
  obtain ⟨h1, h2, h3, _⟩ := guardSignal_grants (fuel := fuel) hg hall hpos hd
  exact ⟨h1, h2, h3⟩

/-- … otherwise (empty list, or the front waiter's demand does not hold) the guard's own part changes neither the queue
    nor the event set: the signal is just the forwarded signal to the observers (`fwdSignal`: the condition signal for the
    guard of a condition, a plain guard signal for any other observer — Props/C13) -/
theorem signal_without_grant {fuel : Nat} {w : World} {g : Nat} {gd : Guard} (hg : w.guards[g]? = some gd)
    (hwf : WF guard_queue_check gd.q) (h : gd.q.count = 0 ∨ evalDemand w (demandOf gd (gd.q.tag 1).key) = false) :
    guardSignal (fuel + 1) w g = gd.observers.foldl (fun w o => fwdSignal fuel w o) w :=
  guardSignal_no_grant hg hwf h

/-- whatever a signal does (observers included): it only dequeues waiters whose demand holds and schedules their
    wake-ups — a grant (aRes, SUCCESS) from a front step, a condition wake-up (aCond, SUCCESS) from the condition signal of
    an observing condition (`SigRel.pending`: every new event is `IsGrantEv` or `IsCondEv`) —; it never touches processes,
    objects, the clock, nor removes an event -/
theorem signal_footprint (fuel : Nat) (w : World) (g : Nat) (hall : AllGWF w) : SigRel w (guardSignal fuel w g) :=
  guardSignal_rel fuel w g hall

/-! ### a grant that arrives too late is passed on -/

/-- `grant_passed_on`: a process `p` that leaves its wait on `g` for another reason (timeout, interrupt, stop) after it
    has been dequeued: its pending grant(s) are removed from the event queue — every other pending event stays — and the
    guard is signalled again, all inside `guardWithdraw` -/
theorem grant_passed_on {w : World} {g : Nat} {gd : Guard} (hg : w.guards[g]? = some gd) (hwf : WF guard_queue_check gd.q)
    {p : Pid} (hp : p + 1 ∉ keys (abs gd.q)) (hi : EvInv w.ev)
    (hgrant : ∃ e ∈ w.ev.pending, kindMatch p aRes (some sigSuccess) e = true) :
    guardWithdraw w g p = signal (cancelKindFor w p aRes (some sigSuccess)).1 g ∧
    (∀ e ∈ (cancelKindFor w p aRes (some sigSuccess)).1.ev.pending, e.key ≤ w.ev.counter →
        kindMatch p aRes (some sigSuccess) e = false) ∧
    (∀ e ∈ w.ev.pending, kindMatch p aRes (some sigSuccess) e = false →
        e ∈ (cancelKindFor w p aRes (some sigSuccess)).1.ev.pending) ∧
    (cancelKindFor w p aRes (some sigSuccess)).1.guards = w.guards ∧
    (cancelKindFor w p aRes (some sigSuccess)).1.now = w.now := by
  obtain ⟨h1, hrel, h2, h3⟩ := guardWithdraw_passes_on hg hwf hp hi hgrant
  exact ⟨h1, h2, h3, hrel.guards, hrel.now⟩

/-- … so the next waiter, if it can be served, is served in that same step (same simulated instant) -/
theorem grant_passed_on_serves_next {w : World} {g : Nat} {gd : Guard} (hg : w.guards[g]? = some gd) (hall : AllGWF w)
    {p : Pid} (hp : p + 1 ∉ keys (abs gd.q)) (hi : EvInv w.ev)
    (hgrant : ∃ e ∈ w.ev.pending, kindMatch p aRes (some sigSuccess) e = true)
    (hpos : 0 < gd.q.count) (hd : evalDemand w (demandOf gd (gd.q.tag 1).key) = true) :
    (∃ gd', (guardWithdraw w g p).guards[g]? = some gd' ∧ (gd.q.tag 1).key ∉ keys (abs gd'.q)) ∧
    (∃ e ∈ (guardWithdraw w g p).ev.pending, e.item.a = aRes ∧ e.item.b = (gd.q.tag 1).key ∧
      e.item.c = encSig sigSuccess ∧ e.d = w.now ∧ e.i = (w.proc ((gd.q.tag 1).key - 1)).prio) ∧
    (guardWithdraw w g p).now = w.now :=
  guardWithdraw_serves_next hg hall hp hi hgrant hpos hd

/-- a waiter that is still queued when it leaves is just removed (nothing was granted, nothing to pass on) -/
theorem withdraw_queued {w : World} {g : Nat} {gd : Guard} (hg : w.guards[g]? = some gd) (hwf : WF guard_queue_check gd.q)
    {p : Pid} (hp : p + 1 ∈ keys (abs gd.q)) :
    ∃ q', WF guard_queue_check q' ∧ (abs q').Perm (KPQ.remove (abs gd.q) (p + 1)) ∧ guardWithdraw w g p = setGuardQ w g q' :=
  guardWithdraw_queued hg hwf hp

/-! ### every state change that can satisfy a demand signals the right guard in the same step -/

theorem release_signals {w : World} {p : Pid} {r : Nat} {x : Res} (hx : w.res[r]? = some x) (hh : x.holder = some p) :
    execCmd w p (.release r) =
      (signal (recordRes { (removeHeld w p (.res r)).1 with
        res := (removeHeld w p (.res r)).1.res.set! r { x with holder := none } } r) x.guard, .ret 0 "") :=
  S3.release_signals hx hh

theorem drop_resource_signals {w : World} (p : Pid) {r : Nat} {x : Res} (hx : w.res[r]? = some x) :
    dropResources w p = (w.proc p).held.foldl (dropStep p) (w.modProc p fun x => { x with held := [] }) ∧
    dropStep p w (.res r) = signal (recordRes { w with res := w.res.set! r { x with holder := none } } r) x.guard ∧
    ∀ pl, dropStep p w (.pool pl) = poolDropHolder w pl p :=
  ⟨dropResources_eq w p, dropStep_res_signals p hx, fun _ => rfl⟩

theorem pool_drop_signals {w : World} {pl : Nat} {p : Pid} {x : Pool} {i : Nat} {h' : HH} {b : Bool}
    (hx : w.pools[pl]? = some x) (hi : HashHeap.findIndex x.holders (p + 1) = .ok (i + 1))
    (hr : HashHeap.remove holder_queue_check x.holders (p + 1) = .ok (h', b)) :
    poolDropHolder w pl p =
      signal (recordPool { w with pools := w.pools.set! pl { x with inUse := x.inUse - (x.holders.heap.getD (i + 1) {}).item.b, holders := h' } } pl) x.guard :=
  poolDropHolder_signals hx hi hr

theorem pool_release_signals {w : World} {p : Pid} {pl n : Nat} {x : Pool} (hx : w.pools[pl]? = some x)
    (hn : ¬ (n = 0 ∨ n > heldAmount w pl p)) :
    ∃ w1 : World, execCmd w p (.poolRelease pl n) =
      (signal (recordPool (setPoolInUse w1 pl (x.inUse - n)) pl) x.guard, .ret 0 "") :=
  poolRelease_signals hx hn

theorem pool_rollback_signals {w : World} {p : Pid} {pl initially : Nat} {x : Pool} (hx : w.pools[pl]? = some x) :
    (initially > 0 → heldAmount w pl p > initially →
      poolRollback w p pl initially =
        signal (recordPool (setPoolInUse (setHeldAmount w pl p initially) pl
          (x.inUse - (heldAmount w pl p - initially))) pl) x.guard) ∧
    (∀ h' found, HashHeap.remove holder_queue_check x.holders (p + 1) = .ok (h', found) →
      ∃ w1 : World, poolRollback w p pl 0 = signal w1 x.guard ∧
        w1.pools = (recordPool (setPoolInUse w pl (x.inUse - heldAmount w pl p)) pl).pools.modify pl
          (fun y => { y with holders := h' })) :=
  ⟨fun h0 hs => poolRollback_surplus_signals hx h0 hs, fun _ _ hr => poolRollback_zero_signals hx hr⟩

theorem pool_acquire_leftover_signals {w : World} {p : Pid} {pl rem initially : Nat} {preempt : Bool} {x : Pool}
    (hx : w.pools[pl]? = some x) (ha : x.cap - x.inUse ≥ rem) :
    poolLoop w p pl rem initially preempt =
      (signal (poolUpdateRecord (recordPool (setPoolInUse w pl (x.inUse + rem)) pl) pl p rem) x.guard,
       .ret sigSuccess "") :=
  poolLoop_done_signals hx ha

theorem buffer_get_signals {w : World} {p : Pid} {b rem got : Nat} {x : Buf} (hx : w.bufs[b]? = some x) :
    (x.level ≥ rem →
      (bufGetLoop w p b rem got).1 =
        (let w1 := signal (recordBuf { w with bufs := w.bufs.set! b { x with level := x.level - rem, getTotal := x.getTotal + rem } } b) x.rear
         if x.level - rem > 0 then signal w1 x.front else w1)) ∧
    (¬ x.level ≥ rem → x.level > 0 →
      (bufGetLoop w p b rem got).1 =
        (guardWaitEnter (signal (signal (recordBuf { w with bufs := w.bufs.set! b { x with level := 0, getTotal := x.getTotal + x.level } } b) x.rear) x.rear) x.front p (.bufContent b)).modProc p
          (fun y => { y with blocked := some (.bufGet b (rem - x.level) (got + x.level)) })) :=
  ⟨fun hl => bufGet_done_signals hx hl, fun hl hpos => bufGet_partial_signals hx hl hpos⟩

theorem buffer_put_signals {w : World} {p : Pid} {b rem left : Nat} {x : Buf} (hx : w.bufs[b]? = some x) :
    (x.cap - x.level ≥ rem →
      (bufPutLoop w p b rem left).1 =
        (let w1 := signal (recordBuf { w with bufs := w.bufs.set! b { x with level := x.level + rem, putTotal := x.putTotal + rem } } b) x.front
         if x.level + rem < x.cap then signal w1 x.rear else w1)) ∧
    (¬ x.cap - x.level ≥ rem → x.level < x.cap →
      (bufPutLoop w p b rem left).1 =
        (guardWaitEnter (signal (signal (recordBuf { w with bufs := w.bufs.set! b { x with level := x.cap, putTotal := x.putTotal + (x.cap - x.level) } } b) x.front) x.front) x.rear p (.bufSpace b)).modProc p
          (fun y => { y with blocked := some (.bufPut b (rem - (x.cap - x.level)) (left - (x.cap - x.level))) })) :=
  ⟨fun hl => bufPut_done_signals hx hl, fun hl hpos => bufPut_partial_signals hx hl hpos⟩

theorem object_queue_signals {w : World} {p : Pid} {q : Nat} {x : OQ} (hx : w.oqs[q]? = some x) :
    (∀ o rest, x.items = o :: rest →
      (oqGetLoop w p q).1 =
        signal (recordOQ { w with oqs := w.oqs.set! q { x with items := rest, gotLog := x.gotLog ++ [o] } } q) x.rear) ∧
    (∀ obj, x.items.length < x.cap →
      (oqPutLoop w p q obj).1 =
        signal (recordOQ { w with oqs := w.oqs.set! q { x with items := x.items ++ [obj], putLog := x.putLog ++ [obj] } } q)
          x.front) :=
  ⟨fun _ _ hi => oqGet_signals hx hi, fun _ hl => oqPut_signals hx hl⟩

theorem priority_queue_signals {w : World} {p : Pid} {k : Nat} {x : PQ} (hx : w.pqs[k]? = some x) :
    (∀ q' t, x.queue.count > 0 → HashHeap.dequeue compare_func x.queue = .ok (q', some t) →
      (pqGetLoop w p k).1 =
        signal (recordPQ { w with pqs := w.pqs.set! k { x with queue := q', gotLog := x.gotLog ++ [t.key] } } k) x.rear) ∧
    (∀ obj v pri q' h, x.queue.count < x.cap →
      HashHeap.enqueue compare_func x.queue ⟨obj, 0, 0, 0⟩ 0 0 pri = .ok (q', h) →
      (pqPutLoop w p k obj pri v).1 =
        signal (recordPQ (setVar { w with pqs := w.pqs.set! k { x with queue := q', putLog := x.putLog ++ [h] } } p v h) k)
          x.front) ∧
    (∀ v q', getVar w p v ≠ 0 → HashHeap.remove compare_func x.queue (getVar w p v) = .ok (q', true) →
      (execCmd w p (.pqCancel k v)).1 =
        signal (recordPQ { w with pqs := w.pqs.set! k { x with queue := q', cancelLog := x.cancelLog ++ [getVar w p v] } } k) x.rear) :=
  ⟨fun _ _ hc hd => pqGet_signals hx hc hd, fun _ _ _ _ _ hc he => pqPut_signals hx hc he,
   fun _ _ hv hr => pqCancel_signals hx hv hr⟩

/-! ### quiescence

Full statement (`grant_invariant`, `quiescent_ok` of DESIGN.md): proved in a stronger, inductive form
(`grant_invariant_reachable`, `grant_pending_if_satisfiable`, `quiescent_ok`): a grant OF THAT GUARD is pending, and
for the queues as many grants as there are objects / free slots; at quiescence no waiter at all has a true demand.
`quiescent_ok_partial` derives quiescence from the weaker `GrantInv`. -/

theorem no_more_events_iff (w : World) : dispatch w = none ↔ w.ev.pending = [] := dispatch_none_iff w

theorem quiescent_ok_partial {w : World} (hgi : GrantInv w) (hq : dispatch w = none) (g : Nat) (gd : Guard)
    (hg : w.guards[g]? = some gd) (hc : gd.isCond = false) (hpos : 0 < gd.q.count) :
    evalDemand w (demandOf gd (gd.q.tag 1).key) = false :=
  quiescent_of_grantInv hgi hq g gd hg hc hpos

/- non-vacuity: `GrantInv` and quiescence are satisfiable together (the initial world), and a world with a pending grant
   and a non-queued grantee exists for `grant_passed_on` -/
example : GrantInv {} ∧ dispatch {} = none := by
  refine ⟨?_, by decide⟩
  intro g gd hg; simp at hg

example : ∃ (w : World) (p : Pid), EvInv w.ev ∧ ∃ e ∈ w.ev.pending, kindMatch p aRes (some sigSuccess) e = true := by
  refine ⟨pushEv {} aRes 1 sigSuccess 0 0, 0, ?_, _, List.mem_cons_self, by decide⟩
  exact pushEv_evinv (w := {}) _ _ _ _ _ (by decide) (Event.init_inv 0)


/-! ### in every reachable state

`AllInv` (Props/C04, Sim/S3All) is an invariant of `dispatch` whose clauses include `AllGWF` and the ownership of
grants; so the hypotheses of the signal theorems hold at every signal of every run, and a grant is never lost or
duplicated: -/

theorem guards_wellformed_reachable {w0 w : World} (hr : Reach w0 w) (h0 : AllInv w0) : AllGWF w := (h0.reach hr).g.gw

theorem signal_footprint_reachable {w0 w : World} (hr : Reach w0 w) (h0 : AllInv w0) (fuel : Nat) (g : Nat) :
    SigRel w (guardSignal fuel w g) := signal_footprint fuel w g (guards_wellformed_reachable hr h0)

/-- a pending grant always has an owner that will consume it or pass it on: its process is suspended in a wait on the
    guard, still awaits it, is off the waiting list, and no second grant is pending for it -/
theorem grant_has_owner {w0 w : World} (hr : Reach w0 w) (h0 : AllInv w0) {e : HTag} (he : e ∈ w.ev.pending)
    (ha : e.item.a = aRes) (hc : e.item.c = 0) :
    ∃ p g f, e.item.b = p + 1 ∧ (w.proc p).blocked = some f ∧ FrameOn w f g ∧ guardAw w p = [.guard g] ∧
      ¬ queued w g (p + 1) ∧ (∀ g', ¬ queued w g' (p + 1)) ∧
      ∀ e' ∈ w.ev.pending, isGrant e' → e'.item.b = p + 1 → e' = e :=
  (h0.reach hr).g.grant_owned he (Or.inl ⟨ha, hc⟩)

/-- whoever is in a waiting list is a suspended process that awaits exactly that guard (so a signal never wakes a
    process that is not waiting) -/
theorem waiter_registered {w0 w : World} (hr : Reach w0 w) (h0 : AllInv w0) {g k : Nat} (hq : queued w g k) :
    ∃ p f, k = p + 1 ∧ p < w.procs.size ∧ Await.guard g ∈ (w.proc p).awaits ∧ guardAw w p = [.guard g] ∧
      (w.proc p).blocked = some f ∧ FrameOn w f g := (h0.reach hr).g.queued_means hq

/-! ### the grant invariant in every reachable state; quiescence

Object ends are named by their demand predicate: `gOf w d` is the guard of the end `d` (a resource, a pool, the front /
rear of a buffer, object queue or priority queue), `need w d` what is available there in units of one grant (1 for
resources, pools and buffers, whose consumers signal again; the number of objects / free slots for the queues, whose
consumers take exactly one), `G w g` the number of pending grants (aRes, SUCCESS) whose process awaits `g`, `Qne w g`
"the waiting list of `g` is not empty".

`GrantAll S w` (Sim/S3GrantDispatch) = `AllInv` (Props/C04) ∧ `KInv S` (every handle recorded in a `hold` frame or stored
in a variable in `S` is an issued handle that is not the handle of a grant) ∧ `EndSep` (distinct object ends have distinct
guards — static) ∧ the static typing `KOk S` / `CvOk S` of the programs (the variables read by `cancelUser` /
`timerCancel` are in `S`; `pqPut` does not write a variable in `S`; with `S := CancelVar w` this is the decidable
predicate `VarsOk w`, executable form `varsOkB`) ∧, unless a fault has been recorded,
* `HG` (homogeneity): every waiter of the guard of an object end has registered that end's demand, and
* `GI`: for every object end with a non-empty waiting list, `need ≤ G`  — "a grant OF THAT GUARD for everything that is
  available".
It is preserved by `dispatch` for all programs: every command and every resumption re-establishes it (the process resumed
by a grant takes what it was granted — `need` drops — or signals again; leaving a wait for another reason passes the grant
on; process end, drops, rollbacks signal), priority changes cannot matter (homogeneity), and no handle that is cancelled
by value is the handle of a grant (`KInv`).  "Unless a fault has been recorded": the model records a corrupt hashheap
(holders of a pool, a priority queue) as a fault; faults are never cleared (C04). -/

theorem grant_all_dispatch {S : Nat → Prop} {w w' : World} (h : GrantAll S w) (hd : dispatch w = some w') : GrantAll S w' :=
  h.dispatch hd

/-- `grant_invariant`: in every reachable fault-free state, every waiter of an object end's guard has registered that
    end's demand, and for every object end with a non-empty waiting list there are at least as many pending grants of
    its guard as units available -/
theorem grant_invariant_reachable {S : Nat → Prop} {w0 w : World} (hr : Reach w0 w) (h0 : GrantAll S w0) (hf : w.fault = none) :
    (∀ d g, gOf w d = some g → ∀ gd, w.guards[g]? = some gd → ∀ k ∈ keys (abs gd.q), demandOf gd k = d) ∧
    (∀ d g, gOf w d = some g → Qne w g → need w d ≤ G w g) := by
  obtain ⟨h1, h2⟩ := (h0.reach hr).gh hf
  exact ⟨h1, fun d g hd hq => by have := h2 d g hd hq; omega⟩

/-- … in the words of DESIGN.md's statement: if the demand of a non-empty waiting list's object end holds, a grant is
    pending whose process is suspended in a wait on that very guard, still awaits it and is already off the list -/
theorem grant_pending_if_satisfiable {S : Nat → Prop} {w0 w : World} (hr : Reach w0 w) (h0 : GrantAll S w0) (hf : w.fault = none)
    {d : Demand} {g : Nat} (hd : gOf w d = some g) (hq : Qne w g) (hev : evalDemand w d = true) :
    ∃ e ∈ w.ev.pending, e.item.a = aRes ∧ e.item.c = 0 ∧
      ∃ p f, e.item.b = p + 1 ∧ (w.proc p).blocked = some f ∧ FrameOn w f g ∧ guardAw w p = [.guard g] ∧
        ¬ queued w g (p + 1) := by
  have hA := h0.reach hr
  have h1 := (grant_invariant_reachable hr h0 hf).2 d g hd hq
  have h2 := (evalDemand_need w d (gOf_not_cond hd)).1 hev
  have hpos : 0 < (grantKeys w g).length := by unfold G at h1; omega
  obtain ⟨k, hk⟩ := List.exists_mem_of_length_pos hpos
  obtain ⟨e, he, _, hg01, hmem⟩ := mem_grantKeys.1 hk
  obtain ⟨p, g', f, hb, hbl, hon, haw, hnq, _, _⟩ := hA.all.g.grant_owned he (Or.inl hg01)
  have hgg : g = g' := by
    rw [hb, Nat.add_sub_cancel, mem_awaits_guard, haw] at hmem
    simpa using hmem
  subst hgg
  exact ⟨e, he, hg01.1, hg01.2, p, f, hb, hbl, hon, haw, hnq⟩

/-- `quiescent_ok`: when nothing is left to dispatch in a reachable fault-free state, NO waiter of the guard of a
    resource, pool, buffer end or queue end has a demand that holds — nobody stays blocked while it could be served -/
theorem quiescent_ok {S : Nat → Prop} {w0 w : World} (hr : Reach w0 w) (h0 : GrantAll S w0) (hf : w.fault = none)
    (hq : dispatch w = none) {d : Demand} {g : Nat} (hd : gOf w d = some g) {gd : Guard} (hg : w.guards[g]? = some gd) :
    ∀ k ∈ keys (abs gd.q), demandOf gd k = d ∧ evalDemand w (demandOf gd k) = false := by
  obtain ⟨h1, h2⟩ := (h0.reach hr).quiescent hf hq hd hg
  intro k hk
  refine ⟨h1 k hk, ?_⟩
  rw [h1 k hk]
  apply h2
  intro hc
  have : (abs gd.q).length = 0 := by rw [HashHeap.abs_length]; exact hc
  obtain ⟨e, he, _⟩ := Event.mem_keys.1 hk
  rw [List.length_eq_zero_iff] at this
  rw [this] at he; cases he

/-- the hypotheses hold for every scenario the harness can express (`Built`, Props/C04) whose programs respect the
    documented precondition on signal values (`CmdOk`) and the typing of handle variables (`VarsOk`) -/
theorem grant_invariant_loader {w0 : World} (hb : Built w0) (hsz : w0.procs.size < 2 ^ 31) (hv : VarsOk w0) :
    GrantAll (CancelVar w0) w0 ∧ ∀ fuel, GrantAll (CancelVar w0) (runAll fuel w0) :=
  ⟨hb.grantAll hsz hv, hb.grantRun hsz hv⟩

theorem quiescent_ok_loader {w0 w : World} (hb : Built w0) (hsz : w0.procs.size < 2 ^ 31) (hv : VarsOk w0) (hr : Reach w0 w)
    (hf : w.fault = none) (hq : dispatch w = none) {d : Demand} {g : Nat} (hd : gOf w d = some g) {gd : Guard}
    (hg : w.guards[g]? = some gd) : ∀ k ∈ keys (abs gd.q), demandOf gd k = d ∧ evalDemand w (demandOf gd k) = false :=
  quiescent_ok hr (hb.grantAll hsz hv) hf hq hd hg

/-- the executable check of the variable typing is sound -/
theorem vars_check_sound {w : World} (h : varsOkB w = true) : VarsOk w := varsOk_of_check h

/- non-vacuity: a scenario with a resource, a subscribed condition and two competing processes (one arms a timer and
   cancels it by value) is `Built`, satisfies `VarsOk`, hence `GrantAll` holds in every state of its run -/
example : ∃ w0 : World, Built w0 ∧ VarsOk w0 ∧ w0.procs.size = 2 ∧ (∃ g, gOf w0 (.resAvail 0) = some g) ∧
    ∀ fuel, GrantAll (CancelVar w0) (runAll fuel w0) := by
  have hb : Built (autostart (autostart (subscribe (addProc (addProc (addCond (addRes {})) 0
      #[(.acquire 0, "acquire 0"), (.hold 1, "hold 1"), (.release 0, "release 0")]) 1
      #[(.timerAdd 0 2 7, "timer"), (.acquire 0, "acquire 0"), (.timerCancel 0, "cancel")]) 0 1) 0) 1) := by
    refine .start 1 (.start 0 (.sub 0 1 (.proc 1 _ (.proc 0 _ (.cond (.res .empty)) ?_) ?_)))
    · intro i c t h
      rcases i with _ | _ | _ | i <;> cases h <;> trivial
    · intro i c t h
      rcases i with _ | _ | _ | i
      · cases h; show encSig 7 ≠ 0; decide
      · cases h; trivial
      · cases h; trivial
      · cases h
  have hprocs : (autostart (autostart (subscribe (addProc (addProc (addCond (addRes {})) 0
      #[(.acquire 0, "acquire 0"), (.hold 1, "hold 1"), (.release 0, "release 0")]) 1
      #[(.timerAdd 0 2 7, "timer"), (.acquire 0, "acquire 0"), (.timerCancel 0, "cancel")]) 0 1) 0) 1).procs =
      #[{ prio := 0, script := #[(.acquire 0, "acquire 0"), (.hold 1, "hold 1"), (.release 0, "release 0")] },
        { prio := 1, script := #[(.timerAdd 0 2 7, "timer"), (.acquire 0, "acquire 0"), (.timerCancel 0, "cancel")] }] := by
    simp only [autostart, sched_procs]; rfl
  have hres : (autostart (autostart (subscribe (addProc (addProc (addCond (addRes {})) 0
      #[(.acquire 0, "acquire 0"), (.hold 1, "hold 1"), (.release 0, "release 0")]) 1
      #[(.timerAdd 0 2 7, "timer"), (.acquire 0, "acquire 0"), (.timerCancel 0, "cancel")]) 0 1) 0) 1).res = #[{ guard := 0 }] := by
    simp only [autostart, sched_res]; rfl
  have hv : VarsOk (autostart (autostart (subscribe (addProc (addProc (addCond (addRes {})) 0
      #[(.acquire 0, "acquire 0"), (.hold 1, "hold 1"), (.release 0, "release 0")]) 1
      #[(.timerAdd 0 2 7, "timer"), (.acquire 0, "acquire 0"), (.timerCancel 0, "cancel")]) 0 1) 0) 1) := by
    intro p i c t hs
    unfold World.proc at hs
    rw [hprocs] at hs
    rcases p with _ | _ | p
    · rcases i with _ | _ | _ | i <;> cases hs <;> trivial
    · rcases i with _ | _ | _ | i <;> cases hs <;> trivial
    · cases hs
  have hsz : (autostart (autostart (subscribe (addProc (addProc (addCond (addRes {})) 0
      #[(.acquire 0, "acquire 0"), (.hold 1, "hold 1"), (.release 0, "release 0")]) 1
      #[(.timerAdd 0 2 7, "timer"), (.acquire 0, "acquire 0"), (.timerCancel 0, "cancel")]) 0 1) 0) 1).procs.size = 2 := by
    rw [hprocs]; rfl
  refine ⟨_, hb, hv, hsz, ⟨0, ?_⟩, fun fuel => hb.grantRun (by rw [hsz]; decide) hv fuel⟩
  simp only [gOf, hres]; rfl

/-- the weaker `GrantInv` (S3Grant: whenever the front waiter of a non-condition guard could be served, a grant is
    pending at the current time) is a corollary: `GT` = every pending grant is due at the current time (while a grant is
    pending the clock does not move), `Cover` = every guard that is not a condition's is the guard of an object end
    (static) -/
theorem grant_inv_reachable {S : Nat → Prop} {w0 w : World} (hr : Reach w0 w) (h0 : GrantAll S w0) (ht : GT w0) (hc : Cover w0)
    (hf : w.fault = none) : GrantInv w := by
  have hA := h0.reach hr
  have hst : Stat w0 w := by
    clear hA hf
    induction hr with
    | refl => exact Stat.refl _
    | step _ hd ih => exact ih.trans (Stat.dispatch hd)
  exact grantInv_of_all hA (GT.reach hr ht h0.all.g.ei).1 (hc.ofStat hst) hf

theorem grant_inv_loader {w0 w : World} (hb : Built w0) (hsz : w0.procs.size < 2 ^ 31) (hv : VarsOk w0) (hr : Reach w0 w)
    (hf : w.fault = none) : GrantInv w :=
  grant_inv_reachable hr (hb.grantAll hsz hv) hb.gt hb.cover hf

/- non-vacuity of `quiescent_ok_loader`: a built world with a resource and a process that is never started is quiescent,
   fault-free, and has an object end with a guard -/
example : ∃ w0 : World, Built w0 ∧ VarsOk w0 ∧ w0.procs.size < 2 ^ 31 ∧ Reach w0 w0 ∧ w0.fault = none ∧ dispatch w0 = none ∧
    ∃ g gd, gOf w0 (.resAvail 0) = some g ∧ w0.guards[g]? = some gd := by
  have hb : Built (addProc (addRes {}) 0 #[(.acquire 0, "acquire 0"), (.release 0, "release 0")]) := by
    refine .proc 0 _ (.res .empty) ?_
    intro i c t h
    rcases i with _ | _ | i <;> cases h <;> trivial
  refine ⟨_, hb, ?_, by decide, Reach.refl _, rfl, by decide, 0, { q := mkHH 3, isCond := false }, rfl, rfl⟩
  intro p i c t hs
  rcases p with _ | p
  · rcases i with _ | _ | i <;> cases hs <;> trivial
  · cases hs

end CimbaModel.Props.C08
