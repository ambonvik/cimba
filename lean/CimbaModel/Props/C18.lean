/-
  C18 — sorting, copies, medians, five-number summaries, histograms, autocorrelation of datasets
  and time series.  Property theorems only (+ non-vacuity examples); the lemmas are under
  CimbaModel/Stats/*Lemmas.lean.  Sizes are unbounded except where the C types bound them: medians and
  five-number summaries take `count < 2^32` (`unsigned n`), histograms `num_bins < 65535` (`uint16_t`).

  Models (tied to src/cmb_dataset.c, src/cmb_timeseries.c by tools/props/C18.py on every run):
    Stats/Sort.lean (heapsort, 1 and 3 arrays)   Stats/Arrays.lean (add / expand / copy)
    Stats/Median.lean   Stats/Hist.lean   Stats/Acf.lean
  Five places of that code were changed by fixes of this verification (fixes/C18-*.patch, notes/C18.md);
  `cmb_dataset_ACF` was not changed and has two recorded findings.

  `K` is any linearly ordered field (doubles are modelled by exact arithmetic, DESIGN.md §2.6);
  histograms are over `ℚ` (they need `floor`).
-/
import CimbaModel.Stats.HistLemmas
import CimbaModel.Stats.AcfLemmas
import CimbaModel.Stats.MonitorLemmas
import CimbaModel.Stats.SeriesAddLemmas

namespace CimbaModel.Props.C18
open CimbaModel.Stats
set_option linter.unusedSectionVars false

/-! ### Sorting yields the same multiset in ascending order -/
section
variable {K : Type} [Inhabited K] [LinearOrder K]

/-- `cmb_dataset_sort` on the `un` live slots of the allocation `a`: ascending, a permutation of the
    input samples, the unused tail untouched. -/
theorem heapsort_sorted_perm (un : Nat) (a : Array K) (h : un ≤ a.size) :
    ((heapsort id un a).toList.take un).Pairwise (· ≤ ·) ∧
    ((heapsort id un a).toList.take un).Perm (a.toList.take un) ∧
    (heapsort id un a).toList.drop un = a.toList.drop un :=
  heapsort_prefix id un a h

/-- `cmb_timeseries_sort_x` (`s = (xa, ta, wa)`) and `cmb_timeseries_sort_t` (`s = (ta, xa, wa)`):
    the three arrays are permuted together — the zipped (key, d1, d2) triples of the result are
    ascending in the key and a permutation of the input triples, so every sample keeps its own time
    and weight; the unused tails are untouched and the three sizes are kept. -/
theorem heapsort3_sorted_perm (un : Nat) (s : Arr3 K) (h1 : s.2.1.size = s.1.size) (h2 : s.2.2.size = s.1.size)
    (hun : un ≤ s.1.size) :
    ((zip3 (heapsort3 un s)).toList.take un).Pairwise (fun p q => p.1 ≤ q.1) ∧
    ((zip3 (heapsort3 un s)).toList.take un).Perm ((zip3 s).toList.take un) ∧
    (zip3 (heapsort3 un s)).toList.drop un = (zip3 s).toList.drop un ∧
    (heapsort3 un s).1.size = s.1.size ∧ (heapsort3 un s).2.1.size = s.1.size ∧ (heapsort3 un s).2.2.size = s.1.size := by
  obtain ⟨hz, s1, s2, s3⟩ := heapsort3_zip un s h1 h2
  have hsz : (zip3 s).size = s.1.size := by simp [zip3, Array.size_zip, h1, h2]
  obtain ⟨p1, p2, p3⟩ := heapsort_prefix (fun p : K × K × K => p.1) un (zip3 s) (by rw [hsz]; exact hun)
  rw [← hz] at p1 p2 p3
  exact ⟨p1, p2, p3, s1, s2, s3⟩

end

section
variable {K : Type} [Inhabited K] [LinearOrder K]

/-- `cmb_dataset_add` through any number of capacity doublings: never out of bounds, appends exactly
    the new sample, keeps `min` / `max` the extreme samples. -/
theorem add_appends (initSz : Nat) (s : DS K) (x : K) (h : s.Inv) (hi : 0 < initSz) :
    ∃ s', s.add initSz x = some s' ∧ s'.Inv ∧ s'.count = s.count + 1 ∧ s'.samples = s.samples ++ [x] :=
  DS.add_inv initSz s x h hi

/-- `cmb_dataset_copy` is exact. -/
theorem copy_exact (s : DS K) (h : s.WF) :
    ∃ c, s.copy = some c ∧ c.WF ∧ c.samples = s.samples ∧ c.count = s.count ∧ c.cursize = s.cursize ∧
      c.min = s.min ∧ c.max = s.max :=
  DS.copy_spec s h

variable [Sub K] [OfNat K 0]

/-- `cmb_timeseries_copy` is exact on every live (x, t, w) triple and every field. -/
theorem copy_exact_series (s : TS K) (h : s.WF) :
    ∃ c, s.copy = some c ∧ c.WF ∧ c.triples = s.triples ∧ c.ds.count = s.ds.count ∧
      c.ds.cursize = s.ds.cursize ∧ c.ds.min = s.ds.min ∧ c.ds.max = s.ds.max :=
  TS.copy_spec s h

/-- … and the copy can be added to: the next `cmb_timeseries_add` stays inside all three allocations. -/
theorem copy_then_add_in_bounds (initSz : Nat) (s : TS K) (x t : K) (h : s.WF) (hi : 0 < initSz) :
    ∃ c c', s.copy = some c ∧ c.add initSz x t = some c' ∧ c'.WF ∧ c'.ds.count = s.ds.count + 1 := by
  obtain ⟨c, hc, cw, _, cc, _⟩ := TS.copy_spec s h
  obtain ⟨c', ha, w', n'⟩ := TS.add_ok initSz c x t cw hi
  exact ⟨c, c', hc, ha, w', by rw [n', cc]⟩

end

/-- `cmb_timeseries_add(x, t)` with `t` not before the last time stamp (its contract), through any number
    of capacity doublings: in bounds on all three arrays; the sample is appended with its time; all durations
    stay ≥ 0 (zero durations allowed) and the newest sample has duration 0; `min` / `max` stay the extremes.
    So the hypotheses `WF`, `MinMaxOK`, "durations ≥ 0" of the weighted theorems below hold for every series
    built by adds from an initialized one (`TS.Inv_empty`). -/
theorem series_add_keeps_invariant {K : Type} [Inhabited K] [Field K] [LinearOrder K] [IsStrictOrderedRing K]
    (initSz : Nat) (s : TS K) (x t : K) (h : s.Inv) (hi : 0 < initSz) (ht : ∀ tp, s.lastTime = some tp → tp ≤ t) :
    ∃ s', s.add initSz x t = some s' ∧ s'.Inv ∧ s'.ds.count = s.ds.count + 1 ∧
      s'.ds.samples = s.ds.samples ++ [x] ∧ s'.lastTime = some t ∧
      s'.triples.map (·.1) = s.triples.map (·.1) ++ [x] ∧
      s'.triples.map (·.2.1) = s.triples.map (·.2.1) ++ [t] :=
  TS.add_inv initSz s x t h hi ht

/-- `cmb_timeseries_copy` before fixes/C18-timeseries-copy-capacity.patch (`TS.copyShipped`: time / weight
    arrays allocated with `count` slots): adding to the
    copy of a one-sample series writes out of bounds (no value in the model) -/
theorem shipped_copy_then_add_overflows :
    ((({} : TS Int).add 1024 1 0).bind (·.copyShipped)).bind (·.add 1024 2 1) = none := by
  -- the first add allocates 1024 slots and fills one of them
  obtain ⟨s, hs, hta, hlt⟩ : ∃ s, ({} : TS Int).add 1024 1 0 = some s ∧ s.ta.size ≠ 0 ∧ s.ds.count < s.ds.cursize := by
    simp [TS.add, TS.expand, DS.expand, DS.add, wr]
  rw [hs]
  exact TS.copyShipped_then_add 1024 s 2 1 hta hlt

section
variable {K : Type} [Inhabited K] [Field K] [LinearOrder K] [IsStrictOrderedRing K]

/-- `cmb_dataset_median`: at most half of the samples lie strictly below the reported value and at
    most half strictly above it. -/
theorem median_is_median (s : DS K) (h : s.WF) (hc : 0 < s.count) (hc32 : s.count < 4294967296) :
    ∃ m, s.median = some m ∧
      2 * s.samples.countP (fun x => decide (x < m)) ≤ s.samples.length ∧
      2 * s.samples.countP (fun x => decide (m < x)) ≤ s.samples.length :=
  DS.median_spec s h hc hc32

/-- `cmb_timeseries_median`, weighted by duration: at most half of the total duration lies
    strictly below the reported value and at most half strictly above it (durations ≥ 0, zero allowed,
    any one sample may hold most of the total). -/
theorem median_is_median_weighted (s : TS K) (h : s.WF) (hc : 0 < s.ds.count) (hw : ∀ p ∈ s.triples, 0 ≤ p.2.2) :
    ∃ m, s.median = some m ∧ m ∈ s.ds.samples ∧
      2 * tBelow s.triples m ≤ tTotal s.triples ∧ 2 * tAbove s.triples m ≤ tTotal s.triples :=
  TS.median_spec s h hc hw

/-- `cmb_dataset_fivenum_print`: defined for `n ≥ 1` (one sample included),
    `min ≤ Q1 ≤ median ≤ Q3 ≤ max`, `min` / `max` are the smallest / largest sample (so every value is
    inside the data range), and the median is `cmb_dataset_median`'s. -/
theorem fivenum_ordered (s : DS K) (h : s.Inv) (hc : 0 < s.count) (hc32 : s.count < 4294967296) :
    ∃ f, s.fivenum = some f ∧ f.min ≤ f.q1 ∧ f.q1 ≤ f.med ∧ f.med ≤ f.q3 ∧ f.q3 ≤ f.max ∧
      f.min ∈ s.samples ∧ f.max ∈ s.samples ∧ (∀ x ∈ s.samples, f.min ≤ x ∧ x ≤ f.max) ∧
      s.median = some f.med :=
  DS.fivenum_spec s h hc hc32

/-- `cmb_timeseries_fivenum_print`: the same for the duration-weighted summary. -/
theorem fivenum_ordered_weighted (s : TS K) (h : s.WF) (hmm : s.ds.MinMaxOK) (hc : 0 < s.ds.count)
    (hw : ∀ p ∈ s.triples, 0 ≤ p.2.2) :
    ∃ f, s.fivenum = some f ∧ f.min ≤ f.q1 ∧ f.q1 ≤ f.med ∧ f.med ≤ f.q3 ∧ f.q3 ≤ f.max ∧
      f.min ∈ s.ds.samples ∧ f.max ∈ s.ds.samples ∧ (∀ x ∈ s.ds.samples, f.min ≤ x ∧ x ≤ f.max) ∧
      s.median = some f.med :=
  TS.fivenum_spec s h hmm hc hw

end

/-! ### … and in the form of the executable monitor that tools/props/C18.py evaluates on the
    implementation's answers (Monitor.C18 over exact rationals) -/

theorem median_monitor (s : DS ℚ) (h : s.WF) (hc : 0 < s.count) (hc32 : s.count < 4294967296) :
    ∃ m, s.median = some m ∧
      CimbaModel.Monitor.C18.isMedian (CimbaModel.Monitor.C18.unitWeights s.samples) m = true := by
  obtain ⟨m, hm, a, b⟩ := DS.median_spec s h hc hc32
  exact ⟨m, hm, (isMedian_unit_iff s.samples m).mpr ⟨a, b⟩⟩

theorem median_monitor_weighted (s : TS ℚ) (h : s.WF) (hc : 0 < s.ds.count) (hw : ∀ p ∈ s.triples, 0 ≤ p.2.2) :
    ∃ m, s.median = some m ∧ CimbaModel.Monitor.C18.isMedian (xwOf s.triples) m = true := by
  obtain ⟨m, hm, _, a, b⟩ := TS.median_spec s h hc hw
  exact ⟨m, hm, (isMedian_triples_iff s.triples m).mpr ⟨a, b⟩⟩

/-! ### Histograms account for every sample exactly once -/

/-- the range / bin-count preparation (explicit limits, auto-scaling, constant data and
    out-of-range samples alike) always yields at least one bin and a non-empty range -/
theorem histogram_prepare_ok (numBins : Nat) (low high dmin dmax : Rat) (hn : 0 < numBins) (hl : low ≤ high) (hd : dmin ≤ dmax) :
    0 < (histPrepare numBins low high dmin dmax).1 ∧ (histPrepare numBins low high dmin dmax).1 ≤ numBins ∧
    (histPrepare numBins low high dmin dmax).2.1 < (histPrepare numBins low high dmin dmax).2.2 :=
  histPrepare_ok numBins low high dmin dmax hn hl hd

/-- `cmb_dataset_histogram_print`: defined for every request, `nb + 2` bins (under- and overflow included);
    bin `j` holds exactly the number of samples whose bin index is `j` (no write outside the bins), and
    the bins add up to the number of samples. -/
theorem histogram_total (xs : List Rat) (dmin dmax : Rat) (numBins : Nat) (low high : Rat)
    (hn : 0 < numBins) (hn2 : numBins < 65535) (hl : low ≤ high) (hd : dmin ≤ dmax) :
    ∃ h, histDataset xs dmin dmax numBins low high = some h ∧ h.bins.size = h.nb + 2 ∧ h.bins.toList.sum = (xs.length : Rat) ∧
      (∀ j, j < h.nb + 2 → h.bins[j]! = ((xs.filter fun x => (Hist.create h.nb h.low h.high).binOf x = j).length : Rat)) :=
  histDataset_total xs dmin dmax numBins low high hn hn2 hl hd

/-- `cmb_timeseries_histogram_print`: every sample but the last (which has no duration yet) is counted
    with its full weight in exactly one bin; the bins add up to the total weight. -/
theorem histogram_total_weighted (xw : List (Rat × Rat)) (dmin dmax : Rat) (numBins : Nat) (low high : Rat)
    (hn : 0 < numBins) (hn2 : numBins < 65535) (hl : low ≤ high) (hd : dmin ≤ dmax) :
    ∃ h, histSeries xw dmin dmax numBins low high = some h ∧ h.bins.size = h.nb + 2 ∧
      h.bins.toList.sum = (xw.dropLast.map (·.2)).sum ∧
      (∀ j, j < h.nb + 2 → h.bins[j]! = ((xw.dropLast.filter fun p => (Hist.create h.nb h.low h.high).binOf p.1 = j).map (·.2)).sum) :=
  histSeries_total xw dmin dmax numBins low high hn hn2 hl hd

/-- the bin index computed with `floor` is the printed interval that contains the value:
    0 = (-∞, low), j = [low + (j-1)·bs, low + j·bs), nb + 1 = [high, ∞) — the intervals partition the line -/
theorem histogram_bin_is_interval (nb : Nat) (lo hi : Rat) (hnb : 0 < nb) (hnb2 : nb < 65535) (hlh : lo < hi) (x : Rat) :
    (Hist.create nb lo hi).binOf x = CimbaModel.Monitor.C18.intervalOf nb lo hi x :=
  binOf_eq_intervalOf nb lo hi hnb hnb2 hlh x

section
variable {K : Type} [Field K] [LinearOrder K] [IsStrictOrderedRing K]

/-- the coefficient at lag zero is one -/
theorem acf_lag0 (τ : K) (xs : List K) (n : Nat) : (acf τ xs n).head? = some 1 :=
  CimbaModel.Stats.acf_lag0 τ xs n

theorem acf_length (τ : K) (xs : List K) (n : Nat) : (acf τ xs n).length = n + 1 :=
  CimbaModel.Stats.acf_length τ xs n

/-- unchanged when the data are shifted -/
theorem acf_shift_invariant (τ a : K) (xs : List K) (n : Nat) : acf τ (xs.map (· + a)) n = acf τ xs n :=
  CimbaModel.Stats.acf_shift_invariant τ a xs n

/- Full statement (FALSE for the code's absolute threshold τ = 1e-9, see `acf_scale_invariant_fails`):
     ∀ c > 0, acf τ (xs.map (c * ·)) n = acf τ xs n.
   Proved part: unchanged when the data are scaled by `c > 0` PROVIDED the variance stays on the same
   side of the absolute threshold (trigger of known finding C18-acf-absolute-threshold = its negation). -/
/-- the trigger predicate of known finding C18-acf-absolute-threshold -/
def ThresholdCrossed (τ c : K) (xs : List K) : Prop := ¬ (acfVar xs < τ ↔ c ^ 2 * acfVar xs < τ)

theorem acf_scale_invariant_partial (τ c : K) (hc : 0 < c) (xs : List K) (n : Nat)
    (h : ¬ ThresholdCrossed τ c xs) : acf τ (xs.map (c * ·)) n = acf τ xs n :=
  CimbaModel.Stats.acf_scale_invariant_partial τ c hc xs n (not_not.mp h)

/-- with a threshold that only singles out exactly constant data, scale invariance holds outright -/
theorem acf_scale_invariant_zero_threshold (c : K) (hc : 0 < c) (xs : List K) (n : Nat) :
    acf 0 (xs.map (c * ·)) n = acf 0 xs n :=
  CimbaModel.Stats.acf_scale_invariant_zero_threshold c hc xs n

end

/-- negation of the full claim on the committed scenario corpus/stats2/finding-acf-absolute-threshold.txt -/
theorem acf_scale_invariant_fails :
    acf (1 / 1000000000 : ℚ) ([0, 1, 0, 1, 1, 0].map ((1 / 1048576 : ℚ) * ·)) 2 ≠ acf (1 / 1000000000 : ℚ) [0, 1, 0, 1, 1, 0] 2 :=
  CimbaModel.Stats.acf_scale_invariant_fails

/-- known finding C18-acf-unbounded (corpus/stats2/finding-acf-unbounded.txt): a coefficient outside [-1, 1] -/
theorem acf_can_exceed_one : acf (1 / 1000000000 : ℚ) [1, 0, 0, -1] 3 = [1, 0, 0, -3 / 2] :=
  CimbaModel.Stats.acf_can_exceed_one

/-- the invariant is reachable: three adds from an initialized dataset -/
example : ∃ s : DS ℚ, s.Inv ∧ s.count = 3 ∧ s.samples = [5, 3, 9] := by
  obtain ⟨s1, _, i1, c1, m1⟩ := DS.add_inv 1024 ({} : DS ℚ) 5 DS.Inv_empty (by decide)
  obtain ⟨s2, _, i2, c2, m2⟩ := DS.add_inv 1024 s1 3 i1 (by decide)
  obtain ⟨s3, _, i3, c3, m3⟩ := DS.add_inv 1024 s2 9 i2 (by decide)
  have e0 : (({} : DS ℚ)).samples = [] := by simp [DS.samples]
  exact ⟨s3, i3, by simp [c3, c2, c1], by rw [m3, m2, m1, e0]; rfl⟩

/-- the hypotheses of the weighted theorems are satisfiable (first sample holds most of the duration, one zero duration) -/
example : ∃ s : TS ℚ, s.WF ∧ s.ds.MinMaxOK ∧ 0 < s.ds.count ∧ (∀ p ∈ s.triples, 0 ≤ p.2.2) ∧ s.median = some 1 := by
  refine ⟨⟨{ cursize := 4, count := 4, min := some 1, max := some 10, xa := #[1, 10, 5, 5] }, #[0, 8, 9, 10], #[8, 1, 1, 0]⟩,
    ⟨⟨rfl, by decide⟩, rfl, rfl⟩, ⟨by intro h; simp at h, fun _ => ⟨1, 10, rfl, rfl, ?_, ?_, ?_⟩⟩, by decide, ?_, by decide +kernel⟩
  · simp [DS.samples]
  · simp [DS.samples]
  · intro x hx
    simp [DS.samples] at hx
    rcases hx with rfl | rfl | rfl | rfl <;> constructor <;> norm_num
  · intro p hp
    simp [TS.triples] at hp
    rcases hp with rfl | rfl | rfl | rfl <;> norm_num

/-- concrete values: the one-sample five-number summary, a median, a histogram with out-of-range samples -/
example : (fivenumOfSorted (#[7] : Array ℚ) 1 7 7).map (fun f => (f.min, f.q1, f.med, f.q3, f.max)) = some (7, 7, 7, 7, 7) := by decide +kernel
example : (histDataset [5, 6, 7, 12, 0, 13] 0 13 4 5 12).map (·.bins.toList) = some [1, 2, 1, 0, 0, 2] := by decide +kernel
example : heapsort id 5 (#[5, 3, 9, 1, 1] : Array Int) = #[1, 1, 3, 5, 9] := by decide +kernel
example : heapsort3 3 ((#[3, 1, 2], #[10, 11, 12], #[20, 21, 22]) : Arr3 Int) = (#[1, 2, 3], #[11, 12, 10], #[21, 22, 20]) := by decide +kernel

end CimbaModel.Props.C18
