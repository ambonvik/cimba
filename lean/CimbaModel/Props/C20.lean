/-
  C20 — Every object obtained from a memory pool is 8-byte aligned, at least as large as the pool's object size,
  disjoint from every other object currently allocated from that pool, and keeps its contents until it is returned;
  returned objects may be handed out again but never while still allocated.  For any number of simultaneously live
  objects (any number of pool expansions), for dynamically created pools and statically initialised ones alike.

  Property theorems only; the model is CimbaModel/Mempool/Model.lean (tied to src/cmi_mempool.c / .h by the
  exact-state correspondence of tools/props/C20.py), the lemmas are in CimbaModel/Mempool/{Mem,Inv,Expand,Steps}.lean.

  Quantification: every `cfg` with a page size that passes the asserts of `cmi_aligned_alloc` and every
  `CHUNK_LIST_SIZE > 0`; every object size that is a positive multiple of 8; every requested number of objects per
  chunk > 0; every list of client operations (`Op.alloc`, `Op.free i`, `Op.write i j v`; `i` names the i-th object the
  client currently holds, so every list is a valid client program).  Nothing bounds the number of expansions.

  Byte addresses: `Layout` states what is assumed of `aligned_alloc`: chunk `c` starts at `base c`, a multiple of the
  page size, and distinct chunks (`incr_sz` bytes each) do not overlap.  An address `(c, w)` of the model is the byte
  address `base c + 8 * w`.
-/
import CimbaModel.Mempool.Spec
import CimbaModel.Mempool.GenTie
import CimbaModel.Mempool.Steps

namespace CimbaModel.Props.C20
open CimbaModel.Mempool

/-! ### no client program ever makes the pool fault (no access outside the chunk list or outside a chunk, no
    failed assert), and the invariant `Good` holds after every operation -/

theorem dynamic_pool_never_faults {cfg : Cfg} (hcfg : CfgOK cfg) {sz num : Nat} (h8 : sz % 8 = 0) (hsz : 0 < sz)
    (hnum : 0 < num) (ops : List Op) :
    ∃ s0 s, newDynamic cfg sz num = .ok s0 ∧ run cfg s0 ops = .ok s ∧ Good cfg s := by
  obtain ⟨s0, h0, g0⟩ := newDynamic_good hcfg h8 hsz hnum
  obtain ⟨s, h1, g1⟩ := run_good hcfg ops s0 g0
  exact ⟨s0, s, h0, h1, g1⟩

theorem static_pool_never_faults {cfg : Cfg} (hcfg : CfgOK cfg) {sz num : Nat} (h8 : sz % 8 = 0) (hsz : 0 < sz)
    (hnum : 0 < num) (ops : List Op) :
    ∃ s, run cfg (newStatic sz num) ops = .ok s ∧ Good cfg s :=
  run_good hcfg ops _ (newStatic_good h8 hsz hnum)

/-- `cmi_mempool_expand` never writes outside the chunk list, whatever the number of chunks -/
theorem expand_ok {cfg : Cfg} (hcfg : CfgOK cfg) {s : MP} {live : List Addr} (h : Inv cfg s [] live) :
    ∃ s', expand cfg s = .ok s' ∧ Inv cfg s' (objsFrom s.mem.size 0 (s.objSz / 8) s.incrNum) live := by
  obtain ⟨s', h1, h2, _⟩ := expand_inv hcfg h
  exact ⟨s', h1, h2⟩

/-! ### the model's size arithmetic is the code's: `Generated.Mempool.initialize_sizes` / `initialize_asserts` /
    `chunk_list_size` are re-extracted from the C AST of `cmi_mempool_initialize` on every run (tools/gen_pool.py) -/

/-- the model's initialisation succeeds exactly when the release asserts of the C function hold (and `obj_sz ≠ 0`:
    the C code divides by `obj_sz`) -/
theorem initialize_asserts_are_the_codes (cfg : Cfg) (s : MP) (sz num : Nat) :
    (∃ s', initPool cfg s sz num = .ok s') ↔
      (CimbaModel.Generated.Mempool.initialize_asserts sz num = true ∧ sz ≠ 0) :=
  initPool_ok_iff cfg s sz num

/-- object size, chunk size in bytes (page rounding), objects per chunk, initial chunk-list length and count of the
    model are the values the C code computes in 64-bit arithmetic, provided `obj_num * obj_sz + page < 2^64` -/
theorem initialize_sizes_are_the_codes (page : Nat) (s s' : MP) (sz num : Nat) (hp : 0 < page)
    (hov : num * sz + page < 2 ^ 64)
    (h : initPool { page := page, cls := CimbaModel.Generated.Mempool.chunk_list_size } s sz num = .ok s') :
    s'.objSz = (CimbaModel.Generated.Mempool.initialize_sizes page s sz num).objSz ∧
    s'.incrSz = (CimbaModel.Generated.Mempool.initialize_sizes page s sz num).incrSz ∧
    s'.incrNum = (CimbaModel.Generated.Mempool.initialize_sizes page s sz num).incrNum ∧
    s'.listLen = (CimbaModel.Generated.Mempool.initialize_sizes page s sz num).listLen ∧
    s'.listCnt = (CimbaModel.Generated.Mempool.initialize_sizes page s sz num).listCnt :=
  initPool_sizes_eq page s s' sz num hp hov h

/-- the loop that threads a fresh chunk in `cmi_mempool_expand` (trip count and stride re-extracted from the C AST)
    is the model's: `incr_num - 1` link steps of `obj_sz / 8` words, then the NULL terminator — for every chunk
    population `incr_num ≥ 1`, including chunks of exactly one object -/
theorem expand_loop_is_the_codes (s : MP) (hnum : 0 < s.incrNum) (hn : s.incrNum < 2 ^ 32)
    (hs : s.objSz / 8 < 2 ^ 32) :
    CimbaModel.Generated.Mempool.expand_links s = s.incrNum - 1 ∧
    CimbaModel.Generated.Mempool.expand_stride s = s.objSz / 8 :=
  expand_loop_eq s hnum hn hs

/-- chunks that hold exactly ONE object (object larger than half the chunk): expanding puts exactly that one object
    on the free list, its link is NULL, nothing else in the new chunk is handed out later -/
theorem expand_single_object_chunk {cfg : Cfg} (hcfg : CfgOK cfg) {s : MP} {live : List Addr} (h : Inv cfg s [] live)
    (h1 : s.incrNum = 1) :
    ∃ s', expand cfg s = .ok s' ∧ Inv cfg s' [(s.mem.size, 0)] live ∧ s'.nextObj = some (s.mem.size, 0) ∧
      s'.mem.get s.mem.size 0 = .link none := by
  obtain ⟨s', h2, h3, _⟩ := expand_inv hcfg h
  rw [h1] at h3
  simp only [objsFrom] at h3
  obtain ⟨hd, nx, hl, hr⟩ := h3.chain
  have : nx = none := hr
  subst this
  exact ⟨s', h2, h3, hd, hl⟩

/-! ### live objects: aligned, inside their chunk with `obj_sz` bytes, pairwise disjoint -/

theorem alloc_distinct_aligned {cfg : Cfg} (hcfg : CfgOK cfg) {s : Sys} (h : Good cfg s) {base : Nat → Nat}
    (hl : Layout cfg s.mp base) {a : Addr} (ha : a ∈ s.live) :
    byteAddr base a % 8 = 0 ∧
    8 * a.2 + s.mp.objSz ≤ s.mp.incrSz ∧
    ∀ b, b ∈ s.live → b ≠ a →
      byteAddr base a + s.mp.objSz ≤ byteAddr base b ∨ byteAddr base b + s.mp.objSz ≤ byteAddr base a := by
  obtain ⟨fl, hi⟩ := h.1.inv_of_mem ha
  have hsz : 8 * (s.mp.objSz / 8) = s.mp.objSz := by have := hi.sz8; omega
  have hwf := hi.wordsFit
  obtain ⟨_, k, hk, hw⟩ := (hi.part a).mp (Or.inr ha)
  have hfit := slot_next (s.mp.objSz / 8) hk
  refine ⟨?_, by omega, ?_⟩
  · have := Nat.mod_mod_of_dvd (base a.1) (Nat.dvd_of_mod_eq_zero hcfg.page8)
    have := hl.aligned a.1
    simp only [byteAddr]; omega
  · intro b hb hne
    obtain ⟨_, k', hk', hw'⟩ := (hi.part b).mp (Or.inr hb)
    have hfit' := slot_next (s.mp.objSz / 8) hk'
    simp only [byteAddr]
    by_cases hc : a.1 = b.1
    · -- same chunk: different slots
      have hkk : k ≠ k' := fun e => hne (Prod.ext hc.symm (by rw [hw, hw', e]))
      rw [hc, hw, hw']
      rcases Nat.lt_or_gt_of_ne hkk with hlt | hgt
      · have := slot_next (s.mp.objSz / 8) hlt; omega
      · have := slot_next (s.mp.objSz / 8) hgt; omega
    · rcases hl.apart a.1 b.1 hc with h1 | h1
      · omega
      · omega

/-! ### free list and live set partition the object slots of all chunks; no double hand-out -/

theorem free_and_live_partition {cfg : Cfg} {s : MP} {fl live : List Addr} (h : Inv cfg s fl live) :
    Chain s.mem s.nextObj fl ∧ fl.Nodup ∧ live.Nodup ∧ (∀ a, a ∈ fl → a ∉ live) ∧
    ∀ a, (a ∈ fl ∨ a ∈ live) ↔ ValidObj s a :=
  ⟨h.chain, h.flNodup, h.liveNodup, h.disj, h.part⟩

/-- an allocation never returns an object the client still holds (it may return one that was given back) -/
theorem no_double_handout {cfg : Cfg} (hcfg : CfgOK cfg) {s : Sys} (h : Good cfg s) :
    ∃ s' a, step cfg s .alloc = .ok s' ∧ s'.live = a :: s.live ∧ a ∉ s.live ∧ Good cfg s' := by
  obtain ⟨s', a, h1, h2, h3, h4, _⟩ := step_alloc_good hcfg h
  exact ⟨s', a, h1, h3, h4, h2⟩

/-! ### contents: the allocator writes only the first word of objects that are free (being returned, or in a chunk
    that did not exist before); a store changes the one word it names -/

theorem alloc_writes_no_live_object {cfg : Cfg} (hcfg : CfgOK cfg) {s : Sys} (h : Good cfg s) :
    ∃ s', step cfg s .alloc = .ok s' ∧
      ∀ b, b ∈ s.live → ∀ j, j < s.mp.objSz / 8 → s'.mp.mem.get b.1 (b.2 + j) = s.mp.mem.get b.1 (b.2 + j) := by
  obtain ⟨s', _, h1, _, _, _, h5⟩ := step_alloc_good hcfg h
  exact ⟨s', h1, h5⟩

theorem free_writes_no_live_object {cfg : Cfg} {s : Sys} (h : Good cfg s) (i : Nat) :
    ∃ s', step cfg s (.free i) = .ok s' ∧
      ∀ b, b ∈ s'.live → b ∈ s.live ∧
        ∀ j, j < s.mp.objSz / 8 → s'.mp.mem.get b.1 (b.2 + j) = s.mp.mem.get b.1 (b.2 + j) := by
  obtain ⟨s', h1, _, h3⟩ := step_free_good i h
  exact ⟨s', h1, h3⟩

theorem store_changes_one_word {cfg : Cfg} {s : Sys} (h : Good cfg s) (i j v : Nat) :
    ∃ s', step cfg s (.write i j v) = .ok s' ∧ s'.live = s.live ∧
      ∀ b, b ∈ s.live → ∀ j', j' < s.mp.objSz / 8 → ¬ (s.live[i]? = some b ∧ j' = j) →
        s'.mp.mem.get b.1 (b.2 + j') = s.mp.mem.get b.1 (b.2 + j') := by
  obtain ⟨s', h1, _, h3, h4⟩ := step_write_good i j v h
  exact ⟨s', h1, h3, h4⟩

/-- End to end: after ANY client program, every word the client stored into an object it still holds (`shadow a j`
    = the last value stored into word `j` of `a` since `a` was allocated, by definition of `step`) is still in
    memory — across every expansion, growth of the chunk list, and reuse of returned objects in between. -/
theorem contents_stable {cfg : Cfg} (hcfg : CfgOK cfg) {s0 s : Sys} (h0 : Good cfg s0) {ops : List Op}
    (hr : run cfg s0 ops = .ok s) {a : Addr} (ha : a ∈ s.live) {j v : Nat} (hs : s.shadow a j = some v) :
    j < s.mp.objSz / 8 ∧ s.mp.mem.get a.1 (a.2 + j) = .data v := by
  obtain ⟨s', h1, g⟩ := run_good hcfg ops s0 h0
  rw [hr] at h1
  cases h1
  exact g.2 a ha j v hs

/-! ### the code before fixes/C20-chunk-list-realloc.patch: `cmi_realloc(mp->chunk_list, mp->chunk_list_len);` -/

/-- That expand (`expandDefective`) faults (store through the pointer realloc has invalidated) at the expansion that makes
    `chunk_list_cnt` reach `chunk_list_len`, from ANY pool state satisfying the invariant: with
    `CHUNK_LIST_SIZE = 64` that is the 64th chunk (the list grows one entry early). -/
theorem expandDefective_faults {cfg : Cfg} (hcfg : CfgOK cfg) {s : MP} {live : List Addr} (h : Inv cfg s [] live)
    (hg : s.listCnt + 1 = s.listLen) : expandDefective cfg s = .error .listStale :=
  expandWith_dropResult_faults 1 hcfg h hg

/-- taking realloc's result is not enough: with the element count as byte size the store is out of bounds -/
theorem expand_count_as_bytes_faults {cfg : Cfg} (hcfg : CfgOK cfg) {s : MP} {live : List Addr}
    (h : Inv cfg s [] live) (hg : s.listCnt + 1 = s.listLen) (hsmall : (s.listLen + cfg.cls) / 8 ≤ s.listCnt) :
    expandWith true 1 cfg s = .error (.listOob s.listCnt) :=
  expandWith_undersized_faults hcfg h hg hsmall

/-- the right byte size is not enough either: the result must be used -/
theorem expand_result_dropped_faults {cfg : Cfg} (hcfg : CfgOK cfg) {s : MP} {live : List Addr}
    (h : Inv cfg s [] live) (hg : s.listCnt + 1 = s.listLen) : expandWith false 8 cfg s = .error .listStale :=
  expandWith_dropResult_faults 8 hcfg h hg

/-! ### concrete instances (small parameters: page 16, CHUNK_LIST_SIZE 2, 8-byte objects, 2 per chunk) -/

theorem cfgSmall_ok : CfgOK cfgSmall := ⟨by decide, by decide, by decide, by decide⟩

/-- `stepDefective`: the third allocation needs the second chunk, `++cnt == len`, fault -/
theorem expandDefective_faults_small :
    faultOf (runWith stepDefective cfgSmall (newStatic 8 1) [.alloc, .alloc, .alloc]) = some .listStale := by
  decide

/-- the code on the same program, and across two growths of the chunk list (chunks 2 and 4) -/
example : faultOf (run cfgSmall (newStatic 8 1) [.alloc, .alloc, .alloc]) = none := by decide
example : liveOf (run cfgSmall (newStatic 8 1) (List.replicate 9 .alloc)) =
    [(4, 0), (3, 1), (3, 0), (2, 1), (2, 0), (1, 1), (1, 0), (0, 1), (0, 0)] := by decide

/-- one object per chunk (16-byte objects, 16-byte pages): every allocation opens a new chunk and returns its base;
    after giving one back the next allocation reuses it instead of expanding -/
example : liveOf (run cfgSmall (newStatic 16 1) (List.replicate 5 .alloc)) =
    [(4, 0), (3, 0), (2, 0), (1, 0), (0, 0)] := by decide
example : liveOf (run cfgSmall (newStatic 16 1) [.alloc, .alloc, .alloc, .free 1, .alloc, .alloc]) =
    [(3, 0), (1, 0), (2, 0), (0, 0)] := by decide
/-- objects larger than a page, one per two-page chunk (24-byte objects, chunks of 32 bytes) -/
example : liveOf (run cfgSmall (newStatic 24 1) (List.replicate 3 .alloc)) = [(2, 0), (1, 0), (0, 0)] := by decide

/-- a returned object is handed out again (LIFO), but only after it was returned -/
example : liveOf (run cfgSmall (newStatic 8 1) [.alloc, .alloc, .free 1, .alloc]) = [(0, 0), (0, 1)] := by decide

/-- the hypotheses of `alloc_distinct_aligned` are satisfiable: consecutive chunks -/
example {cfg : Cfg} {s : MP} {fl live : List Addr} (h : Inv cfg s fl live) :
    Layout cfg s (fun c => c * s.incrSz) :=
  { aligned := fun c => by
      obtain ⟨q, hq⟩ := Nat.dvd_of_mod_eq_zero h.isz
      show c * s.incrSz % cfg.page = 0
      rw [hq, Nat.mul_left_comm]
      exact Nat.mul_mod_right _ _
    apart := fun c c' hne => (Nat.lt_or_gt_of_ne hne).imp (slot_next s.incrSz) (slot_next s.incrSz) }

end CimbaModel.Props.C20
