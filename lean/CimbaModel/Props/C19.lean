/-
  C19 — an experiment runs every trial exactly once, on its own element, returns after all have finished, whatever the
  interleaving; trials are isolated from each other.
  Property theorems only.  `code` is what tools/gen_tlsinv.py read off src/cimba.c on this run; `tlsInventory` is the list of
  every variable with static storage duration it found in the library's sources.

  Full statement of the second sentence ("for trial functions that seed the generator from their own parameters the results
  are bit-identical to a sequential run, whatever the assignment and whatever ran earlier on the same worker"):
  it is reduced here to `isolation` (every piece of state that outlives a trial function is classified, with a
  machine-checked side condition per class) plus C15's `reseed_forgets`; that the classes `PureMemo`, `Scratch`,
  `AddressOnly`, `LogOutputOnly` carry no information into results is argued per entry in Experiment/Isolation.lean and
  exercised by the differential runs of harness/expdrv.c, not proved.  Known exceptions are reported by the check:
  entries of class `Leaks`, and results that depend on addresses (finding `address-tiebreak`).
-/
import CimbaModel.Experiment.Theorems
import CimbaModel.Experiment.Progress
import CimbaModel.Experiment.Isolation
import CimbaModel.Experiment.Current
import CimbaModel.Generated.TlsInventory

namespace CimbaModel.Props.C19
open CimbaModel CimbaModel.Experiment

/-- the dispenser and join as found in the C source on this run -/
abbrev code : Code := currentCode

/-- The C code is the documented dispenser: one atomic fetch-and-add of 1 starting from 0, a worker stops exactly when its
    index is ≥ the number of trials, the element passed is `base + idx·size`, all W threads are created and all W are joined. -/
theorem code_is_documented_dispenser : code.Correct where
  mode := by first | rfl | decide
  incr := by first | rfl | decide
  init := by first | rfl | decide
  reset := by first | rfl | decide
  stop := by intro i n; simp [code, currentCode, Generated.stopWhen] <;> omega
  addr := by
    intro b i s
    first
      | rfl
      | (simp [code, currentCode, Generated.elemAddr, Nat.mul_comm, Nat.add_comm, Nat.add_left_comm])
  spawn0 := by first | rfl | decide
  spawn := by intro k W; simp [code, currentCode, Generated.spawnCond] <;> omega
  join0 := by first | rfl | decide
  join := by intro k W; simp [code, currentCode, Generated.joinCond] <;> omega

/-- **Exactly once, at every moment.**  After any schedule (any interleaving of the main thread and W workers, any trial
    durations), the trials fetched-and-in-range, executing, or finished are exactly the indices below `min next n`, each once. -/
theorem each_trial_once_reachable (p : Params) (sched : List Actor) :
    let s := run code p sched
    ((s.pending.filter (fun x => decide (x < p.n))) ++ s.inflight ++ s.finished).Perm (List.range (min s.next p.n)) :=
  exact_of_inv p _ (inv_run code code_is_documented_dispenser p sched)

/-- no index is handed to two workers: everything ever fetched is a permutation of `0 … next-1` -/
theorem no_index_handed_out_twice (p : Params) (sched : List Actor) :
    let s := run code p sched
    (s.pending ++ s.inflight ++ s.finished ++ s.discarded).Nodup := by
  intro s
  exact (handed_out_of_inv p _ (inv_run code code_is_documented_dispenser p sched)).nodup_iff.2 List.nodup_range

/-- **Exactly once, own element, at return.**  For every number of trials `n`, every number of workers `W ≥ 1`, every
    struct size and every schedule: if `cimba_run_experiment` has returned, no call is pending or executing, the calls made
    are exactly one per index `0 … n-1`, and call `i` received `base + i·size`. -/
theorem each_trial_once (p : Params) (hW : 1 ≤ p.W) (sched : List Actor)
    (hret : (run code p sched).main = .returned) :
    let s := run code p sched
    s.pending = [] ∧ s.inflight = [] ∧ s.finished.Perm (List.range p.n) ∧
    (s.calls.map Prod.fst).Perm (List.range p.n) ∧ ∀ x ∈ s.calls, x.2 = p.base + x.1 * p.sz :=
  terminal_of_inv p hW _ (inv_run code code_is_documented_dispenser p sched) hret

/-- **Join.**  The main thread can have returned only when every worker thread has left its loop ... -/
theorem join_after_all (p : Params) (sched : List Actor) (hret : (run code p sched).main = .returned) :
    ∀ w, w < p.W → (run code p sched).ws[w]? = some .done :=
  returned_all_done code code_is_documented_dispenser p sched hret

/-- ... because the `k`-th join does not return while worker `k` is still running -/
theorem join_blocks_until_done (p : Params) (s : State) (k : Nat) (hm : s.main = .joining k) (hk : k < p.W)
    (hnd : s.ws[k]? ≠ some .done) : step code p s .main = s :=
  join_waits code p s k hm ((code_is_documented_dispenser.join k p.W).2 hk) hnd

/-- **Progress.**  Until the main thread has returned some thread can always move: the runner never deadlocks
    (given that trial functions return). -/
theorem no_deadlock (p : Params) (sched : List Actor) (hnr : (run code p sched).main ≠ .returned) :
    ∃ a, step code p (run code p sched) a ≠ run code p sched :=
  Experiment.no_deadlock code code_is_documented_dispenser p sched hnr

/-- **Return.**  From every reachable state the experiment can be completed: some continuation of the schedule ends with the
    main thread returned (and then `each_trial_once` applies). -/
theorem can_always_return (p : Params) (sched : List Actor) :
    ∃ ext, (run code p (sched ++ ext)).main = .returned :=
  can_always_finish code code_is_documented_dispenser p _ sched (Nat.le_refl _)

/-- ... and no schedule, however long, contains more than `4n + 4W + 2` steps that change the state: under any scheduler that
    keeps choosing threads that can move (`no_deadlock` says one exists) the runner returns within that many steps. -/
theorem effective_steps_bounded (p : Params) (sched : List Actor) :
    effective code p (init code p) sched ≤ 4 * p.n + 4 * p.W + 2 := by
  have h := effective_le_measure code code_is_documented_dispenser p sched _ (inv_init code code_is_documented_dispenser p)
  rw [measure_init code code_is_documented_dispenser p] at h
  omega

/-- **Every experiment of a process.**  The shared counter is 0 at the start of EVERY call of `cimba_run_experiment`, whatever an
    earlier experiment left in it ... -/
theorem every_run_starts_from_zero (prev : Nat) : startNext code prev = 0 := by
  simp [startNext, code_is_documented_dispenser.reset, code_is_documented_dispenser.init]

/-- ... hence when one process runs several experiments one after the other (any trial counts, sizes, worker counts and
    schedules), each of them behaves exactly as if it were the only one: all theorems above apply to every call. -/
theorem later_experiments_behave_as_the_first (exps : List (Params × List Actor)) :
    runProcess code exps = exps.map (fun e => run code e.1 e.2) :=
  runSeq_eq_map_run code code_is_documented_dispenser exps _

/-- non-vacuity: a runner that relies on the static initialiser alone returns from its second experiment without having
    called the trial function at all (n = 1, one worker, both times) -/
theorem stale_counter_skips_trials :
    let r := runProcess Code.noReset [(⟨1, 1, 8, 4096⟩, roundRobin 1 8), (⟨1, 1, 8, 8192⟩, roundRobin 1 8)]
    r.map (·.main) = [.returned, .returned] ∧ r.map (·.finished) = [[0], []] ∧ r.map (·.calls) = [[(0, 4096)], []] := by
  decide +kernel

/-- The theorems are not vacuous: with the fetch split into a separate load and store the same model runs a trial twice. -/
theorem split_fetch_runs_a_trial_twice :
    let s := run Code.split ⟨1, 2, 8, 4096⟩ splitWitness
    s.main = .returned ∧ s.finished = [0, 0] ∧ s.calls = [(0, 4096), (0, 4096)] := by decide

/-- **Isolation.**  Every variable with static storage duration in the library's current sources is classified; whatever
    can change at run time is thread-local or process-wide-and-synchronised; and each class's side condition, evaluated on
    the access sets and reset sets extracted from the C AST, holds. -/
theorem isolation : ∀ e ∈ Generated.tlsInventory,
    classify e ≠ none ∧
    (e.isMutable = true → e.isThreadLocal = true ∨ classify e = some .SharedSynchronised) ∧
    (∀ c, classify e = some c → sideCondition e c = true) := by decide +kernel

/-- the generator state proper is re-initialised by `cmb_random_initialize` (C15 proves what it is re-initialised to) -/
theorem generator_state_reset_by_seeding : ∀ e ∈ Generated.tlsInventory,
    e.file = "src/cmb_random.c" → e.isMutable = true → classify e = some .ResetByTrialInit →
    e.resetBy.contains "cmb_random_initialize" = true := by decide +kernel

/-- the gamma sampler's cache returns what a miss would compute, whatever consistent state an earlier trial left -/
theorem gamma_cache_is_pure {K : Type} [DecidableEq K] (zero : K) (f g : K → K) (m : GammaMemo K) (shape : K)
    (hm : m.consistent zero f g) (hs : shape ≠ zero) :
    (gammaPrologue f g m shape).d = f shape ∧ (gammaPrologue f g m shape).c = g (f shape) ∧
    (gammaPrologue f g m shape).consistent zero f g :=
  gamma_memo_pure zero f g m shape hm hs

/- non-vacuity: the hypotheses of `each_trial_once` are satisfiable — a round-robin schedule returns, for fewer trials than
   workers, as many, and more -/
example : (run Code.reference ⟨1, 3, 8, 4096⟩ (roundRobin 3 12)).main = .returned := by decide +kernel
example : (run Code.reference ⟨3, 3, 8, 4096⟩ (roundRobin 3 14)).main = .returned := by decide +kernel
example : (run Code.reference ⟨7, 2, 24, 4096⟩ (roundRobin 2 20)).main = .returned ∧
    (run Code.reference ⟨7, 2, 24, 4096⟩ (roundRobin 2 20)).finished.length = 7 := by decide +kernel
/- and the initial cache of the gamma sampler is consistent -/
example : (GammaMemo.mk (0 : Nat) 0 0).consistent 0 id id := Or.inl rfl

end CimbaModel.Props.C19
