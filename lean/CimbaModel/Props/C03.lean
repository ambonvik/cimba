/-
  C03 — context switches preserve execution state and deliver messages.
  Property theorems only; the machine model is Ctx/X86.lean, the instruction lists are regenerated from the
  assembled object on every run (Generated/CtxAsm.lean), helper lemmas live in Ctx/Switch.lean.
-/
import CimbaModel.Ctx.Switch
import CimbaModel.Ctx.CoLemmas
import CimbaModel.Ctx.Examples

namespace CimbaModel.Props.C03
open CimbaModel.Ctx CimbaModel.Generated

/-! ## the machine part: for ALL register, flag, MXCSR and memory contents -/

/-- The switch writes memory only in the 64 bytes below the outgoing stack pointer (RFLAGS image, MXCSR slot,
    rbp, rbx, r12–r15) and in the 8 bytes at `*old` (rdi). -/
theorem switch_frame_only (s : State) (a : W) (h1 : a ∉ frameAddrs s.rsp) (h2 : a ≠ s.rdi) :
    (exec switchCode s).mem a = s.mem a :=
  switch_mem_other s a h1 h2

/-- Round trip.  Coroutine A calls the switch in machine state `s` (`rdi = old = &A.stack_pointer`, return
    address at `[rsp]`).  Then anything may happen — any number of other coroutines, any code — as long as A's
    saved context (`savedAddrs s.rsp`: the return address and the eight words below it) and the word
    `*old` hold what the switch left there (`hF`, `hP`).  Eventually somebody calls the switch in state `s₂` with
    `new = &A.stack_pointer` and message `v`, from a stack whose outgoing frame and `*old` do not overlap A's
    saved context and `&A.stack_pointer` (`hd2`).  Then A continues at its return address with every callee-saved
    register, MXCSR, the user-visible flags and the stack pointer as it left them, and `rax = v`. -/
theorem switch_roundtrip (s s₂ : State) (v : W)
    (hmx : s.mxcsr &&& mxcsrReserved = 0#32) (hal : al s.rsp = true)
    (hd1 : s.rdi ∉ savedAddrs s.rsp)
    (hF : ∀ a ∈ savedAddrs s.rsp, s₂.mem a = (exec switchCode s).mem a)
    (hP : s₂.mem s.rdi = (exec switchCode s).mem s.rdi)
    (hnew : s₂.rsi = s.rdi) (hmsg : s₂.rdx = v)
    (hd2 : ∀ a ∈ s.rdi :: savedAddrs s.rsp, a ∉ frameAddrs s₂.rsp ∧ a ≠ s₂.rdi)
    (hok : s₂.ok = true) (hal2 : al s₂.rsp = true) (hal2d : al s₂.rdi = true) (hal2s : al s₂.rsi = true) :
    (∀ r ∈ calleeSaved, (exec switchCode s₂).get r = s.get r) ∧
    (exec switchCode s₂).mxcsr = s.mxcsr ∧
    userFlags (exec switchCode s₂) = userFlags s ∧
    (exec switchCode s₂).rsp = s.rsp + 8#64 ∧
    (exec switchCode s₂).rip = s.mem s.rsp ∧
    (exec switchCode s₂).rax = v ∧
    (exec switchCode s₂).ok = true := by
  obtain ⟨vsp, v15, v14, v13, v12, vbx, vbp, vmx, vfl, vret⟩ := switch_save s hd1
  have hn : s₂.mem s₂.rsi = s.rsp - 64#64 := by rw [hnew, hP, vsp]
  have hd : ∀ a ∈ s₂.rsi :: frameWords (s.rsp - 64#64), a ∉ frameAddrs s₂.rsp ∧ a ≠ s₂.rdi := by
    intro a ha
    rcases List.mem_cons.mp ha with h | h
    · exact hd2 a (by rw [h, hnew]; exact List.mem_cons_self ..)
    · exact hd2 a (List.mem_cons_of_mem _ ((savedAddrs_eq_frameWords s.rsp a).mpr h))
  generalize hs₁ : exec switchCode s = s₁ at *
  generalize hs₃ : exec switchCode s₂ = s₃
  obtain ⟨l15, l14, l13, l12, lbx, lbp, lmx, lfl, lip, lsp, lax, lok⟩ :=
    switch_into s₂ (s.rsp - 64#64) hn hd s₃ hs₃.symm
  obtain ⟨e8, e16, e24, e32, e40, e48, e56, e64, e72⟩ := frame_addr_eqs s.rsp
  have F := hF
  have f15 := F (s.rsp - 64#64) (by simp [savedAddrs, frameAddrs])
  have f14 := F (s.rsp - 56#64) (by simp [savedAddrs, frameAddrs])
  have f13 := F (s.rsp - 48#64) (by simp [savedAddrs, frameAddrs])
  have f12 := F (s.rsp - 40#64) (by simp [savedAddrs, frameAddrs])
  have fbx := F (s.rsp - 32#64) (by simp [savedAddrs, frameAddrs])
  have fbp := F (s.rsp - 24#64) (by simp [savedAddrs, frameAddrs])
  have fmx := F (s.rsp - 16#64) (by simp [savedAddrs, frameAddrs])
  have ffl := F (s.rsp - 8#64) (by simp [savedAddrs, frameAddrs])
  have frt := F s.rsp (by simp [savedAddrs])
  rw [e8] at l14; rw [e16] at l13; rw [e24] at l12; rw [e32] at lbx; rw [e40] at lbp
  rw [e48] at lmx lok; rw [e56] at lfl; rw [e64] at lip; rw [e72] at lsp
  refine ⟨?_, ?_, ?_, lsp, ?_, ?_, ?_⟩
  · intro r hr
    simp only [calleeSaved, List.mem_cons, List.not_mem_nil, or_false] at hr
    rcases hr with h | h | h | h | h | h <;> subst h <;> simp only [State.get]
    · rw [lbx, fbx, vbx]
    · rw [lbp, fbp, vbp]
    · rw [l12, f12, v12]
    · rw [l13, f13, v13]
    · rw [l14, f14, v14]
    · rw [l15, f15, v15]
  · rw [lmx, fmx, vmx]
  · rw [lfl, ffl, vfl, pushf_user]; rfl
  · rw [lip, frt, vret]
  · rw [lax, hmsg]
  · rw [lok hok hal2 hal2d hal2s, fmx, vmx, hmx, al_sub _ _ (by decide), hal]; rfl

/-- The same, with "anything may happen" spelled out: between A's switch-out and the switch back into A, any number
    of context switches of other coroutines (issued from stacks and with `old` slots that do not contain A's saved
    context or `&A.stack_pointer`) and any other code that does not write those 10 words may run, in any order
    (`acts`, by induction over the list: `protected_survives`). -/
theorem switch_roundtrip_any_interleaving (s : State) (acts : List Act) (v : W)
    (hmx : s.mxcsr &&& mxcsrReserved = 0#32) (hal : al s.rsp = true)
    (hd1 : s.rdi ∉ savedAddrs s.rsp)
    (hacts : Respects (s.rdi :: savedAddrs s.rsp) acts (exec switchCode s))
    (hnew : (runActs acts (exec switchCode s)).rsi = s.rdi) (hmsg : (runActs acts (exec switchCode s)).rdx = v)
    (hd2 : ∀ a ∈ s.rdi :: savedAddrs s.rsp,
      a ∉ frameAddrs (runActs acts (exec switchCode s)).rsp ∧ a ≠ (runActs acts (exec switchCode s)).rdi)
    (hok : (runActs acts (exec switchCode s)).ok = true) (hal2 : al (runActs acts (exec switchCode s)).rsp = true)
    (hal2d : al (runActs acts (exec switchCode s)).rdi = true)
    (hal2s : al (runActs acts (exec switchCode s)).rsi = true) :
    (∀ r ∈ calleeSaved, (exec switchCode (runActs acts (exec switchCode s))).get r = s.get r) ∧
    (exec switchCode (runActs acts (exec switchCode s))).mxcsr = s.mxcsr ∧
    userFlags (exec switchCode (runActs acts (exec switchCode s))) = userFlags s ∧
    (exec switchCode (runActs acts (exec switchCode s))).rsp = s.rsp + 8#64 ∧
    (exec switchCode (runActs acts (exec switchCode s))).rip = s.mem s.rsp ∧
    (exec switchCode (runActs acts (exec switchCode s))).rax = v ∧
    (exec switchCode (runActs acts (exec switchCode s))).ok = true := by
  have hsurv := protected_survives (s.rdi :: savedAddrs s.rsp) acts (exec switchCode s) hacts
  exact switch_roundtrip s (runActs acts (exec switchCode s)) v hmx hal hd1
    (fun a ha => hsurv a (List.mem_cons_of_mem _ ha)) (hsurv s.rdi (List.mem_cons_self ..)) hnew hmsg hd2 hok hal2 hal2d hal2s

/-- First entry.  `cmi_coroutine_context_init` has left `initFrame` below `stack_base` (16-aligned) and
    `stack_pointer = stack_base - 72` (tie: frame-image correspondence).  The first switch into the coroutine
    "returns" into the trampoline with the stack pointer back at `stack_base`; the trampoline's `call` then
    reaches the coroutine function with rdi = coroutine pointer, rsi = context argument, rsp ≡ 8 (mod 16) as the
    ABI requires at function entry, the documented initial MXCSR, the direction flag clear, and the trampoline's
    return point on top of the stack. -/
theorem first_entry (s : State) (tramp fn cp ctx exitf base : W)
    (hbase : base.toNat % 16 = 0)
    (hnew : s.mem s.rsi = base - 72#64)
    (hfr : FrameAt s.mem (base - 72#64) (initFrame tramp fn cp ctx exitf base))
    (hd : ∀ a ∈ s.rsi :: frameWords (base - 72#64), a ∉ frameAddrs s.rsp ∧ a ≠ s.rdi)
    (hok : s.ok = true) (hal : al s.rsp = true) (hald : al s.rdi = true) (hals : al s.rsi = true) :
    (exec switchCode s).rip = tramp ∧ (exec switchCode s).rsp = base ∧ userFlags (exec switchCode s) = 0#64 ∧
    (exec trampCode (exec switchCode s)).rip = fn ∧
    (exec trampCode (exec switchCode s)).rdi = cp ∧
    (exec trampCode (exec switchCode s)).rsi = ctx ∧
    (exec trampCode (exec switchCode s)).rsp = base - 8#64 ∧
    (exec trampCode (exec switchCode s)).rsp.toNat % 16 = 8 ∧
    (exec trampCode (exec switchCode s)).mxcsr = initMxcsr ∧
    (exec trampCode (exec switchCode s)).rflags &&& 0x400#64 = 0#64 ∧
    (exec trampCode (exec switchCode s)).rbp = base - 40#64 ∧
    (exec trampCode (exec switchCode s)).r15 = exitf ∧
    (exec trampCode (exec switchCode s)).mem (base - 8#64) = tramp + 12#64 ∧
    (exec trampCode (exec switchCode s)).ok = true := by
  generalize hs₁ : exec switchCode s = s₁
  obtain ⟨l15, l14, l13, l12, lbx, lbp, lmx, lfl, lip, lsp, lax, lok⟩ :=
    switch_into s (base - 72#64) hnew hd s₁ hs₁.symm
  simp only [FrameAt, initFrame, BitVec.add_assoc, BitVec.reduceAdd] at hfr
  obtain ⟨f15, f14, f13, f12, fbx, fbp, fmx, ffl, frt, -⟩ := hfr
  rw [f15] at l15; rw [f14] at l14; rw [f13] at l13; rw [f12] at l12; rw [fbp] at lbp
  rw [fmx, hi32_mk64] at lmx; rw [ffl] at lfl; rw [frt] at lip
  have hsp : s₁.rsp = base := by rw [lsp]; exact BitVec.sub_add_cancel base _
  have hfl0 : userFlags s₁ = 0#64 := by rw [lfl]; simp
  have hal1 : al s₁.rsp = true := by rw [hsp]; unfold al; simp; omega
  have hok1 : s₁.ok = true := by
    rw [lok hok hal hald hals, fmx, hi32_mk64]
    have : al (base - 72#64) = true := by rw [al_sub _ _ (by decide)]; unfold al; simp; omega
    rw [this]; decide
  generalize hs₂ : exec trampCode s₁ = e
  obtain ⟨tip, tdi, tsi, tax, tsp, tret, tmx, tbx, tbp, t12, t13, t14, t15, tok, -, tdf⟩ := by
    have := tramp_entry s₁; rw [hs₂] at this; exact this
  refine ⟨lip, hsp, hfl0, ?_, ?_, ?_, ?_, ?_, ?_, ?_, ?_, ?_, ?_, ?_⟩
  · rw [tip, l12]
  · rw [tdi, l13]
  · rw [tsi, l14]
  · rw [tsp, hsp]
  · rw [tsp, hsp]; bv_omega
  · rw [tmx, lmx]
  · rw [tdf]
    have : s₁.rflags &&& 0x400#64 = (s₁.rflags &&& userMask) &&& 0x400#64 := by
      rw [BitVec.and_assoc]; rfl
    rw [this]; unfold userFlags at hfl0; rw [hfl0]; simp
  · rw [tbp, lbp]
  · rw [t15, l15]
  · rw [← hsp, tret, lip]
  · rw [tok, hok1, hal1]; rfl

/-- The stores that `cmi_coroutine_context_init` performs (regenerated from the C source on every run) leave
    exactly `initFrame` in the nine words below `stack_base`, touch nothing else, and leave the stack pointer at
    `stack_base - 72` — whether the MXCSR image is written by the shipped misaligned 8-byte store or by a 32-bit
    store (Ctx/Frame.lean: `shipped_image`, `patched_image`, `shipped_misaligned`). -/
theorem init_frame_image (m : HMem) (tramp fn cp ctx exitf base : W) :
    (List.range 9).map (image (runStores m (currentStores tramp fn cp ctx exitf base)))
      = initFrame tramp fn cp ctx exitf base ∧
    currentSpBelow = 72 ∧
    ∀ x, (x = 0 ∨ 72 < x) → runStores m (currentStores tramp fn cp ctx exitf base) x = m x := by
  refine ⟨?_, rfl, ?_⟩
  · simp [List.range, List.range.loop, image, runStores, currentStores, CStore.apply, initFrame, mk64_hi_lo, initMxcsr]
    all_goals (first | rfl | (refine ⟨?_, ?_⟩ <;> rfl))
  · intro x h
    apply runStores_outside
    simp only [currentStores, List.forall_mem_cons, List.not_mem_nil, false_imp_iff, implies_true, and_true, CStore.below]
    omega


/-- Return of the coroutine function.  `e` is the state at the function's entry as `first_entry` describes it;
    when the function returns `v`, the instruction fetched at the return address is the second half of the
    trampoline, which jumps to the exit function with rdi = v and rsp ≡ 8 (mod 16), i.e. exactly as if the exit
    function had been called. -/
theorem return_goes_to_exit (e t : State) (tramp exitf base v : W)
    (hbase : base.toNat % 16 = 0)
    (hsp : e.rsp = base - 8#64) (hret : e.mem e.rsp = tramp + 12#64) (h15 : e.r15 = exitf)
    (ht : SysVReturn e t v) :
    ∃ tail, codeFrom trampCode (t.rip - tramp).toNat = some tail ∧
      (exec tail t).rip = exitf ∧ (exec tail t).rdi = v ∧ (exec tail t).rsp = base - 8#64 ∧
      (exec tail t).rsp.toNat % 16 = 8 ∧ ((exec tail t).ok = t.ok) := by
  obtain ⟨tail, hcode, heff⟩ := tramp_return_code
  obtain ⟨rip, rsp, regs, rax⟩ := ht
  have h12 : (t.rip - tramp).toNat = 12 := by rw [rip, hret, BitVec.add_comm, BitVec.add_sub_cancel]; rfl
  have hrsp : t.rsp = base := by rw [rsp, hsp]; exact BitVec.sub_add_cancel base _
  refine ⟨tail, by rw [h12]; exact hcode, ?_⟩
  obtain ⟨eip, edi, esp, eok, -⟩ := heff t
  refine ⟨?_, ?_, ?_, ?_, ?_⟩
  · rw [eip, ← h15]; exact regs .r15 (by simp [calleeSaved])
  · rw [edi, rax]
  · rw [esp, hrsp]
  · rw [esp, hrsp]; bv_omega
  · rw [eok, hrsp]
    have : al base = true := by unfold al; simp; omega
    rw [this]; simp

/-! ## the bookkeeping part: `coroutine_current`, caller, parent, status, exit value, over arbitrary scripts

  `Reach s` = `s` is reached from the initial state by *some* script (any number of coroutines, any interleaving of
  create / start / resume / transfer / yield / exit / return / stop / reset) that hits no assert.  The invariant
  behind `Reach.inv` and the two persistence lemmas (`suspended_pending`, `finished_inert`) are inductions over
  the script (Ctx/CoLemmas.lean). -/

section bookkeeping
open CimbaModel.Ctx.Co

/-- A yield passes control to the coroutine that last resumed / transferred into / started the yielding one
    (`caller`), which continues inside the switching call it is suspended in (script index `k`) with the yielded
    value as that call's return value; the yielder is now suspended inside this yield. -/
theorem yield_returns_to_caller {s s' : St} {ev : Ev} {m : Val} (hreach : Reach s)
    (h : step s (.yield m) = .ok (s', ev)) :
    ∃ c k, (s.co s.cur).caller = some c ∧ s'.cur = c ∧ ev = .deliver c m (some k) ∧
      (c ≠ s.cur → (s.co c).pending = some k ∧ (s'.co s.cur).pending = some s.clock) ∧
      (s'.co c).caller = some s.cur := by
  have inv := hreach.inv
  obtain ⟨s1, hc, rfl⟩ := step_ok h
  simp only [stepCore] at hc
  split at hc; · cases hc
  split at hc; · cases hc
  rename_i c hcaller
  obtain ⟨-, hrun, rfl, rfl⟩ := transferTo_ok hc
  by_cases hcc : c = s.cur
  · refine ⟨c, s.clock, hcaller, rfl, by simp [arrival, hcc], fun h => absurd hcc h, by simp [switchTo, St.tick]⟩
  · obtain ⟨k, hk⟩ := inv.suspended c hcc hcc hrun
    refine ⟨c, k, hcaller, rfl, by simp [arrival, hcc, hk], fun _ => ⟨hk, ?_⟩, by simp [switchTo, St.tick]⟩
    simp [switchTo, St.tick, Ne.symm hcc]

/-- **Values are returned by the matching call.**  The current coroutine `x` issues `op` at script index `s.clock`
    and thereby gives up control; then others do anything at all (`mid`) while `x` never has control; then `op₂`
    brings control back to `x`.  Unless `op₂` restarts `x` from its entry, what arrives is: the call issued at
    `s.clock` returns the value `op₂` handed over. -/
theorem value_returns_from_matching_call {s s₁ s₂ s₃ : St} {op op₂ : Op} {ev₁ ev₃ : Ev} {mid : List Op}
    {log : List (Cid × Ev)}
    (h1 : step s op = .ok (s₁, ev₁)) (hgone : s₁.cur ≠ s.cur)
    (hsus : Suspended s.cur s₁ mid) (hmid : run s₁ mid = .ok (s₂, log))
    (h3 : step s₂ op₂ = .ok (s₃, ev₃)) (hback : s₃.cur = s.cur) :
    ev₃ = .deliver s.cur op₂.msg (some s.clock) ∨
    (ev₃ = .enter s.cur (s₂.co s.cur).ctx ∧ ∃ m, op₂ = .start s.cur m) := by
  have p1 := step_gives_up h1 hgone
  obtain ⟨p2, c2⟩ := suspended_pending mid hsus hmid
  have hne : s₃.cur ≠ s₂.cur := by rw [hback]; exact Ne.symm c2
  rcases step_arrive h3 hne with h | h
  · left; rw [h, hback, p2, p1]
  · right; rw [hback] at h; exact h

/-- the value given to a resume is the result of the matching yield ... -/
theorem resume_value_is_yield_result {s s₁ s₂ s₃ : St} {m v : Val} {ev₁ ev₃ : Ev} {mid : List Op}
    {log : List (Cid × Ev)}
    (h1 : step s (.yield m) = .ok (s₁, ev₁)) (hgone : s₁.cur ≠ s.cur)
    (hsus : Suspended s.cur s₁ mid) (hmid : run s₁ mid = .ok (s₂, log))
    (h3 : step s₂ (.resume s.cur v) = .ok (s₃, ev₃)) :
    s₃.cur = s.cur ∧ ev₃ = .deliver s.cur v (some s.clock) := by
  have hback : s₃.cur = s.cur := by
    obtain ⟨s', hc, rfl⟩ := step_ok h3
    simp only [stepCore] at hc
    split at hc; · cases hc
    split at hc; · cases hc
    obtain ⟨-, -, rfl, -⟩ := transferTo_ok hc
    rfl
  refine ⟨hback, ?_⟩
  rcases value_returns_from_matching_call h1 hgone hsus hmid h3 hback with h | ⟨-, m', h⟩
  · exact h
  · cases h

/-- ... and vice versa: the value given to a yield is the result of the resume (or transfer) that the coroutine it
    goes to is suspended in. -/
theorem yield_value_is_resume_result {s s₁ s₂ s₃ : St} {x : Cid} {m v : Val} {ev₁ ev₃ : Ev} {mid : List Op}
    {log : List (Cid × Ev)}
    (h1 : step s (.resume x v) = .ok (s₁, ev₁)) (hgone : s₁.cur ≠ s.cur)
    (hsus : Suspended s.cur s₁ mid) (hmid : run s₁ mid = .ok (s₂, log))
    (h3 : step s₂ (.yield m) = .ok (s₃, ev₃)) (hback : s₃.cur = s.cur) :
    ev₃ = .deliver s.cur m (some s.clock) := by
  rcases value_returns_from_matching_call h1 hgone hsus hmid h3 hback with h | ⟨-, m', h⟩
  · exact h
  · cases h

/-- Exit (explicit, or by returning from the coroutine function): the value becomes the exit value, the status
    FINISHED, and both stay so — and the coroutine never has control — whatever happens afterwards, until somebody
    re-creates, resets or restarts it. -/
theorem exit_value_stored {s s' : St} {op : Op} {ev : Ev} {v : Val} (hreach : Reach s)
    (hop : op = .exit v ∨ op = .ret v) (h : step s op = .ok (s', ev)) :
    (s'.co s.cur).exitv = v ∧ (s'.co s.cur).status = .finished ∧
    ∀ (ops : List Op) (s'' : St) (log : List (Cid × Ev)), (∀ o ∈ ops, o.revives s.cur = false) →
      run s' ops = .ok (s'', log) →
      (s''.co s.cur).exitv = v ∧ (s''.co s.cur).status = .finished ∧ Suspended s.cur s' ops := by
  obtain ⟨s1, hc, rfl⟩ := step_ok h
  have hc' : exitCur s v = .ok (s1, ev) := by
    rcases hop with rfl | rfl <;> exact hc
  obtain ⟨p, k, -, hpc, hcur, -, -, -, hv, hf, -⟩ := exitCur_effect hreach.inv hc'
  refine ⟨hv, hf, ?_⟩
  intro ops s'' log hrev hrun
  obtain ⟨f2, e2, c2⟩ := finished_inert (s := s1.tick) ops hf (hcur ▸ hpc) hrev hrun
  exact ⟨e2.trans hv, f2, c2⟩

/-- Exit transfers to the parent — the coroutine that started it — which continues inside the call it is
    suspended in (the start, or whatever it issued last) with the exit value as that call's return value. -/
theorem exit_transfers_to_parent {s s' : St} {op : Op} {ev : Ev} {v : Val} (hreach : Reach s)
    (hop : op = .exit v ∨ op = .ret v) (h : step s op = .ok (s', ev)) :
    ∃ p k, (s.co s.cur).parent = some p ∧ p ≠ s.cur ∧ s'.cur = p ∧ ev = .deliver p v (some k) ∧
      (s.co p).pending = some k ∧ (s'.co p).caller = some s.cur := by
  obtain ⟨s1, hc, rfl⟩ := step_ok h
  have hc' : exitCur s v = .ok (s1, ev) := by
    rcases hop with rfl | rfl <;> exact hc
  obtain ⟨p, k, hp, hpc, hcur, hev, hk, hcaller, -⟩ := exitCur_effect hreach.inv hc'
  exact ⟨p, k, hp, hpc, hcur, hev, hk, hcaller⟩

/-- Stopping another coroutine: no control transfer, it is FINISHED with the given exit value, nothing else
    changes, and it never has control again until it is re-created, reset or restarted. -/
theorem stop_other_marks_finished {s s' : St} {c : Cid} {ev : Ev} {v : Val} (hc : c ≠ s.cur)
    (h : step s (.stop c v) = .ok (s', ev)) :
    ev = .none ∧ s'.cur = s.cur ∧ (s'.co c).status = .finished ∧ (s'.co c).exitv = v ∧
    (∀ x, x ≠ c → s'.co x = s.co x) ∧
    ∀ (ops : List Op) (s'' : St) (log : List (Cid × Ev)), (∀ o ∈ ops, o.revives c = false) →
      run s' ops = .ok (s'', log) →
      (s''.co c).exitv = v ∧ (s''.co c).status = .finished ∧ Suspended c s' ops := by
  obtain ⟨s1, hcore, rfl⟩ := step_ok h
  simp only [stepCore, hc, if_false] at hcore
  split at hcore; · cases hcore
  split at hcore; · cases hcore
  split at hcore; · cases hcore
  cases hcore
  have hco := St.upd_co_self s c fun x => { x with exitv := v, status := .finished }
  have hv : ((s.upd c fun x => { x with exitv := v, status := .finished }).tick.co c).exitv = v :=
    congrArg Co.exitv hco
  have hf : ((s.upd c fun x => { x with exitv := v, status := .finished }).tick.co c).status = .finished :=
    congrArg Co.status hco
  refine ⟨rfl, rfl, hf, hv, fun x hx => if_neg hx, ?_⟩
  intro ops s'' log hrev hrun
  obtain ⟨f2, e2, c2⟩ := finished_inert ops hf (Ne.symm hc) hrev hrun
  exact ⟨e2.trans hv, f2, c2⟩

/-- Restart (reset, then start): the coroutine function is entered from its beginning with its own handle and
    context argument — whatever call it had been suspended in is forgotten —, the restarting coroutine is its
    parent and caller, the exit value is cleared. -/
theorem restart_runs_from_entry {s s' : St} {c : Cid} {m : Val} {log : List (Cid × Ev)}
    (h : run s [.reset c, .start c m] = .ok (s', log)) :
    log = [(s.cur, .none), (s.cur, .enter c (s.co c).ctx)] ∧ s'.cur = c ∧
    (s'.co c).parent = some s.cur ∧ (s'.co c).caller = some s.cur ∧ (s'.co c).status = .running ∧
    (s'.co c).exitv = 0 ∧ (s'.co c).pending = none ∧ (s'.co s.cur).pending = some (s.clock + 1) :=
  restart_effect h

end bookkeeping

/-! ## non-vacuity: the hypotheses of the machine theorems are satisfiable, the bookkeeping machine runs -/

example : (exec switchCode exC).rbx = 0xb0b#64 ∧ (exec switchCode exC).rax = 99#64 ∧
    (exec switchCode exC).rsp = 0x10008#64 ∧ (exec switchCode exC).mxcsr = 0x7f80#32 := by
  have h := switch_roundtrip exA exC 99#64 (by decide) (by simp [al, exA]) (by simp [exA, savedAddrs, frameAddrs])
    (fun _ _ => rfl) rfl rfl rfl
    (by simp [exA, exC, savedAddrs, frameAddrs]) rfl (by simp [al, exC]) (by simp [al, exC, exA]) (by simp [al, exC, exA])
  obtain ⟨h1, h2, -, h4, -, h6, -⟩ := h
  exact ⟨h1 .rbx (by decide), h6, h4, h2⟩

example : (exec trampCode (exec switchCode exS)).rip = 0x402000#64 ∧
    (exec trampCode (exec switchCode exS)).rdi = 0x30000#64 ∧
    (exec trampCode (exec switchCode exS)).rsi = 0x77#64 ∧
    (exec trampCode (exec switchCode exS)).rsp.toNat % 16 = 8 := by
  have h := first_entry exS 0x401000#64 0x402000#64 0x30000#64 0x77#64 0x403000#64 0x90000#64 (by decide)
    (by simp [exS, exM, upd]) (by simp [exS, exM, upd, FrameAt, initFrame])
    (by simp [exS, exA, frameWords, frameAddrs]) rfl (by simp [al, exS, exA]) (by simp [al, exS, exA])
    (by simp [al, exS, exA])
  exact ⟨h.2.2.2.1, h.2.2.2.2.1, h.2.2.2.2.2.1, h.2.2.2.2.2.2.2.1⟩

open CimbaModel.Ctx.Co in
example : (run init [.create 1 101, .create 2 102, .start 1 5, .start 2 6, .yield 7, .resume 2 8, .ret 9, .exit 4]).toOption.map (·.2)
    = some [(0, .none), (0, .none), (0, .enter 1 101), (1, .enter 2 102), (2, .deliver 1 7 (some 3)),
            (1, .deliver 2 8 (some 4)), (2, .deliver 1 9 (some 5)), (1, .deliver 0 4 (some 2))] := by
  decide


end CimbaModel.Props.C03
