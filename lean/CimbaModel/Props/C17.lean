/-
  C17 — data summaries equal the exact sample statistics; merging equals concatenation; weighted summaries.
  Property theorems only (+ non-vacuity examples).  Everything is about the definitions REGENERATED from the C sources
  on every run (`CimbaModel.Generated.Stats`, tools/gen_stats.py); `double` is an arbitrary linearly ordered field `K`
  (exact arithmetic: "up to rounding" is tested by the correspondence, not proved), `D` is `DBL_MAX`, every sample is a
  finite double (`-D ≤ x ≤ D`), weights are `≥ 0`.  For each C function `f`, `f_dom` says that the call is defined
  (asserts pass, no division by zero, no unsigned wrap): it is proved alongside, so Lean's `x / 0 = 0` hides nothing.

  `run D s0 xs`  = cmb_datasummary_initialize, then cmb_datasummary_add for each sample of `xs` in turn.
  `wrun D s0 l`  = cmb_wtdsummary_initialize, then cmb_wtdsummary_add for each (x, w) of `l` in turn.
-/
import CimbaModel.Stats.Summary
import Mathlib.Algebra.Order.Field.Rat
import Mathlib.Analysis.Real.Sqrt

namespace CimbaModel.Props.C17
open CimbaModel.Stats CimbaModel.Generated.Stats

variable {K : Type} [Field K] [LinearOrder K] [IsStrictOrderedRing K]
set_option linter.unusedSectionVars false

/-- all samples are finite doubles -/
def Finite (D : K) (xs : List K) : Prop := ∀ x ∈ xs, -D ≤ x ∧ x ≤ D
/-- all samples finite, all weights non-negative -/
def WFinite (D : K) (l : List (K × K)) : Prop := ∀ p ∈ l, 0 ≤ p.2 ∧ -D ≤ p.1 ∧ p.1 ≤ D

/-! ## Unweighted summaries -/

/-- a freshly initialised summary represents the empty sequence -/
theorem init_repr (D : K) (s0 : DataSummary K) : Repr D (cmb_datasummary_initialize D s0) [] :=
  Stats.init_repr D s0

/-- one `add`: defined, represents the extended sequence, returns the new count -/
theorem add_repr {D : K} {s : DataSummary K} {xs : List K} {y : K} (h : Repr D s xs) (hy : -D ≤ y ∧ y ≤ D) :
    cmb_datasummary_add_dom s y ∧ Repr D (cmb_datasummary_add s y).2 (xs ++ [y])
      ∧ (cmb_datasummary_add s y).1 = (xs ++ [y]).length :=
  Stats.add_repr h hy

/-- hence, by induction, for EVERY finite sequence (length 0, 1, 2, … included): count, min, max, mean and the central
    sums Σ(x − mean)^k, k = 2, 3, 4 held by the summary are exactly those of the data -/
theorem summary_of_sequence (D : K) (s0 : DataSummary K) (xs : List K) (hf : Finite D xs) : Repr D (run D s0 xs) xs :=
  run_repr D s0 xs hf

theorem count_exact (D : K) (s0 : DataSummary K) (xs : List K) (hf : Finite D xs) :
    cmb_datasummary_count (run D s0 xs) = xs.length :=
  (count_reported (run_repr D s0 xs hf)).2

theorem min_max_exact (D : K) (s0 : DataSummary K) (xs : List K) (hf : Finite D xs) (hne : xs ≠ []) :
    (cmb_datasummary_min (run D s0 xs) ∈ xs ∧ ∀ x ∈ xs, cmb_datasummary_min (run D s0 xs) ≤ x) ∧
    (cmb_datasummary_max (run D s0 xs) ∈ xs ∧ ∀ x ∈ xs, x ≤ cmb_datasummary_max (run D s0 xs)) :=
  ⟨(min_reported (run_repr D s0 xs hf) hne).2, (max_reported (run_repr D s0 xs hf) hne).2⟩

theorem mean_exact (D : K) (s0 : DataSummary K) (xs : List K) (hf : Finite D xs) (hne : xs ≠ []) :
    cmb_datasummary_mean (run D s0 xs) = xs.sum / (xs.length : K) :=
  (mean_reported (run_repr D s0 xs hf) hne).2

/-- the header documents the *sample* variance: unbiased, divisor n − 1 (0 for fewer than two samples) -/
theorem variance_exact (D : K) (s0 : DataSummary K) (xs : List K) (hf : Finite D xs) :
    cmb_datasummary_variance_dom (run D s0 xs) ∧
    cmb_datasummary_variance (run D s0 xs) = if 2 ≤ xs.length then sampleVariance xs else 0 := by
  by_cases hn : 2 ≤ xs.length
  · simpa [hn] using variance_reported (run_repr D s0 xs hf) hn
  · simpa [hn] using variance_small (run_repr D s0 xs hf) (by omega)

/-- sample excess kurtosis G2 = (n−1)/((n−2)(n−3))·((n+1)(m₄/m₂² − 3) + 6); defined unless the data are constant
    (then the exact statistic is 0/0 and so is the C expression: `kurtosis_undefined_iff`) -/
theorem kurtosis_exact (D : K) (s0 : DataSummary K) (xs : List K) (hf : Finite D xs) (hn : 4 ≤ xs.length)
    (hv : S 2 (amean xs) xs ≠ 0) :
    cmb_datasummary_kurtosis_dom (run D s0 xs) ∧ cmb_datasummary_kurtosis (run D s0 xs) = sampleKurtosis xs :=
  kurtosis_reported (run_repr D s0 xs hf) hn hv

theorem kurtosis_undefined_iff_constant (D : K) (s0 : DataSummary K) (xs : List K) (hf : Finite D xs) (hn : 4 ≤ xs.length) :
    ¬ cmb_datasummary_kurtosis_dom (run D s0 xs) ↔ S 2 (amean xs) xs = 0 :=
  kurtosis_undefined_iff (run_repr D s0 xs hf) hn

/-- adjusted sample skewness G1 = √(n(n−1))/(n−2) · m₃/m₂^{3/2}: stated root-free (square and sign), for any `sqrt`, `pow`
    that are the non-negative square root and the 3/2-th power on non-negative arguments -/
theorem skewness_exact {sqrt : K → K} {pow : K → K → K} (hr : RootFns sqrt pow) (D : K) (s0 : DataSummary K)
    (xs : List K) (hf : Finite D xs) (hn : 3 ≤ xs.length) (hv : S 2 (amean xs) xs ≠ 0) :
    cmb_datasummary_skewness_dom sqrt pow (run D s0 xs)
      ∧ (cmb_datasummary_skewness sqrt pow (run D s0 xs)) ^ 2 = sampleSkewnessSq xs
      ∧ (0 < S 3 (amean xs) xs → 0 < cmb_datasummary_skewness sqrt pow (run D s0 xs))
      ∧ (S 3 (amean xs) xs < 0 → cmb_datasummary_skewness sqrt pow (run D s0 xs) < 0)
      ∧ (S 3 (amean xs) xs = 0 → cmb_datasummary_skewness sqrt pow (run D s0 xs) = 0) :=
  skewness_reported hr (run_repr D s0 xs hf) hn hv

/-- Merging two summaries gives a summary of the concatenated data — whatever the operands represent, EMPTY ones
    included (one or both), and whatever the target held before. -/
theorem merge_repr {D : K} {t a b : DataSummary K} {xs ys : List K} (ha : Repr D a xs) (hb : Repr D b ys) :
    cmb_datasummary_merge_dom D t a b ∧ Repr D (cmb_datasummary_merge D t a b).2 (xs ++ ys)
      ∧ (cmb_datasummary_merge D t a b).1 = (xs ++ ys).length :=
  Stats.merge_repr ha hb

/-- … in exact arithmetic it IS the summary of the concatenation, field for field, for every split of every sequence -/
theorem merge_is_concatenation (D : K) (s0 s1 s2 t : DataSummary K) (xs ys : List K) (hx : Finite D xs) (hy : Finite D ys) :
    (cmb_datasummary_merge D t (run D s1 xs) (run D s2 ys)).2 = run D s0 (xs ++ ys) := by
  have hcat : Finite D (xs ++ ys) := by
    intro x hx'; rcases List.mem_append.mp hx' with h | h
    · exact hx x h
    · exact hy x h
  exact (Stats.merge_repr (t := t) (run_repr D s1 xs hx) (run_repr D s2 ys hy)).2.1.unique (run_repr D s0 _ hcat)

/-- either order of the operands -/
theorem merge_comm {D : K} {t t' a b : DataSummary K} {xs ys : List K} (ha : Repr D a xs) (hb : Repr D b ys) :
    (cmb_datasummary_merge D t a b).2 = (cmb_datasummary_merge D t' b a).2 :=
  Stats.merge_comm ha hb

/-- into either operand (or a third object): the previous content of the target is irrelevant; that the target may be the
    same object as a source is covered by the translator's aliasing check (no read through a source after the write) -/
theorem merge_into_either_operand {D : K} {a b : DataSummary K} {xs ys : List K} (ha : Repr D a xs) (hb : Repr D b ys)
    (t : DataSummary K) :
    (cmb_datasummary_merge D a a b).2 = (cmb_datasummary_merge D t a b).2 ∧
    (cmb_datasummary_merge D b a b).2 = (cmb_datasummary_merge D t a b).2 :=
  ⟨(Stats.merge_repr (t := a) ha hb).2.1.unique (Stats.merge_repr (t := t) ha hb).2.1,
   (Stats.merge_repr (t := b) ha hb).2.1.unique (Stats.merge_repr (t := t) ha hb).2.1⟩

/-- merging two empty summaries is defined and leaves an empty summary, to which samples can then be added -/
theorem merge_empty_empty (D : K) (s1 s2 t : DataSummary K) (xs : List K) (hf : Finite D xs) :
    cmb_datasummary_merge_dom D t (cmb_datasummary_initialize D s1) (cmb_datasummary_initialize D s2) ∧
    Repr D (xs.foldl (fun s y => (cmb_datasummary_add s y).2)
      (cmb_datasummary_merge D t (cmb_datasummary_initialize D s1) (cmb_datasummary_initialize D s2)).2) xs := by
  obtain ⟨hd, hr, _⟩ := Stats.merge_repr (t := t) (Stats.init_repr D s1) (Stats.init_repr D s2)
  exact ⟨hd, by simpa using foldl_repr xs hf _ _ hr⟩

/-! ## Weighted summaries -/

theorem wtd_summary_of_sequence (D : K) (s0 : WtdSummary K) (l : List (K × K)) (hf : WFinite D l) :
    WRepr D (wrun D s0 l) (effective l) :=
  wrun_repr D s0 l hf

/-- the reported mean is the exact weighted mean: mean · Σw = Σ w·x (sums over ALL samples given, zero weights included) -/
theorem wtd_mean_exact (D : K) (s0 : WtdSummary K) (l : List (K × K)) (hf : WFinite D l) :
    cmb_wtdsummary_mean (wrun D s0 l) * wtot l = wxsum l := by
  have h := (wrun_repr D s0 l hf).mean
  rw [wtot_effective, wxsum_effective] at h
  simpa [cmb_wtdsummary_mean, cmb_datasummary_mean] using h

/-- a zero-weight sample is ignored: the summary is unchanged (not even counted), wherever it occurs in the sequence -/
theorem wtd_zero_weight_ignored (D : K) (s0 : WtdSummary K) (l₁ l₂ : List (K × K)) (x : K) :
    wrun D s0 (l₁ ++ (x, 0) :: l₂) = wrun D s0 (l₁ ++ l₂) := by
  simp only [wrun, List.foldl_append, List.foldl_cons]
  rw [(wadd_zero_weight _ x).1]

theorem wtd_zero_weight_add (s : WtdSummary K) (x : K) :
    (cmb_wtdsummary_add s x 0).2 = s ∧ (cmb_wtdsummary_add s x 0).1 = s.ds.count :=
  wadd_zero_weight s x

/-- with all weights equal to one the weighted summary coincides with the unweighted one: same fields, same statistics -/
theorem wtd_unit_weights_eq_unweighted {sqrt : K → K} {pow : K → K → K} (D : K) (w0 : WtdSummary K) (s0 : DataSummary K)
    (xs : List K) (hf : Finite D xs) :
    (wrun D w0 (unitW xs)).ds = run D s0 xs ∧
    cmb_wtdsummary_count (wrun D w0 (unitW xs)) = cmb_datasummary_count (run D s0 xs) ∧
    cmb_wtdsummary_min (wrun D w0 (unitW xs)) = cmb_datasummary_min (run D s0 xs) ∧
    cmb_wtdsummary_max (wrun D w0 (unitW xs)) = cmb_datasummary_max (run D s0 xs) ∧
    cmb_wtdsummary_mean (wrun D w0 (unitW xs)) = cmb_datasummary_mean (run D s0 xs) ∧
    cmb_wtdsummary_variance (wrun D w0 (unitW xs)) = cmb_datasummary_variance (run D s0 xs) ∧
    cmb_wtdsummary_skewness sqrt pow (wrun D w0 (unitW xs)) = cmb_datasummary_skewness sqrt pow (run D s0 xs) ∧
    cmb_wtdsummary_kurtosis (wrun D w0 (unitW xs)) = cmb_datasummary_kurtosis (run D s0 xs) := by
  have hwf : WFinite D (unitW xs) := by
    intro p hp
    simp only [unitW, List.mem_map] at hp
    obtain ⟨x, hx, rfl⟩ := hp
    exact ⟨zero_le_one, hf x hx⟩
  have hw := wrun_repr D w0 (unitW xs) hwf
  rw [effective_unitW] at hw
  obtain ⟨hr, hws⟩ := hw.toRepr
  have hds : (wrun D w0 (unitW xs)).ds = run D s0 xs := hr.unique (run_repr D s0 xs hf)
  have hnorm : cmi_wtdsummary_normalized (wrun D w0 (unitW xs)) = run D s0 xs := by
    rw [normalized_unit (by rw [hws, hr.count]), hds]
  refine ⟨hds, ?_, ?_, ?_, ?_, ?_, ?_, ?_⟩
  · simp only [cmb_wtdsummary_count, hds]
  · simp only [cmb_wtdsummary_min, hds]
  · simp only [cmb_wtdsummary_max, hds]
  · simp only [cmb_wtdsummary_mean, hds]
  · simp only [cmb_wtdsummary_variance, hnorm]
  · simp only [cmb_wtdsummary_skewness, hnorm]
  · simp only [cmb_wtdsummary_kurtosis, hnorm]

/-- multiplying every weight by the same positive constant changes none of the statistics -/
theorem wtd_scale_invariant {sqrt : K → K} {pow : K → K → K} (D : K) (s0 s0' : WtdSummary K) (l : List (K × K))
    (hf : WFinite D l) (c : K) (hc : 0 < c) :
    cmb_wtdsummary_count (wrun D s0' (scaleW c l)) = cmb_wtdsummary_count (wrun D s0 l) ∧
    cmb_wtdsummary_min (wrun D s0' (scaleW c l)) = cmb_wtdsummary_min (wrun D s0 l) ∧
    cmb_wtdsummary_max (wrun D s0' (scaleW c l)) = cmb_wtdsummary_max (wrun D s0 l) ∧
    cmb_wtdsummary_mean (wrun D s0' (scaleW c l)) = cmb_wtdsummary_mean (wrun D s0 l) ∧
    cmb_wtdsummary_variance (wrun D s0' (scaleW c l)) = cmb_wtdsummary_variance (wrun D s0 l) ∧
    cmb_wtdsummary_stddev sqrt (wrun D s0' (scaleW c l)) = cmb_wtdsummary_stddev sqrt (wrun D s0 l) ∧
    cmb_wtdsummary_skewness sqrt pow (wrun D s0' (scaleW c l)) = cmb_wtdsummary_skewness sqrt pow (wrun D s0 l) ∧
    cmb_wtdsummary_kurtosis (wrun D s0' (scaleW c l)) = cmb_wtdsummary_kurtosis (wrun D s0 l) := by
  have hf' : WFinite D (scaleW c l) := by
    intro p hp
    simp only [scaleW, List.mem_map] at hp
    obtain ⟨q, hq, rfl⟩ := hp
    exact ⟨mul_nonneg (le_of_lt hc) (hf q hq).1, (hf q hq).2⟩
  have h := wrun_repr D s0 l hf
  have h' := wrun_repr D s0' (scaleW c l) hf'
  rw [effective_scaleW (ne_of_gt hc)] at h'
  have hs := h.scale h' hc
  have hnorm := normalized_scale h h' hc
  refine ⟨?_, ?_, ?_, ?_, ?_, ?_, ?_, ?_⟩
  · rw [hs]; simp [cmb_wtdsummary_count, cmb_datasummary_count]
  · rw [hs]; simp [cmb_wtdsummary_min, cmb_datasummary_min]
  · rw [hs]; simp [cmb_wtdsummary_max, cmb_datasummary_max]
  · rw [hs]; simp [cmb_wtdsummary_mean, cmb_datasummary_mean]
  · simp only [cmb_wtdsummary_variance, hnorm]
  · simp only [cmb_wtdsummary_stddev, hnorm]
  · simp only [cmb_wtdsummary_skewness, hnorm]
  · simp only [cmb_wtdsummary_kurtosis, hnorm]

/-- what the weighted accessors report: the reliability-weight sample statistics, with n = number of samples of
    non-zero weight (for equal weights: the unweighted sample statistics) -/
theorem wtd_variance_exact (D : K) (s0 : WtdSummary K) (l : List (K × K)) (hf : WFinite D l) (hn : 2 ≤ (effective l).length) :
    cmb_wtdsummary_variance_dom (wrun D s0 l) ∧ cmb_wtdsummary_variance (wrun D s0 l) = wsampleVariance (effective l) :=
  wvariance_reported (wrun_repr D s0 l hf) hn

theorem wtd_kurtosis_exact (D : K) (s0 : WtdSummary K) (l : List (K × K)) (hf : WFinite D l) (hn : 4 ≤ (effective l).length)
    (hv : WS 2 (wmean (effective l)) (effective l) ≠ 0) :
    cmb_wtdsummary_kurtosis_dom (wrun D s0 l) ∧ cmb_wtdsummary_kurtosis (wrun D s0 l) = wsampleKurtosis (effective l) :=
  wkurtosis_reported (wrun_repr D s0 l hf) hn hv

theorem wtd_skewness_exact {sqrt : K → K} {pow : K → K → K} (hr : RootFns sqrt pow) (D : K) (s0 : WtdSummary K)
    (l : List (K × K)) (hf : WFinite D l) (hn : 3 ≤ (effective l).length)
    (hv : WS 2 (wmean (effective l)) (effective l) ≠ 0) :
    cmb_wtdsummary_skewness_dom sqrt pow (wrun D s0 l)
      ∧ (cmb_wtdsummary_skewness sqrt pow (wrun D s0 l)) ^ 2 = wsampleSkewnessSq (effective l)
      ∧ (0 < WS 3 (wmean (effective l)) (effective l) → 0 < cmb_wtdsummary_skewness sqrt pow (wrun D s0 l))
      ∧ (WS 3 (wmean (effective l)) (effective l) < 0 → cmb_wtdsummary_skewness sqrt pow (wrun D s0 l) < 0) :=
  wskewness_reported hr (wrun_repr D s0 l hf) hn hv

/-- merging weighted summaries = summarising the concatenated weighted data (empties included, either order, any target) -/
theorem wtd_merge_repr {D : K} {t a b : WtdSummary K} {l₁ l₂ : List (K × K)} (ha : WRepr D a l₁) (hb : WRepr D b l₂) :
    cmb_wtdsummary_merge_dom D t a b ∧ WRepr D (cmb_wtdsummary_merge D t a b).2 (l₁ ++ l₂)
      ∧ (cmb_wtdsummary_merge D t a b).1 = (l₁ ++ l₂).length :=
  wmerge_repr ha hb

theorem wtd_merge_is_concatenation (D : K) (s0 s1 s2 t : WtdSummary K) (l₁ l₂ : List (K × K)) (h1 : WFinite D l₁)
    (h2 : WFinite D l₂) :
    (cmb_wtdsummary_merge D t (wrun D s1 l₁) (wrun D s2 l₂)).2 = wrun D s0 (l₁ ++ l₂) := by
  have hcat : WFinite D (l₁ ++ l₂) := by
    intro p hp; rcases List.mem_append.mp hp with h | h
    · exact h1 p h
    · exact h2 p h
  have := wrun_repr D s0 _ hcat
  rw [effective_append] at this
  exact (wmerge_repr (t := t) (wrun_repr D s1 l₁ h1) (wrun_repr D s2 l₂ h2)).2.1.unique this

theorem wtd_merge_comm {D : K} {t t' a b : WtdSummary K} {l₁ l₂ : List (K × K)} (ha : WRepr D a l₁) (hb : WRepr D b l₂) :
    (cmb_wtdsummary_merge D t a b).2 = (cmb_wtdsummary_merge D t' b a).2 :=
  wmerge_comm ha hb

/-! ## Non-vacuity: the hypotheses are satisfiable and the statements say something on concrete data (K = ℚ) -/

section examples

private def z : DataSummary ℚ := { cookie := 0, count := 0, min := 0, max := 0, m1 := 0, m2 := 0, m3 := 0, m4 := 0 }
private def zw : WtdSummary ℚ := { ds := z, wsum := 0 }

example : Finite (1000 : ℚ) [3, 5, 10, 4] := by intro x hx; simp at hx; rcases hx with h | h | h | h <;> subst h <;> norm_num
example : WFinite (1000 : ℚ) [(3, 2), (5, 0), (10, 1)] := by
  intro p hp; simp at hp; rcases hp with h | h | h <;> subst h <;> norm_num

/-- 3, 5, 10, 4: mean 11/2, Σ(x − mean)² = 29 -/
example : (run (1000 : ℚ) z [3, 5, 10, 4]).m1 = 11 / 2 ∧ (run (1000 : ℚ) z [3, 5, 10, 4]).m2 = 29
    ∧ cmb_datasummary_variance (run (1000 : ℚ) z [3, 5, 10, 4]) = 29 / 3 := by
  decide +kernel

/-- merging the summaries of [3, 5] and [10, 4] gives the same mean and second sum -/
example : (cmb_datasummary_merge 1000 z (run (1000 : ℚ) z [3, 5]) (run 1000 z [10, 4])).2.m1 = 11 / 2
    ∧ (cmb_datasummary_merge 1000 z (run (1000 : ℚ) z [3, 5]) (run 1000 z [10, 4])).2.m2 = 29 := by
  decide +kernel

/-- merging two empty summaries and then adding 3 and 5: mean 4 (the scenario of corpus/stats/merge-empty-empty.txt) -/
example : cmb_datasummary_merge_dom (1000 : ℚ) z (cmb_datasummary_initialize 1000 z) (cmb_datasummary_initialize 1000 z) ∧
    ([3, 5].foldl (fun s y => (cmb_datasummary_add s y).2)
      (cmb_datasummary_merge (1000 : ℚ) z (cmb_datasummary_initialize 1000 z) (cmb_datasummary_initialize 1000 z)).2).m1 = 4 := by
  decide +kernel

/-- weights 2, 0, 1 on 3, 5, 10: weighted mean 16/3; the zero-weight 5 is not counted -/
example : (wrun (1000 : ℚ) zw [(3, 2), (5, 0), (10, 1)]).ds.m1 = 16 / 3 ∧ (wrun (1000 : ℚ) zw [(3, 2), (5, 0), (10, 1)]).ds.count = 2 := by
  decide +kernel

/-- weights ×10 leave the variance unchanged (the scenario of corpus/stats/weights-times-ten.txt) -/
example : cmb_wtdsummary_variance (wrun (1000 : ℚ) zw [(1, 10), (2, 20), (4, 10), (7, 30)])
    = cmb_wtdsummary_variance (wrun (1000 : ℚ) zw [(1, 1), (2, 2), (4, 1), (7, 3)]) := by
  decide +kernel

/-- the assumptions on `sqrt` and `pow(·, 3/2)` are satisfiable: the real square root and x ↦ (√x)³ -/
example : RootFns (K := ℝ) Real.sqrt (fun x _ => Real.sqrt x ^ 3) where
  sqrt_sq := fun x hx => Real.mul_self_sqrt hx
  sqrt_nonneg := fun x _ => Real.sqrt_nonneg x
  pow_sq := fun x hx => by
    have := Real.mul_self_sqrt hx
    calc Real.sqrt x ^ 3 * Real.sqrt x ^ 3 = (Real.sqrt x * Real.sqrt x) ^ 3 := by ring
      _ = x ^ 3 := by rw [this]
  pow_nonneg := fun x _ => pow_nonneg (Real.sqrt_nonneg x) 3

end examples

end CimbaModel.Props.C17
