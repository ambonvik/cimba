/-
  Property C16 — every sampler stays inside its support.  Theorems ONLY (plus non-vacuity `example`s).

  All statements are in EXACT arithmetic (`double` = Rat; every double IS a rational) about definitions REGENERATED on every run
  from src/cmb_random.c, include/cmb_random.h (tools/gen_rngdist.py, namespace `DistQ`) and from the ziggurat tables that the
  codegen programs of the current tree wrote into the build (`ZigTables`); `zig_exp_support` is about the hand model
  Rng/Zig.lean, which the check ties to the library by bit-exact execution over those tables.  `cmb_random_sfc64()` is an
  arbitrary stream `raw : Nat → Nat` of 64-bit words, so "for every u ∈ [0,1)" is "for every raw".

  Sentences of C16 and what carries them:
    "discrete choices are valid indices"        dice_range, loaded_dice_index, loaded_dice_is_inversion, alias_table_valid,
                                                alias_sample_index, alias_end_to_end, alias_secure_range, bernoulli_range
    "counts are within range"                   binomial_range (0 ≤ k ≤ n), geometric_ge_one (k ≥ 1, full strength)
    "bounded variates stay within their bounds" unit_uniform_range, uniform_range, triangular_range, std_beta_range,
                                                PERT_mod_range
    "positive variates are non-negative"        std_gamma_guard_support, std_gamma_guard_taken (the shape < 1 guard of
                                                cmb_random_std_gamma; the rejection loop behind it is an abstract input);
                                                zig_exp_support (+ exp_tables_ok, expTab_facts); exponential-based samplers
                                                are sums / positive multiples of it (not restated)
    "its samples follow the stated distribution" (slow paths only, as algorithms): nor_tail_is_marsaglia,
                                                nor_tail_result_is_marsaglia, nor_tail_constants, nor_tail_support (the tail
                                                branch of the normal ziggurat IS Marsaglia's tail algorithm with c·r = 1),
                                                zig_exp_tail_offset, exp_tail_step_accumulates (the exponential tail is offset + a
                                                fresh variate and the regenerated offset step ADDS the tail start: k·T after k hits)
    "the build-time generated ziggurat and alias tables"   exp_tables_ok, nor_tables_ok (decide by the kernel over the tables)
    "alias tables ... probability vectors"      alias_table_valid: for EVERY vector pa (admissible or not) the construction
                                                terminates (n units of fuel suffice) and yields a valid table
    "its samples follow the stated distribution"           NOT a theorem here (statistical test evidence in the check), except
                                                loaded_dice_is_inversion (the scan IS cdf inversion); the exactness of the alias
                                                table is checked per library-built table in exact rational arithmetic by the check
  IEEE rounding is outside these theorems (trusted base); the check compares the IEEE instantiation `DistF` of the very same
  regenerated text bit for bit with the library and reports where exact and IEEE results differ.
-/
import CimbaModel.Rng.DistSpec

namespace CimbaModel.Props.C16
open CimbaModel.Rng.Dist CimbaModel.Rng.Zig CimbaModel.Generated CimbaModel.Generated.DistQ CimbaModel.Generated.ZigTables

/-! ### cmb_random() -/

/-- `cmb_random() = (x >> 11) * 2^-53 ∈ [0,1)` for every 64-bit x, and it consumes exactly one draw -/
theorem unit_uniform_range (raw : Nat → Nat) (k : Nat) (h : Raw64 raw) :
    0 ≤ (cmb_random raw k).1 ∧ (cmb_random raw k).1 < 1 ∧ (cmb_random raw k).2 = k + 1 := by
  unfold cmb_random
  simp only [cnum_ofNat]
  have h1 : raw k >>> 11 < 9007199254740992 := by
    rw [Nat.shiftRight_eq_div_pow]; have := h k; omega
  refine ⟨by positivity, ?_, trivial⟩
  rw [div_lt_one (by norm_num)]
  exact_mod_cast h1

/-- 0 is attained (raw word below 2^11): the interval is closed at 0 -/
example : (cmb_random (fun _ => 2047) 0).1 = 0 := by
  unfold cmb_random; simp [cnum_ofNat]

/-- the hypotheses used below are satisfiable -/
example : Raw64 (fun _ => 18446744073709551615) := fun _ => by norm_num
example : SqrtLike (fun _ => 0) := ⟨fun _ _ => le_refl _, fun _ _ _ hz _ => hz⟩

/-! ### bounded continuous variates, as far as they are algebraic in u -/

theorem uniform_range (min max : Rat) (raw : Nat → Nat) (k : Nat) (h : Raw64 raw) (hm : min < max) :
    min ≤ (cmb_random_uniform min max raw k).1 ∧ (cmb_random_uniform min max raw k).1 < max := by
  obtain ⟨h0, h1, _⟩ := unit_uniform_range raw k h
  unfold cmb_random_uniform
  simp only []
  constructor <;> nlinarith

theorem triangular_range (min mode max : Rat) (fsqrt : Rat → Rat) (raw : Nat → Nat) (k : Nat) (h : Raw64 raw)
    (hs : SqrtLike fsqrt) (h1 : min ≤ mode) (h2 : mode ≤ max) (h3 : min < max) :
    min ≤ (cmb_random_triangular min mode max fsqrt raw k).1 ∧ (cmb_random_triangular min mode max fsqrt raw k).1 ≤ max := by
  obtain ⟨h0, hu1, _⟩ := unit_uniform_range raw k h
  unfold cmb_random_triangular
  simp only []
  generalize (cmb_random raw k).1 = u at h0 hu1
  have hw : 0 ≤ max - min := by linarith
  split
  · obtain ⟨ha, hb⟩ := frac_part_sq u (max - min) (mode - min) h0 hu1.le hw (by linarith) (by linarith)
    have := hs.nonneg _ ha
    have := hs.le_of_le_sq _ _ ha hw hb
    constructor <;> linarith
  · obtain ⟨ha, hb⟩ := frac_part_sq (1 - u) (max - min) (max - mode) (by linarith) (by linarith) hw (by linarith) (by linarith)
    have := hs.nonneg _ ha
    have := hs.le_of_le_sq _ _ ha hw hb
    constructor <;> linarith

/-- `cmb_random_std_beta` stays in [0,1] for ANY two non-negative gamma variates — also when both are 0.0 (tiny shape parameters:
    both underflow), where the ratio would be 0/0: it is then decided in log space from two fresh uniform variates,
    `1 / (1 + exp(ly − lx))`, which lies in (0,1] for every non-negative `exp`.  Draws: none on the ordinary path, exactly two on
    the underflow path.  (Before fixes/c16-beta-tiny-shapes.patch the statement needed `0 < x + y`; corpus/rngdist/beta-tiny-shapes.txt.) -/
theorem std_beta_range (a b : Rat) (flog fexp : Rat → Rat) (x y : Rat) (raw : Nat → Nat) (k : Nat)
    (hx : 0 ≤ x) (hy : 0 ≤ y) (hexp : ∀ z, 0 ≤ fexp z) :
    0 ≤ (cmb_random_std_beta a b flog fexp x y raw k).1 ∧ (cmb_random_std_beta a b flog fexp x y raw k).1 ≤ 1 ∧
    (cmb_random_std_beta a b flog fexp x y raw k).2 = (if 0 < x + y then k else k + 2) := by
  unfold cmb_random_std_beta
  simp only []
  by_cases hxy : x + y > 0
  · have hxy' : 0 < x + y := hxy
    simp only [hxy, if_true]
    refine ⟨div_nonneg hx hxy'.le, ?_, trivial⟩
    rw [div_le_one hxy']; linarith
  · have hxy' : ¬ 0 < x + y := hxy
    simp only [hxy, if_false]
    have h1 : 0 < 1 + fexp (flog (cmb_random raw (cmb_random raw k).2).1 / b - flog (cmb_random raw k).1 / a) := by
      have := hexp (flog (cmb_random raw (cmb_random raw k).2).1 / b - flog (cmb_random raw k).1 / a); linarith
    refine ⟨by positivity, ?_, ?_⟩
    · rw [div_le_one h1]
      have := hexp (flog (cmb_random raw (cmb_random raw k).2).1 / b - flog (cmb_random raw k).1 / a); linarith
    · simp [cmb_random]

theorem PERT_mod_range (min mode max lambda beta : Rat) (h1 : min < max) (hb0 : 0 ≤ beta) (hb1 : beta ≤ 1) :
    min ≤ cmb_random_PERT_mod min mode max lambda beta ∧ cmb_random_PERT_mod min mode max lambda beta ≤ max := by
  unfold cmb_random_PERT_mod
  simp only []
  constructor <;> nlinarith

/-! ### the small-shape guard of cmb_random_std_gamma (the leading statements of the function; the rejection loop is an abstract input) -/

/-- `cmb_random_std_gamma(shape)` stays in [0, ∞) through the guard `shape < 1`: it returns `g * pow(u, 1/shape)` with g the value of
    the recursive call for `shape + 1`, u the `cmb_random()` drawn AFTER that call (exactly one more raw word), for every `pow`
    that is non-negative on non-negative bases — given that the recursive call and the rejection loop return non-negative
    values.  Before fixes/c16-std-gamma-small-shape.patch there was no guard: the function (documented for shape > 0) went straight into
    Marsaglia-Tsang, which yields NaN for shape ≤ 1/3 (corpus/rngdist/std-gamma-shape-below-one.txt). -/
theorem std_gamma_guard_support (shape : Rat) (fpow : Rat → Rat → Rat) (g rest : Rat) (n : Nat) (raw : Nat → Nat) (k : Nat)
    (h : Raw64 raw) (hg : 0 ≤ g) (hrest : 0 ≤ rest) (hpow : ∀ b e, 0 ≤ b → 0 ≤ fpow b e) :
    0 ≤ (cmb_random_std_gamma shape fpow g rest n raw k).1 ∧
    (cmb_random_std_gamma shape fpow g rest n raw k).2 = (if shape < 1 then k + n + 1 else k) := by
  unfold cmb_random_std_gamma
  simp only []
  split
  · obtain ⟨h0, _, h2⟩ := unit_uniform_range raw (k + n) h
    exact ⟨mul_nonneg hg (hpow _ _ h0), h2⟩
  · exact ⟨hrest, rfl⟩

/-- below 1 the value does not depend on the rejection loop of THIS call at all (it is not entered) -/
theorem std_gamma_guard_taken (shape : Rat) (fpow : Rat → Rat → Rat) (g rest rest' : Rat) (n : Nat) (raw : Nat → Nat) (k : Nat)
    (hs : shape < 1) :
    cmb_random_std_gamma shape fpow g rest n raw k = cmb_random_std_gamma shape fpow g rest' n raw k := by
  unfold cmb_random_std_gamma
  simp only [hs, if_true]

/-! ### discrete samplers -/

/-- `cmb_random_dice(a, b) ∈ [a, b]` (exact arithmetic; |a|, |b| ≤ 2^61 so that `b - a + 1` does not wrap) -/
theorem dice_range (a b : Int) (raw : Nat → Nat) (k : Nat) (h : Raw64 raw) (hab : a < b)
    (ha : -2305843009213693952 ≤ a) (hb : b ≤ 2305843009213693952) :
    a ≤ (cmb_random_dice a b raw k).1 ∧ (cmb_random_dice a b raw k).1 ≤ b := by
  obtain ⟨h0, h1, _⟩ := unit_uniform_range raw k h
  unfold cmb_random_dice
  simp only [cnum_ofInt, cnum_floor, cnum_trunc_int]
  rw [i64_of_range (x := b - a) (by omega) (by omega), i64_of_range (x := b - a + 1) (by omega) (by omega)]
  generalize (cmb_random raw k).1 = u at h0 h1
  -- (the offset may be added before or after taking the floor: both shapes of the source are covered)
  try simp only [Int.floor_intCast_add]
  have hn : (0 : Rat) < ((b - a + 1 : Int) : Rat) := by exact_mod_cast (by omega : (0 : Int) < b - a + 1)
  have hlo : 0 ≤ ⌊((b - a + 1 : Int) : Rat) * u⌋ := by
    rw [Int.le_floor]; simp only [Int.cast_zero]; positivity
  have hhi : ⌊((b - a + 1 : Int) : Rat) * u⌋ < b - a + 1 := by
    rw [Int.floor_lt]; nlinarith
  generalize ⌊((b - a + 1 : Int) : Rat) * u⌋ = f at hlo hhi
  unfold i64
  omega

theorem bernoulli_range (p : Rat) (raw : Nat → Nat) (k : Nat) :
    (cmb_random_bernoulli p raw k).1 ≤ 1 ∧ (cmb_random_bernoulli p raw k).2 = k + 1 := by
  unfold cmb_random_bernoulli
  simp only []
  refine ⟨by split <;> omega, ?_⟩
  simp [cmb_random]

/-- `0 ≤ k ≤ n` (k is a Nat), and exactly n draws are consumed -/
theorem binomial_range (n : Nat) (p : Rat) (raw : Nat → Nat) (k : Nat) (hn : n < 4294967296) :
    (cmb_random_binomial n p raw k).1 ≤ n ∧ (cmb_random_binomial n p raw k).2 = k + n := by
  unfold cmb_random_binomial
  simp only []
  generalize hr : forLoop n _ 0 _ = r
  have key : r.1 = n ∧ (fun j (t : Nat × Nat) => t.1 ≤ j ∧ t.2 = k + j) n r.2 := by
    rw [← hr]
    refine forLoop_nobreak n _ (fun j (t : Nat × Nat) => t.1 ≤ j ∧ t.2 = k + j) 0 _ (Nat.zero_le _) ⟨Nat.le_refl _, rfl⟩ ?_ ?_
    · intro j t; rfl
    · intro j t _ hj ⟨h1, h2⟩
      obtain ⟨hb1, hb2⟩ := bernoulli_range p raw t.2
      simp only []
      refine ⟨?_, by omega⟩
      rw [u32_of_lt (by omega)]; omega
  exact ⟨key.2.1, key.2.2⟩

/-- `cmb_random_loaded_dice(n, pa) < n` for EVERY probability vector the code accepts (`sums_to_one`: |Σp − 1| ≤ the
    regenerated `sum_tolerance`; the hypothesis is not even needed once the scan clamps) and every u.
    Before fixes/C16-loaded-dice-index.patch (no clamp after the scan) this did not hold: Σp < 1 within the tolerance and u ≥ Σp
    fall off the end (DESIGN §5 row 17; corpus/rngdist/loaded-dice-index-n.txt). -/
theorem loaded_dice_index (n : Nat) (pa : Nat → Rat) (raw : Nat → Nat) (k : Nat)
    (hn : 0 < n) (hn32 : n < 4294967296) (_hadm : sums_to_one n pa = true) :
    (cmb_random_loaded_dice n pa raw k).1 < n := by
  unfold cmb_random_loaded_dice
  simp only []
  generalize hr : forLoop n _ 0 _ = r
  have hle : r.1 ≤ n := by rw [← hr]; exact forLoop_fst_le n _ 0 _ (Nat.zero_le _)
  split
  · rw [u32_pred hn hn32]; omega
  · omega

/-- The returned index is the one the inversion method prescribes: with `psum pa j = pa 0 + … + pa (j-1)` and u the uniform
    variate, every earlier prefix sum is ≤ u and u < psum (r+1) — or the scan ran off the end (u ≥ the whole sum) and the last
    index is returned.  (`x <= q` instead of `x < q` in the scan, which could return an entry of probability 0 when u = 0,
    does not satisfy this.) -/
theorem loaded_dice_is_inversion (n : Nat) (pa : Nat → Rat) (raw : Nat → Nat) (k : Nat)
    (hn : 0 < n) (hn32 : n < 4294967296) :
    (∀ j, j < (cmb_random_loaded_dice n pa raw k).1 → psum pa (j + 1) ≤ (cmb_random raw k).1) ∧
    ((cmb_random raw k).1 < psum pa ((cmb_random_loaded_dice n pa raw k).1 + 1) ∨
      ((cmb_random_loaded_dice n pa raw k).1 = n - 1 ∧ psum pa n ≤ (cmb_random raw k).1)) := by
  unfold cmb_random_loaded_dice
  simp only []
  generalize (cmb_random raw k).1 = u
  generalize hr : forLoop n _ 0 _ = r
  have key : (r.1 = n ∧ ∀ j, j < n → psum pa (j + 1) ≤ u) ∨
      (r.1 < n ∧ (∀ j, j < r.1 → psum pa (j + 1) ≤ u) ∧ u < psum pa (r.1 + 1)) := by
    rw [← hr]
    refine forLoop_cases n _ (fun j (q : Rat) => q = psum pa j ∧ ∀ j', j' < j → psum pa (j' + 1) ≤ u) 0 _ (Nat.zero_le _)
      ⟨rfl, by intro j' h; omega⟩ ?_
      (fun r => (r.1 = n ∧ ∀ j, j < n → psum pa (j + 1) ≤ u) ∨
        (r.1 < n ∧ (∀ j, j < r.1 → psum pa (j + 1) ≤ u) ∧ u < psum pa (r.1 + 1))) ?_ ?_
    · intro j t _ hj ⟨hq, hall⟩ hb
      by_cases hlt : u < t + pa j
      · simp [hlt] at hb
      · simp only [hlt, if_false]
        refine ⟨by rw [hq]; rfl, ?_⟩
        intro j' hj'
        by_cases e : j' = j
        · subst e; show psum pa j' + pa j' ≤ u; rw [← hq]; linarith
        · exact hall j' (by omega)
    · intro t ⟨_, hall⟩; exact Or.inl ⟨rfl, hall⟩
    · intro j t hj ⟨hq, hall⟩ hb
      by_cases hlt : u < t + pa j
      · refine Or.inr ⟨hj, hall, ?_⟩
        show u < psum pa j + pa j
        rw [← hq]; exact hlt
      · simp [hlt] at hb
  rcases key with ⟨h1, h2⟩ | ⟨h1, h2, h3⟩
  · have e : u32 (n + 4294967296 - 1) = n - 1 := u32_pred hn hn32
    simp only [h1, ge_iff_le, le_refl, if_true, e]
    refine ⟨fun j hj => h2 j (by omega), Or.inr ⟨trivial, ?_⟩⟩
    have := h2 (n - 1) (by omega)
    have e2 : n - 1 + 1 = n := by omega
    rw [e2] at this; exact this
  · have : ¬ r.1 ≥ n := by omega
    simp only [this, if_false]
    exact ⟨h2, Or.inl h3⟩

/-- `cmb_random_geometric(p) ≥ 1` — at full strength: every p (in particular p = 1), every exponential variate (in
    particular 0.0), every cache content.  Before fixes/C16-geometric-p1.patch the statement failed at p = 1
    (`ceil(e / -log 0) = 0`; corpus/rngdist/geometric-p1.txt). -/
theorem geometric_ge_one (p : Rat) (flog : Rat → Rat) (e prev denom : Rat) :
    1 ≤ cmb_random_geometric p flog e prev denom := by
  unfold cmb_random_geometric
  simp only []
  repeat' split
  all_goals omega

/-- for p < 1 the value is the documented one: ⌈e / −log(1−p)⌉ (when that is representable) -/
theorem geometric_value (p : Rat) (flog : Rat → Rat) (e prev denom : Rat) (hp : prev ≠ p)
    (hpos : 0 < e / -(flog (1 - p))) (hrep : e / -(flog (1 - p)) ≤ 4294967295) :
    (cmb_random_geometric p flog e prev denom : Int) = ⌈e / -(flog (1 - p))⌉ := by
  unfold cmb_random_geometric
  have hne : (p != prev) = true := by simp [bne_iff_ne, Ne.symm hp]
  simp only [hne, if_true, cnum_ceil, cnum_trunc_int]
  have h1 : 1 ≤ ⌈e / -(flog (1 - p))⌉ := by
    have : 0 < ⌈e / -(flog (1 - p))⌉ := Int.ceil_pos.mpr hpos
    omega
  have h2 : ⌈e / -(flog (1 - p))⌉ ≤ 4294967295 := by
    rw [Int.ceil_le]; exact_mod_cast hrep
  rw [u32_of_lt (by omega)]
  split
  · omega
  · omega

/-! ### alias tables -/

/-- every threshold `alias_secure` produces is a 64-bit word, i.e. encodes a probability in [0, 1] -/
theorem alias_secure_range (p : Rat) : alias_secure p < 18446744073709551616 := by
  unfold alias_secure
  simp only []
  repeat' split
  all_goals first | omega | exact u64_lt _

/-- For EVERY n in (0, 2^32) and EVERY vector pa the Vose construction terminates (n units of fuel suffice for each of its
    three `while` loops) and returns a valid table: n entries, every alias index < n, every threshold in range. -/
theorem alias_table_valid (n : Nat) (pa : Nat → Rat) (fuel : Nat) (hn : 0 < n) (hn32 : n < 4294967296) (hf : n ≤ fuel) :
    ∃ t, cmb_random_alias_create n pa fuel = some t ∧ AliasValid n t := by
  unfold cmb_random_alias_create
  simp only []
  -- the classification loop (the second `forLoop`; the first only adds up `psum`, whose value does not matter).
  -- Its state is (work, small, idxs, large, idxl).
  generalize hr : forLoop n _ 0 _ = r
  have h1 : r.1 = n ∧ (fun j (t : (Nat → Rat) × (Nat → Nat) × Nat × (Nat → Nat) × Nat) =>
      t.2.2.1 + t.2.2.2.2 = j ∧ (∀ i, i < t.2.2.1 → t.2.1 i < n) ∧ (∀ i, i < t.2.2.2.2 → t.2.2.2.1 i < n)) n r.2 := by
    rw [← hr]
    refine forLoop_nobreak n _ (fun j (t : (Nat → Rat) × (Nat → Nat) × Nat × (Nat → Nat) × Nat) =>
      t.2.2.1 + t.2.2.2.2 = j ∧ (∀ i, i < t.2.2.1 → t.2.1 i < n) ∧ (∀ i, i < t.2.2.2.2 → t.2.2.2.1 i < n)) 0 _ (Nat.zero_le _) ?_ ?_ ?_
    · exact ⟨rfl, by intro i hi; simp at hi, by intro i hi; simp at hi⟩
    · intro j t; rfl
    · intro j t _ hj ⟨ha, hb, hc⟩
      simp only []
      split
      · simp only []
        rw [u32_of_lt (by omega)]
        exact ⟨by omega, push_lt hb hj, hc⟩
      · simp only []
        rw [u32_of_lt (by omega)]
        exact ⟨by omega, hb, push_lt hc hj⟩
  obtain ⟨_, hsum, hsm, hlg⟩ := h1
  -- the pairing loop `while (idxs > 0 && idxl > 0)`; its state is (idxs, idxl, alp, work, small, large)
  generalize hw1 : whileFuel fuel _ _ _ = w1
  have h2 : ∃ s', w1 = some s' ∧ (fun (st : Nat × Nat × cmb_random_alias × (Nat → Rat) × (Nat → Nat) × (Nat → Nat)) =>
      StackInv n st.1 st.2.1 st.2.2.1 st.2.2.2.2.1 st.2.2.2.2.2) s' := by
    rw [← hw1]
    refine whileFuel_inv' _ (fun st => st.1 + st.2.1) _ _ ?_ fuel _ ?_ ?_
    · intro st hP hc
      obtain ⟨hle, hs, hl, hal, hup, hnn⟩ := hP
      simp only [decide_eq_true_eq] at hc
      obtain ⟨hc1, hc2⟩ := hc
      have e1 : u32 (st.1 + 4294967296 - 1) = st.1 - 1 := u32_pred hc1 (by omega)
      have e2 : u32 (st.2.1 + 4294967296 - 1) = st.2.1 - 1 := u32_pred hc2 (by omega)
      have hl' : st.2.2.2.2.1 (st.1 - 1) < n := hs _ (by omega)
      have hg' : st.2.2.2.2.2 (st.2.1 - 1) < n := hl _ (by omega)
      simp only [e1, e2]
      have halias := upd_lt_all (st.2.2.2.2.1 (st.1 - 1)) hal hg'
      have huprob := upd_lt_all (st.2.2.2.2.1 (st.1 - 1)) hup (alias_secure_range (st.2.2.2.1 (st.2.2.2.2.1 (st.1 - 1))))
      split
      · simp only []
        rw [u32_of_lt (by omega)]
        exact ⟨⟨by omega, push_lt (fun j hj => hs j (by omega)) hg', fun j hj => hl j (by omega), halias, huprob, hnn⟩,
          by omega⟩
      · simp only []
        rw [u32_of_lt (by omega)]
        exact ⟨⟨by omega, fun j hj => hs j (by omega), push_lt (fun j hj => hl j (by omega)) hg', halias, huprob, hnn⟩,
          by omega⟩
    · exact ⟨by simp only []; omega, hsm, hlg, by intro i; exact hn, by intro i; simp, rfl⟩
    · simp only []; omega
  obtain ⟨s1, hs1, hP1⟩ := h2
  subst hs1
  obtain ⟨hle, hs, hl, hal, hup, hnn⟩ := hP1
  simp only []
  -- the two flush loops, over `large` (state (idxl, alp)) and then over `small` (state (idxs, alp))
  generalize hw2 : whileFuel fuel _ _ _ = w2
  obtain ⟨s2, hs2, hP2⟩ : ∃ s', w2 = some s' ∧ FlushInv n s' := by
    rw [← hw2]; exact flush_valid n fuel hn32 hf _ _ ⟨by simp only []; omega, hnn, hal, hup⟩
  subst hs2
  simp only []
  generalize hw3 : whileFuel fuel _ _ _ = w3
  obtain ⟨s3, hs3, hP3⟩ : ∃ s', w3 = some s' ∧ FlushInv n s' := by
    rw [← hw3]; exact flush_valid n fuel hn32 hf _ _ ⟨by simp only []; omega, hP2.2⟩
  subst hs3
  exact ⟨s3.2, rfl, hP3.2⟩

/-- sampling from a valid table returns an index below n, for every pair of raw words -/
theorem alias_sample_index (n : Nat) (t : cmb_random_alias) (raw : Nat → Nat) (k : Nat) (h : Raw64 raw)
    (hn : 0 < n) (hn32 : n < 4294967296) (hv : AliasValid n t) :
    (cmb_random_alias_sample t raw k).1 < n := by
  obtain ⟨htn, hal, _⟩ := hv
  obtain ⟨h0, h1, _⟩ := unit_uniform_range raw k h
  unfold cmb_random_alias_sample
  simp only [cnum_ofNat, cnum_floor, cnum_trunc_int, htn]
  generalize (cmb_random raw k).1 = u at h0 h1
  have hnq : (0 : Rat) < (n : Rat) := by exact_mod_cast hn
  have hf0 : 0 ≤ ⌊(n : Rat) * u⌋ := by rw [Int.le_floor]; simp; positivity
  have hf1 : ⌊(n : Rat) * u⌋ < (n : Int) := by rw [Int.floor_lt]; push_cast; nlinarith
  have hidx : u32 (Int.toNat ⌊(n : Rat) * u⌋) < n := by
    rw [u32_of_lt (by omega)]; omega
  split
  · exact hal _
  · exact hidx

/-- create + sample, end to end: whatever vector is passed, every sample is a valid index -/
theorem alias_end_to_end (n : Nat) (pa : Nat → Rat) (raw : Nat → Nat) (k : Nat) (h : Raw64 raw)
    (hn : 0 < n) (hn32 : n < 4294967296) :
    ∃ t, cmb_random_alias_create n pa n = some t ∧ (cmb_random_alias_sample t raw k).1 < n := by
  obtain ⟨t, ht, hv⟩ := alias_table_valid n pa n hn hn32 (Nat.le_refl _)
  exact ⟨t, ht, alias_sample_index n t raw k h hn hn32 hv⟩

/-! ### the build-time generated ziggurat tables (decided by the kernel over the regenerated lists) -/

/-- exponential tables: 256 entries each; x strictly decreasing and y strictly increasing up to the top layer
    `zig_max + 1`; x non-increasing over the whole table (padding zeros); alias entries ≤ `zig_max + 1`; every index above
    `zig_max + 1` has acceptance threshold 0 (it is always replaced by its alias), so the effective overhang index is at most
    `zig_max + 1`; thresholds and concavities are 64-bit words; the tail starts at x[0] (2^64 scaling, within 2^-40). -/
theorem exp_tables_ok :
    (cmi_random_exp_zig_pdf_x_num.length = 256 ∧ cmi_random_exp_zig_pdf_y_num.length = 256 ∧
      exp_zig_u_concavity.length = 256 ∧ exp_zig_alias.length = 256 ∧ exp_zig_u_prob.length = 256) ∧
    cmi_random_exp_zig_max + 1 < 256 ∧
    strictDecUpTo cmi_random_exp_zig_pdf_x_num (cmi_random_exp_zig_max + 1) = true ∧
    antitoneAll cmi_random_exp_zig_pdf_x_num = true ∧
    strictIncUpTo cmi_random_exp_zig_pdf_y_num (cmi_random_exp_zig_max + 1) = true ∧
    exp_zig_alias.all (fun a => decide (a ≤ cmi_random_exp_zig_max + 1)) = true ∧
    (List.range 256).all (fun j => decide (j ≤ cmi_random_exp_zig_max + 1 ∨ exp_zig_u_prob.getD j 0 = 0)) = true ∧
    exp_zig_u_prob.all (fun a => decide (a < 18446744073709551616)) = true ∧
    exp_zig_u_concavity.all (fun a => decide (a < 18446744073709551616)) = true ∧
    0 < exp_zig_x_tail_start_num ∧
    (exp_zig_x_tail_start_num * 2 ^ cmi_random_exp_zig_pdf_x_exp -
      (cmi_random_exp_zig_pdf_x_num.getD 0 0 : Int) * 2 ^ 64 * 2 ^ exp_zig_x_tail_start_exp).natAbs * 2 ^ 40
      ≤ 2 ^ cmi_random_exp_zig_pdf_x_exp * 2 ^ exp_zig_x_tail_start_exp := by
  -- the three sweeps over neighbouring entries go through `all_adj_of_isChain`: by index they are quadratic in the kernel
  refine ⟨by decide +kernel, by decide +kernel,
    all_adj_of_isChain (· > ·) _ _ (by decide +kernel) (by decide +kernel),
    all_adj_of_isChain (· ≥ ·) _ _ (Nat.le_refl _) (by decide +kernel),
    all_adj_of_isChain (· < ·) _ _ (by decide +kernel) (by decide +kernel),
    by decide +kernel, by decide +kernel, by decide +kernel, by decide +kernel, by decide +kernel, by decide +kernel⟩

/-- normal tables: 256 entries each; x strictly decreasing and y strictly increasing up to `zig_max + 1`; alias entries
    ≤ `zig_max + 1`; indices above it are always aliased (threshold 0); thresholds, concavities and convexities are
    non-negative 63-bit values; the inflection layer lies inside the ziggurat; the tail starts at x[0] (2^63 scaling, within
    2^-40) and `inv_tail_start * x_tail_start = 1` within 2^-40. -/
theorem nor_tables_ok :
    (cmi_random_nor_zig_pdf_x_num.length = 256 ∧ cmi_random_nor_zig_pdf_y_num.length = 256 ∧ nor_zig_i_concavity.length = 256 ∧
      nor_zig_i_convexity.length = 256 ∧ nor_zig_alias.length = 256 ∧ nor_zig_i_prob.length = 256) ∧
    cmi_random_nor_zig_max + 1 < 256 ∧ 0 < nor_zig_inflection ∧ nor_zig_inflection ≤ cmi_random_nor_zig_max ∧
    strictDecUpTo cmi_random_nor_zig_pdf_x_num (cmi_random_nor_zig_max + 1) = true ∧
    antitoneAll cmi_random_nor_zig_pdf_x_num = true ∧
    strictIncUpTo cmi_random_nor_zig_pdf_y_num (cmi_random_nor_zig_max + 1) = true ∧
    nor_zig_alias.all (fun a => decide (a ≤ cmi_random_nor_zig_max + 1)) = true ∧
    (List.range 256).all (fun j => decide (j ≤ cmi_random_nor_zig_max + 1 ∨ nor_zig_i_prob.getD j 0 = 0)) = true ∧
    nor_zig_i_prob.all (fun a => decide (0 ≤ a ∧ a < 9223372036854775808)) = true ∧
    nor_zig_i_concavity.all (fun a => decide (0 ≤ a ∧ a < 9223372036854775808)) = true ∧
    nor_zig_i_convexity.all (fun a => decide (0 ≤ a ∧ a < 9223372036854775808)) = true ∧
    0 < nor_zig_x_tail_start_num ∧
    (nor_zig_x_tail_start_num * 2 ^ cmi_random_nor_zig_pdf_x_exp -
      (cmi_random_nor_zig_pdf_x_num.getD 0 0 : Int) * 2 ^ 63 * 2 ^ nor_zig_x_tail_start_exp).natAbs * 2 ^ 40
      ≤ 2 ^ cmi_random_nor_zig_pdf_x_exp * 2 ^ nor_zig_x_tail_start_exp ∧
    (nor_zig_x_tail_start_num * nor_zig_inv_tail_start_num -
      (2 : Int) ^ nor_zig_x_tail_start_exp * 2 ^ nor_zig_inv_tail_start_exp).natAbs * 2 ^ 40
      ≤ 2 ^ nor_zig_x_tail_start_exp * 2 ^ nor_zig_inv_tail_start_exp := by
  refine ⟨by decide +kernel, by decide +kernel, by decide +kernel, by decide +kernel,
    all_adj_of_isChain (· > ·) _ _ (by decide +kernel) (by decide +kernel),
    all_adj_of_isChain (· ≥ ·) _ _ (Nat.le_refl _) (by decide +kernel),
    all_adj_of_isChain (· < ·) _ _ (by decide +kernel) (by decide +kernel),
    by decide +kernel, by decide +kernel, by decide +kernel, by decide +kernel, by decide +kernel, by decide +kernel,
    by decide +kernel, by decide +kernel⟩

/-- the regenerated exponential tables satisfy what the support argument needs -/
theorem expTab_facts : ExpFacts (expTab Rat) := by
  have hlen := exp_tables_ok.1.1
  have hanti := exp_tables_ok.2.2.2.1
  refine ⟨?_, ?_, ?_⟩
  · intro j; unfold expTab dyadic; simp only [cnum_ofNat]; positivity
  · intro j
    unfold expTab dyadic
    simp only [cnum_ofNat]
    have hle : cmi_random_exp_zig_pdf_x_num.getD j 0 ≤ cmi_random_exp_zig_pdf_x_num.getD (j - 1) 0 := by
      by_cases hj : j = 0
      · subst hj; exact Nat.le_refl _
      · by_cases hj2 : j - 1 < 256
        · have := all_range hanti (j - 1) (by rw [hlen]; exact hj2)
          simp only [decide_eq_true_eq] at this
          have e : j - 1 + 1 = j := by omega
          rw [e] at this; exact this
        · have : cmi_random_exp_zig_pdf_x_num.getD j 0 = 0 := by
            rw [List.getD_eq_getElem?_getD, List.getElem?_eq_none (by rw [hlen]; omega)]; rfl
          rw [this]; exact Nat.zero_le _
    have hpos : (0 : Rat) < ((2 ^ cmi_random_exp_zig_pdf_x_exp : Nat) : Rat) := by positivity
    exact div_le_div_of_nonneg_right (by exact_mod_cast hle) hpos.le
  · unfold expTab
    simp only [cnum_ofNat, cnum_ofInt]
    have := exp_tables_ok.2.2.2.2.2.2.2.2.2.1
    have h1 : (0 : Rat) ≤ (exp_zig_x_tail_start_num : Rat) := by exact_mod_cast this.le
    positivity

/-- Every return path of the exponential ziggurat (hot path, overhang with and without the exact pdf test, tail iteration,
    "lucky" re-entry) over the regenerated tables yields x ≥ 0 — for every stream of raw words, every `exp`, whenever it
    returns at all (`some`). -/
theorem zig_exp_support (fexp : Rat → Rat) (raw : Nat → Nat) (fuel k : Nat) (r : Rat × Nat)
    (hr : stdExp (expTab Rat) fexp 0 raw fuel k = some r) : 0 ≤ r.1 := by
  unfold stdExp at hr
  simp only [] at hr
  split at hr
  · cases hr
    simp only [cnum_ofNat]
    exact mul_nonneg (expTab_facts.x_nonneg _) (by positivity)
  · exact notHot_nonneg _ expTab_facts fexp raw _ _ _ _ _ (le_refl _) hr

/-- The tail of the exponential ziggurat is "offset + Exp(1)" (memoryless): a value returned by the slow path after the tail offset
    has reached `xoff` is at least `xoff` — in particular each pass through the tail layer moves the result beyond one more
    `exp_zig_x_tail_start`.  (Hand model Rng/Zig.lean, tied bit for bit to the library: dropping the offset on any return path
    breaks that tie — seeded change C16-a — or this theorem.) -/
theorem zig_exp_tail_offset (fexp : Rat → Rat) (raw : Nat → Nat) (fuel k ucx : Nat) (xoff : Rat) (r : Rat × Nat) (hx : 0 ≤ xoff)
    (hr : notHot (expTab Rat) fexp raw fuel k ucx xoff = some r) : xoff ≤ r.1 :=
  overhang_ge_zero_offset _ expTab_facts fexp raw _ _ _ _ _ hx hr

/-- The tail step of the exponential ziggurat ADDS the tail start to the offset (regenerated statement of cmi_random_exp_not_hot):
    the offset starts at 0 and is k·T after k passes through the tail layer, T = `exp_zig_x_tail_start` = the value in the
    generated include file = what the hand model Rng/Zig.lean adds.  (`x_offset = T` instead of `+=` — seeded change C16-h, which
    caps the unit exponential at 2T — does not satisfy this.) -/
theorem exp_tail_step_accumulates (xoff : Rat) (k : Nat) :
    cmi_random_exp_not_hot_tail_step xoff = xoff + exp_zig_x_tail_start ∧
    cmi_random_exp_not_hot_tail_step_init = 0 ∧
    Nat.iterate cmi_random_exp_not_hot_tail_step k cmi_random_exp_not_hot_tail_step_init = (k : Rat) * exp_zig_x_tail_start ∧
    exp_zig_x_tail_start = (expTab Rat).tail := by
  have hstep : ∀ x, cmi_random_exp_not_hot_tail_step x = x + exp_zig_x_tail_start := by
    intro x; unfold cmi_random_exp_not_hot_tail_step; rfl
  refine ⟨hstep xoff, rfl, ?_, ?_⟩
  · induction k with
    | zero => simp [cmi_random_exp_not_hot_tail_step_init]
    | succ n ih =>
      rw [Function.iterate_succ_apply', ih, hstep]; push_cast; ring
  · unfold expTab exp_zig_x_tail_start
    simp only [cnum_ofNat, cnum_ofInt, exp_zig_x_tail_start_num, exp_zig_x_tail_start_exp]
    norm_num

/-! ### the tail branch of the normal ziggurat IS Marsaglia's tail algorithm (regenerated do-while loop of cmi_random_nor_not_hot) -/

/-- one iteration of the regenerated loop = one iteration of Marsaglia's algorithm with the proposal scale
    `c = nor_zig_inv_tail_start`: candidate `c * e1`, go round again iff `2 * e2 ≤ candidate²`.  (Any other constant in the
    proposal — seeded change C16-c used `nor_zig_x_tail_start` — or another acceptance test does not satisfy this.) -/
theorem nor_tail_is_marsaglia (e1 e2 : Rat) :
    cmi_random_nor_not_hot_tail_iter e1 e2 = marsagliaIter nor_zig_inv_tail_start e1 e2 := by
  unfold cmi_random_nor_not_hot_tail_iter marsagliaIter
  rfl

/-- the value returned after the loop is `sign * (candidate + r)` with `r = nor_zig_x_tail_start` -/
theorem nor_tail_result_is_marsaglia (sign x : Rat) :
    cmi_random_nor_not_hot_tail_result sign x = marsagliaResult nor_zig_x_tail_start sign x := by
  unfold cmi_random_nor_not_hot_tail_result marsagliaResult
  rfl

/-- the two generated constants are what the algorithm needs: `r` is the tail start of the table (the literal in the source is the
    value in the generated include file, and it is x[0] scaled by 2^63 to within 2^-40: `nor_tables_ok`), and the proposal scale
    is its reciprocal up to the rounding of the 15-digit text: |c * r − 1| ≤ 2^-40 -/
theorem nor_tail_constants :
    nor_zig_x_tail_start = (nor_zig_x_tail_start_num : Rat) / (2 : Rat) ^ nor_zig_x_tail_start_exp ∧
    nor_zig_inv_tail_start = (nor_zig_inv_tail_start_num : Rat) / (2 : Rat) ^ nor_zig_inv_tail_start_exp ∧
    0 < nor_zig_x_tail_start ∧ 0 < nor_zig_inv_tail_start ∧
    |nor_zig_inv_tail_start * nor_zig_x_tail_start - 1| ≤ 1 / (2 : Rat) ^ 40 := by
  unfold nor_zig_x_tail_start nor_zig_inv_tail_start nor_zig_x_tail_start_num nor_zig_x_tail_start_exp
    nor_zig_inv_tail_start_num nor_zig_inv_tail_start_exp
  refine ⟨by norm_num, by norm_num, by norm_num, by norm_num, ?_⟩
  rw [abs_le]
  constructor <;> norm_num

/-- accepted tail variates lie beyond the tail start on the side of their sign, and a rejected candidate is never returned:
    for Exp(1) variates e1 ≥ 0 the result for sign = ±1 has magnitude ≥ r -/
theorem nor_tail_support (e1 e2 : Rat) (he : 0 ≤ e1) :
    nor_zig_x_tail_start ≤ cmi_random_nor_not_hot_tail_result 1 (cmi_random_nor_not_hot_tail_iter e1 e2).1 ∧
    cmi_random_nor_not_hot_tail_result (-1) (cmi_random_nor_not_hot_tail_iter e1 e2).1 ≤ -nor_zig_x_tail_start := by
  rw [nor_tail_is_marsaglia, nor_tail_result_is_marsaglia, nor_tail_result_is_marsaglia]
  have hc := nor_tail_constants.2.2.2.1
  have : 0 ≤ nor_zig_inv_tail_start * e1 := mul_nonneg hc.le he
  unfold marsagliaIter marsagliaResult
  constructor <;> simp only [] <;> linarith

/-- the alias step of the exponential ziggurat never leaves the table: the overhang index is at most `zig_max + 1` -/
theorem zig_exp_alias_index (r0 r1 : Nat) : aliasStep (expTab Rat) r0 r1 ≤ cmi_random_exp_zig_max + 1 := by
  have hal := exp_tables_ok.2.2.2.2.2.1
  have heff := exp_tables_ok.2.2.2.2.2.2.1
  have hlen := exp_tables_ok.1.2.2.2.1
  unfold aliasStep expTab
  simp only []
  have hj : r0 % 256 < 256 := Nat.mod_lt _ (by norm_num)
  split
  · rw [List.all_eq_true] at hal
    have := hal (exp_zig_alias.getD (r0 % 256) 0) (by
      rw [List.getD_eq_getElem?_getD, List.getElem?_eq_getElem (by rw [hlen]; exact hj)]
      exact List.getElem_mem _)
    simpa using this
  · rename_i hlt
    have := all_range heff (r0 % 256) hj
    simp only [decide_eq_true_eq] at this
    rcases this with h | h
    · exact h
    · rw [h] at hlt; omega

end CimbaModel.Props.C16
